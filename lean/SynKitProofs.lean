import SynKitProofs.Props.C15
import SynKitProofs.Props.C01
import SynKitProofs.Props.C02
import SynKitProofs.Match
import SynKitProofs.GraphAlg
import SynKitProofs.Props.C06
import SynKitProofs.Props.C07
import SynKitProofs.Props.C19
import SynKitProofs.Props.C20
import SynKitProofs.Props.C16
import SynKitProofs.ViewsRawLemmas
import SynKitProofs.Props.C08
import SynKitProofs.Props.C11
import SynKitProofs.Props.C12
import SynKitProofs.Props.C13
import SynKitProofs.Props.C17
import SynKitProofs.Props.C14
import SynKitProofs.Props.C10
import SynKitProofs.Props.C09
import SynKitProofs.Props.C18
import SynKitProofs.Props.C04
import SynKitProofs.Props.C05
import SynKitProofs.Props.C03
import SynKitProofs.ReactorLink
import SynKitProofs.SubgraphSearchEquiv
import SynKitProofs.ITSRadius
import SynKitProofs.ReactorITSLink
import SynKitProofs.SubgraphPrefilterLemmas
import SynKitProofs.ReprTable
import SynKitProofs.ReprFoldIn
import SynKitProofs.ReprOptLemmas
import SynKitProofs.BipGraphLemmas
import SynKitProofs.PetriStructureLemmas
import SynKitProofs.PetriNetLemmas
import SynKitProofs.ReactorPartialLemmas
import SynKitProofs.BipGraphViewsLemmas
import SynKitProofs.ViewsClaimBasic
import SynKitProofs.ViewsClaimSpecies
import SynKitProofs.ViewsClaimParse
import SynKitProofs.ReprOptGmlLemmas
import SynKitProofs.Core.List
import SynKitProofs.Core.Sort
import SynKitProofs.Core.Dict
import SynKitProofs.Core.Graph
import SynKitProofs.Core.Mapping
import SynKitProofs.Core.Enum
import SynKitProofs.Core.Ensure
import SynKitProofs.GmlConstructLemmas
import SynKitProofs.Core.Fold
import SynKitProofs.Core.Sum
import SynKitProofs.IRTree
import SynKitProofs.IRSearch
import SynKitProofs.Core.LabIso
import SynKitProofs.Core.Orbit
import SynKitProofs.Core.Partition
import SynKitProofs.CanonPos
import SynKitProofs.Core.Upsert
