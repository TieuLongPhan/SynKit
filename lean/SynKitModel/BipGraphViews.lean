import SynKitModel.BipGraph
import SynKitModel.Deficiency
import SynKitModel.Petri
/-!
# The graph entry path of the deficiency analysis (C19) and of the siphon / trap search (C20)

`DeficiencyAnalyzer._complex_vectors` and `Petri/structure.py::_is_siphon_indices`,
`_is_trap_indices`, `find_siphons`, `find_traps` read the same kind of object as `build_S` (see
`SynKitModel/BipGraph.lean`): a bipartite NetworkX graph, nodes typed by `kind` / `bipartite`, arcs
carrying `role` and `stoich`, in any of the four graph classes and with arcs written in either
direction. This file models that reading on `BipGraph`; core Lean only.

Anchors (the code as repaired after F16 / F17 and the undirected-input defects):

* `deficiency.py::_complex_vectors(G)` — species order `_species_order(G)` (`speciesRows`), reaction
  nodes in `_split_species_reactions(G)` order (`reactionNodes`, i.e. `G.nodes` order, **not**
  sorted); for every reaction node `r` the incident arcs are `in_edges(r) + out_edges(r)` on a
  directed graph and `G.edges(r)` on an undirected one (`incident`); for every incident arc the
  other end `s_node = v if u == r else u` (`otherEnd`) is looked up in the species index, the role
  decides the side, `int(data.get("stoich", 1))` is added (`incCoeff`, `sideVec`); the two vectors
  go through `add_complex` (`addIComplex`: index of the vector, appended when new) and
  `CG.add_edge(u, v)` (`Deficiency.addArc`) → `complexVectorsOn`.
  `compute_summary` calls it on `_as_bipartite(crn)`, which is always directed
  (`graphComplexVectors`); the helper called on the graph as given is `graphComplexVectorsRaw`.
* `structure.py::_incident_edges`, `_is_siphon_indices`, `_is_trap_indices` — same incident arcs
  (always on `_as_bipartite(crn)`), `S_nodes = {species_nodes_sorted[i] for i in S_idx}`, an arc
  counts when its other end is in `S_nodes`, its role is the one asked for and
  `data.get("stoich", 1) > 0` (`touches`) → `graphSiphonPred`, `graphTrapPred`; the subset search
  of `find_siphons` / `find_traps` is `Petri.findIdx` over that predicate → `graphFindSiphons`,
  `graphFindTraps`.

`viewNet` turns the network a graph describes (`netOfGraph`, a `Stoich.Net`: species and reactions
in `G.nodes` order) into the ordered network the C19 / C20 models work on (`SynKit.Net`: species
sorted by label as `_species_order` does, reactions kept in node order).
`SynKitProofs/BipGraphViewsLemmas.lean` (C19) and `SynKitProofs/Props/C20.lean` (siphons, traps) prove
that the graph readings equal the network-level models on `viewNet (netOfGraph g)`.
-/
namespace SynKit.BipGraph
open SynKit SynKit.Store SynKit.Stoich SynKit.NetGraphAlg

/-! ## The ordered network a graph describes -/

def rxnOfEdge (e : Edge) : Rxn := { id := e.id, rule := e.rule, reactants := e.reactants, products := e.products }

/-- Species sorted by label (`_species_order`), reactions in the order given. -/
def viewNet (N : Stoich.Net) : SynKit.Net := { species := sortBy id N.species, reactions := N.edges.map rxnOfEdge }

/-- The network the C19 / C20 models are applied to for the graph `g`. -/
def analysisNet (g : BipGraph) : SynKit.Net := viewNet (netOfGraph g)

/-! ## Incident arcs of a reaction node -/

/-- `in_edges(r) + out_edges(r)` of a directed graph (a self-loop is listed twice), `G.edges(r)` of
an undirected one (every incident edge once). -/
def incident (directed : Bool) (arcs : List BArc) (r : String) : List BArc :=
  if directed then arcs.filter (fun a => a.dst == r) ++ arcs.filter (fun a => a.src == r)
  else arcs.filter (fun a => a.src == r || a.dst == r)

/-- `s_node = v if u == r else u`. -/
def otherEnd (r : String) (a : BArc) : String := if a.src == r then a.dst else a.src

/-! ## `_complex_vectors` -/

/-- What one incident arc of reaction node `r` adds to position `s` of the vector of `role`:
`int(data.get("stoich", 1))` when the role matches and the other end is `s`. -/
def incCoeff (role s r : String) (a : BArc) : Int :=
  if a.role == some role && otherEnd r a == s then a.stoich.getD 1 else 0

/-- `lhs` / `rhs` of one reaction node: position `i` holds what the incident arcs of that role whose
other end is the `i`-th species node add up to. -/
def sideVec (directed : Bool) (arcs : List BArc) (rows : List BNode) (role r : String) : List Int :=
  rows.map fun s => (incident directed arcs r).foldl (fun acc a => acc + incCoeff role s.id r a) 0

/-- A complex as the code stores it when reading a graph: a tuple of Python ints. -/
abbrev IComplex := List Int

/-- `add_complex`: index of `v`, appending it when it has not been seen. -/
def addIComplex (cs : List IComplex) (v : IComplex) : List IComplex × Nat :=
  if cs.contains v then (cs, cs.idxOf v) else (cs ++ [v], cs.length)

/-- One pass of the reaction loop of `_complex_vectors`. -/
def complexStepOn (directed : Bool) (arcs : List BArc) (rows : List BNode)
    (st : List IComplex × Edges) (r : BNode) : List IComplex × Edges :=
  let (cs1, u) := addIComplex st.1 (sideVec directed arcs rows "reactant" r.id)
  let (cs2, v) := addIComplex cs1 (sideVec directed arcs rows "product" r.id)
  (cs2, Deficiency.addArc st.2 (u, v))

/-- `_complex_vectors` on the nodes of `g` with the given arcs, read as a directed / undirected
graph: complexes in first-appearance order and the arcs of the complex graph by index. -/
def complexVectorsOn (g : BipGraph) (directed : Bool) (arcs : List BArc) : List IComplex × Edges :=
  (reactionNodes g).foldl (complexStepOn directed arcs (speciesRows g)) ([], [])

/-- `_complex_vectors(_as_bipartite(G))`: what `compute_summary` works with. -/
def graphComplexVectors (g : BipGraph) : List IComplex × Edges := complexVectorsOn g true (asBipartite g)

/-- `_complex_vectors(G)` on the graph as given (the helper called directly; an undirected graph
takes the `G.edges(r)` branch). -/
def graphComplexVectorsRaw (g : BipGraph) : List IComplex × Edges :=
  complexVectorsOn g g.directed (effArcs g)

def graphComplexes (g : BipGraph) : List IComplex := (graphComplexVectors g).1
def graphComplexArcs (g : BipGraph) : Edges := (graphComplexVectors g).2

/-- The reaction → (reactant complex, product complex) assignment, reaction nodes in the order the
loop visits them. -/
def graphReactionComplexes (g : BipGraph) : List (String × IComplex × IComplex) :=
  (reactionNodes g).map fun r =>
    (r.id, sideVec true (asBipartite g) (speciesRows g) "reactant" r.id,
      sideVec true (asBipartite g) (speciesRows g) "product" r.id)

/-- `nx.connected_components(CG.to_undirected())`. -/
def graphLinkageClasses (g : BipGraph) : List (List Nat) :=
  components (List.range (graphComplexes g).length) (graphComplexArcs g)

/-- `_is_weakly_reversible(CG)`. -/
def graphWeaklyReversible (g : BipGraph) : Bool :=
  (graphLinkageClasses g).all fun C => stronglyConnected (graphComplexArcs g) C

/-- `compute_summary` on a graph, the stoichiometric rank supplied (`Deficiency.computeSummary`):
`_split_species_reactions` raises `ValueError` without species nodes or without reaction nodes. -/
def graphSummary (g : BipGraph) (rank : Nat) : Except Deficiency.Err Deficiency.Summary :=
  if (speciesNodes g).isEmpty || (reactionNodes g).isEmpty then .error .valueError else
  .ok { nSpecies := (speciesNodes g).length, nReactions := (reactionNodes g).length,
        nComplexes := (graphComplexes g).length, nLinkage := (graphLinkageClasses g).length, rank := rank,
        deficiency := ((graphComplexes g).length : Int) - ((graphLinkageClasses g).length : Int) - (rank : Int),
        weaklyReversible := graphWeaklyReversible g }

/-- Coefficient vectors as the graph reading produces them (Python ints) from the network-level
ones (naturals). -/
def liftComplex (v : Deficiency.Complex) : IComplex := v.map Int.ofNat

def liftVectors (p : List Deficiency.Complex × Edges) : List IComplex × Edges := (p.1.map liftComplex, p.2)

/-! ## `_is_siphon_indices`, `_is_trap_indices`, `find_siphons`, `find_traps` -/

/-- `S_nodes = {species_nodes_sorted[i] for i in S_idx}` (node ids). -/
def sNodes (g : BipGraph) (S : List Nat) : List String :=
  (S.filterMap ((speciesRows g)[·]?)).map (·.id)

/-- The inner loop of the predicates: some incident arc of reaction node `r` has its other end in
`Sn`, the role asked for and `data.get("stoich", 1) > 0`. -/
def touchesOn (directed : Bool) (arcs : List BArc) (role r : String) (Sn : List String) : Bool :=
  (incident directed arcs r).any fun a =>
    decide (otherEnd r a ∈ Sn) && a.role == some role && decide (0 < a.stoich.getD 1)

/-- `_is_siphon_indices(G, species_nodes_sorted, reaction_nodes, S_idx)` with
`G = _as_bipartite(crn)`: non-empty, and every reaction node with a positive product arc into the
set has a positive reactant arc from it. -/
def graphSiphonPred (g : BipGraph) (S : List Nat) : Bool :=
  !S.isEmpty && (reactionNodes g).all fun r =>
    !(touchesOn true (asBipartite g) "product" r.id (sNodes g S)) ||
      touchesOn true (asBipartite g) "reactant" r.id (sNodes g S)

/-- `_is_trap_indices`: the mirror image. -/
def graphTrapPred (g : BipGraph) (S : List Nat) : Bool :=
  !S.isEmpty && (reactionNodes g).all fun r =>
    !(touchesOn true (asBipartite g) "reactant" r.id (sNodes g S)) ||
      touchesOn true (asBipartite g) "product" r.id (sNodes g S)

/-- `species_labels[i] for i in S_idx`. -/
def graphLabelsOf (g : BipGraph) (S : List Nat) : List String := S.filterMap ((rowLabels g)[·]?)

/-- `find_siphons(G, max_size)`: the subset search of `Petri.findIdx` over the graph predicate. -/
def graphFindSiphonsIdx (g : BipGraph) (maxSize : Option Nat) : List (List Nat) :=
  Petri.findIdx (graphSiphonPred g) (speciesRows g).length maxSize

def graphFindTrapsIdx (g : BipGraph) (maxSize : Option Nat) : List (List Nat) :=
  Petri.findIdx (graphTrapPred g) (speciesRows g).length maxSize

def graphFindSiphons (g : BipGraph) (maxSize : Option Nat) : List (List String) :=
  (graphFindSiphonsIdx g maxSize).map (graphLabelsOf g)

def graphFindTraps (g : BipGraph) (maxSize : Option Nat) : List (List String) :=
  (graphFindTrapsIdx g maxSize).map (graphLabelsOf g)

/-- Decidable form of `WF` (no condition on reaction labels). -/
def wfCoreB (g : BipGraph) : Bool :=
  decide ((g.nodes.map (·.id)).Nodup) && decide (((speciesNodes g).map nodeKey).Nodup) &&
  g.arcs.all (fun a => decide (0 ≤ a.stoich.getD 1))

end SynKit.BipGraph
