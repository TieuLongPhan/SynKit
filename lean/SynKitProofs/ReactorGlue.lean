import SynKitProofs.ReactorLemmas
import SynKitProofs.Core.Sum
/-! `_glue_graph` (C03), stated once for a *prepared* host (`HostX`): a graph whose nodes may already carry `typesGH`,
as long as the reactant-side label is the node's own label (`TgOK`).  A bare substrate (`WFHost`) is one, and so is
what `_glue_graph` hands to the re-match after `h_to_explicit` (`ReactorExplicit.lean`).  Clause (b) needs in addition
that the match covers every atom whose two labels differ (`RematchCovers`), which is vacuous for a bare substrate.

Atoms: `glue` maps `glueNode T m ∘ prepNode` over the substrate's atoms, and on a `TgOK` atom the label pair has a
closed form: a matched atom keeps its reactant side and gets the template's hydrogen-count change and product charge,
an unmatched atom keeps the pair `prepNode` gave it.  Bonds: the substrate's bonds, each merged with the template bond
that lands on it if there is one, then the template bonds that land on no substrate bond.  The match clause on bonds
says a template bond present on the reactant side lies on a substrate bond of that order, which is why the reactant
side gets the substrate's bonds back. -/
namespace SynKit.Reactor
open SynKit.Match

/-- The label `_default_tg` reads off a node's own attributes. -/
def sideOf (a : Attrs) : List Val :=
  [pyGet a "element" (.str "*"), pyGet a "aromatic" (.bool false), pyGet a "hcount" (.num 0),
   pyGet a "charge" (.num 0), pyGet a "neighbors" (.tup [])]

/-- What `_node_glue` needs of a host label pair: it keeps the reactant side and copies fields 0, 1
and 4… of the product side, overwriting hydrogen count and charge — so those two are left free. -/
def TgOK (a : Attrs) : Prop :=
  hasKey a "typesGH" = false ∨
  (hasKey a "typesGH" = true ∧ tupList (tupGet (a.get "typesGH") 0) = sideOf a ∧
   (tupList (tupGet (a.get "typesGH") 1)).take 2 = (sideOf a).take 2 ∧
   (tupList (tupGet (a.get "typesGH") 1)).drop 4 = (sideOf a).drop 4)

def SymTg (a : Attrs) : Prop := hasKey a "typesGH" = false ∨ a.get "typesGH" = defaultTg a

instance (a : Attrs) : Decidable (TgOK a) := by unfold TgOK; infer_instance
instance (a : Attrs) : Decidable (SymTg a) := by unfold SymTg; infer_instance

def HostX (E : LGraph) : Prop :=
  E.WF ∧ (∀ p ∈ E.nodes, TgOK p.2) ∧ (∀ e ∈ E.edges, numOf (pyGet e.2.2 "order" (.num 2)) > 0)

instance (E : LGraph) : Decidable (HostX E) := by unfold HostX; infer_instance

/-- The guard of the explicit path.  In `explicitHost host nodes` only atoms whose hydrogens were
expanded have unequal labels (`ExpState.sym`), so the guard holds as soon as *every expanded atom
is matched again* (`rematchCovers_of_expanded_matched`). -/
def RematchCovers (E : LGraph) (m : Mapping) : Prop :=
  ∀ p ∈ E.nodes, preimage m p.1 = none → SymTg p.2

instance (E : LGraph) (m : Mapping) : Decidable (RematchCovers E m) := by unfold RematchCovers; infer_instance

theorem defaultTg_eq (a : Attrs) : defaultTg a = .tup [.tup (sideOf a), .tup (sideOf a)] := rfl

theorem symTg_hasKey (a : Attrs) (h : a.get "typesGH" = defaultTg a) : hasKey a "typesGH" = true :=
  hasKey_of_get_ne_none a _ (by rw [h]; exact Val.noConfusion)

theorem symTg_tgOK (a : Attrs) (h : SymTg a) : TgOK a := by
  rcases h with h | h
  · exact Or.inl h
  · refine Or.inr ⟨symTg_hasKey a h, ?_, ?_, ?_⟩ <;> rw [h] <;> rfl

theorem hostX_of_wfHost (host : LGraph) (h : WFHost host) : HostX host :=
  ⟨h.1, fun p hp => Or.inl (h.2.1 p hp), h.2.2⟩

theorem wfHost_covers (host : LGraph) (m : Mapping) (h : WFHost host) : RematchCovers host m :=
  fun p hp _ => Or.inl (h.2.1 p hp)

theorem prepNode_of_hasKey (n : Nat) (a : Attrs) (h : hasKey a "typesGH" = true) : (prepNode (n, a)).2 = a := by
  simp only [prepNode, setDefault, h, if_true]

theorem prepNode_of_not_hasKey (n : Nat) (a : Attrs) (h : hasKey a "typesGH" = false) :
    (prepNode (n, a)).2 = Dict.set a "typesGH" (defaultTg a) := by
  simp only [prepNode, setDefault, h, Bool.false_eq_true, if_false]

theorem prepNode_hasKey (p : Nat × Attrs) : hasKey (prepNode p).2 "typesGH" = true := by
  cases h : hasKey p.2 "typesGH"
  · rw [prepNode_of_not_hasKey p.1 p.2 h]; exact hasKey_set_self _ _ _
  · rw [prepNode_of_hasKey p.1 p.2 h]; exact h

theorem pyGet_prepNode (p : Nat × Attrs) (k : String) (d : Val) (hk : k ≠ "typesGH") :
    pyGet (prepNode p).2 k d = pyGet p.2 k d := by
  cases h : hasKey p.2 "typesGH"
  · rw [prepNode_of_not_hasKey p.1 p.2 h]; exact pyGet_set_other _ _ _ _ _ hk
  · rw [prepNode_of_hasKey p.1 p.2 h]

theorem prepNode_tg (n : Nat) (a : Attrs) (h : TgOK a) :
    tupList (tupGet (Attrs.get (prepNode (n, a)).2 "typesGH") 0) = sideOf a ∧
    (tupList (tupGet (Attrs.get (prepNode (n, a)).2 "typesGH") 1)).take 2 = (sideOf a).take 2 ∧
    (tupList (tupGet (Attrs.get (prepNode (n, a)).2 "typesGH") 1)).drop 4 = (sideOf a).drop 4 := by
  rcases h with h | ⟨h, h0, h1, h2⟩
  · rw [prepNode_of_not_hasKey n a h, Attrs.get_set_self]
    exact ⟨rfl, rfl, rfl⟩
  · rw [prepNode_of_hasKey n a h]; exact ⟨h0, h1, h2⟩

theorem prepNode_tg_sym (n : Nat) (a : Attrs) (h : SymTg a) :
    Attrs.get (prepNode (n, a)).2 "typesGH" = defaultTg a := by
  rcases h with h | h
  · rw [prepNode_of_not_hasKey n a h, Attrs.get_set_self]
  · rw [prepNode_of_hasKey n a (symTg_hasKey a h), h]

theorem nodeGlue_hasKey (h p : Attrs) : hasKey (nodeGlue h p) "typesGH" = true := by
  unfold nodeGlue
  simp only
  split
  · rw [hasKey_set_other _ _ _ _ (by decide)]; exact hasKey_set_self _ _ _
  · exact hasKey_set_self _ _ _

theorem nodeGlue_tg_of (h p : Attrs) (e0 e1 e2 e3 e4 : Val)
    (h0 : tupList (tupGet (Attrs.get h "typesGH") 0) = [e0, e1, e2, e3, e4])
    (h1 : (tupList (tupGet (Attrs.get h "typesGH") 1)).take 2 = [e0, e1])
    (h4 : (tupList (tupGet (Attrs.get h "typesGH") 1)).drop 4 = [e4])
    (hp0 : tgField p 0 0 ≠ .str "*") (hp1 : tgField p 1 0 ≠ .str "*") :
    Attrs.get (nodeGlue h p) "typesGH" =
      .tup [.tup [e0, e1, e2, e3, e4],
            .tup [e0, e1, .num (numOf e2 - (numOf (tgField p 0 2) - numOf (tgField p 1 2))), tgField p 1 3, e4]] := by
  have hp0' : tupGet (tupGet (Attrs.get p "typesGH") 0) 0 ≠ .str "*" := hp0
  have hp1' : tupGet (tupGet (Attrs.get p "typesGH") 1) 0 ≠ .str "*" := hp1
  have key : ∀ x : Attrs, Attrs.get (if hasKey p "h_pairs" = true then Dict.set x "h_pairs" (Attrs.get p "h_pairs") else x)
      "typesGH" = Attrs.get x "typesGH" := by
    intro x; split
    · exact Attrs.get_set_other (by decide)
    · rfl
  unfold nodeGlue
  simp only [hp0', hp1', if_false]
  rw [key, Attrs.get_set_self, h0, h1, h4]
  rfl

theorem nodeGlue_tg_X (n : Nat) (a p : Attrs) (hok : TgOK a)
    (hp0 : tgField p 0 0 ≠ .str "*") (hp1 : tgField p 1 0 ≠ .str "*") :
    Attrs.get (nodeGlue (prepNode (n, a)).2 p) "typesGH" =
      .tup [.tup (sideOf a),
            .tup [pyGet a "element" (.str "*"), pyGet a "aromatic" (.bool false),
                  .num (numOf (pyGet a "hcount" (.num 0)) - (numOf (tgField p 0 2) - numOf (tgField p 1 2))),
                  tgField p 1 3, pyGet a "neighbors" (.tup [])]] := by
  obtain ⟨g0, g1, g4⟩ := prepNode_tg n a hok
  exact nodeGlue_tg_of _ p _ _ _ _ _ g0 g1 g4 hp0 hp1

theorem glueNode_fst (T : LGraph) (m : Mapping) (p : Nat × Attrs) : (glueNode T m p).1 = p.1 := by
  unfold glueNode; cases preimage m p.1 <;> rfl

theorem glueNode_unmatched (T : LGraph) (m : Mapping) (p : Nat × Attrs) (h : preimage m p.1 = none) :
    glueNode T m p = p := by
  unfold glueNode; rw [h]

theorem glueNode_matched (T : LGraph) (m : Mapping) (p : Nat × Attrs) (q : Nat) (h : preimage m p.1 = some q) :
    glueNode T m p = (p.1, nodeGlue p.2 (prepNode (q, T.attrs q)).2) := by
  unfold glueNode; rw [h]

theorem glue_nodes (host T : LGraph) (m : Mapping) :
    (glue host T m).nodes = host.nodes.map (glueNode T m ∘ prepNode) := by
  unfold glue prepHost; simp only [List.map_map]

theorem glue_ids (host T : LGraph) (m : Mapping) : (glue host T m).ids = host.ids :=
  LGraph.ids_map_nodes (glue_nodes host T m) fun p _ => glueNode_fst T m (prepNode p)

theorem glue_attrs (host T : LGraph) (m : Mapping) (h : Nat) (hh : h ∈ host.ids) :
    (glue host T m).attrs h = (glueNode T m (prepNode (h, host.attrs h))).2 :=
  LGraph.attrs_map_nodes (glue_nodes host T m) (fun p _ => glueNode_fst T m (prepNode p)) hh

theorem glue_nodes_attrs_X (host T : LGraph) (m : Mapping) (hn : host.ids.Nodup) :
    ∀ p ∈ (glue host T m).nodes, p.1 ∈ host.ids ∧ p.2 = (glue host T m).attrs p.1 := by
  rw [← glue_ids host T m] at hn ⊢
  exact fun p hp => ⟨LGraph.mem_ids_of_mem hp, (LGraph.attrs_of_mem hn hp).symm⟩

theorem prepNode_template {T : LGraph} (hT : WFTemplate T) {q : Nat} (hq : q ∈ T.ids) :
    (prepNode (q, T.attrs q)).2 = T.attrs q :=
  prepNode_of_hasKey q _ (template_node hT hq).1

theorem glue_tg_matched_X (host T : LGraph) (m : Mapping) (hH : HostX host) (hT : WFTemplate T)
    (hm : IsMono monoSel host (left T) m) (q h : Nat) (hqh : (q, h) ∈ m) :
    Attrs.get ((glue host T m).attrs h) "typesGH" =
      .tup [.tup [pyGet (host.attrs h) "element" (.str "*"), pyGet (host.attrs h) "aromatic" (.bool false),
                  pyGet (host.attrs h) "hcount" (.num 0), pyGet (host.attrs h) "charge" (.num 0),
                  pyGet (host.attrs h) "neighbors" (.tup [])],
            .tup [pyGet (host.attrs h) "element" (.str "*"), pyGet (host.attrs h) "aromatic" (.bool false),
                  .num (numOf (pyGet (host.attrs h) "hcount" (.num 0)) -
                        (numOf (tgField (T.attrs q) 0 2) - numOf (tgField (T.attrs q) 1 2))),
                  tgField (T.attrs q) 1 3, pyGet (host.attrs h) "neighbors" (.tup [])]] := by
  have hh : h ∈ host.ids := hm.val_mem hqh
  have hq := mono_dom hT hm hqh
  have hqa := template_node hT hq
  rw [glue_attrs host T m h hh, glueNode_matched T m _ q (preimage_of_mem m hm.vals_nodup q h hqh), prepNode_template hT hq]
  exact nodeGlue_tg_X h (host.attrs h) (T.attrs q) (hH.2.1 _ (LGraph.attrs_mem hh)) hqa.2.1 hqa.2.2.1

theorem glue_tg_unmatched_X (host T : LGraph) (m : Mapping) (h : Nat) (hh : h ∈ host.ids)
    (hpre : preimage m h = none) (hs : SymTg (host.attrs h)) :
    Attrs.get ((glue host T m).attrs h) "typesGH" = defaultTg (host.attrs h) := by
  rw [glue_attrs host T m h hh, glueNode_unmatched T m _ hpre]
  exact prepNode_tg_sym h _ hs

theorem glue_node_labels_X (host T : LGraph) (m : Mapping) (hH : HostX host) (hT : WFTemplate T)
    (hm : IsMono monoSel host (left T) m) (q h : Nat) (hqh : (q, h) ∈ m) :
    tgField ((glue host T m).attrs h) 0 0 = tgField (T.attrs q) 0 0 ∧
    hR ((glue host T m).attrs h) - hL ((glue host T m).attrs h) = hR (T.attrs q) - hL (T.attrs q) := by
  have hel := (mono_node host T m hT hm q h hqh).1
  have e := glue_tg_matched_X host T m hH hT hm q h hqh
  unfold hR hL tgField
  rw [e]
  constructor
  · show pyGet (host.attrs h) "element" (.str "*") = _
    have hne : Attrs.get (host.attrs h) "element" ≠ Val.none := by
      rw [hel]; intro e'
      have := (template_node hT (mono_dom hT hm hqh)).2.2.2
      rw [e'] at this; exact Bool.noConfusion this
    rw [pyGet_of_get_ne_none _ _ _ hne, hel]; rfl
  · show numOf (pyGet (host.attrs h) "hcount" (.num 0)) -
        (numOf (tgField (T.attrs q) 0 2) - numOf (tgField (T.attrs q) 1 2)) -
        numOf (pyGet (host.attrs h) "hcount" (.num 0)) = numOf (tgField (T.attrs q) 1 2) - numOf (tgField (T.attrs q) 0 2)
    ring

/-- The label `hostProj` renders an atom with. -/
def projAttrs (n : Nat) (a : Attrs) : Attrs :=
  [("element", pyGet a "element" (.str "*")), ("aromatic", pyGet a "aromatic" (.bool false)),
   ("hcount", pyGet a "hcount" (.num 0)), ("charge", pyGet a "charge" (.num 0)),
   ("atom_map", Val.num (2 * (n : Int)))]

theorem sideNode_of (n : Nat) (t : Val) (a : Attrs) (h : tupList t = sideOf a) : sideNode n t = (n, projAttrs n a) := by
  simp only [sideNode, tupGet, h]
  rfl

theorem glue_left_nodes_X (E T : LGraph) (m : Mapping) (hX : HostX E) (hT : WFTemplate T)
    (hm : IsMono monoSel E (left T) m) :
    (left (glue E T m)).nodes = (hostProj E).nodes := by
  unfold left decompSide hostProj
  rw [glue_nodes, List.filterMap_map]
  apply List.filterMap_eq_map_iff_forall_eq_some.2
  intro p hp
  have hok := hX.2.1 p hp
  have key : hasKey (glueNode T m (prepNode p)).2 "typesGH" = true ∧
      tupList (tupGet (Attrs.get (glueNode T m (prepNode p)).2 "typesGH") 0) = sideOf p.2 := by
    cases hpre : preimage m p.1 with
    | none =>
      rw [glueNode_unmatched T m (prepNode p) hpre]
      exact ⟨prepNode_hasKey p, (prepNode_tg p.1 p.2 hok).1⟩
    | some q =>
      have hq := mono_dom hT hm (preimage_mem m p.1 q hpre)
      have hqa := template_node hT hq
      rw [glueNode_matched T m (prepNode p) q hpre, prepNode_template hT hq]
      exact ⟨nodeGlue_hasKey _ _, by rw [nodeGlue_tg_X p.1 p.2 _ hok hqa.2.1 hqa.2.2.1]; rfl⟩
  simp only [Function.comp, key.1, if_true, sideNode_of _ _ p.2 key.2, glueNode_fst]
  rfl

theorem sum_preimage (ids : List Nat) (hn : ids.Nodup) (val : Nat → Int) (m : Mapping)
    (hm : (m.map (·.2)).Nodup) (hsub : ∀ x ∈ m, x.2 ∈ ids) :
    (ids.map fun h => match preimage m h with | some q => val q | none => 0).sum = ((m.map (·.1)).map val).sum := by
  induction m with
  | nil => simp [preimage]
  | cons x rest ih =>
    obtain ⟨q0, h0⟩ := x
    simp only [List.map_cons, List.nodup_cons, List.sum_cons] at hm ⊢
    have hsplit : ∀ h ∈ ids, (match preimage ((q0, h0) :: rest) h with | some q => val q | none => 0) =
        (if h0 = h then val q0 else 0) + (match preimage rest h with | some q => val q | none => 0) := by
      intro h _
      rw [preimage_cons]
      by_cases hp : h0 = h
      · have : preimage rest h = none := (preimage_eq_none_iff rest h).2 (hp ▸ hm.1)
        simp [hp, this]
      · simp [hp]
    rw [List.map_congr_left hsplit, List.sum_map_add, ih hm.2 fun y hy => hsub y (List.mem_cons_of_mem _ hy),
      Core.sum_single ids hn h0 (hsub (q0, h0) List.mem_cons_self) fun _ => val q0]

theorem sumBy_ids (G : LGraph) (hn : G.ids.Nodup) (F : Attrs → Int) :
    sumBy G F = (G.ids.map fun v => F (G.attrs v)).sum := by
  unfold sumBy LGraph.ids
  rw [List.map_map]
  exact congrArg _ (List.map_congr_left fun p hp => by simp only [Function.comp, LGraph.attrs_of_mem hn hp])

theorem glue_sum_X (host T : LGraph) (m : Mapping) (hH : HostX host) (hT : WFTemplate T)
    (hm : IsMono monoSel host (left T) m) (hc : RematchCovers host m) (f : Val → Int)
    (h0 : ∀ a : Attrs, f (defaultTg a) = 0)
    (hq : ∀ q h, (q, h) ∈ m → f (Attrs.get ((glue host T m).attrs h) "typesGH") = f (Attrs.get (T.attrs q) "typesGH")) :
    sumBy (glue host T m) (fun a => f (Attrs.get a "typesGH")) = sumBy T (fun a => f (Attrs.get a "typesGH")) := by
  rw [sumBy_ids _ (glue_ids host T m ▸ hH.1.1), sumBy_ids T hT.1.1, glue_ids, ← left_ids T hT, ← hm.keys]
  refine (congrArg List.sum (List.map_congr_left fun h hh => ?_)).trans
    (sum_preimage host.ids hH.1.1 (fun q => f (Attrs.get (T.attrs q) "typesGH")) m hm.vals_nodup fun _ hx => hm.val_mem hx)
  cases hpre : preimage m h with
  | none => rw [glue_tg_unmatched_X host T m h hh hpre (hc _ (LGraph.attrs_mem hh) hpre)]; exact h0 _
  | some q => exact hq q h (preimage_mem m h q hpre)

/-- Clause (b) on a prepared host: the glued ITS is exactly as (un)balanced as the template. -/
theorem glue_balance_X (E T : LGraph) (m : Mapping) (hX : HostX E) (hT : WFTemplate T)
    (hm : IsMono monoSel E (left T) m) (hc : RematchCovers E m) :
    (imbalance (glue E T m)).1 = (imbalance T).1 ∧
    (imbalance (glue E T m)).2.1 = (imbalance T).2.1 ∧
    (imbalance (glue E T m)).2.2 = true := by
  refine ⟨?_, ?_, ?_⟩
  · exact glue_sum_X E T m hX hT hm hc
      (fun tg => numOf (tupGet (tupGet tg 1) 2) - numOf (tupGet (tupGet tg 0) 2)) (fun _ => sub_self _)
      fun q h hqh => (glue_node_labels_X E T m hX hT hm q h hqh).2
  · -- charge: the product side takes the template's, the reactant side is matched on it
    refine glue_sum_X E T m hX hT hm hc
      (fun tg => numOf (tupGet (tupGet tg 1) 3) - numOf (tupGet (tupGet tg 0) 3)) (fun _ => sub_self _) ?_
    intro q h hqh
    rw [glue_tg_matched_X E T m hX hT hm q h hqh]
    show numOf (tgField (T.attrs q) 1 3) - numOf (pyGet (E.attrs h) "charge" (.num 0)) =
      numOf (tgField (T.attrs q) 1 3) - numOf (tgField (T.attrs q) 0 3)
    rw [numOf_pyGet_zero, (mono_node E T m hT hm q h hqh).2]
  · unfold imbalance
    simp only [List.all_eq_true, decide_eq_true_eq]
    intro p hp
    obtain ⟨hid, hat⟩ := glue_nodes_attrs_X E T m hX.1.1 p hp
    rw [hat]
    unfold tgField
    cases hpre : preimage m p.1 with
    | none => rw [glue_tg_unmatched_X E T m p.1 hid hpre (hc _ (LGraph.attrs_mem hid) hpre)]; rfl
    | some q => rw [glue_tg_matched_X E T m hX hT hm q p.1 (preimage_mem m p.1 q hpre)]; rfl

theorem specB_of_balance (I T : LGraph)
    (h : (imbalance I).1 = (imbalance T).1 ∧ (imbalance I).2.1 = (imbalance T).2.1 ∧ (imbalance I).2.2 = true)
    (hb : (imbalance T).1 = 0 ∧ (imbalance T).2.1 = 0) : specB I = true := by
  unfold specB
  rw [decide_eq_true_eq]
  exact Prod.ext (h.1.trans hb.1) (Prod.ext (h.2.1.trans hb.2) h.2.2)

theorem pyRound_even (h : Int) (he : h % 2 = 0) : pyRound h = h := by simp [pyRound, he]

theorem prepEdge_order (a : Attrs) :
    Attrs.get (prepEdgeAttrs a) "order" = .tup [pyGet a "order" (.num 2), pyGet a "order" (.num 2)] ∧
    hasKey (prepEdgeAttrs a) "order" = true := by
  unfold prepEdgeAttrs setDefault
  simp only
  split
  · exact ⟨Attrs.get_set_self, hasKey_set_self _ _ _⟩
  · rw [Attrs.get_set_other (by decide), hasKey_set_other _ _ _ _ (by decide)]
    exact ⟨Attrs.get_set_self, hasKey_set_self _ _ _⟩

theorem prepEdge_ordAt (a : Attrs) (s : Nat) (hs : s < 2) : ordAt (prepEdgeAttrs a) s = pyGet a "order" (.num 2) := by
  unfold ordAt; rw [(prepEdge_order a).1]
  have : s = 0 ∨ s = 1 := by omega
  rcases this with rfl | rfl <;> rfl

theorem prepEdge_delta (a : Attrs) : delta (prepEdgeAttrs a) = 0 := by
  unfold delta; rw [prepEdge_ordAt a 0 (by omega), prepEdge_ordAt a 1 (by omega)]; omega

theorem mergeEdge_order (a ta : Attrs) (hk : (Dict.keys ta).Nodup) (hta : hasKey ta "order" = true) :
    Attrs.get (mergeEdge a ta) "order" =
      (if ordAt ta 0 = .num 0 then
        .tup [ordAt a 0, .num (pyRound (numOf (ordAt a 1) + numOf (ordAt ta 1)))]
       else Attrs.get ta "order") ∧
    (hasKey a "order" = true → hasKey (mergeEdge a ta) "order" = true) := by
  unfold mergeEdge
  simp only [pyGet_of_hasKey ta "order" _ hta]
  rw [show tupGet (Attrs.get ta "order") 0 = ordAt ta 0 from rfl]
  split
  · constructor
    · rw [Attrs.get_set_other (by decide), Attrs.get_set_self]; rfl
    · intro _; rw [hasKey_set_other _ _ _ _ (by decide)]; exact hasKey_set_self _ _ _
  · constructor
    · rw [get_update ta hk, hta]; rfl
    · intro h; rw [hasKey_update, h]; rfl

theorem mergeEdge_delta (a ta : Attrs) (hk : (Dict.keys ta).Nodup) (hta : hasKey ta "order" = true)
    (hround : ordAt ta 0 = .num 0 → (numOf (pyGet a "order" (.num 2)) + numOf (ordAt ta 1)) % 2 = 0) :
    delta (mergeEdge (prepEdgeAttrs a) ta) = delta ta := by
  have hmo := (mergeEdge_order (prepEdgeAttrs a) ta hk hta).1
  unfold delta
  by_cases hz : ordAt ta 0 = .num 0
  · obtain ⟨e0, e1⟩ := ordAt_of_order (hmo.trans (if_pos hz))
    rw [e0, e1, prepEdge_ordAt a 0 (by omega), prepEdge_ordAt a 1 (by omega), hz, numOf_num, numOf_num,
      pyRound_even _ (hround hz)]
    omega
  · unfold ordAt
    rw [hmo, if_neg hz]

theorem glueHostEdge_ends (T : LGraph) (m : Mapping) (e : Nat × Nat × Attrs) :
    (glueHostEdge T m e).1 = e.1 ∧ (glueHostEdge T m e).2.1 = e.2.1 := by
  unfold glueHostEdge; cases tplEdgeFor T m e.1 e.2.1 <;> exact ⟨rfl, rfl⟩

theorem glueHostEdge_cases (T : LGraph) (m : Mapping) (e : Nat × Nat × Attrs) :
    ((∀ te ∈ T.edges, landsOn m te e.1 e.2.1 = false) ∧ glueHostEdge T m e = e) ∨
    (∃ te ∈ T.edges, landsOn m te e.1 e.2.1 = true ∧ glueHostEdge T m e = (e.1, e.2.1, mergeEdge e.2.2 te.2.2)) := by
  unfold glueHostEdge tplEdgeFor
  cases h : T.edges.find? fun te => landsOn m te e.1 e.2.1 with
  | none => exact Or.inl ⟨fun te hte => Bool.eq_false_iff.2 (List.find?_eq_none.1 h te hte), rfl⟩
  | some te => exact Or.inr ⟨te, List.mem_of_find?_eq_some h, List.find?_some (p := fun te => landsOn m te e.1 e.2.1) h, rfl⟩

theorem glueNewEdge_some (host : LGraph) (m : Mapping) (te e : Nat × Nat × Attrs) :
    glueNewEdge host m te = some e ↔
      m.get? te.1 = some e.1 ∧ m.get? te.2.1 = some e.2.1 ∧ e.2.2 = te.2.2 ∧ host.hasEdge e.1 e.2.1 = false := by
  unfold glueNewEdge
  constructor
  · intro h
    cases g1 : m.get? te.1 with
    | none => simp [g1] at h
    | some hu =>
      cases g2 : m.get? te.2.1 with
      | none => simp [g1, g2] at h
      | some hv =>
        simp only [g1, g2] at h
        cases hhe : host.hasEdge hu hv with
        | true => simp [hhe] at h
        | false =>
          simp only [hhe, Bool.false_eq_true, if_false, Option.some.injEq] at h
          subst h; exact ⟨rfl, rfl, rfl, hhe⟩
  · rintro ⟨g1, g2, g3, hhe⟩
    simp only [g1, g2, hhe, ← g3, Bool.false_eq_true, if_false]

theorem glue_edges (host T : LGraph) (m : Mapping) :
    (glue host T m).edges =
      host.edges.map (fun e0 => glueHostEdge T m (prepEdge e0)) ++ T.edges.filterMap (glueNewEdge host m) := by
  unfold glue prepHost; simp only [List.map_map]; rfl

theorem mem_glue_edges (host T : LGraph) (m : Mapping) (e : Nat × Nat × Attrs) :
    e ∈ (glue host T m).edges ↔
      (∃ e0 ∈ host.edges, e = glueHostEdge T m (prepEdge e0)) ∨
        (∃ te ∈ T.edges, m.get? te.1 = some e.1 ∧ m.get? te.2.1 = some e.2.1 ∧ e.2.2 = te.2.2 ∧
          host.hasEdge e.1 e.2.1 = false) := by
  rw [glue_edges, List.mem_append, List.mem_map, List.mem_filterMap]
  exact or_congr (exists_congr fun _ => and_congr_right fun _ => eq_comm)
    (exists_congr fun te => and_congr_right fun _ => glueNewEdge_some host m te e)

theorem glue_left_edges_X (host T : LGraph) (m : Mapping) (hH : HostX host) (hT : WFTemplate T)
    (hm : IsMono monoSel host (left T) m) :
    (left (glue host T m)).edges = (hostProj host).edges := by
  unfold left decompSide hostProj
  rw [glue_edges, List.filterMap_append, List.filterMap_map]
  refine (congrArg₂ (· ++ ·) ?_ ?_).trans (List.append_nil _)
  rotate_left
  · -- a template bond present on the reactant side lands on a host bond: no edge is added for it
    apply List.filterMap_eq_nil_iff.2
    intro e he
    obtain ⟨te, hte, hg⟩ := List.mem_filterMap.1 he
    obtain ⟨g1, g2, g3, hhe⟩ := (glueNewEdge_some host m te e).1 hg
    by_cases hx : numOf (ordAt te.2.2 0) > 0
    · obtain ⟨ea, hea, _⟩ := mono_edge host T m hT hm te hte hx e.1 e.2.1
        ((landsOn_ends _ _ _ _).2 (Or.inl ⟨g1, g2⟩))
      rw [LGraph.hasEdge_of_edge? hea] at hhe
      cases hhe
    · rw [g3, if_neg fun h => hx h.2]
  apply List.filterMap_eq_map_iff_forall_eq_some.2
  intro e he
  have hpo := prepEdge_order e.2.2
  have hopos := hH.2.2 e he
  have hord0 := prepEdge_ordAt e.2.2 0 (by omega)
  simp only [Function.comp]
  rcases glueHostEdge_cases T m (prepEdge e) with ⟨_, heq⟩ | ⟨te, hte, hland, heq⟩
  · rw [heq]
    simp only [prepEdge, hpo.2, hord0, hopos, and_self, if_true]
  · rw [heq]
    have hTe := hT.2.2 te hte
    have hmo := mergeEdge_order (prepEdgeAttrs e.2.2) te.2.2 hTe.1 hTe.2.1
    have h0 : ordAt (mergeEdge (prepEdgeAttrs e.2.2) te.2.2) 0 = pyGet e.2.2 "order" (.num 2) := by
      unfold ordAt; rw [hmo.1]
      by_cases hz : ordAt te.2.2 0 = .num 0
      · rw [if_pos hz]; exact hord0
      · rw [if_neg hz]
        -- the template bond exists on the reactant side, so `e` is its image and carries its order
        have hx : numOf (ordAt te.2.2 0) > 0 :=
          lt_of_le_of_ne hTe.2.2.2.1 fun h => hz (h ▸ hTe.2.2.1)
        obtain ⟨ea, hea, hget⟩ := mono_edge host T m hT hm te hte hx e.1 e.2.1 hland
        rw [LGraph.edge?_of_mem hH.1 he (Or.inl ⟨rfl, rfl⟩)] at hea
        cases hea
        have hne' : Attrs.get e.2.2 "order" ≠ Val.none := by rw [hget, hTe.2.2.1]; exact Val.noConfusion
        rw [pyGet_of_get_ne_none _ _ _ hne', hget]; rfl
    simp only [prepEdge, hmo.2 hpo.2, h0, hopos, and_self, if_true]

theorem glue_edges_classified (host T : LGraph) (m : Mapping) (hT : WFTemplate T) (hr : RoundExact host T m) :
    ∀ e ∈ (glue host T m).edges,
      (∃ te ∈ T.edges, landsOn m te e.1 e.2.1 = true ∧ delta e.2.2 = delta te.2.2) ∨
      (delta e.2.2 = 0 ∧ ordAt e.2.2 0 = ordAt e.2.2 1 ∧ ∀ te ∈ T.edges, landsOn m te e.1 e.2.1 = false) := by
  intro e he
  rcases (mem_glue_edges host T m e).1 he with ⟨e0, he0, rfl⟩ | ⟨te, hte, g1, g2, g3, _⟩
  · rcases glueHostEdge_cases T m (prepEdge e0) with ⟨hnone, heq⟩ | ⟨te, hte, hland, heq⟩
    · right
      rw [heq]
      refine ⟨prepEdge_delta _, ?_, hnone⟩
      show ordAt (prepEdgeAttrs e0.2.2) 0 = ordAt (prepEdgeAttrs e0.2.2) 1
      rw [prepEdge_ordAt _ 0 (by omega), prepEdge_ordAt _ 1 (by omega)]
    · left
      rw [heq]
      have hTe := hT.2.2 te hte
      exact ⟨te, hte, hland, mergeEdge_delta _ _ hTe.1 hTe.2.1 (fun hz => hr te hte e0 he0 hland hz)⟩
  · left
    exact ⟨te, hte, (landsOn_ends _ _ _ _).2 (Or.inl ⟨g1, g2⟩), by rw [g3]⟩

theorem glue_edge_image (host T : LGraph) (m : Mapping) (hT : WFTemplate T)
    (hm : IsMono monoSel host (left T) m) (hr : RoundExact host T m) :
    ∀ te ∈ T.edges, ∃ e ∈ (glue host T m).edges, landsOn m te e.1 e.2.1 = true ∧ delta e.2.2 = delta te.2.2 := by
  intro te hte
  have hends := hT.1.2.1 te hte
  obtain ⟨hu, g1⟩ := mono_total hT hm hends.1
  obtain ⟨hv, g2⟩ := mono_total hT hm hends.2.1
  have hex : ∃ e ∈ (glue host T m).edges, landsOn m te e.1 e.2.1 = true := by
    cases hhe : host.hasEdge hu hv with
    | true =>
      obtain ⟨e0, he0, hend⟩ := LGraph.hasEdge_iff.1 hhe
      refine ⟨glueHostEdge T m (prepEdge e0), (mem_glue_edges host T m _).2 (Or.inl ⟨e0, he0, rfl⟩), ?_⟩
      rw [(glueHostEdge_ends T m (prepEdge e0)).1, (glueHostEdge_ends T m (prepEdge e0)).2]
      show landsOn m te e0.1 e0.2.1 = true
      exact (landsOn_iff _ _ _ _).2 ⟨hu, hv, g1, g2, by omega⟩
    | false =>
      exact ⟨(hu, hv, te.2.2), (mem_glue_edges host T m _).2 (Or.inr ⟨te, hte, g1, g2, rfl, hhe⟩),
        (landsOn_ends _ _ _ _).2 (Or.inl ⟨g1, g2⟩)⟩
  obtain ⟨e, he, hl⟩ := hex
  refine ⟨e, he, hl, ?_⟩
  rcases glue_edges_classified host T m hT hr e he with ⟨te', hte', hl', hd⟩ | ⟨_, _, hnone⟩
  · rw [tpl_edge_unique T hT.1 m hm.vals_nodup te te' hte hte' _ _ hl hl']; exact hd
  · rw [hnone te hte] at hl; exact Bool.noConfusion hl

/-- Clause (a) on a prepared host. -/
theorem glue_left_X (E T : LGraph) (m : Mapping) (hX : HostX E) (hT : WFTemplate T)
    (hm : IsMono monoSel E (left T) m) : left (glue E T m) = hostProj E :=
  LGraph.ext (glue_left_nodes_X E T m hX hT hm) (glue_left_edges_X E T m hX hT hm)

/-- Clause (c) on a prepared host; only the last conjunct (atoms outside the match) needs the guard. -/
theorem glue_rc_image_X (E T : LGraph) (m : Mapping) (hX : HostX E) (hT : WFTemplate T)
    (hm : IsMono monoSel E (left T) m) (hr : RoundExact E T m) :
    (∀ te ∈ T.edges, ∃ e ∈ (glue E T m).edges, landsOn m te e.1 e.2.1 = true ∧ delta e.2.2 = delta te.2.2) ∧
    (∀ e ∈ (glue E T m).edges,
      (∃ te ∈ T.edges, landsOn m te e.1 e.2.1 = true ∧ delta e.2.2 = delta te.2.2) ∨
      (delta e.2.2 = 0 ∧ ordAt e.2.2 0 = ordAt e.2.2 1 ∧ ∀ te ∈ T.edges, landsOn m te e.1 e.2.1 = false)) ∧
    (∀ q h, (q, h) ∈ m →
      tgField ((glue E T m).attrs h) 0 0 = tgField (T.attrs q) 0 0 ∧
      hR ((glue E T m).attrs h) - hL ((glue E T m).attrs h) = hR (T.attrs q) - hL (T.attrs q)) ∧
    (RematchCovers E m → ∀ h ∈ E.ids, preimage m h = none →
      hR ((glue E T m).attrs h) = hL ((glue E T m).attrs h)) := by
  refine ⟨glue_edge_image E T m hT hm hr, glue_edges_classified E T m hT hr,
    glue_node_labels_X E T m hX hT hm, ?_⟩
  intro hc h hh hpre
  unfold hR hL tgField
  rw [glue_tg_unmatched_X E T m h hh hpre (hc _ (LGraph.attrs_mem hh) hpre)]
  rfl

end SynKit.Reactor
