import SynKitModel.Petri
import Mathlib.Data.List.Basic
import Mathlib.Data.List.Perm.Subperm
import Mathlib.Data.List.Nodup
import SynKitProofs.Core.Fold
/-!
Siphons and traps (`synkit/CRN/Petri/structure.py`). `find_siphons` / `find_traps` report exactly the minimal sets
(`mem_findIdx`, through the scan invariant `MinInv` of `_minimal_sets`), and the coded closure predicates are the defining
ones, proved once for any pair of arc tests (`closure_iff`).
-/
namespace SynKit.Petri

theorem mem_combos {α : Type} (l : List α) (k : Nat) (X : List α) :
    X ∈ combos l k ↔ X.Sublist l ∧ X.length = k := by
  fun_induction combos l k generalizing X with
  | case1 l =>
    simp only [List.mem_singleton, List.length_eq_zero_iff]
    exact ⟨fun h => ⟨h ▸ List.nil_sublist _, h⟩, fun h => h.2⟩
  | case2 k =>
    simp only [List.not_mem_nil, List.sublist_nil, false_iff, not_and]
    rintro rfl; simp
  | case3 x xs k ih1 ih2 =>
    simp only [List.mem_append, List.mem_map, ih1, ih2]
    constructor
    · rintro (⟨Y, ⟨hs, hl⟩, rfl⟩ | ⟨hs, hl⟩)
      · exact ⟨hs.cons_cons x, by simp [hl]⟩
      · exact ⟨hs.cons x, hl⟩
    · rintro ⟨hs, hl⟩
      cases hs with
      | cons _ h => exact Or.inr ⟨h, hl⟩
      | cons_cons _ h => exact Or.inl ⟨_, ⟨h, by simpa using hl⟩, rfl⟩

theorem subsetB_iff (T S : List Nat) : subsetB T S = true ↔ T ⊆ S := by
  simp [subsetB, List.subset_def]

/-- The two facts the scan maintains: kept sets are candidates seen so far and minimal among
them; every candidate seen so far contains a kept set. -/
structure MinInv (seen out : List (List Nat)) : Prop where
  sound : ∀ X ∈ out, X ∈ seen ∧ ∀ Y ∈ seen, Y ⊆ X → X ⊆ Y
  cover : ∀ Y ∈ seen, ∃ T ∈ out, T ⊆ Y

def minStep (out : List (List Nat)) (S : List Nat) : List (List Nat) :=
  if out.any (fun T => subsetB T S) then out
  else (out.filter fun T => !subsetB S T) ++ [S]

theorem minimalSets_eq (cands : List (List Nat)) : minimalSets cands = cands.foldl minStep [] := rfl

theorem minInv_step (seen out : List (List Nat)) (S : List Nat) (h : MinInv seen out) :
    MinInv (seen ++ [S]) (minStep out S) := by
  have snoc : ∀ {l : List (List Nat)} {X}, X ∈ l ++ [S] ↔ X ∈ l ∨ X = S := by simp
  unfold minStep
  split
  · -- a kept `T ⊆ S`: `S` is not minimal, and `T` covers it
    rename_i hc
    obtain ⟨T, hT, hTS⟩ := List.any_eq_true.1 hc
    rw [subsetB_iff] at hTS
    refine ⟨fun X hX => ?_, fun Y hY => ?_⟩
    · obtain ⟨h1, h2⟩ := h.sound X hX
      refine ⟨snoc.2 (Or.inl h1), fun Y hY hYX => ?_⟩
      rcases snoc.1 hY with hY | rfl
      · exact h2 Y hY hYX
      · exact (h2 T (h.sound T hT).1 (hTS.trans hYX)).trans hTS
    · rcases snoc.1 hY with hY | rfl
      · exact h.cover Y hY
      · exact ⟨T, hT, hTS⟩
  · -- no kept set inside `S`: `S` is kept and its kept supersets go
    rename_i hc
    have hno : ∀ T ∈ out, ¬ T ⊆ S :=
      fun T hT hTS => hc (List.any_eq_true.2 ⟨T, hT, (subsetB_iff T S).2 hTS⟩)
    have keep : ∀ {T}, T ∈ out.filter (fun T => !subsetB S T) ↔ T ∈ out ∧ ¬ S ⊆ T := by
      simp [List.mem_filter, ← subsetB_iff]
    refine ⟨fun X hX => ?_, fun Y hY => ?_⟩
    · rcases snoc.1 hX with hX | rfl
      · obtain ⟨hXo, hSX⟩ := keep.1 hX
        obtain ⟨h1, h2⟩ := h.sound X hXo
        refine ⟨snoc.2 (Or.inl h1), fun Y hY hYX => ?_⟩
        rcases snoc.1 hY with hY | rfl
        · exact h2 Y hY hYX
        · exact absurd hYX hSX
      · refine ⟨snoc.2 (Or.inr rfl), fun Y hY hYX => ?_⟩
        rcases snoc.1 hY with hY | rfl
        · obtain ⟨T, hT, hTY⟩ := h.cover Y hY
          exact absurd (hTY.trans hYX) (hno T hT)
        · exact List.Subset.refl _
    · rcases snoc.1 hY with hY | rfl
      · obtain ⟨T, hT, hTY⟩ := h.cover Y hY
        by_cases hST : S ⊆ T
        · exact ⟨S, snoc.2 (Or.inr rfl), hST.trans hTY⟩
        · exact ⟨T, snoc.2 (Or.inl (keep.2 ⟨hT, hST⟩)), hTY⟩
      · exact ⟨Y, snoc.2 (Or.inr rfl), List.Subset.refl _⟩

theorem minInv_minimalSets (cands : List (List Nat)) : MinInv cands (minimalSets cands) := by
  simpa [minimalSets_eq] using
    Core.foldl_inv_prefix (P := MinInv) (fun s b a _ h => minInv_step s b a h) (s := []) ⟨by simp, by simp⟩

theorem mem_candidates (pred : List Nat → Bool) (n m : Nat) (X : List Nat) :
    X ∈ candidates pred n m ↔
      X.Sublist (List.range n) ∧ X ≠ [] ∧ X.length ≤ m ∧ pred X = true := by
  simp only [candidates, List.mem_flatMap, List.mem_range, List.mem_filter, mem_combos]
  constructor
  · rintro ⟨k, hk, ⟨hs, hl⟩, hp⟩
    refine ⟨hs, ?_, by omega, hp⟩
    rintro rfl; simp at hl
  · rintro ⟨hs, hne, hl, hp⟩
    have : 0 < X.length := List.length_pos_iff.2 hne
    exact ⟨X.length - 1, by omega, ⟨hs, by omega⟩, hp⟩

theorem sublist_range_ext (n : Nat) (X Y : List Nat) (hX : X.Sublist (List.range n))
    (hY : Y.Sublist (List.range n)) (h1 : X ⊆ Y) (h2 : Y ⊆ X) : X = Y := by
  have hn : (List.range n).Nodup := List.nodup_range
  exact (List.Nodup.perm_iff_eq_of_sublist hn hX hY).1
    ((List.perm_ext_iff_of_nodup (hn.sublist hX) (hn.sublist hY)).2 fun a => ⟨@h1 a, @h2 a⟩)

theorem mem_findIdx (pred : List Nat → Bool) (P : List Nat → Prop) (n : Nat) (ms : Option Nat)
    (hP : ∀ X, pred X = true ↔ P X) (hne : ∀ X, P X → X ≠ [])
    (hext : ∀ X Y, (∀ i, i ∈ X ↔ i ∈ Y) → (P X ↔ P Y)) (X : List Nat) :
    X ∈ findIdx pred n ms ↔ MinimalWrt P n X ∧ X.length ≤ ms.getD n := by
  have inv := minInv_minimalSets (candidates pred n (ms.getD n))
  unfold findIdx MinimalWrt
  constructor
  · intro hX
    obtain ⟨hc, hmin⟩ := inv.sound X hX
    obtain ⟨hs, _, hl, hp⟩ := (mem_candidates _ _ _ _).1 hc
    refine ⟨⟨hs, (hP X).1 hp, fun Y hYn hPY hYX => ?_⟩, hl⟩
    -- replace `Y` by its increasing representative, which is a candidate
    obtain ⟨Z, hZs, hZ⟩ : ∃ Z : List Nat, Z.Sublist (List.range n) ∧ ∀ i, i ∈ Z ↔ i ∈ Y :=
      ⟨(List.range n).filter (· ∈ Y), List.filter_sublist, fun i => by simpa using hYn i⟩
    have hPZ : P Z := (hext _ _ hZ).2 hPY
    have hZX : Z ⊆ X := fun a ha => hYX ((hZ a).1 ha)
    have hlen : Z.length ≤ ms.getD n :=
      Nat.le_trans ((List.nodup_range.sublist hZs).subperm hZX).length_le hl
    have hcand := (mem_candidates pred n (ms.getD n) Z).2 ⟨hZs, hne _ hPZ, hlen, (hP _).2 hPZ⟩
    exact fun a ha => (hZ a).1 (hmin _ hcand hZX ha)
  · rintro ⟨⟨hs, hPX, hmin⟩, hl⟩
    obtain ⟨T, hT, hTX⟩ := inv.cover X ((mem_candidates _ _ _ _).2 ⟨hs, hne X hPX, hl, (hP X).2 hPX⟩)
    obtain ⟨hTs, _, _, hTp⟩ := (mem_candidates _ _ _ _).1 (inv.sound T hT).1
    have hXT : X ⊆ T := hmin T (fun i hi => List.mem_range.1 (hTs.subset hi)) ((hP T).1 hTp) hTX
    rw [sublist_range_ext n X T hs hTs hXT hTX]; exact hT

theorem mem_labelsOf (N : Net) (S : List Nat) (s : String) :
    s ∈ N.labelsOf S ↔ ∃ i ∈ S, N.species[i]? = some s := by
  simp [Net.labelsOf, List.mem_filterMap]

theorem sideAny_iff (N : Net) (d : Dict Nat) (S : List Nat) :
    (d.any fun kv => decide (kv.1 ∈ N.labelsOf S) && decide (0 < kv.2)) = true ↔
      ∃ i ∈ S, ∃ s c, N.species[i]? = some s ∧ (s, c) ∈ d ∧ 0 < c := by
  simp only [List.any_eq_true, Bool.and_eq_true, decide_eq_true_eq, mem_labelsOf]
  constructor
  · rintro ⟨⟨s, c⟩, hm, ⟨i, hi, hs⟩, hc⟩; exact ⟨i, hi, s, c, hs, hm, hc⟩
  · rintro ⟨i, hi, s, c, hs, hm, hc⟩; exact ⟨(s, c), hm, ⟨i, hi, hs⟩, hc⟩

theorem producesAny_iff (N : Net) (r : Rxn) (S : List Nat) :
    r.producesAny (N.labelsOf S) = true ↔ ∃ i ∈ S, Produces N r i := sideAny_iff N r.products S

theorem consumesAny_iff (N : Net) (r : Rxn) (S : List Nat) :
    r.consumesAny (N.labelsOf S) = true ↔ ∃ i ∈ S, Consumes N r i := sideAny_iff N r.reactants S

theorem closure_iff (N : Net) (a b : Rxn → List String → Bool) (A B : Rxn → Nat → Prop) (S : List Nat)
    (ha : ∀ r, a r (N.labelsOf S) = true ↔ ∃ i ∈ S, A r i)
    (hb : ∀ r, b r (N.labelsOf S) = true ↔ ∃ i ∈ S, B r i) :
    (!S.isEmpty && N.reactions.all fun r => !(a r (N.labelsOf S)) || b r (N.labelsOf S)) = true ↔
      S ≠ [] ∧ ∀ r ∈ N.reactions, (∃ i ∈ S, A r i) → ∃ i ∈ S, B r i := by
  simp only [Bool.and_eq_true, Bool.not_eq_true', List.isEmpty_eq_false_iff, List.all_eq_true,
    Bool.or_eq_true, ← ha, ← hb]
  refine and_congr_right fun _ => forall₂_congr fun r _ => ?_
  cases a r (N.labelsOf S) <;> simp

theorem isSiphon_iff (N : Net) (S : List Nat) : isSiphon N S = true ↔ IsSiphon N S :=
  closure_iff N Rxn.producesAny Rxn.consumesAny (Produces N) (Consumes N) S
    (producesAny_iff N · S) (consumesAny_iff N · S)

theorem isTrap_iff (N : Net) (S : List Nat) : isTrap N S = true ↔ IsTrap N S :=
  closure_iff N Rxn.consumesAny Rxn.producesAny (Consumes N) (Produces N) S
    (consumesAny_iff N · S) (producesAny_iff N · S)

theorem closure_congr (N : Net) (A B : Rxn → Nat → Prop) (X Y : List Nat) (h : ∀ i, i ∈ X ↔ i ∈ Y) :
    (X ≠ [] ∧ ∀ r ∈ N.reactions, (∃ i ∈ X, A r i) → ∃ i ∈ X, B r i) ↔
      (Y ≠ [] ∧ ∀ r ∈ N.reactions, (∃ i ∈ Y, A r i) → ∃ i ∈ Y, B r i) := by
  simp only [ne_eq, List.eq_nil_iff_forall_not_mem, h]

end SynKit.Petri
