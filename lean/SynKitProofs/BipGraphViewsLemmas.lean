import SynKitModel.BipGraphViews
import SynKitProofs.BipGraphLemmas
import SynKitProofs.DeficiencyLemmas
/-!
The graph readings of `SynKitModel/BipGraphViews.lean` equal the network-level models of C19 / C20 on
`analysisNet g`. Every reading is first brought, under `IdsDistinct`, to a closed form over the node list and
`joined … (effArcs g)` (`cvOf` for `_complex_vectors`, `closureC` for the siphon / trap predicates); under `WF` the closed
form is the network-level model, and it is the same for two graphs that share a `SameReading` (`BipGraphLemmas`).
-/
open SynKit.Store SynKit.Stoich SynKit.NetGraphAlg

namespace SynKit.BipGraph

theorem otherEnd_eq_iff (s r : String) (hne : s ≠ r) (a : BArc) :
    (a.src = r ∨ a.dst = r) ∧ otherEnd r a = s ↔ (a.src = s ∧ a.dst = r) ∨ (a.src = r ∧ a.dst = s) := by
  unfold otherEnd
  by_cases h : a.src = r
  · simp [h, Ne.symm hne]
  · simp [h, and_comm]

theorem incCoeff_undirected (role s r : String) (hne : s ≠ r) (a : BArc) :
    (if (a.src == r || a.dst == r) then incCoeff role s r a else 0) = arcCoeff role s r a := by
  unfold incCoeff arcCoeff arcJoins
  rw [← ite_and]
  refine if_congr ?_ rfl rfl
  simp only [Bool.and_eq_true, Bool.or_eq_true, beq_iff_eq]
  rw [and_left_comm, otherEnd_eq_iff s r hne a]

/-- The two summands are the arc's share of `in_edges(r)` and of `out_edges(r)`; a self-loop at `r`, listed in both,
adds nothing because its other end is `r`, not a species node. -/
theorem incCoeff_directed (role s r : String) (hne : s ≠ r) (a : BArc) :
    (if a.dst == r then incCoeff role s r a else 0) + (if a.src == r then incCoeff role s r a else 0) =
      arcCoeff role s r a := by
  rw [← incCoeff_undirected role s r hne a]
  by_cases hs : a.src = r
  · by_cases hd : a.dst = r
    · have : incCoeff role s r a = 0 := by simp [incCoeff, otherEnd, hs, hd, Ne.symm hne]
      simp [this]
    · simp [hs, hd]
  · simp [hs]

theorem isum_incident (directed : Bool) (arcs : List BArc) (role s r : String) (hne : s ≠ r) :
    (incident directed arcs r).foldl (fun acc a => acc + incCoeff role s r a) 0 = arcSum role s r arcs := by
  rw [arcSum, Core.isum_eq_sum, Core.isum_eq_sum]
  unfold incident
  cases directed with
  | true =>
    rw [if_pos rfl, List.map_append, List.sum_append, Core.sum_map_filter, Core.sum_map_filter, ← List.sum_map_add]
    exact congrArg List.sum (List.map_congr_left fun a _ => incCoeff_directed role s r hne a)
  | false =>
    rw [if_neg Bool.false_ne_true, Core.sum_map_filter]
    exact congrArg List.sum (List.map_congr_left fun a _ => incCoeff_undirected role s r hne a)

theorem sideVec_eq_arcSum (directed : Bool) (arcs : List BArc) (rows : List BNode) (role r : String)
    (h : ∀ s ∈ rows, s.id ≠ r) :
    sideVec directed arcs rows role r = rows.map fun s => arcSum role s.id r arcs := by
  unfold sideVec
  exact List.map_congr_left (fun s hs => isum_incident directed arcs role s.id r (h s hs))

/-- The vector of one role at reaction node `r` over the stored edges: the form every reading is
brought to. -/
def colVec (g : BipGraph) (role : String) (r : BNode) : List Int :=
  (speciesRows g).map fun s => arcSum role s.id r.id (effArcs g)

theorem rows_ne (g : BipGraph) (hd : IdsDistinct g) (r : BNode) (hr : r ∈ reactionNodes g) :
    ∀ s ∈ speciesRows g, s.id ≠ r.id :=
  fun s hs => species_id_ne_reaction_id g hd s r ((mem_speciesRows g s).1 hs) hr

theorem sideVec_bip (g : BipGraph) (hd : IdsDistinct g) (r : BNode) (hr : r ∈ reactionNodes g)
    (role : String) (hrole : role = "reactant" ∨ role = "product") :
    sideVec true (asBipartite g) (speciesRows g) role r.id = colVec g role r := by
  rw [sideVec_eq_arcSum _ _ _ _ _ (rows_ne g hd r hr)]
  unfold colVec
  exact List.map_congr_left
    (fun s hs => arcSum_asBipartite g hd s r ((mem_speciesRows g s).1 hs) hr role hrole)

theorem analysisNet_species (g : BipGraph) : (analysisNet g).species = rowLabels g := by
  unfold analysisNet viewNet netOfGraph rowLabels speciesRows
  simp only
  rw [sortBy_map]
  rfl

theorem analysisNet_reactions (g : BipGraph) :
    (analysisNet g).reactions = (reactionNodes g).map fun r => rxnOfEdge (edgeOfNode g r) := by
  simp [analysisNet, viewNet, netOfGraph, List.map_map, Function.comp_def]

theorem sumOf_eq_sumCoeff (d : Side) (k : String) : ((Dict.sumOf d k : Nat) : Int) = sumCoeff d k := by
  induction d with
  | nil => simp [Dict.sumOf, sumCoeff]
  | cons kv rest ih =>
    rw [sumCoeff_cons, ← ih]
    simp only [Dict.sumOf]
    split <;> simp

theorem colVec_eq_lift (g : BipGraph) (wf : WF g) (role : String) (r : BNode) :
    colVec g role r = liftComplex (Deficiency.vecOf (analysisNet g) (sideOf g role r)) := by
  unfold colVec liftComplex Deficiency.vecOf
  rw [analysisNet_species, rowLabels, List.map_map, List.map_map]
  apply List.map_congr_left
  intro s hs
  simp only [Function.comp]
  rw [← sumCoeff_sideOf g wf.speciesLabels wf.coeffs role r s ((mem_speciesRows g s).1 hs)]
  exact (sumOf_eq_sumCoeff _ _).symm

theorem liftComplex_inj {a b : Deficiency.Complex} (h : liftComplex a = liftComplex b) : a = b := by
  unfold liftComplex at h
  exact List.map_injective_iff.2 (fun x y hxy => Int.ofNat.inj hxy) h

/-- What `_complex_vectors` computes, over the stored edges: the interning loop fed with the columns `colVec`. Under
`IdsDistinct` every call of the reader is this (`graphComplexVectors_closed`, `graphComplexVectorsRaw_closed`); it is the
network's under `WF` (`cvOf_eq_lift`) and depends on the reading only (`cvOf_congr`). -/
def cvOf (g : BipGraph) : List IComplex × Edges :=
  (reactionNodes g).foldl (fun st r => Deficiency.internStep st (colVec g "reactant" r, colVec g "product" r)) ([], [])

theorem complexVectorsOn_closed (g : BipGraph) (directed : Bool) (arcs : List BArc)
    (h : ∀ r ∈ reactionNodes g, ∀ role, role = "reactant" ∨ role = "product" →
      sideVec directed arcs (speciesRows g) role r.id = colVec g role r) :
    complexVectorsOn g directed arcs = cvOf g :=
  List.foldl_ext _ _ _ fun st r hr => by
    show Deficiency.internStep st (sideVec directed arcs (speciesRows g) "reactant" r.id,
      sideVec directed arcs (speciesRows g) "product" r.id) = _
    rw [h r hr _ (Or.inl rfl), h r hr _ (Or.inr rfl)]

theorem graphComplexVectors_closed (g : BipGraph) (hd : IdsDistinct g) : graphComplexVectors g = cvOf g :=
  complexVectorsOn_closed g true (asBipartite g) fun r hr role hrole => sideVec_bip g hd r hr role hrole

theorem graphComplexVectorsRaw_closed (g : BipGraph) (hd : IdsDistinct g) : graphComplexVectorsRaw g = cvOf g :=
  complexVectorsOn_closed g g.directed (effArcs g) fun r hr _ _ => sideVec_eq_arcSum _ _ _ _ _ (rows_ne g hd r hr)

theorem cvOf_eq_lift (g : BipGraph) (wf : WF g) :
    cvOf g = liftVectors (Deficiency.complexVectors (analysisNet g)) := by
  unfold cvOf Deficiency.complexVectors
  rw [analysisNet_reactions, List.foldl_map]
  simp only [colVec_eq_lift g wf]
  exact Deficiency.foldl_internStep_map (F := liftComplex) (fun _ _ => liftComplex_inj)
    (fun r => (Deficiency.vecOf (analysisNet g) (sideOf g "reactant" r),
      Deficiency.vecOf (analysisNet g) (sideOf g "product" r))) (reactionNodes g) ([], [])

theorem graphComplexVectors_eq (g : BipGraph) (wf : WF g) :
    graphComplexVectors g = liftVectors (Deficiency.complexVectors (analysisNet g)) :=
  (graphComplexVectors_closed g wf.ids).trans (cvOf_eq_lift g wf)

/-- The helper called on the graph as given reads what it reads on `_as_bipartite(G)`; distinct node ids suffice. -/
theorem graphComplexVectorsRaw_eq_bipartite (g : BipGraph) (hd : IdsDistinct g) :
    graphComplexVectorsRaw g = graphComplexVectors g :=
  (graphComplexVectorsRaw_closed g hd).trans (graphComplexVectors_closed g hd).symm

theorem graphReactionComplexes_closed (g : BipGraph) (hd : IdsDistinct g) :
    graphReactionComplexes g =
      (reactionNodes g).map fun r => (r.id, colVec g "reactant" r, colVec g "product" r) :=
  List.map_congr_left fun r hr => by
    rw [sideVec_bip g hd r hr _ (Or.inl rfl), sideVec_bip g hd r hr _ (Or.inr rfl)]

theorem graphReactionComplexes_eq (g : BipGraph) (wf : WF g) :
    graphReactionComplexes g = (analysisNet g).reactions.map fun rx =>
      (rx.id, liftComplex (Deficiency.vecOf (analysisNet g) rx.reactants),
        liftComplex (Deficiency.vecOf (analysisNet g) rx.products)) := by
  rw [graphReactionComplexes_closed g wf.ids, analysisNet_reactions, List.map_map]
  simp only [colVec_eq_lift g wf]
  rfl

theorem graphComplexes_length (g : BipGraph) (wf : WF g) :
    (graphComplexes g).length = (Deficiency.complexes (analysisNet g)).length := by
  unfold graphComplexes Deficiency.complexes
  rw [graphComplexVectors_eq g wf]; simp [liftVectors]

theorem graphComplexArcs_eq (g : BipGraph) (wf : WF g) :
    graphComplexArcs g = Deficiency.complexArcs (analysisNet g) := by
  unfold graphComplexArcs Deficiency.complexArcs
  rw [graphComplexVectors_eq g wf]; rfl

theorem graphLinkageClasses_eq (g : BipGraph) (wf : WF g) :
    graphLinkageClasses g = Deficiency.linkageClasses (analysisNet g) := by
  unfold graphLinkageClasses Deficiency.linkageClasses
  rw [graphComplexes_length g wf, graphComplexArcs_eq g wf]

theorem graphWeaklyReversible_eq (g : BipGraph) (wf : WF g) :
    graphWeaklyReversible g = Deficiency.weaklyReversible (analysisNet g) := by
  unfold graphWeaklyReversible Deficiency.weaklyReversible
  rw [graphLinkageClasses_eq g wf, graphComplexArcs_eq g wf]

theorem analysisNet_counts (g : BipGraph) :
    (analysisNet g).species.length = (speciesNodes g).length ∧
    (analysisNet g).reactions.length = (reactionNodes g).length := by
  refine ⟨?_, by rw [analysisNet_reactions, List.length_map]⟩
  rw [analysisNet_species, rowLabels, List.length_map]
  exact (sortBy_perm _ _).length_eq

def selNodes (g : BipGraph) (S : List Nat) : List BNode := S.filterMap ((speciesRows g)[·]?)

theorem touchesOn_directed (arcs : List BArc) (role r : String) (Sn : List String)
    (h : ∀ s ∈ Sn, s ≠ r) :
    touchesOn true arcs role r Sn = Sn.any fun s => (joined role s r arcs).any (0 < ·) := by
  rw [Bool.eq_iff_iff]
  simp only [touchesOn, incident, if_true, joined, List.any_map, List.any_filter, Function.comp_def,
    arcJoins, List.any_eq_true, List.mem_append, List.mem_filter, Bool.and_eq_true,
    Bool.or_eq_true, decide_eq_true_eq, beq_iff_eq, ← and_or_left]
  constructor
  · rintro ⟨a, ⟨ha, hinc⟩, ⟨hS, hrole⟩, hpos⟩
    exact ⟨_, hS, a, ha, ⟨hrole, (otherEnd_eq_iff _ r (h _ hS) a).1 ⟨hinc.symm, rfl⟩⟩, hpos⟩
  · rintro ⟨s, hs, a, ha, ⟨hrole, hends⟩, hpos⟩
    obtain ⟨hinc, rfl⟩ := (otherEnd_eq_iff s r (h s hs) a).2 hends
    exact ⟨a, ⟨ha, hinc.symm⟩, ⟨hs, hrole⟩, hpos⟩

theorem selNodes_sub (g : BipGraph) (S : List Nat) : ∀ s ∈ selNodes g S, s ∈ speciesNodes g := by
  intro s hs
  simp only [selNodes, List.mem_filterMap] at hs
  obtain ⟨i, _, hi⟩ := hs
  exact (mem_speciesRows g s).1 (List.mem_of_getElem? hi)

theorem sNodes_eq (g : BipGraph) (S : List Nat) : sNodes g S = (selNodes g S).map (·.id) := rfl

theorem touches_canon (g : BipGraph) (hd : IdsDistinct g) (r : BNode) (hr : r ∈ reactionNodes g)
    (role : String) (hrole : role = "reactant" ∨ role = "product") (S : List Nat) :
    touchesOn true (asBipartite g) role r.id (sNodes g S) =
      (selNodes g S).any fun s => (joined role s.id r.id (effArcs g)).any (0 < ·) := by
  have hne : ∀ x ∈ sNodes g S, x ≠ r.id := by
    intro x hx
    rw [sNodes_eq, List.mem_map] at hx
    obtain ⟨s, hs, rfl⟩ := hx
    exact species_id_ne_reaction_id g hd s r (selNodes_sub g S s hs) hr
  rw [touchesOn_directed _ _ _ _ hne, sNodes_eq, List.any_map]
  exact Core.any_congr fun s hs => by
    rw [Function.comp, joined_asBipartite g hd s r (selNodes_sub g S s hs) hr role hrole]

theorem sum_pos_iff_any (l : List Int) (h : ∀ x ∈ l, 0 ≤ x) : 0 < l.sum ↔ l.any (0 < ·) = true := by
  induction l with
  | nil => simp
  | cons x l ih =>
    have hx := h x List.mem_cons_self
    have hl : 0 ≤ l.sum := List.sum_nonneg fun y hy => h y (List.mem_cons_of_mem _ hy)
    rw [List.sum_cons, List.any_cons, Bool.or_eq_true, decide_eq_true_eq,
      ← ih fun y hy => h y (List.mem_cons_of_mem _ hy)]
    omega

theorem any_pos_iff_sumCoeff (d : Side) (L : List String) :
    (d.any fun kv => decide (kv.1 ∈ L) && decide (0 < kv.2)) = true ↔ ∃ k ∈ L, 0 < sumCoeff d k := by
  have nn : ∀ k, ∀ x ∈ d.map fun kv => if kv.1 = k then (kv.2 : Int) else 0, 0 ≤ x := by
    intro k x hx
    obtain ⟨kv, _, rfl⟩ := List.mem_map.1 hx
    split <;> omega
  simp only [sumCoeff_eq_sum, sum_pos_iff_any _ (nn _), List.any_map, List.any_eq_true, Bool.and_eq_true,
    decide_eq_true_eq, Function.comp]
  constructor
  · rintro ⟨kv, hkv, hL, hpos⟩
    exact ⟨kv.1, hL, kv, hkv, by simpa using hpos⟩
  · rintro ⟨k, hk, kv, hkv, hpos⟩
    split at hpos
    · rename_i e
      exact ⟨kv, hkv, e ▸ hk, by simpa using hpos⟩
    · exact absurd hpos (lt_irrefl 0)

theorem analysisNet_labelsOf (g : BipGraph) (S : List Nat) :
    (analysisNet g).labelsOf S = (selNodes g S).map nodeKey := by
  unfold Net.labelsOf selNodes
  rw [analysisNet_species, rowLabels, List.map_filterMap]
  apply List.filterMap_congr
  intro i _
  simp [List.getElem?_map]

theorem sideAny_canon (g : BipGraph) (wf : WF g) (role : String) (r : BNode) (S : List Nat) :
    ((sideOf g role r).any fun kv =>
        decide (kv.1 ∈ (analysisNet g).labelsOf S) && decide (0 < kv.2)) =
      (selNodes g S).any fun s => (joined role s.id r.id (effArcs g)).any (0 < ·) := by
  rw [Bool.eq_iff_iff, any_pos_iff_sumCoeff, analysisNet_labelsOf, List.any_eq_true]
  simp only [List.mem_map, exists_exists_and_eq_and]
  refine exists_congr fun s => and_congr_right fun hs => ?_
  rw [← sum_pos_iff_any _ (joined_nonneg _ _ _ _ (effArcs_nonneg g wf.coeffs)), ← arcSum_eq_sum,
    ← sumCoeff_sideOf g wf.speciesLabels wf.coeffs role r s (selNodes_sub g S s hs)]

/-- `_is_siphon_indices` / `_is_trap_indices` over the stored edges, for any two roles `a`, `b`: non-empty, and every
reaction node with a positive `a`-arc into the set has a positive `b`-arc into it. -/
def closureC (g : BipGraph) (a b : String) (S : List Nat) : Bool :=
  !S.isEmpty && (reactionNodes g).all fun r =>
    !((selNodes g S).any fun s => (joined a s.id r.id (effArcs g)).any (0 < ·)) ||
      (selNodes g S).any fun s => (joined b s.id r.id (effArcs g)).any (0 < ·)

theorem closurePred_closed (g : BipGraph) (hd : IdsDistinct g) (a b : String)
    (ha : a = "reactant" ∨ a = "product") (hb : b = "reactant" ∨ b = "product") (S : List Nat) :
    (!S.isEmpty && (reactionNodes g).all fun r =>
      !(touchesOn true (asBipartite g) a r.id (sNodes g S)) || touchesOn true (asBipartite g) b r.id (sNodes g S)) =
      closureC g a b S :=
  congrArg (!S.isEmpty && ·) <| Core.all_congr fun r hr => by
    rw [touches_canon g hd r hr a ha, touches_canon g hd r hr b hb]

theorem closureC_eq (g : BipGraph) (wf : WF g) (a b : String) (S : List Nat) :
    closureC g a b S = (!S.isEmpty && (reactionNodes g).all fun r =>
      !((sideOf g a r).any fun kv => decide (kv.1 ∈ (analysisNet g).labelsOf S) && decide (0 < kv.2)) ||
        (sideOf g b r).any fun kv => decide (kv.1 ∈ (analysisNet g).labelsOf S) && decide (0 < kv.2)) := by
  simp only [closureC, sideAny_canon g wf]

theorem graphLabelsOf_eq (g : BipGraph) (S : List Nat) :
    graphLabelsOf g S = (analysisNet g).labelsOf S := by
  unfold graphLabelsOf Net.labelsOf; rw [analysisNet_species]

theorem colVec_congr (g g' : BipGraph) (h : SameReading g g') (role : String) (r : BNode) :
    colVec g' role r = colVec g role r := by
  unfold colVec
  obtain ⟨_, _, n3, _⟩ := nodes_congr g g' h.nodes
  rw [n3]
  exact List.map_congr_left fun s _ => by rw [arcSum_eq_sum, arcSum_eq_sum, h.joined]

theorem cvOf_congr (g g' : BipGraph) (h : SameReading g g') : cvOf g' = cvOf g := by
  unfold cvOf
  rw [(nodes_congr g g' h.nodes).2.1]
  simp only [colVec_congr g g' h]

theorem complexes_congr (g g' : BipGraph) (hd : IdsDistinct g) (h : SameReading g g') :
    graphComplexVectors g' = graphComplexVectors g ∧
    graphComplexVectorsRaw g' = graphComplexVectorsRaw g ∧
    graphReactionComplexes g' = graphReactionComplexes g ∧
    graphLinkageClasses g' = graphLinkageClasses g ∧
    graphWeaklyReversible g' = graphWeaklyReversible g ∧
    ∀ rank, graphSummary g' rank = graphSummary g rank := by
  have hd' : IdsDistinct g' := by unfold IdsDistinct at hd ⊢; rw [h.nodes]; exact hd
  obtain ⟨n1, n2, n3, _⟩ := nodes_congr g g' h.nodes
  have hv : graphComplexVectors g' = graphComplexVectors g := by
    rw [graphComplexVectors_closed g' hd', graphComplexVectors_closed g hd, cvOf_congr g g' h]
  have hraw : graphComplexVectorsRaw g' = graphComplexVectorsRaw g := by
    rw [graphComplexVectorsRaw_closed g' hd', graphComplexVectorsRaw_closed g hd, cvOf_congr g g' h]
  have hrc : graphReactionComplexes g' = graphReactionComplexes g := by
    rw [graphReactionComplexes_closed g' hd', graphReactionComplexes_closed g hd, n2]
    simp only [colVec_congr g g' h]
  have hl : graphLinkageClasses g' = graphLinkageClasses g := by
    unfold graphLinkageClasses graphComplexes graphComplexArcs; rw [hv]
  have hw : graphWeaklyReversible g' = graphWeaklyReversible g := by
    unfold graphWeaklyReversible graphComplexArcs; rw [hl, hv]
  refine ⟨hv, hraw, hrc, hl, hw, fun rank => ?_⟩
  unfold graphSummary graphComplexes
  rw [n1, n2, hv, hl, hw]

theorem structure_congr (g g' : BipGraph) (hd : IdsDistinct g) (h : SameReading g g') :
    (∀ S, graphSiphonPred g' S = graphSiphonPred g S) ∧
    (∀ S, graphTrapPred g' S = graphTrapPred g S) ∧
    (∀ ms, graphFindSiphons g' ms = graphFindSiphons g ms) ∧
    (∀ ms, graphFindTraps g' ms = graphFindTraps g ms) := by
  have hd' : IdsDistinct g' := by unfold IdsDistinct at hd ⊢; rw [h.nodes]; exact hd
  obtain ⟨_, n2, n3, n4⟩ := nodes_congr g g' h.nodes
  have hc : ∀ a b S, closureC g' a b S = closureC g a b S := fun a b S => by
    simp only [closureC, selNodes, n2, n3, h.joined]
  have hS : ∀ S, graphSiphonPred g' S = graphSiphonPred g S := fun S =>
    ((closurePred_closed g' hd' _ _ (Or.inr rfl) (Or.inl rfl) S).trans (hc _ _ S)).trans
      (closurePred_closed g hd _ _ (Or.inr rfl) (Or.inl rfl) S).symm
  have hT : ∀ S, graphTrapPred g' S = graphTrapPred g S := fun S =>
    ((closurePred_closed g' hd' _ _ (Or.inl rfl) (Or.inr rfl) S).trans (hc _ _ S)).trans
      (closurePred_closed g hd _ _ (Or.inl rfl) (Or.inr rfl) S).symm
  have hl : graphLabelsOf g' = graphLabelsOf g := by funext S; unfold graphLabelsOf; rw [n4]
  refine ⟨hS, hT, fun ms => ?_, fun ms => ?_⟩
  · unfold graphFindSiphons graphFindSiphonsIdx; rw [funext hS, n3, hl]
  · unfold graphFindTraps graphFindTrapsIdx; rw [funext hT, n3, hl]

theorem wf_of_wfCoreB (g : BipGraph) (h : wfCoreB g = true) : WF g := by
  simp only [wfCoreB, Bool.and_eq_true, decide_eq_true_eq, List.all_eq_true] at h
  exact ⟨h.1.1, h.1.2, h.2⟩

end SynKit.BipGraph
