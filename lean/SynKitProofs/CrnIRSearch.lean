import SynKitModel.CrnIR
import SynKitProofs.CanonOrder
import SynKitProofs.Core.Graph
import SynKitProofs.IRSearch
/-!
The search of `CRN/Topo/canon.py` as an instance: `crnSys sel G` is its `IRSys`, `crnRefine`, `crnLeaves`, `crnSearch` are
its `refine`, `leaves` and `gSearch` with the leaf case `crnUpd` and no pruning.  It is lawful and the initial partition is
a partition of the node list, so (`IRTree`) every leaf of the search tree orders all nodes and with `N + 1` fuel the tree
has a leaf.  `tabSys` is the system whose signature reads the partition-independent part and the neighbours from
tables: it has the same tree as `crnSys` when the tables are right
(`crnRootLeaves_eq_tab`), and the kernel evaluates it much faster on a concrete graph.  `crnSearch` is the left fold of
its leaf case over `crnLeaves`; from `none` the fold returns the first leaf with the least label and, as `perms`, the
permutations of all leaves with that label in visiting order (`crnFoldLeaves_none_spec`, an invariant of the fold over
the leaves seen so far).  `CrnSig.lt`, `crnBitLt`, `CrnLabel.lt` are strict total orders: lexicographic products pulled
back along an injection.
-/
namespace SynKit.CrnCanon
open SynKit.Canon (StrictTotal lexIte lexIte_strictTotal ltLex ltLex_strictTotal natLt natLt_strictTotal refineLoop IRSys
  IRPartOK gSearch gSearch_eq_fold sortNat sortNat_perm irSplitBy_flatten_perm irSplitBy_ne_nil)

theorem CrnSig.ext' (a b : CrnSig) (h1 : a.attrs = b.attrs) (h2 : a.inDeg = b.inDeg) (h2' : a.outDeg = b.outDeg)
    (h3 : a.counts = b.counts) (h4 : a.edges = b.edges) : a = b := by
  cases a; cases b; simp_all

theorem CrnSig.lt_strictTotal : StrictTotal CrnSig.lt :=
  StrictTotal.pullback
    (lexIte_strictTotal Canon.Val.ltList (lexIte natLt (lexIte natLt (lexIte (ltLex natLt) (ltLex Canon.Val.ltList))))
      Canon.Val.ltList_strictTotal
      (lexIte_strictTotal natLt _ natLt_strictTotal
        (lexIte_strictTotal natLt _ natLt_strictTotal
          (lexIte_strictTotal _ _ (ltLex_strictTotal natLt natLt_strictTotal)
            (ltLex_strictTotal Canon.Val.ltList Canon.Val.ltList_strictTotal)))))
    (fun s : CrnSig => (s.attrs, s.inDeg, s.outDeg, s.counts, s.edges))
    (fun _ _ h => congrArg (fun p => CrnSig.mk p.1 p.2.1 p.2.2.1 p.2.2.2.1 p.2.2.2.2) h) CrnSig.lt fun _ _ => rfl

theorem crnBitLt_strictTotal : StrictTotal crnBitLt := by
  refine (lexIte_strictTotal natLt Canon.Val.ltList natLt_strictTotal Canon.Val.ltList_strictTotal).pullback
    (fun b : CrnBit => match b with | .diag => (0, []) | .absent => (1, []) | .present x => (2, x)) ?_ crnBitLt ?_
  · intro a b e
    cases a <;> cases b <;> simp_all
  · intro a b
    cases a <;> cases b <;> rfl

theorem CrnLabel.lt_strictTotal : StrictTotal CrnLabel.lt :=
  StrictTotal.pullback
    (lexIte_strictTotal _ _ (ltLex_strictTotal _ Canon.Val.ltList_strictTotal)
      (ltLex_strictTotal _ (ltLex_strictTotal _ crnBitLt_strictTotal)))
    (fun s : CrnLabel => (s.nodes, s.rows)) (fun _ _ h => congrArg (fun p => CrnLabel.mk p.1 p.2) h) CrnLabel.lt
    fun _ _ => rfl

def crnSys (sel : SelD) (G : LGraph) : IRSys CrnSig :=
  { lt := CrnSig.lt, sig := crnSig sel G, fb := Canon.sortNat, children := crnChildren, passes := G.nodes.length + 1 }

theorem mem_crnChildren (c : List Nat) (v : Nat) : v ∈ crnChildren c ↔ v ∈ c := Canon.mem_sortNat v c

theorem crnSys_lawful (sel : SelD) (G : LGraph) : (crnSys sel G).Lawful := ⟨Canon.sortNat_perm, mem_crnChildren⟩

theorem crnRefineLoop_eq (sel : SelD) (G : LGraph) : crnRefineLoop sel G = refineLoop (crnRefineStep sel G) := by
  funext k
  induction k with
  | zero => rfl
  | succ k ih => funext P; simp only [crnRefineLoop, refineLoop, ih]

theorem crnRefine_eq (sel : SelD) (G : LGraph) : crnRefine sel G = (crnSys sel G).refine := by
  funext P
  rw [crnRefine, crnRefineLoop_eq]
  rfl

theorem crnLeaves_eq (sel : SelD) (G : LGraph) : crnLeaves sel G = (crnSys sel G).leaves := by
  funext fuel
  induction fuel with
  | zero => rfl
  | succ fuel ih => funext P pfx; simp only [crnLeaves, IRSys.leaves, ih, crnRefine_eq]; rfl

/-- The leaf case of `_search`. -/
def crnUpd (lt : CrnLabel → CrnLabel → Bool) (sel : SelD) (G : LGraph) (b : Option CrnBest) (l : List Nat × List Nat) :
    Option CrnBest :=
  crnUpdate lt b (crnLeafLabel sel G l) l.2

theorem crnSearch_eq (lt) (sel : SelD) (G : LGraph) :
    crnSearch lt sel G = gSearch (crnSys sel G) (crnUpd lt sel G) (fun _ _ => false) := by
  funext fuel
  induction fuel with
  | zero => rfl
  | succ fuel ih =>
    funext P pfx b
    simp only [crnSearch, gSearch, ih, crnRefine_eq, Bool.false_eq_true, if_false]
    rfl

theorem crnInitPart_ok (sel : SelD) (G : LGraph) : IRPartOK G.ids (crnInitPart sel G) := by
  unfold crnInitPart
  split_ifs with _ he
  · rw [List.isEmpty_iff.1 he]
    exact ⟨.refl _, fun c hc => absurd hc List.not_mem_nil⟩
  · refine ⟨by simpa using sortNat_perm G.ids, fun c hc hnil => he ?_⟩
    rw [List.mem_singleton.1 hc] at hnil
    rw [← (sortNat_perm G.ids).isEmpty_eq, hnil]
    rfl
  · exact ⟨irSplitBy_flatten_perm _ _ _, irSplitBy_ne_nil _ _ _⟩

theorem crnRootLeaves_perm (sel : SelD) (G : LGraph) (hn : G.ids.Nodup) :
    ∀ l ∈ crnRootLeaves sel G, l.2.Perm G.ids := by
  rw [crnRootLeaves, crnLeaves_eq]
  exact IRSys.leaves_order_perm (crnSys_lawful sel G) hn _ _ _ (crnInitPart_ok sel G)

theorem crnRootLeaves_ne_nil (sel : SelD) (G : LGraph) (hn : G.ids.Nodup) :
    crnRootLeaves sel G ≠ [] := by
  rw [crnRootLeaves, crnLeaves_eq]
  exact IRSys.leaves_ne_nil (crnSys_lawful sel G) hn _ _ _ (crnInitPart_ok sel G) (Canon.irFuel_lt G _)

/-- `crnSig` with its partition-independent part `inv v` and the neighbours `nb v` read from tables. -/
def tabSys (inv : Nat → CrnSig) (nb : Nat → List Nat) (n : Nat) : IRSys CrnSig :=
  { lt := CrnSig.lt
    sig := fun P v => { inv v with counts := P.map fun cell => ((nb v).filter fun w => cell.contains w).length }
    fb := sortNat, children := crnChildren, passes := n + 1 }

theorem crnRootLeaves_eq_tab (sel : SelD) (G : LGraph) (inv : Nat → CrnSig) (nb : Nat → List Nat)
    (h : ∀ v ∈ G.ids, crnSig sel G [] v = inv v ∧ crnNbrs G v = nb v) :
    crnRootLeaves sel G = (tabSys inv nb G.nodes.length).leaves (G.nodes.length + 1) (crnInitPart sel G) [] := by
  rw [crnRootLeaves, crnLeaves_eq]
  refine IRSys.leaves_congr (sig' := (tabSys inv nb G.nodes.length).sig) (crnSys_lawful sel G) ?_ _
    (crnInitPart_ok sel G).partSub []
  intro P v hv
  obtain ⟨h1, h2⟩ := h v hv
  simp only [tabSys, ← h1, ← h2]
  rfl

def crnFoldLeaves (lt : CrnLabel → CrnLabel → Bool) (sel : SelD) (G : LGraph)
    (ls : List (List Nat × List Nat)) (st : Option CrnBest) : Option CrnBest :=
  ls.foldl (fun b l => crnUpdate lt b (crnLeafLabel sel G l) l.2) st

theorem crnFoldLeaves_cons (lt) (sel : SelD) (G : LGraph) (l : List Nat × List Nat) (ls : List (List Nat × List Nat))
    (st : Option CrnBest) :
    crnFoldLeaves lt sel G (l :: ls) st = crnFoldLeaves lt sel G ls (crnUpdate lt st (crnLeafLabel sel G l) l.2) := rfl

theorem crnSearch_eq_fold (lt) (sel : SelD) (G : LGraph) (fuel : Nat) (P : List (List Nat)) (pfx : List Nat)
    (st : Option CrnBest) :
    crnSearch lt sel G fuel P pfx st = crnFoldLeaves lt sel G (crnLeaves sel G fuel P pfx) st := by
  rw [crnSearch_eq, crnLeaves_eq]
  exact gSearch_eq_fold (fun _ _ h => absurd h (by simp)) fuel P pfx st

theorem crnIrWith_eq_fold (lt) (sel : SelD) (G : LGraph) :
    crnIrWith lt sel G = crnFoldLeaves lt sel G (crnRootLeaves sel G) none :=
  crnSearch_eq_fold lt sel G _ _ _ _

def crnWithLabel (sel : SelD) (G : LGraph) (L : CrnLabel) (ls : List (List Nat × List Nat)) : List (List Nat) :=
  (ls.filter fun l => decide (crnLeafLabel sel G l = L)).map (·.2)

theorem crnWithLabel_concat (sel : SelD) (G : LGraph) (L : CrnLabel) (ls : List (List Nat × List Nat))
    (y : List Nat × List Nat) :
    crnWithLabel sel G L (ls ++ [y]) = crnWithLabel sel G L ls ++ if crnLeafLabel sel G y = L then [y.2] else [] := by
  unfold crnWithLabel
  rw [List.filter_append, List.map_append]
  by_cases h : crnLeafLabel sel G y = L <;> simp [h]

theorem mem_crnWithLabel (sel : SelD) (G : LGraph) (L : CrnLabel) (ls : List (List Nat × List Nat)) (p : List Nat) :
    p ∈ crnWithLabel sel G L ls ↔ ∃ l ∈ ls, crnLeafLabel sel G l = L ∧ l.2 = p := by
  unfold crnWithLabel
  simp only [List.mem_map, List.mem_filter, decide_eq_true_eq]
  constructor
  · rintro ⟨l, ⟨h1, h2⟩, h3⟩
    exact ⟨l, h1, h2, h3⟩
  · rintro ⟨l, h1, h2, h3⟩
    exact ⟨l, ⟨h1, h2⟩, h3⟩

theorem crnFoldLeaves_none_nil (lt) (sel : SelD) (G : LGraph) : crnFoldLeaves lt sel G [] none = none := rfl

theorem crnUpdate_ne_none (lt) (st : Option CrnBest) (lab : CrnLabel) (perm : List Nat) :
    crnUpdate lt st lab perm ≠ none := by
  cases st with
  | none => exact nofun
  | some b =>
    simp only [crnUpdate]
    split_ifs <;> exact nofun

theorem crnFoldLeaves_eq_none_iff (lt) (sel : SelD) (G : LGraph) (ls : List (List Nat × List Nat)) (st : Option CrnBest) :
    crnFoldLeaves lt sel G ls st = none ↔ ls = [] ∧ st = none := by
  induction ls generalizing st with
  | nil => simp [crnFoldLeaves]
  | cons l ls ih => simp [crnFoldLeaves_cons, ih, crnUpdate_ne_none]

theorem crnFoldLeaves_none_spec (lt) (hlt : StrictTotal lt) (sel : SelD) (G : LGraph) (ls : List (List Nat × List Nat))
    {b : CrnBest} (h : crnFoldLeaves lt sel G ls none = some b) :
    ∃ m ∈ ls, b = ⟨crnLeafLabel sel G m, m.2, crnWithLabel sel G (crnLeafLabel sel G m) ls⟩ ∧
      (∀ l ∈ ls, lt (crnLeafLabel sel G l) (crnLeafLabel sel G m) = false) ∧
      (crnWithLabel sel G (crnLeafLabel sel G m) ls).head? = some m.2 := by
  have key := Core.foldl_inv_prefix (l := ls) (s := []) (b := none)
    (f := fun b l => crnUpdate lt b (crnLeafLabel sel G l) l.2)
    (P := fun s st => match st with
      | none => s = []
      | some b => ∃ m ∈ s, b = ⟨crnLeafLabel sel G m, m.2, crnWithLabel sel G (crnLeafLabel sel G m) s⟩ ∧
          (∀ l ∈ s, lt (crnLeafLabel sel G l) (crnLeafLabel sel G m) = false) ∧
          (crnWithLabel sel G (crnLeafLabel sel G m) s).head? = some m.2)
    ?_ rfl
  · rw [List.nil_append, show ls.foldl _ none = some b from h] at key
    exact key
  intro s st y _ ih
  cases st with
  | none =>
    subst ih
    exact ⟨y, List.mem_cons_self, by simp [crnWithLabel], List.forall_mem_singleton.2 (hlt.irrefl _),
      by simp [crnWithLabel]⟩
  | some b0 =>
    obtain ⟨m, hm, rfl, hleast, hhead⟩ := ih
    simp only [crnUpdate, List.forall_mem_append, List.forall_mem_singleton]
    split_ifs with h1 h2
    · -- a new least label: no leaf of `s` carries it
      have hnil : crnWithLabel sel G (crnLeafLabel sel G y) s = [] := by
        refine List.eq_nil_iff_forall_not_mem.2 fun p hp => ?_
        obtain ⟨l, hl, e, _⟩ := (mem_crnWithLabel ..).1 hp
        have := hleast l hl
        rw [e, h1] at this
        exact Bool.noConfusion this
      have e : crnWithLabel sel G (crnLeafLabel sel G y) (s ++ [y]) = [y.2] := by
        rw [crnWithLabel_concat, hnil, if_pos rfl, List.nil_append]
      exact ⟨y, by simp, by rw [e],
        ⟨fun l hl => hlt.le_trans _ _ _ (hlt.asymm _ _ h1) (hleast l hl), hlt.irrefl _⟩, by rw [e, List.head?_cons]⟩
    · have e : crnWithLabel sel G (crnLeafLabel sel G m) (s ++ [y]) = crnWithLabel sel G (crnLeafLabel sel G m) s ++ [y.2] := by
        rw [crnWithLabel_concat, if_pos h2]
      exact ⟨m, List.mem_append_left _ hm, by rw [e], ⟨hleast, h2 ▸ hlt.irrefl _⟩,
        by rw [e, List.head?_append, hhead, Option.some_or]⟩
    · have e : crnWithLabel sel G (crnLeafLabel sel G m) (s ++ [y]) = crnWithLabel sel G (crnLeafLabel sel G m) s := by
        rw [crnWithLabel_concat, if_neg h2, List.append_nil]
      exact ⟨m, List.mem_append_left _ hm, by rw [e], ⟨hleast, Bool.eq_false_iff.2 h1⟩, by rw [e, hhead]⟩

end SynKit.CrnCanon
