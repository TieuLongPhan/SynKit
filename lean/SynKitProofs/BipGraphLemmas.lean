import SynKitModel.BipGraph
import SynKitProofs.StoichLemmas
import SynKitProofs.Core.List
import SynKitProofs.Core.Dict
import SynKitProofs.Core.Sum
/-!
The graph entry path (`SynKitModel/BipGraph.lean`) agrees with the network-level model: what NetworkX stores, what
`_as_bipartite` keeps of an undirected edge, and the described network `netOfGraph`. Every reading of the graph is a
function of `joined role s r arcs`, the coefficients of the arcs joining a species node and a reaction node, in order;
`_as_bipartite` (`joined_asBipartite`), a reorientation (`joined_reoriented`) and a spelled-out default coefficient
(`joined_map_fill`) leave that list as it is; a side of the described network lists the species nodes whose list is not
empty, each with the sum of its list (`sideOf_eq`), so that sum is the entry of the network's matrix (`sumCoeff_sideOf`).
Two ways of writing a graph with the same nodes and the same such lists are read alike: `results_congr` (C17, lists over
`asBipartite`), and `SameReading` (lists over the stored edges) for C19 and C20 in `BipGraphViewsLemmas`.
-/
open SynKit.Store SynKit.Stoich

namespace SynKit.BipGraph

@[simp] theorem arcSum_nil (role s r : String) : arcSum role s r [] = 0 := rfl

theorem arcSum_cons (role s r : String) (a : BArc) (l : List BArc) :
    arcSum role s r (a :: l) = arcCoeff role s r a + arcSum role s r l := by
  rw [arcSum, arcSum, Core.isum_eq_sum, Core.isum_eq_sum, List.map_cons, List.sum_cons]

theorem arcSum_forall₂ (role s r : String) (l l' : List BArc)
    (h : List.Forall₂ (fun a b => arcCoeff role s r a = arcCoeff role s r b) l l') :
    arcSum role s r l = arcSum role s r l' := by
  induction h with
  | nil => rfl
  | cons hab _ ih => rw [arcSum_cons, arcSum_cons, hab, ih]

theorem arcJoins_rev (role s r : String) (a : BArc) : arcJoins role s r a.rev = arcJoins role s r a := by
  unfold arcJoins BArc.rev
  rw [Bool.or_comm, Bool.and_comm (a.dst == r), Bool.and_comm (a.dst == s)]

/-- What the reader returns for a role, a species node and a reaction node: the coefficients of the arcs
joining them, in order. Every reading is a function of this list: its sum (`arcSum`), whether it is empty
(`sideOf` lists the species), whether it has a positive member (the siphon / trap arc test). -/
def joined (role s r : String) (arcs : List BArc) : List Int :=
  (arcs.filter (arcJoins role s r)).map (·.stoich.getD 1)

theorem joined_cons (role s r : String) (a : BArc) (l : List BArc) :
    joined role s r (a :: l) =
      (if arcJoins role s r a then [a.stoich.getD 1] else []) ++ joined role s r l := by
  unfold joined
  rw [List.filter_cons]
  split <;> rfl

theorem joined_append (role s r : String) (l₁ l₂ : List BArc) :
    joined role s r (l₁ ++ l₂) = joined role s r l₁ ++ joined role s r l₂ := by
  simp [joined]

theorem arcSum_eq_sum (role s r : String) (l : List BArc) :
    arcSum role s r l = (joined role s r l).sum :=
  (Core.isum_eq_sum _ l).trans (Core.sum_map_filter (arcJoins role s r) (·.stoich.getD 1) l).symm

theorem any_arcJoins (role s r : String) (l : List BArc) :
    l.any (arcJoins role s r) = !(joined role s r l).isEmpty := by
  induction l with
  | nil => rfl
  | cons a l ih =>
    rw [List.any_cons, joined_cons, ih]
    cases arcJoins role s r a <;> simp

theorem joined_nonneg (role s r : String) (l : List BArc) (h : ∀ a ∈ l, 0 ≤ a.stoich.getD 1) :
    ∀ x ∈ joined role s r l, 0 ≤ x := by
  intro x hx
  obtain ⟨a, ha, rfl⟩ := List.mem_map.1 hx
  exact h a (List.mem_filter.1 ha).1

theorem joined_rev (role s r : String) (a : BArc) : joined role s r [a.rev] = joined role s r [a] := by
  rw [joined_cons, joined_cons, arcJoins_rev]; rfl

theorem joined_flatMap (role s r : String) (f : BArc → List BArc) (l : List BArc)
    (h : ∀ a ∈ l, joined role s r (f a) = joined role s r [a]) :
    joined role s r (l.flatMap f) = joined role s r l := by
  induction l with
  | nil => rfl
  | cons a l ih =>
    rw [List.flatMap_cons, joined_append, h a List.mem_cons_self,
      ih fun b hb => h b (List.mem_cons_of_mem _ hb), ← joined_append]; rfl

theorem upsert_of_new (d : Bool) (acc : List BArc) (a : BArc)
    (h : ∀ b ∈ acc, sameKey d b a = false) : upsert d acc a = acc ++ [a] := by
  induction acc with
  | nil => rfl
  | cons b rest ih =>
    simp only [upsert, h b List.mem_cons_self, Bool.false_eq_true, if_false, List.cons_append]
    rw [ih (fun c hc => h c (List.mem_cons_of_mem _ hc))]

theorem effArcs_eq_arcs (g : BipGraph) (h : g.multi = true ∨ ArcsSimple g) : effArcs g = g.arcs := by
  unfold effArcs
  split
  · rfl
  · next hm =>
    have := Core.foldl_eq_append (g := id) (fun acc a _ => upsert_of_new g.directed acc a) []
      (fun _ _ _ hy => absurd hy List.not_mem_nil) (by rw [List.map_id]; exact h.resolve_left hm)
    rwa [List.map_id, List.nil_append] at this

theorem upsert_all (P : BArc → Prop) (hm : ∀ a b, P a → P b → P (mergeArc a b)) (d : Bool)
    (acc : List BArc) (a : BArc) (hacc : ∀ b ∈ acc, P b) (ha : P a) : ∀ b ∈ upsert d acc a, P b := by
  induction acc with
  | nil => exact List.forall_mem_singleton.2 ha
  | cons c rest ih =>
    rw [List.forall_mem_cons] at hacc
    unfold upsert
    split
    · exact List.forall_mem_cons.2 ⟨hm _ _ hacc.1 ha, hacc.2⟩
    · exact List.forall_mem_cons.2 ⟨hacc.1, ih hacc.2⟩

theorem effArcs_all (P : BArc → Prop) (hm : ∀ a b, P a → P b → P (mergeArc a b)) (g : BipGraph)
    (h : ∀ a ∈ g.arcs, P a) : ∀ a ∈ effArcs g, P a := by
  unfold effArcs
  split
  · exact h
  · exact Core.foldl_inv (fun acc a ha hacc => upsert_all P hm g.directed acc a hacc (h a ha))
      (fun _ hb => absurd hb List.not_mem_nil)

theorem effArcs_nonneg (g : BipGraph) (h : ∀ a ∈ g.arcs, 0 ≤ a.stoich.getD 1) :
    ∀ a ∈ effArcs g, 0 ≤ a.stoich.getD 1 := by
  refine effArcs_all (fun a => 0 ≤ a.stoich.getD 1) ?_ g h
  intro a b ha hb
  simp only [mergeArc]
  cases hbs : b.stoich with
  | some c => simpa [hbs] using hb
  | none => simpa using ha

theorem lookup_of_mem (g : BipGraph) (hd : IdsDistinct g) (n : BNode) (hn : n ∈ g.nodes) :
    lookup g n.id = some n := Core.find?_of_nodup_map hd hn rfl

theorem species_not_reaction (n : BNode) (h : nodeIsSpecies n = true) : nodeIsReaction n = false := by
  unfold nodeIsSpecies at h; unfold nodeIsReaction
  cases hk : n.kind <;> simp only [hk, beq_iff_eq] at h <;> simp [h]

theorem reaction_not_species (n : BNode) (h : nodeIsReaction n = true) : nodeIsSpecies n = false := by
  cases hs : nodeIsSpecies n with
  | false => rfl
  | true => rw [species_not_reaction n hs] at h; cases h

theorem mem_bothWays {a b : BArc} (h : b ∈ bothWays a) : b = a ∨ b = a.rev := by
  unfold bothWays at h
  split at h
  · exact Or.inl (List.mem_singleton.1 h)
  · simpa using h

section
variable (g : BipGraph) (hd : IdsDistinct g) (s r : BNode) (hs : s ∈ speciesNodes g) (hr : r ∈ reactionNodes g)
include hd hs hr

theorem typing_facts :
    idIsSpecies g s.id = true ∧ idIsReaction g s.id = false ∧
    idIsReaction g r.id = true ∧ idIsSpecies g r.id = false := by
  obtain ⟨hs1, hs2⟩ := List.mem_filter.1 hs
  obtain ⟨hr1, hr2⟩ := List.mem_filter.1 hr
  have ls := lookup_of_mem g hd s hs1
  have lr := lookup_of_mem g hd r hr1
  exact ⟨by simp [idIsSpecies, ls, hs2], by simp [idIsReaction, ls, species_not_reaction s hs2],
    by simp [idIsReaction, lr, hr2], by simp [idIsSpecies, lr, reaction_not_species r hr2]⟩

theorem species_id_ne_reaction_id : s.id ≠ r.id := by
  obtain ⟨_, h2, h3, _⟩ := typing_facts g hd s r hs hr
  intro heq
  rw [heq, h3] at h2
  cases h2

variable (role : String) (hrole : role = "reactant" ∨ role = "product")
include hrole

/-- Of the two arcs `nx.DiGraph(G)` makes of an undirected edge joining `s` and `r`, `_as_bipartite` removes exactly
one: the copy that leaves the reaction node when the role is `reactant`, the species node when it is `product`. -/
theorem dropArc_rev (a : BArc) (hj : arcJoins role s.id r.id a = true) :
    a.src ≠ a.dst ∧ dropArc g a.rev = !dropArc g a := by
  obtain ⟨f1, f2, f3, f4⟩ := typing_facts g hd s r hs hr
  have f5 := species_id_ne_reaction_id g hd s r hs hr
  simp only [arcJoins, Bool.and_eq_true, Bool.or_eq_true, beq_iff_eq] at hj
  obtain ⟨hro, hends⟩ := hj
  rcases hrole with rfl | rfl <;> rcases hends with ⟨h1, h2⟩ | ⟨h1, h2⟩ <;>
    simp [dropArc, BArc.rev, hro, h1, h2, f1, f2, f3, f4, f5, Ne.symm f5]

theorem joined_bothWays (a : BArc) :
    joined role s.id r.id ((bothWays a).filter (fun b => !dropArc g b)) = joined role s.id r.id [a] := by
  cases hj : arcJoins role s.id r.id a with
  | false =>
    have hz : joined role s.id r.id [a] = [] := by rw [joined_cons, hj]; rfl
    rw [hz, joined, List.map_eq_nil_iff, List.filter_eq_nil_iff]
    intro b hb
    rcases mem_bothWays (List.mem_filter.1 hb).1 with rfl | rfl
    · simp [hj]
    · simp [arcJoins_rev, hj]
  | true =>
    obtain ⟨hne, hrev⟩ := dropArc_rev g hd s r hs hr role hrole a hj
    rw [bothWays, if_neg (by simpa using hne), List.filter_cons, List.filter_cons, List.filter_nil, hrev]
    cases dropArc g a
    · rfl
    · exact joined_rev role s.id r.id a

theorem joined_asBipartite : joined role s.id r.id (asBipartite g) = joined role s.id r.id (effArcs g) := by
  unfold asBipartite
  split
  · rfl
  · rw [List.filter_flatMap]
    exact joined_flatMap role s.id r.id _ _ fun a _ => joined_bothWays g hd s r hs hr role hrole a

theorem arcSum_asBipartite : arcSum role s.id r.id (asBipartite g) = arcSum role s.id r.id (effArcs g) := by
  rw [arcSum_eq_sum, arcSum_eq_sum, joined_asBipartite g hd s r hs hr role hrole]

end

theorem sideOf_eq (g : BipGraph) (role : String) (r : BNode) :
    sideOf g role r = ((speciesNodes g).filter fun s => !(joined role s.id r.id (effArcs g)).isEmpty).map
      fun s => (nodeKey s, (joined role s.id r.id (effArcs g)).sum.toNat) := by
  unfold sideOf
  induction speciesNodes g with
  | nil => rfl
  | cons s l ih =>
    rw [List.filterMap_cons, List.filter_cons, ih, any_arcJoins, arcSum_eq_sum]
    cases (joined role s.id r.id (effArcs g)).isEmpty <;> rfl

theorem sumCoeff_sideOf (g : BipGraph) (hsp : ((speciesNodes g).map nodeKey).Nodup)
    (hnn : ∀ a ∈ g.arcs, 0 ≤ a.stoich.getD 1) (role : String) (r s : BNode)
    (hs : s ∈ speciesNodes g) :
    sumCoeff (sideOf g role r) (nodeKey s) = arcSum role s.id r.id (effArcs g) := by
  rw [sideOf_eq, sumCoeff_eq_sum, List.map_map, Core.sum_map_filter, arcSum_eq_sum,
    ← Core.sum_single (speciesNodes g) hsp.of_map s hs fun t => (joined role t.id r.id (effArcs g)).sum]
  -- the labels are distinct, so only `s` contributes; its list is non-negative, and sums to 0 when empty
  refine congrArg List.sum (List.map_congr_left fun t ht => ?_)
  have hkey : nodeKey t = nodeKey s ↔ s = t :=
    ⟨fun h => (List.inj_on_of_nodup_map hsp ht hs h).symm, fun h => h ▸ rfl⟩
  simp only [Function.comp, hkey,
    Int.toNat_of_nonneg (List.sum_nonneg (joined_nonneg role t.id r.id _ (effArcs_nonneg g hnn)))]
  cases joined role t.id r.id (effArcs g) <;> simp

theorem speciesSet_netOfGraph (g : BipGraph) :
    speciesSet (netOfGraph g) = (speciesNodes g).map nodeKey := by
  unfold speciesSet
  refine Core.foldl_eq_self fun e he => Core.foldl_eq_self fun x hx => setAdd_of_mem ?_
  simp only [netOfGraph, List.mem_map] at he
  obtain ⟨r, _, rfl⟩ := he
  simp only [Edge.speciesOf, edgeOfNode, List.mem_append, sideOf_eq, Dict.keys, List.map_map] at hx
  rcases hx with hx | hx <;> exact (List.filter_sublist.map _).subset hx

theorem speciesOrder_netOfGraph (g : BipGraph) : speciesOrder (netOfGraph g) = rowLabels g := by
  unfold speciesOrder rowLabels speciesRows
  rw [speciesSet_netOfGraph, sortBy_map]
  rfl

theorem rxnOrder_netOfGraph (g : BipGraph) (hr : ((reactionNodes g).map nodeKey).Nodup) :
    rxnOrder (netOfGraph g) = (reactionCols g).map (edgeOfNode g) := by
  unfold rxnOrder viewOrder reactionCols
  simp only [netOfGraph]
  rw [sortBy_map, sortBy_map]
  congr 1
  -- the network sorts by id and then stably by rule, the graph reading sorts the nodes in `G.nodes`
  -- order stably by label: two stable sorts of a permuted list, equal because the keys are distinct
  exact sortBy_eq_of_perm nodeKey _ _ (sortBy_perm _ _) ((sortBy_perm _ _).map nodeKey |>.nodup_iff.2 hr)

theorem mem_speciesRows (g : BipGraph) (s : BNode) : s ∈ speciesRows g ↔ s ∈ speciesNodes g :=
  (sortBy_perm _ _).mem_iff

theorem mem_reactionCols (g : BipGraph) (r : BNode) : r ∈ reactionCols g ↔ r ∈ reactionNodes g :=
  (sortBy_perm _ _).mem_iff

theorem graphMat_eq_sides (g : BipGraph) (wf : WF g) (role : String)
    (hrole : role = "reactant" ∨ role = "product") (side : Edge → Side)
    (hside : ∀ r, side (edgeOfNode g r) = sideOf g role r) :
    graphMat role g = (speciesOrder (netOfGraph g)).map fun x =>
      ((reactionCols g).map (edgeOfNode g)).map fun e => sumCoeff (side e) x := by
  rw [speciesOrder_netOfGraph]
  unfold graphMat rowLabels
  rw [List.map_map]
  apply List.map_congr_left
  intro s hs
  rw [mem_speciesRows] at hs
  simp only [Function.comp, List.map_map]
  apply List.map_congr_left
  intro r hr
  rw [mem_reactionCols] at hr
  simp only [Function.comp]
  rw [hside, sumCoeff_sideOf g wf.speciesLabels wf.coeffs role r s hs,
    arcSum_asBipartite g wf.ids s r hs hr role hrole]

theorem colLabels_eq (g : BipGraph) :
    colLabels g = ((reactionCols g).map (edgeOfNode g)).map (·.rule) := by
  simp [colLabels, List.map_map, Function.comp, edgeOfNode]

theorem cols_perm_rxnOrder (g : BipGraph) :
    ((reactionCols g).map (edgeOfNode g)).Perm (rxnOrder (netOfGraph g)) :=
  ((sortBy_perm _ _).map _).trans (rxnOrder_perm (netOfGraph g)).symm

/-- Both lists are sorted by rule and permutations of each other, and a sorted list is determined by
its elements. -/
theorem cols_rules_eq (g : BipGraph) :
    ((reactionCols g).map (edgeOfNode g)).map (·.rule) = (rxnOrder (netOfGraph g)).map (·.rule) := by
  have s1 : (((reactionCols g).map (edgeOfNode g)).map (·.rule)).Pairwise fun a b => codes a ≤ codes b := by
    rw [List.pairwise_map, List.pairwise_map]
    exact sortBy_sorted nodeKey _
  have s2 : ((rxnOrder (netOfGraph g)).map (·.rule)).Pairwise fun a b => codes a ≤ codes b := by
    rw [List.pairwise_map]
    exact sortBy_sorted (fun e : Edge => e.rule) _
  exact List.Perm.eq_of_pairwise (fun a b _ _ hab hba => codes_inj (le_antisymm hab hba)) s1 s2
    ((cols_perm_rxnOrder g).map _)

theorem nodes_congr (g g' : BipGraph) (hn : g'.nodes = g.nodes) :
    speciesNodes g' = speciesNodes g ∧ reactionNodes g' = reactionNodes g ∧
    speciesRows g' = speciesRows g ∧ rowLabels g' = rowLabels g := by
  simp [speciesRows, rowLabels, speciesNodes, reactionNodes, hn]

theorem results_congr (g g' : BipGraph) (hn : g'.nodes = g.nodes)
    (h : ∀ role, role = "reactant" ∨ role = "product" → ∀ s ∈ speciesNodes g, ∀ r ∈ reactionNodes g,
      joined role s.id r.id (asBipartite g') = joined role s.id r.id (asBipartite g)) :
    graphSMinus g' = graphSMinus g ∧ graphSPlus g' = graphSPlus g ∧ graphS g' = graphS g ∧
    graphBuildS g' = graphBuildS g := by
  obtain ⟨n1, n2, n3, n4⟩ := nodes_congr g g' hn
  have hrc : reactionCols g' = reactionCols g := by rw [reactionCols, n2]; rfl
  have hmat : ∀ role, role = "reactant" ∨ role = "product" → graphMat role g' = graphMat role g := by
    intro role hrole
    unfold graphMat
    rw [n3, hrc]
    exact List.map_congr_left fun s hs => List.map_congr_left fun r hr => by
      rw [arcSum_eq_sum, arcSum_eq_sum, h role hrole s ((mem_speciesRows g s).1 hs) r ((mem_reactionCols g r).1 hr)]
  have hm : graphSMinus g' = graphSMinus g := hmat _ (Or.inl rfl)
  have hp : graphSPlus g' = graphSPlus g := hmat _ (Or.inr rfl)
  have hS : graphS g' = graphS g := by rw [graphS, graphS, hm, hp]
  refine ⟨hm, hp, hS, ?_⟩
  rw [graphBuildS, graphBuildS, n1, n2, n4, colLabels, colLabels, hrc, hS]

theorem joined_reoriented (role s r : String) (l l' : List BArc) (h : Reoriented l l') :
    joined role s r l' = joined role s r l := by
  induction h with
  | nil => rfl
  | keep a _ ih => rw [joined_cons, joined_cons, ih]
  | flip a _ ih =>
    rw [← List.singleton_append, joined_append, joined_rev, ← joined_append, List.singleton_append,
      joined_cons, joined_cons, ih]

/-- The endpoints of an arc as an unordered pair: the key under which an undirected non-multi graph stores an edge,
and what a reorientation keeps. -/
def ends (a : BArc) : Sym2 String := s(a.src, a.dst)

theorem sameKey_undirected (a b : BArc) : sameKey false a b = false ↔ ends a ≠ ends b := by
  simp [sameKey, ends]

theorem sameKey_directed (a b : BArc) (h : sameKey false a b = false) : sameKey true a b = false := by
  rw [sameKey, (Bool.or_eq_false_iff.1 h).1]; rfl

theorem map_ends_reoriented (l l' : List BArc) (h : Reoriented l l') : l'.map ends = l.map ends := by
  induction h with
  | nil => rfl
  | keep a _ ih => rw [List.map_cons, List.map_cons, ih]
  | flip a _ ih => rw [List.map_cons, List.map_cons, ih]; exact congrArg (· :: _) Sym2.eq_swap

theorem arcsSimple_reoriented (g g' : BipGraph) (hd : g.directed = false) (hd' : g'.directed = true)
    (ha : Reoriented g.arcs g'.arcs) (h : ArcsSimple g) : ArcsSimple g' := by
  unfold ArcsSimple at h ⊢
  rw [hd] at h
  rw [hd']
  -- the unordered endpoints differ pairwise before, hence after; so do the ordered pairs
  have hn : (g'.arcs.map ends).Pairwise (· ≠ ·) := by
    rw [map_ends_reoriented _ _ ha, List.pairwise_map]
    exact h.imp (sameKey_undirected _ _).1
  exact (List.pairwise_map.1 hn).imp fun hne => sameKey_directed _ _ ((sameKey_undirected _ _).2 hne)

theorem joined_map_fill (role s r : String) (l : List BArc) :
    joined role s r (l.map BArc.fillStoich) = joined role s r l := by
  induction l with
  | nil => rfl
  | cons a l ih => rw [List.map_cons, joined_cons, joined_cons, ih]; rfl

theorem bothWays_fill (a : BArc) : bothWays a.fillStoich = (bothWays a).map BArc.fillStoich := by
  have h1 : a.fillStoich.src = a.src := rfl
  have h2 : a.fillStoich.dst = a.dst := rfl
  have h3 : a.fillStoich.rev = a.rev.fillStoich := rfl
  unfold bothWays
  rw [h1, h2]
  split <;> simp [h3]

theorem arcsSimple_fill (g g' : BipGraph) (hd : g'.directed = g.directed)
    (ha : g'.arcs = g.arcs.map BArc.fillStoich) (h : ArcsSimple g) : ArcsSimple g' := by
  unfold ArcsSimple at h ⊢
  rw [ha, hd, List.pairwise_map]
  exact h

/-- `hs` cannot be dropped: on a non-multi graph a second `add_edge(u, v)` *without* `stoich` keeps the
stored coefficient, one *with* `stoich=1` replaces it. -/
theorem asBipartite_fill (g g' : BipGraph) (hn : g'.nodes = g.nodes) (hd : g'.directed = g.directed)
    (hm : g'.multi = g.multi) (ha : g'.arcs = g.arcs.map BArc.fillStoich)
    (hs : g.multi = true ∨ ArcsSimple g) :
    asBipartite g' = (asBipartite g).map BArc.fillStoich := by
  have hdrop : (fun a => !dropArc g' a) ∘ BArc.fillStoich = fun a => !dropArc g a := by
    funext a; simp [dropArc, idIsReaction, idIsSpecies, lookup, hn, BArc.fillStoich]
  unfold asBipartite
  rw [effArcs_eq_arcs g' (hs.imp (hm.trans ·) (arcsSimple_fill g g' hd ha)), effArcs_eq_arcs g hs,
    ha, hd]
  split
  · rfl
  · simp only [List.flatMap_map, bothWays_fill]
    rw [← List.map_flatMap, List.filter_map, hdrop]

/-- What two ways of writing a graph must share for every result read off the stored edges to coincide (C19 / C20:
`complexes_congr`, `structure_congr` in `BipGraphViewsLemmas`; C17 where `asBipartite` is `effArcs`); reorientation,
the graph class and a spelled-out default coefficient preserve it. -/
structure SameReading (g g' : BipGraph) : Prop where
  nodes : g'.nodes = g.nodes
  joined : ∀ role s r, joined role s r (effArcs g') = joined role s r (effArcs g)

theorem sameReading_of_reoriented (g g' : BipGraph) (hn : g'.nodes = g.nodes)
    (ha : Reoriented g.arcs g'.arcs) (e : effArcs g = g.arcs) (e' : effArcs g' = g'.arcs) :
    SameReading g g' :=
  ⟨hn, fun role s r => by rw [e, e']; exact joined_reoriented role s r _ _ ha⟩

theorem sameReading_orientation (g g' : BipGraph) (hn : g'.nodes = g.nodes)
    (hm : g'.multi = g.multi) (ha : Reoriented g.arcs g'.arcs)
    (hs : g.multi = true ∨ (ArcsSimple g ∧ ArcsSimple g')) : SameReading g g' :=
  sameReading_of_reoriented g g' hn ha (effArcs_eq_arcs g (hs.imp id (·.1)))
    (effArcs_eq_arcs g' (hs.imp (fun h => hm.trans h) (·.2)))

theorem sameReading_undirected (g g' : BipGraph) (hn : g'.nodes = g.nodes)
    (hd : g.directed = false) (hd' : g'.directed = true) (hm : g'.multi = g.multi)
    (ha : Reoriented g.arcs g'.arcs) (hs : g.multi = true ∨ ArcsSimple g) : SameReading g g' :=
  sameReading_of_reoriented g g' hn ha (effArcs_eq_arcs g hs)
    (effArcs_eq_arcs g' (hs.imp (hm.trans ·) (arcsSimple_reoriented g g' hd hd' ha)))

theorem sameReading_fill (g g' : BipGraph) (hn : g'.nodes = g.nodes) (hd : g'.directed = g.directed)
    (hm : g'.multi = g.multi) (ha : g'.arcs = g.arcs.map BArc.fillStoich)
    (hs : g.multi = true ∨ ArcsSimple g) : SameReading g g' :=
  ⟨hn, fun role s r => by
    rw [effArcs_eq_arcs g' (hs.imp (hm.trans ·) (arcsSimple_fill g g' hd ha)), effArcs_eq_arcs g hs, ha]
    exact joined_map_fill role s r _⟩

theorem wf_of_wfB (g : BipGraph) (h : wfB g = true) : WF g ∧ ReactionLabelsDistinct g := by
  simp only [wfB, Bool.and_eq_true, decide_eq_true_eq, List.all_eq_true] at h
  obtain ⟨⟨⟨h1, h2⟩, h3⟩, h4⟩ := h
  exact ⟨⟨h1, h2, h4⟩, h3⟩

end SynKit.BipGraph
