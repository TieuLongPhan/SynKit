import SynKitModel.Store
import SynKitProofs.Core.Dict
/-!
# Sides of a reaction as dicts: normalisation and incidence

What `RXNSide._normalize_any` (`normSide`, `rawOfItems`) and `incidence_matrix` (`incidenceEdge`) compute, as facts
about folds over a dict. Nothing here speaks of a store or of its invariant.
-/
namespace SynKit.Store

theorem foldl_acc_getD (op : Int → Nat → Int) (d : Dict Nat) (hn : d.keys.Nodup) (sp : String) :
    ∀ (m : Dict Int),
    (d.foldl (fun (m : Dict Int) kv => m.set kv.1 (op (m.getD kv.1 0) kv.2)) m).getD sp 0 =
      match d.get? sp with
      | some v => op (m.getD sp 0) v
      | none => m.getD sp 0 := by
  induction d with
  | nil => intro m; simp [Dict.get?]
  | cons p rest ih =>
    obtain ⟨k, v⟩ := p
    intro m
    simp only [Dict.keys, List.map_cons, List.nodup_cons] at hn
    simp only [List.foldl_cons]
    rw [ih hn.2]
    simp only [Dict.get?]
    by_cases hk : k = sp
    · subst hk
      have : Dict.get? rest k = none := (Dict.get?_eq_none_iff rest k).2 hn.1
      simp [this, Dict.getD_set_self]
    · have hk' : sp ≠ k := fun h => hk h.symm
      simp only [hk, if_false, Dict.getD_set_other hk']

theorem incidence_spec' (e : Edge) (hr : e.reactants.keys.Nodup) (hp : e.products.keys.Nodup)
    (sp : String) :
    (incidenceEdge e).getD sp 0 = coeff e.products sp - coeff e.reactants sp := by
  unfold incidenceEdge
  simp only []
  rw [foldl_acc_getD (fun a b => a + (b : Int)) e.products hp sp]
  rw [foldl_acc_getD (fun a b => a - (b : Int)) e.reactants hr sp]
  simp only [coeff, Dict.getD]
  cases e.products.get? sp <;> cases e.reactants.get? sp <;> simp [Dict.get?] <;> omega

theorem normSide_nodup (raw : List (String × Int)) : (normSide raw).keys.Nodup := by
  refine Core.foldl_inv (P := fun out : Side => out.keys.Nodup) (fun out kv _ h => ?_) List.nodup_nil
  split
  · exact Dict.nodup_keys_set h
  · exact h

def rawContrib (sp : String) (kv : String × Int) : Nat :=
  if kv.1 = sp ∧ kv.2 > 0 then kv.2.toNat else 0

def itemContrib (sp : String) : SideItem → Nat
  | .pair s c => if s = sp ∧ c > 0 then c.toNat else 0
  | .label s => if s = sp ∧ s ≠ "" then 1 else 0

theorem normSide_foldl_getD (raw : List (String × Int)) (sp : String) : ∀ out : Side,
    (raw.foldl (fun out kv => if kv.2 > 0 then out.set kv.1 (out.getD kv.1 0 + kv.2.toNat) else out)
      out).getD sp 0 = out.getD sp 0 + (raw.map (rawContrib sp)).sum := by
  induction raw with
  | nil => intro out; simp
  | cons kv rest ih =>
    intro out
    simp only [List.foldl_cons, List.map_cons, List.sum_cons]
    rw [ih]
    by_cases hc : kv.2 > 0
    · by_cases hk : kv.1 = sp
      · subst hk
        simp only [rawContrib, hc, and_self, if_true, Dict.getD_set_self]
        omega
      · have hk' : sp ≠ kv.1 := fun h => hk h.symm
        simp only [if_pos hc, rawContrib, hk, false_and, if_false, Dict.getD_set_other hk']
        omega
    · simp only [rawContrib, hc, and_false, if_false]
      omega

theorem normSide_coeff (raw : List (String × Int)) (sp : String) :
    (normSide raw).getD sp 0 = (raw.map (rawContrib sp)).sum := by
  unfold normSide
  rw [normSide_foldl_getD]
  simp [Dict.getD, Dict.get?]

theorem rawOfItems_contrib (items : List SideItem) (sp : String) :
    ((rawOfItems items).map (rawContrib sp)).sum = (items.map (itemContrib sp)).sum := by
  induction items with
  | nil => rfl
  | cons it rest ih =>
    rw [List.map_cons, List.sum_cons, ← ih]
    cases it with
    | pair s c => rfl
    | label s =>
      by_cases hs : s = ""
      · simp [rawOfItems, itemContrib, hs]
      · simp [rawOfItems, itemContrib, rawContrib, hs]
end SynKit.Store
