import SynKitModel.ReprOpt
import SynKitProofs.ImplicitHLemmas
import SynKitProofs.Match
import SynKitProofs.GmlLemmas
/-!
C10, the options of `SynKitModel/ReprOpt.lean`.  `h_to_explicit(G, nodes)` over any node list has the closed form
`form g L` (`hToExplicitG_eq_form`), which is `Repr.explicitOn` on molecule graphs; `implicit_hydrogen(reindex=True)`
is `implicitHydrogen` relabelled onto `1..n`; the GML writer with `explicit_hydrogen=False` is the default writer.
The flags of `MolToGraph.transform` are in `ReprTable.lean`.  Of the GML proofs only `Gml.setAtomMap` (`GmlLemmas.lean`) is
used, for `reindex=True`; the writer with `explicit_hydrogen=True` read back is in `ReprOptGmlLemmas.lean`.
-/
namespace SynKit.ReprOpt
open SynKit.Repr SynKit.Gml

theorem get?_expandAttrs_other (a : Attrs) (c : Int) (k : String) (h1 : k ≠ "hcount") (h2 : k ≠ "typesGH") :
    Dict.get? (expandAttrs a c) k = Dict.get? a k := by
  unfold expandAttrs
  simp only
  split
  · split
    · rw [Dict.get?_set_other _ _ _ _ h2, Dict.get?_set_other _ _ _ _ h1]
    · rw [Dict.get?_set_other _ _ _ _ h1]
  · rw [Dict.get?_set_other _ _ _ _ h1]

theorem isH_expandAttrs (a : Attrs) (c : Int) : isH (expandAttrs a c) = isH a := by
  unfold isH
  rw [Attrs.get_congr (get?_expandAttrs_other a c "element" (by decide) (by decide))]

theorem hraw_expandAttrs (a : Attrs) (c : Int) : hraw (expandAttrs a c) = hraw a - 2 * c := by
  unfold expandAttrs
  simp only
  split
  · split
    · rw [hraw_set_other _ _ _ (by decide), hraw_set]
    · rw [hraw_set]
  · rw [hraw_set]

theorem expandAttrs_of_no_types (a : Attrs) (c : Int) (h : Dict.contains a "typesGH" = false) :
    expandAttrs a c = Dict.set a "hcount" (.num (hraw a - 2 * c)) := by
  have h1 : Dict.get? a "typesGH" = none := by
    rw [Dict.get?_eq_none_iff]; simpa [Dict.contains] using h
  unfold expandAttrs
  simp only [Dict.get?_set_other a "hcount" _ "typesGH" (by decide), h1]

def expNode (p : Nat × Attrs) : Nat × Attrs :=
  if hcnt p.2 > 0 then (p.1, expandAttrs p.2 (hcnt p.2)) else p

def cntOf (g : LGraph) (v : Nat) : Nat := (hcnt (g.attrs v)).toNat

def planL (g : LGraph) : List Nat → Nat → List (Nat × Nat)
  | [], _ => []
  | v :: L, mx => (List.range' (mx + 1) (cntOf g v)).map (fun f => (f, v)) ++ planL g L (mx + cntOf g v)

def form (g : LGraph) (L : List Nat) : LGraph :=
  { nodes := g.nodes.map (fun p => if p.1 ∈ L then expNode p else p) ++ (planL g L (maxId g)).map freshNode
    edges := g.edges ++ (planL g L (maxId g)).map freshEdge }

/-- After any prefix of the loop the state is `form g L`, `L` the atoms expanded so far (`stepOn_form`); `visit` is
what one iteration does to `L`: absent ids, repeated ids and atoms without hydrogens leave it alone. -/
def visit (g : LGraph) (L : List Nat) (v : Nat) : List Nat :=
  if v ∈ g.ids ∧ hcnt (g.attrs v) > 0 ∧ v ∉ L then L ++ [v] else L

theorem expNode_fst (p : Nat × Attrs) : (expNode p).1 = p.1 := by
  unfold expNode; split <;> rfl

theorem isH_expNode (p : Nat × Attrs) : isH (expNode p).2 = isH p.2 := by
  unfold expNode; split
  · exact isH_expandAttrs _ _
  · rfl

theorem hcnt_expNode (p : Nat × Attrs) : hcnt (expNode p).2 = if hcnt p.2 > 0 then 0 else hcnt p.2 := by
  unfold expNode; split
  · simp only [hcnt, hraw_expandAttrs]; omega
  · rfl

theorem planL_eq_plan (g : LGraph) (L : List Nat) (mx : Nat) : planL g L mx = plan (atomsOf g L) mx := by
  induction L generalizing mx with
  | nil => rfl
  | cons v L ih => rw [planL, ih]; rfl

theorem mem_planL (g : LGraph) (L : List Nat) (mx : Nat) (q : Nat × Nat) (h : q ∈ planL g L mx) :
    mx + 1 ≤ q.1 ∧ q.2 ∈ L ∧ 0 < hcnt (g.attrs q.2) := by
  rw [planL_eq_plan] at h
  obtain ⟨h1, p, hp, hp1, hp2⟩ := mem_plan _ _ q h
  obtain ⟨v, hv, rfl⟩ := List.mem_map.1 hp
  exact ⟨h1, hp1 ▸ hv, hp1 ▸ hp2⟩

theorem form_nil (g : LGraph) : form g [] = g := by
  cases g with
  | mk nodes edges => simp [form, planL]

theorem ite_expNode_fst (L : List Nat) (p : Nat × Attrs) : (if p.1 ∈ L then expNode p else p).1 = p.1 := by
  split
  · exact expNode_fst p
  · rfl

theorem form_old_ids (g : LGraph) (L : List Nat) :
    (g.nodes.map (fun p => if p.1 ∈ L then expNode p else p)).map (·.1) = g.ids :=
  LGraph.ids_map_nodes (g' := ⟨_, g.edges⟩) rfl fun p _ => ite_expNode_fst L p

theorem form_eq_pend (g : LGraph) (L : List Nat) :
    form g L = pend (g.nodes.map fun p => if p.1 ∈ L then expNode p else p) g.edges (plan (atomsOf g L) (maxId g)) := by
  rw [form, planL_eq_plan]; rfl

theorem form_attrs_old (g : LGraph) (hn : g.ids.Nodup) (L : List Nat) (p : Nat × Attrs) (hp : p ∈ g.nodes) :
    (form g L).attrs p.1 = (if p.1 ∈ L then expNode p else p).2 := by
  have := attrs_append_of_mem _ ((planL g L (maxId g)).map freshNode) (g.edges ++ (planL g L (maxId g)).map freshEdge)
    (by rw [form_old_ids]; exact hn) _ (List.mem_map.2 ⟨p, hp, rfl⟩ :
      (if p.1 ∈ L then expNode p else p) ∈ g.nodes.map (fun p => if p.1 ∈ L then expNode p else p))
  rwa [ite_expNode_fst] at this

/-- The loop's test on the state, read on `g`: `form g L` shows a positive count at `v` iff `v` is an atom of `g` with a
positive count that is not in `L` yet (the guard of `visit`).  An expanded atom has count 0, a new hydrogen has `hAttrs`,
an absent id the empty dict. -/
theorem hcnt_form_pos (g : LGraph) (hn : g.ids.Nodup) (L : List Nat) (v : Nat) :
    hcnt ((form g L).attrs v) > 0 ↔ v ∈ g.ids ∧ hcnt (g.attrs v) > 0 ∧ v ∉ L := by
  by_cases hv : v ∈ g.ids
  · obtain ⟨p, hp, rfl⟩ := List.mem_map.1 hv
    rw [form_attrs_old g hn L p hp, LGraph.attrs_of_mem hn hp]
    by_cases hL : p.1 ∈ L
    · rw [if_pos hL, hcnt_expNode]
      exact ⟨fun h => by split at h <;> omega, fun h => absurd hL h.2.2⟩
    · rw [if_neg hL]
      exact ⟨fun h => ⟨hv, h, hL⟩, fun h => h.2.1⟩
  · refine ⟨fun h => ?_, fun h => absurd h.1 hv⟩
    by_cases hm : v ∈ (form g L).ids
    · rcases List.mem_append.1 (LGraph.attrs_mem hm) with hq | hq
      · exact absurd (form_old_ids g L ▸ List.mem_map.2 ⟨_, hq, rfl⟩) hv
      · obtain ⟨x, _, hx⟩ := List.mem_map.1 hq
        rw [show (form g L).attrs v = hAttrs from (congrArg Prod.snd hx).symm] at h
        exact absurd h (by decide)
    · rw [LGraph.attrs_of_not_mem hm] at h
      exact absurd h (by decide)

theorem stepOn_form (g : LGraph) (hn : g.ids.Nodup) (L : List Nat) (v : Nat) :
    stepOn (form g L, maxId g + tot (atomsOf g L)) v =
      (form g (visit g L v), maxId g + tot (atomsOf g (visit g L v))) := by
  by_cases h : v ∈ g.ids ∧ hcnt (g.attrs v) > 0 ∧ v ∉ L
  · rw [visit, if_pos h]
    obtain ⟨hv, hc, hL⟩ := h
    obtain ⟨p, hp, rfl⟩ := List.mem_map.1 hv
    have hgattr := LGraph.attrs_of_mem hn hp
    rw [hgattr] at hc
    have hattr : (form g L).attrs p.1 = p.2 := by rw [form_attrs_old g hn L p hp, if_neg hL]
    have hhas : (form g L).hasNode p.1 = true := by
      simp only [LGraph.hasNode, form_eq_pend, pend_ids, form_old_ids, List.contains_eq_mem, List.mem_append, hv, true_or,
        decide_true]
    have hsnoc : atomsOf g (L ++ [p.1]) = atomsOf g L ++ [p] := by rw [atomsOf, List.map_append, ← atomsOf]; simp [hgattr]
    unfold stepOn
    simp only [hhas, Bool.not_true, Bool.false_eq_true, if_false, hattr, show ¬ hcnt p.2 ≤ 0 by omega]
    rw [hsnoc, show tot (atomsOf g L ++ [p]) = tot (atomsOf g L) + (hcnt p.2).toNat by simp [tot]]
    refine Prod.ext ?_ (by simp only; omega)
    have hplan : plan (atomsOf g L ++ [p]) (maxId g) = plan (atomsOf g L) (maxId g) ++
        (List.range' (maxId g + tot (atomsOf g L) + 1) (hcnt p.2).toNat).map (fun f => (f, p.1)) := by
      rw [plan_append]; simp [plan]
    -- the update of `p.1` expands `p` among the old nodes and misses every new hydrogen (ids above `maxId g`)
    have hA : updAt (fun a => expandAttrs a (hcnt p.2)) (g.nodes.map fun q => if q.1 ∈ L then expNode q else q) p.1 =
        g.nodes.map (fun q => if q.1 ∈ L ++ [p.1] then expNode q else q) := by
      rw [updAt, List.map_map]
      apply List.map_congr_left
      intro q hq
      simp only [Function.comp]
      by_cases hqv : q.1 = p.1
      · have : q = p := List.inj_on_of_nodup_map hn hq hp hqv
        subst this
        simp only [hL, if_false, if_true, List.mem_append, List.mem_singleton, or_true, expNode, hc]
      · have h2 : (q.1 ∈ L ++ [p.1]) ↔ q.1 ∈ L := by simp [hqv]
        simp only [ite_expNode_fst, hqv, if_false, h2]
    dsimp only
    rw [form_eq_pend g (L ++ [p.1]), ← hA, ← updAttrs_pend, hsnoc, hplan, ← pend_snoc, ← form_eq_pend, List.map_map, List.map_map]
    · rfl
    · intro q hq
      have := (mem_plan _ _ q hq).1
      have := le_maxId g p.1 hv
      omega
  · rw [visit, if_neg h]
    unfold stepOn
    split
    · rfl
    · exact if_pos (Int.not_lt.1 fun hc => h ((hcnt_form_pos g hn L v).1 hc))

def expanded (g : LGraph) (ns : List Nat) : List Nat := (if ns.isEmpty then g.ids else ns).foldl (visit g) []

theorem hToExplicitG_eq_form (g : LGraph) (hn : g.ids.Nodup) (ns : List Nat) :
    hToExplicitG g ns false = form g (expanded g ns) := by
  unfold hToExplicitG expanded
  simp only [Bool.false_eq_true, if_false]
  rw [show (g, maxId g) = (form g [], maxId g + tot (atomsOf g [])) by rw [form_nil]; rfl,
    List.foldl_hom (fun L => (form g L, maxId g + tot (atomsOf g L))) (stepOn_form g hn)]

def addedH (I : LGraph) : List (Nat × Nat) := planL I (expanded I []) (maxId I)

theorem hToExplicitG_form_nil (I : LGraph) (hn : I.ids.Nodup) :
    hToExplicitG I [] false = ⟨I.nodes.map (fun p => if p.1 ∈ expanded I [] then expNode p else p) ++ (addedH I).map freshNode,
      I.edges ++ (addedH I).map freshEdge⟩ := hToExplicitG_eq_form I hn []

/-- `visit g` is `pushNew` on the atoms of `g` with a positive count, so `expanded g ns` lists them once each, in order of
first occurrence. -/
theorem foldl_visit (g : LGraph) (ns L : List Nat) :
    ns.foldl (visit g) L = (ns.filter fun v => decide (v ∈ g.ids ∧ hcnt (g.attrs v) > 0)).foldl Core.pushNew L := by
  rw [List.foldl_filter]
  congr
  funext L v
  by_cases h : v ∈ g.ids ∧ hcnt (g.attrs v) > 0
  · by_cases hL : v ∈ L
    · rw [visit, if_neg fun c => c.2.2 hL, decide_eq_true h, if_pos rfl, Core.pushNew_of_mem hL]
    · rw [visit, if_pos ⟨h.1, h.2, hL⟩, decide_eq_true h, if_pos rfl, Core.pushNew_of_not_mem hL]
  · rw [visit, if_neg fun c => h ⟨c.1, c.2.1⟩, decide_eq_false h, if_neg Bool.false_ne_true]

theorem expanded_inv (g : LGraph) (ns : List Nat) :
    (expanded g ns).Nodup ∧ ∀ x ∈ expanded g ns, x ∈ g.ids ∧ hcnt (g.attrs x) > 0 := by
  rw [expanded, foldl_visit]
  refine ⟨Core.nodup_foldl_pushNew List.nodup_nil, fun x hx => ?_⟩
  rcases Core.mem_foldl_pushNew.1 hx with h | h
  · cases h
  · exact of_decide_eq_true (List.mem_filter.1 h).2

theorem expanded_all (g : LGraph) (hn : g.ids.Nodup) :
    expanded g [] = g.ids.filter (fun v => decide (hcnt (g.attrs v) > 0)) ∧
    expanded g g.ids = g.ids.filter (fun v => decide (hcnt (g.attrs v) > 0)) := by
  have h : g.ids.foldl (visit g) [] = g.ids.filter (fun v => decide (hcnt (g.attrs v) > 0)) := by
    rw [foldl_visit, Core.foldl_pushNew_of_nodup (hn.sublist List.filter_sublist), List.nil_append]
    exact List.filter_congr fun v hv => by simp [hv]
  refine ⟨h, ?_⟩
  unfold expanded
  rw [show (if g.ids.isEmpty then g.ids else g.ids) = g.ids from ite_self _]
  exact h

theorem totalH_form (g : LGraph) (hn : g.ids.Nodup) (L : List Nat) (hLn : L.Nodup) (hL : ∀ v ∈ L, v ∈ g.ids) :
    totalH (form g L) = totalH g := by
  have key : ((g.nodes.map fun p => if p.1 ∈ L then expNode p else p).map hval).sum + (tot (atomsOf g L) : Int) =
      (g.nodes.map hval).sum := by
    induction L with
    | nil => simp [tot, atomsOf]
    | cons v L ih =>
      rw [List.nodup_cons] at hLn
      obtain ⟨p, hp, rfl⟩ := List.mem_map.1 (hL v List.mem_cons_self)
      have ih' := ih hLn.2 fun x hx => hL x (List.mem_cons_of_mem _ hx)
      rw [List.map_map] at ih' ⊢
      have hupd := Core.sum_map_update g.nodes (·.1) hn
        (hval ∘ fun q => if q.1 ∈ p.1 :: L then expNode q else q)
        (hval ∘ fun q => if q.1 ∈ L then expNode q else q) p hp (by
          intro q _ hq
          simp only [Function.comp, List.mem_cons, hq, false_or])
      simp only [Function.comp, List.mem_cons, true_or, if_true, if_neg hLn.1] at hupd
      have hp' : hval (expNode p) + ((hcnt p.2).toNat : Int) = hval p := by
        simp only [hval, isH_expNode, hcnt_expNode]
        split <;> omega
      have : (tot (atomsOf g (p.1 :: L)) : Int) = (hcnt p.2).toNat + tot (atomsOf g L) := by
        simp [tot, atomsOf, LGraph.attrs_of_mem hn hp]
      simp only [List.mem_cons] at ih' ⊢
      omega
  rw [form_eq_pend, totalH_pend, plan_length, totalH_eq]
  exact key

theorem totalH_normEdges (h : LGraph) (f : Nat × Nat × Attrs → Nat × Nat × Attrs) :
    totalH { h with edges := h.edges.map f } = totalH h := rfl

theorem expNode_eq_zeroH (p : Nat × Attrs) (h : hcnt p.2 > 0 → Dict.contains p.2 "typesGH" = false) :
    expNode p = zeroH p := by
  unfold expNode zeroH
  split
  · rename_i hc; rw [expandAttrs_of_no_types _ _ (h hc)]
  · rfl

theorem explicitDomain_node (g : LGraph) (hd : explicitDomain g = true) (p : Nat × Attrs) (hp : p ∈ g.nodes) :
    hcnt p.2 > 0 → Dict.contains p.2 "typesGH" = false := by
  intro hc
  have := (List.all_eq_true.1 hd) p hp
  simpa [hc] using this

theorem form_eq_explicitOn (g : LGraph) (hd : explicitDomain g = true) (L : List Nat) : form g L = explicitOn g L := by
  have : g.nodes.map (fun p => if p.1 ∈ L then expNode p else p) = g.nodes.map (fun p => if p.1 ∈ L then zeroH p else p) :=
    List.map_congr_left fun p hp => by rw [expNode_eq_zeroH p (explicitDomain_node g hd p hp)]
  rw [form_eq_pend, explicitOn, this]

theorem form_all (g : LGraph) (hn : g.ids.Nodup) (hd : explicitDomain g = true) :
    form g (g.ids.filter (fun v => decide (hcnt (g.attrs v) > 0))) = hToExplicit g := by
  rw [form_eq_explicitOn g hd, explicitOn_filter_pos g hn]

/-- `{old: new for new, old in enumerate(G.nodes(), 1)}`. -/
def reindexMap (h : LGraph) (n : Nat) : Nat := h.ids.idxOf n + 1

theorem implicitHydrogenReindex_eq (g : LGraph) (K : List Nat) :
    implicitHydrogenReindex g K =
      setAtomMap ((implicitHydrogen g K).relabel (reindexMap (implicitHydrogen g K))) := rfl

theorem reindexMap_injOn (h : LGraph) : Match.InjOnIds h (reindexMap h) := by
  intro a ha b _ e
  exact (List.idxOf_inj ha).1 (Nat.succ_injective e)

theorem implicitHydrogenReindex_ids (g : LGraph) (K : List Nat) (hn : (implicitHydrogen g K).ids.Nodup) :
    (implicitHydrogenReindex g K).ids = List.range' 1 (implicitHydrogen g K).nodes.length := by
  rw [implicitHydrogenReindex_eq, setAtomMap_ids, LGraph.ids_relabel]
  have := Core.map_idxOf_succ _ hn
  simp only [LGraph.ids, List.length_map] at this ⊢
  exact this

theorem nodeOk_set_atomMap (sel : Match.Sel) (hk : "atom_map" ∉ sel.nodeKeys) (a pa : Attrs) (x : Val) :
    Match.nodeOk sel (Dict.set a "atom_map" x) pa = Match.nodeOk sel a pa :=
  Match.nodeOk_congr (fun _ h => Attrs.get_set_other
    (h.elim (fun h e => hk (e ▸ h)) fun h e => absurd (h.symm.trans e) (by decide))) fun _ _ => rfl

theorem isIso_setAtomMap (sel : Match.Sel) (hk : "atom_map" ∉ sel.nodeKeys) (R P : LGraph) (m : Match.Mapping)
    (hm : Match.IsIso sel R P m) : Match.IsIso sel (setAtomMap R) P m :=
  hm.of_nodeOk (setAtomMap_ids R) rfl rfl rfl rfl fun _ hx h => by
    rw [setAtomMap_attrs R _ (hm.mono.val_mem hx), nodeOk_set_atomMap sel hk]; exact h

theorem implicitHydrogenReindex_iso (g : LGraph) (K : List Nat) (hwf : g.WF) (sel : Match.Sel)
    (hk : "atom_map" ∉ sel.nodeKeys) :
    Match.IsIso sel (implicitHydrogenReindex g K) (implicitHydrogen g K)
      ((implicitHydrogen g K).ids.map fun v => (v, reindexMap (implicitHydrogen g K) v)) := by
  have hw := ImplH.implicitH_wf g hwf K
  have h1 := Match.isIso_relabel sel _ hw (reindexMap (implicitHydrogen g K)) (reindexMap_injOn _)
  rw [implicitHydrogenReindex_eq]
  exact isIso_setAtomMap sel hk _ _ _ h1

theorem totalH_relabel (h : LGraph) (f : Nat → Nat) : totalH (h.relabel f) = totalH h := by
  simp [totalH, LGraph.relabel, List.map_map, Function.comp_def]

theorem totalH_setAtomMap (r : LGraph) : totalH (setAtomMap r) = totalH r := by
  simp only [totalH, setAtomMap, List.map_map, Function.comp_def, hcnt, isH_set _ "atom_map" _ (by decide),
    hraw_set_other _ "atom_map" _ (by decide)]

theorem totalH_implicitHydrogenReindex' (g : LGraph) (K : List Nat) :
    totalH (implicitHydrogenReindex g K) = totalH (implicitHydrogen g K) := by
  rw [implicitHydrogenReindex_eq, totalH_setAtomMap, totalH_relabel]

theorem implicitHydrogenReindex_atomMap (g : LGraph) (K : List Nat) (p : Nat × Attrs)
    (hp : p ∈ (implicitHydrogenReindex g K).nodes) : atomMapOf p.2 = some p.1 := by
  rw [implicitHydrogenReindex_eq] at hp
  obtain ⟨q, _, rfl⟩ := List.mem_map.1 hp
  simp only [atomMapOf, Dict.get?_set_self]
  rw [if_pos ⟨by omega, by omega⟩, show (2 * (q.1 : Int) / 2).toNat = q.1 by omega]

theorem writeRuleX_false (reindex : Bool) (L R K : LGraph) : writeRuleX reindex false L R K = writeRule reindex L R K := rfl

theorem itsToGmlX_false' (core reindex : Bool) (I : LGraph) : itsToGmlX core reindex false I = itsToGml core reindex I := rfl

theorem smartToGmlX_false' (core reindex : Bool) (r p : LGraph) :
    smartToGmlX core reindex false r p = smartToGml core reindex r p := by
  cases core <;> rfl

theorem itsToGmlX_core (I : LGraph) (ri x : Bool) : itsToGmlX true ri x I = itsToGmlX false ri x (getRc I) := rfl

theorem itsToGmlX_exported (core ri x : Bool) (I : LGraph) :
    itsToGmlX core ri x I = itsToGmlX false ri x (if core then getRc I else I) := by
  cases core <;> rfl

theorem itsToGmlX_sides (core ri : Bool) (I : LGraph) :
    (itsToGmlX core ri true I).left = (itsToGml core ri I).left ∧
    (itsToGmlX core ri true I).right = (itsToGml core ri I).right := ⟨rfl, rfl⟩

end SynKit.ReprOpt
