import SynKitModel.NautyIR
import SynKitProofs.NautyIRSearch
import SynKitProofs.Core.Graph
import SynKitProofs.Core.LabIso
import SynKitProofs.Core.Dict
/-!
# Equivariance of the individualisation–refinement search (C08)

For well-formed graphs related by a node map `g : H → G` that preserves the covered attributes and adjacency
(`IRIso`), every stage of the search on `H` is carried by `g` to the same stage on `G`, down to the leaves and
their labels.  What is proved here is that `g` carries signatures to signatures (`irSig_rel`, i.e. `irSys_hom`) and
labels to labels; the transport along the pass, the loop and the tree is `IRTree`'s (`IRSys.refine_rel`, `IRSys.leaves_rel`).
-/
namespace SynKit.Canon
open SynKit.Core (LStruct option_map_congr_of_map_eq)

def irEdgeGet (a : Attrs) : List (Option Val) := irEdgeAttrNames.map (Dict.get? a)

/-- Stated on raw look-ups (absent stays absent): the signature reads an attribute with default `None`, the
label with default `""`, and both follow from this.  `g` goes from the nodes of `H` to those of `G`. -/
structure IRIso (G H : LGraph) (g : Nat → Nat) : Prop where
  perm : (H.ids.map g).Perm G.ids
  node : ∀ p ∈ H.ids, ∀ k ∈ irNodeAttrNames, Dict.get? (G.attrs (g p)) k = Dict.get? (H.attrs p) k
  edge : ∀ p ∈ H.ids, ∀ q ∈ H.ids, (G.edge? (g p) (g q)).map irEdgeGet = (H.edge? p q).map irEdgeGet

theorem irNodeKey_congr (a b : Attrs) (h : ∀ k ∈ irNodeAttrNames, Dict.get? a k = Dict.get? b k) :
    irNodeKey a = irNodeKey b :=
  Attrs.map_get?_congr (fun _ o => o.getD Val.none) h

theorem irNodeLabKey_congr (a b : Attrs) (h : ∀ k ∈ irNodeAttrNames, Dict.get? a k = Dict.get? b k) :
    irNodeLabKey a = irNodeLabKey b :=
  Attrs.map_get?_congr (fun _ o => o.getD (.str "")) h

theorem irEdgeSigKey_congr (a b : Attrs) (h : irEdgeGet a = irEdgeGet b) : irEdgeSigKey a = irEdgeSigKey b :=
  Attrs.map_get?_congr (fun k o => irNormEdgeVal k (o.getD Val.none)) (List.map_inj_left.1 h)

theorem irEdgeLabKey_congr (a b : Attrs) (h : irEdgeGet a = irEdgeGet b) : irEdgeLabKey a = irEdgeLabKey b :=
  Attrs.map_get?_congr (fun _ o => o.getD (.str "")) (List.map_inj_left.1 h)

section chain

variable {G H : LGraph} {g : Nat → Nat}

/-- The reading of a graph that the search sees: raw look-ups of the covered node keys, and of the covered edge keys
through `edge?`. -/
abbrev rawS (G : LGraph) : LStruct (List (Option Val)) (Option (List (Option Val))) :=
  ⟨G.ids, fun v => irNodeAttrNames.map (Dict.get? (G.attrs v)), fun u v => (G.edge? u v).map irEdgeGet⟩

theorem IRIso.iso (h : IRIso G H g) : (rawS G).Iso (rawS H) g :=
  ⟨h.perm, fun p hp => List.map_congr_left (h.node p hp), h.edge⟩

theorem IRIso.mem (h : IRIso G H g) {p : Nat} (hp : p ∈ H.ids) : g p ∈ G.ids :=
  h.iso.mem hp

theorem IRIso.length_eq (h : IRIso G H g) : G.nodes.length = H.nodes.length := by
  rw [← LGraph.ids_length, ← LGraph.ids_length]
  exact h.iso.length_eq

theorem IRIso.hasEdge (h : IRIso G H g) {p q : Nat} (hp : p ∈ H.ids) (hq : q ∈ H.ids) :
    G.hasEdge (g p) (g q) = H.hasEdge p q := by
  unfold LGraph.hasEdge
  have := congrArg Option.isSome (h.edge p hp q hq)
  simpa using this

theorem neighbors_perm_filter (hG : G.WF) (v : Nat) : (G.neighbors v).Perm (G.ids.filter (G.hasEdge v)) :=
  (List.perm_ext_iff_of_nodup (LGraph.neighbors_nodup hG v) (hG.1.filter _)).2 fun w => by
    rw [LGraph.mem_neighbors_iff, List.mem_filter]
    exact ⟨fun h => ⟨(LGraph.hasEdge_mem_ids hG h).2, h⟩, And.right⟩

theorem IRIso.neighbors (hG : G.WF) (hH : H.WF) (h : IRIso G H g) {p : Nat} (hp : p ∈ H.ids) :
    ((H.neighbors p).map g).Perm (G.neighbors (g p)) :=
  ((neighbors_perm_filter hH p).map g).trans
    ((h.iso.filter_perm _ _ fun _ hw => h.hasEdge hp hw).trans (neighbors_perm_filter hG (g p)).symm)

theorem irSig_rel (hG : G.WF) (hH : H.WF) (h : IRIso G H g) {P' P : List (List Nat)}
    (hP : PartRel g P' P) (hsub : PartSub H.ids P') {p : Nat} (hp : p ∈ H.ids) :
    irSig G P (g p) = irSig H P' p := by
  have hN := h.neighbors hG hH hp
  apply IRSig.ext'
  · exact irNodeKey_congr _ _ (h.node p hp)
  · simp only [irSig]
    have := hN.length_eq
    simpa using this.symm
  · exact counts_rel (h.iso.inj hG.1) hP hsub hN fun _ hw => LGraph.neighbors_subset_ids hH hw
  · simp only [irSig]
    apply sortBy_eq_of_perm_strictTotal Val.ltList Val.ltList_strictTotal
    refine (hN.map _).symm.trans ?_
    rw [List.map_map]
    apply List.Perm.of_eq
    apply List.map_congr_left
    intro w hw
    simp only [Function.comp_apply]
    have hw' := LGraph.neighbors_subset_ids hH hw
    rw [← Option.getD_map irEdgeSigKey, ← Option.getD_map irEdgeSigKey,
      option_map_congr_of_map_eq irEdgeGet irEdgeSigKey irEdgeSigKey_congr _ _ (h.edge p hp w hw')]

theorem irSys_hom (hG : G.WF) (hH : H.WF) (h : IRIso G H g) : IRSys.Hom (irSys H) (irSys G) g H.ids :=
  ⟨h.iso.inj hG.1, rfl, IRSig.lt_strictTotal, congrArg (· + 1) h.length_eq.symm,
    fun hP hsub _ hp => irSig_rel hG hH h hP hsub hp⟩

theorem irInitialPartition_rel (h : IRIso G H g) :
    PartRel g (irInitialPartition H) (irInitialPartition G) := by
  unfold irInitialPartition
  apply irSplitBy_rel Val.ltList Val.ltList_strictTotal g _ _ H.ids G.ids h.perm
  intro w hw
  exact irNodeKey_congr _ _ (h.node w hw)

theorem irNodeSeg_rel (h : IRIso G H g) (s : List Nat) (hs : s ⊆ H.ids) :
    irNodeSeg G (s.map g) = irNodeSeg H s := by
  unfold irNodeSeg
  rw [List.map_map]
  apply List.map_congr_left
  intro v hv
  exact irNodeLabKey_congr _ _ (h.node v (hs hv))

theorem irEdgeBits_rel (h : IRIso G H g) (s : List Nat) (hs : s ⊆ H.ids) :
    irEdgeBits G (s.map g) = irEdgeBits H s := by
  induction s with
  | nil => rfl
  | cons v rest ih =>
    have hv : v ∈ H.ids := hs List.mem_cons_self
    have hr : rest ⊆ H.ids := fun x hx => hs (List.mem_cons_of_mem _ hx)
    simp only [List.map_cons, irEdgeBits, ih hr, List.map_map]
    congr 1
    apply List.map_congr_left
    intro w hw
    simp only [Function.comp_apply]
    exact option_map_congr_of_map_eq irEdgeGet irEdgeLabKey irEdgeLabKey_congr _ _ (h.edge v hv w (hr hw))

theorem irBuildLabel_rel (h : IRIso G H g) (s : List Nat) (hs : s ⊆ H.ids) :
    irBuildLabel G (s.map g) = irBuildLabel H s := by
  unfold irBuildLabel
  rw [irNodeSeg_rel h s hs, irEdgeBits_rel h s hs]

theorem irRootLeaves_rel (hG : G.WF) (hH : H.WF) (h : IRIso G H g) :
    (∀ l, l ∈ irRootLeaves G ↔ ∃ l' ∈ irRootLeaves H, l = (l'.1.map g, l'.2.map g)) ∧
    (∀ l' ∈ irRootLeaves H, irLeafLabel G (l'.1.map g, l'.2.map g) = irLeafLabel H l') := by
  have hrel := IRSys.leaves_rel (irSys_lawful H) (irSys_lawful G) (irSys_hom hG hH h) (H.nodes.length + 1)
    (irInitialPartition_rel h) (irInitialPartition_ok H).partSub []
  have hsub := IRSys.leaves_sub (irSys_lawful H) (H.nodes.length + 1) _ [] (irInitialPartition_ok H).partSub
    (List.nil_subset _)
  rw [irRootLeaves, irRootLeaves, irLeaves_eq, irLeaves_eq, h.length_eq]
  refine ⟨hrel, fun b hb => ?_⟩
  unfold irLeafLabel
  rw [← List.map_append]
  exact irBuildLabel_rel h _ (List.append_subset.2 (hsub b hb))

theorem irLeafLabels_rel (hG : G.WF) (hH : H.WF) (h : IRIso G H g) (k : IRLabel) :
    (∃ a ∈ irRootLeaves G, irLeafLabel G a = k) ↔ (∃ b ∈ irRootLeaves H, irLeafLabel H b = k) := by
  obtain ⟨hrel, hlab⟩ := irRootLeaves_rel hG hH h
  exact exists_key_congr hrel hlab k

end chain

end SynKit.Canon
