import SynKitModel.ITS
import SynKitProofs.Core.Graph
import SynKitProofs.Core.Dict
import SynKitProofs.ITSRadius
import SynKitProofs.Core.Ensure
/-!
# Lemmas for C02 (reaction centre, context) over `SynKitModel/ITS.lean`

`get_rc` is two folds over the ITS edges; `getRc_closed` gives their result as two lists, and the facts about the
centre (its bonds, atoms, labels, that it is a simple graph) are facts about these lists.  On them rest: the centre as
a labelled sub-graph of every induced sub-graph that holds its atoms (`getRc_sub_induced`), the centre of a centre
(`getRc_getRc_hasEdge`, `getRc_edges_sel`), and that `find_unequal_order_edges` finds the atoms of the changed bonds
(`getRc_ids_iff_unequal`).  Renaming the atoms (`addChanged_relabel` … `reconnect_relabel`) goes pass by pass instead,
since it also covers `disconnected = true`, which has no closed form here.
-/
namespace SynKit.ITS
open Core (pushN nodesF nodesF_cons mem_ids_nodesF mem_nodesF nodup_nodesF)

def Adj (e : Nat × Nat × Attrs) (u v : Nat) : Prop := (e.1 = u ∧ e.2.1 = v) ∨ (e.1 = v ∧ e.2.1 = u)

instance (e : Nat × Nat × Attrs) (u v : Nat) : Decidable (Adj e u v) := by unfold Adj; infer_instance

theorem Adj.symm {e : Nat × Nat × Attrs} {u v : Nat} (h : Adj e u v) : Adj e v u := Or.symm h

theorem end_iff_adj {e : Nat × Nat × Attrs} {n : Nat} : (n = e.1 ∨ n = e.2.1) ↔ ∃ v, Adj e n v := by
  constructor
  · rintro (h | h)
    · exact ⟨e.2.1, Or.inl ⟨h.symm, rfl⟩⟩
    · exact ⟨e.1, Or.inr ⟨rfl, h.symm⟩⟩
  · rintro ⟨v, ⟨h, _⟩ | ⟨_, h⟩⟩
    · exact Or.inl h.symm
    · exact Or.inr h.symm

theorem hasEdge_false_iff (g : LGraph) (u v : Nat) : g.hasEdge u v = false ↔ ¬ ∃ e ∈ g.edges, Adj e u v :=
  Bool.eq_false_iff.trans (not_congr LGraph.hasEdge_iff)

theorem edge?_iff {g : LGraph} (hg : g.WF) (u v : Nat) (a : Attrs) :
    g.edge? u v = some a ↔ ∃ e ∈ g.edges, Adj e u v ∧ e.2.2 = a :=
  (LGraph.edge?_eq_some_iff hg).trans (exists_congr fun _ => and_congr_right fun _ => and_comm)

theorem exists_edge_iff {g : LGraph} (hg : g.WF) {u v : Nat} {P : Attrs → Prop} :
    (∃ a, g.edge? u v = some a ∧ P a) ↔ ∃ e ∈ g.edges, Adj e u v ∧ P e.2.2 := by
  constructor
  · rintro ⟨_, ha, hp⟩
    obtain ⟨e, he, rfl, hadj⟩ := LGraph.edge?_some_mem ha
    exact ⟨e, he, hadj, hp⟩
  · rintro ⟨e, he, hadj, hp⟩
    exact ⟨_, LGraph.edge?_of_mem hg he hadj, hp⟩

def mkE (o : RcOpts) (e : Nat × Nat × Attrs) : Nat × Nat × Attrs := (e.1, e.2.1, rcEdgeAttrs o e.2.2)

def Sel (o : RcOpts) (I : LGraph) (e : Nat × Nat × Attrs) : Prop :=
  includeEdge o e.2.2 = true ∨ isHH I e.1 e.2.1 = true

theorem isHH_comm (I : LGraph) (u v : Nat) : isHH I u v = isHH I v u := by
  unfold isHH; rw [Bool.and_comm]

theorem isHH_of_adj {I : LGraph} {e : Nat × Nat × Attrs} {u v : Nat} (h : Adj e u v) :
    isHH I e.1 e.2.1 = isHH I u v :=
  LGraph.sym_of_joins (isHH I) (isHH_comm I) h

theorem exists_sel_iff {o : RcOpts} {I : LGraph} {P : Nat × Nat × Attrs → Prop} :
    (∃ e ∈ I.edges, Sel o I e ∧ P e) ↔
      (∃ e ∈ I.edges, includeEdge o e.2.2 = true ∧ P e) ∨ ∃ e ∈ I.edges, isHH I e.1 e.2.1 = true ∧ P e := by
  simp only [Sel, or_and_right, and_or_left, exists_or]

theorem empty_hasEdge (u v : Nat) : ({} : LGraph).hasEdge u v = false := rfl

/-! ## `get_rc` in closed form

Both loops make the two ends of a selected bond nodes and then, perhaps, append the bond.  So the node list is
`Core.nodesF` over the selected bonds (first the changed ones, labelled `proj`, then the H–H ones, labelled `hhLabel`) and
the bond list is the copied changed bonds followed by `hhEdges`.  What the centre contains is then read off lists. -/

theorem ensureNode_eq (keys : List String) (I rc : LGraph) (n : Nat) :
    ensureNode keys I rc n = ⟨pushN (fun n => proj keys (I.attrs n)) rc.nodes n, rc.edges⟩ := by
  unfold ensureNode pushN LGraph.hasNode LGraph.ids
  split <;> rfl

theorem ensureNodeHH_eq (keys : List String) (I rc : LGraph) (n : Nat) :
    ensureNodeHH keys I rc n = ⟨pushN (fun n => hhLabel keys (I.attrs n)) rc.nodes n, rc.edges⟩ := by
  unfold ensureNodeHH pushN LGraph.hasNode LGraph.ids
  split <;> rfl

theorem foldl_changedStep (o : RcOpts) (I : LGraph) (es : List (Nat × Nat × Attrs)) : ∀ rc : LGraph,
    es.foldl (changedStep o I) rc =
      ⟨nodesF (fun n => proj o.elementKey (I.attrs n)) rc.nodes (es.filter fun e => includeEdge o e.2.2),
        rc.edges ++ (es.filter fun e => includeEdge o e.2.2).map (mkE o)⟩ := by
  induction es with
  | nil => intro rc; simp [nodesF]
  | cons e es ih =>
    intro rc
    rw [List.foldl_cons, ih, List.filter_cons]
    unfold changedStep
    cases includeEdge o e.2.2 with
    | false => rfl
    | true =>
      simp only [if_true, ensureNode_eq, pushEdge, List.map_cons, nodesF_cons, List.append_assoc,
        List.singleton_append, mkE]

/-- What one round of the second loop does to the bond list: an H–H bond whose ends are not joined yet is appended. -/
def hhPush (o : RcOpts) (I : LGraph) (E : List (Nat × Nat × Attrs)) (e : Nat × Nat × Attrs) :
    List (Nat × Nat × Attrs) :=
  if isHH I e.1 e.2.1 && !(LGraph.mk [] E).hasEdge e.1 e.2.1 then E ++ [mkE o e] else E

def hhEdges (o : RcOpts) (I : LGraph) (E es : List (Nat × Nat × Attrs)) : List (Nat × Nat × Attrs) :=
  es.foldl (hhPush o I) E

theorem hhEdges_cons (o : RcOpts) (I : LGraph) (E : List (Nat × Nat × Attrs)) (e : Nat × Nat × Attrs)
    (es : List (Nat × Nat × Attrs)) : hhEdges o I E (e :: es) = hhEdges o I (hhPush o I E e) es := rfl

theorem hhPush_cases (o : RcOpts) (I : LGraph) (E : List (Nat × Nat × Attrs)) (e : Nat × Nat × Attrs) :
    (hhPush o I E e = E ∧ (isHH I e.1 e.2.1 = true → (LGraph.mk [] E).hasEdge e.1 e.2.1 = true)) ∨
    (hhPush o I E e = E ++ [mkE o e] ∧ isHH I e.1 e.2.1 = true ∧ (LGraph.mk [] E).hasEdge e.1 e.2.1 = false) := by
  unfold hhPush
  cases isHH I e.1 e.2.1 with
  | false => exact Or.inl ⟨rfl, Bool.noConfusion⟩
  | true =>
    cases (LGraph.mk [] E).hasEdge e.1 e.2.1 with
    | true => exact Or.inl ⟨rfl, fun _ => rfl⟩
    | false => exact Or.inr ⟨rfl, rfl, rfl⟩

theorem foldl_hhStep (o : RcOpts) (I : LGraph) (es : List (Nat × Nat × Attrs)) : ∀ rc : LGraph,
    es.foldl (hhStep o I) rc =
      ⟨nodesF (fun n => hhLabel o.elementKey (I.attrs n)) rc.nodes (es.filter fun e => isHH I e.1 e.2.1),
        hhEdges o I rc.edges es⟩ := by
  induction es with
  | nil => intro rc; simp [nodesF, hhEdges]
  | cons e es ih =>
    intro rc
    rw [List.foldl_cons, ih, List.filter_cons, hhEdges_cons]
    unfold hhStep hhPush
    cases isHH I e.1 e.2.1 with
    | false => rfl
    | true =>
      have hN : ∀ N, (LGraph.mk N rc.edges).hasEdge e.1 e.2.1 = (LGraph.mk [] rc.edges).hasEdge e.1 e.2.1 :=
        fun _ => rfl
      simp only [if_true, ensureNodeHH_eq, Bool.true_and, hN]
      cases (LGraph.mk [] rc.edges).hasEdge e.1 e.2.1 with
      | true => simp [nodesF_cons]
      | false => simp [nodesF_cons, pushEdge, mkE]

theorem getRc_closed (o : RcOpts) (hd : o.disconnected = false) (I : LGraph) :
    getRc o I =
      ⟨nodesF (fun n => hhLabel o.elementKey (I.attrs n))
          (nodesF (fun n => proj o.elementKey (I.attrs n)) [] (I.edges.filter fun e => includeEdge o e.2.2))
          (I.edges.filter fun e => isHH I e.1 e.2.1),
        hhEdges o I ((I.edges.filter fun e => includeEdge o e.2.2).map (mkE o)) I.edges⟩ := by
  unfold getRc addHH addChanged
  simp only [hd, Bool.false_eq_true, if_false]
  rw [foldl_changedStep, foldl_hhStep]
  rfl

theorem hhEdges_joins (o : RcOpts) (I : LGraph) (u v : Nat) (es E : List (Nat × Nat × Attrs)) :
    (∃ x ∈ hhEdges o I E es, Adj x u v) ↔
      (∃ x ∈ E, Adj x u v) ∨ ∃ e ∈ es, isHH I e.1 e.2.1 = true ∧ Adj e u v := by
  refine Core.foldl_or_iff (f := hhPush o I) (Q := fun E => ∃ x ∈ E, Adj x u v)
    (C := fun e => isHH I e.1 e.2.1 = true ∧ Adj e u v) fun E e => ?_
  rcases hhPush_cases o I E e with ⟨h, hj⟩ | ⟨h, hh, -⟩ <;> rw [h]
  · -- a bond that is skipped joins what is joined already
    exact ⟨Or.inl, fun h => h.elim id fun ⟨h1, had⟩ => LGraph.hasEdge_iff.1
      ((LGraph.hasEdge_of_joins had).symm.trans (hj h1))⟩
  · simp only [List.mem_append, List.mem_singleton, or_and_right, exists_or, exists_eq_left]
    exact or_congr_right ⟨fun h => ⟨hh, h⟩, And.right⟩

theorem mem_hhEdges (o : RcOpts) (I : LGraph) (es E : List (Nat × Nat × Attrs)) :
    ∀ x ∈ hhEdges o I E es, x ∈ E ∨ ∃ e ∈ es, isHH I e.1 e.2.1 = true ∧ x = mkE o e :=
  Core.foldl_inv
    (P := fun E' : List (Nat × Nat × Attrs) => ∀ x ∈ E', x ∈ E ∨ ∃ e ∈ es, isHH I e.1 e.2.1 = true ∧ x = mkE o e)
    (fun E' e he h x hx => by
      rcases hhPush_cases o I E' e with ⟨h', -⟩ | ⟨h', hh, -⟩ <;> rw [h'] at hx
      · exact h x hx
      · rcases List.mem_append.1 hx with hx | hx
        · exact h x hx
        · exact Or.inr ⟨e, he, hh, List.mem_singleton.1 hx⟩)
    (fun x hx => Or.inl hx)

theorem getRc_hasEdge (o : RcOpts) (hd : o.disconnected = false) (I : LGraph) (u v : Nat) :
    (getRc o I).hasEdge u v = true ↔ ∃ e ∈ I.edges, Sel o I e ∧ Adj e u v := by
  rw [getRc_closed o hd, LGraph.hasEdge_iff]
  show (∃ x ∈ hhEdges o I _ _, Adj x u v) ↔ _
  rw [hhEdges_joins, exists_sel_iff]
  simp only [List.mem_map, List.mem_filter, exists_exists_and_eq_and]
  simp only [and_assoc]
  rfl

theorem getRc_ids (o : RcOpts) (hd : o.disconnected = false) (I : LGraph) (x : Nat) :
    x ∈ (getRc o I).ids ↔ ∃ e ∈ I.edges, Sel o I e ∧ (x = e.1 ∨ x = e.2.1) := by
  rw [getRc_closed o hd]
  show x ∈ List.map (·.1) (nodesF _ _ _) ↔ _
  rw [mem_ids_nodesF, mem_ids_nodesF, exists_sel_iff]
  simp only [List.map_nil, List.not_mem_nil, false_or, List.mem_filter, and_assoc]

theorem getRc_edges_from (o : RcOpts) (hd : o.disconnected = false) (I : LGraph) :
    ∀ x ∈ (getRc o I).edges, ∃ e ∈ I.edges, Sel o I e ∧ x = mkE o e := by
  rw [getRc_closed o hd]
  intro x hx
  rcases mem_hhEdges o I _ _ x hx with h | ⟨e, he, h, rfl⟩
  · obtain ⟨e, he, rfl⟩ := List.mem_map.1 h
    exact ⟨e, (List.mem_filter.1 he).1, Or.inl (List.mem_filter.1 he).2, rfl⟩
  · exact ⟨e, he, Or.inr h, rfl⟩

theorem getRc_edge_ends (o : RcOpts) (hd : o.disconnected = false) (I : LGraph) :
    ∀ x ∈ (getRc o I).edges, x.1 ∈ (getRc o I).ids ∧ x.2.1 ∈ (getRc o I).ids := by
  intro x hx
  obtain ⟨e, he, hs, rfl⟩ := getRc_edges_from o hd I x hx
  exact ⟨(getRc_ids o hd I _).2 ⟨e, he, hs, Or.inl rfl⟩, (getRc_ids o hd I _).2 ⟨e, he, hs, Or.inr rfl⟩⟩

theorem getRc_ids_iff_endpoints (o : RcOpts) (hd : o.disconnected = false) (I : LGraph) (n : Nat) :
    n ∈ (getRc o I).ids ↔ ∃ v, (getRc o I).hasEdge n v = true := by
  simp only [getRc_ids o hd, getRc_hasEdge o hd, end_iff_adj]
  exact ⟨fun ⟨e, he, hs, v, h⟩ => ⟨v, e, he, hs, h⟩, fun ⟨v, e, he, hs, h⟩ => ⟨e, he, hs, v, h⟩⟩

theorem getRc_node_labels (o : RcOpts) (hd : o.disconnected = false) (I : LGraph) :
    ∀ p ∈ (getRc o I).nodes,
      p.2 = proj o.elementKey (I.attrs p.1) ∨ p.2 = hhLabel o.elementKey (I.attrs p.1) := by
  rw [getRc_closed o hd]
  intro p hp
  rcases mem_nodesF hp with hp | hp
  · rcases mem_nodesF hp with hp | hp
    · cases hp
    · exact Or.inl hp
  · exact Or.inr hp

theorem getRc_attrs_cases (o : RcOpts) (hd : o.disconnected = false) (I : LGraph) (n : Nat)
    (hn : n ∈ (getRc o I).ids) :
    (getRc o I).attrs n = proj o.elementKey (I.attrs n) ∨
      (getRc o I).attrs n = hhLabel o.elementKey (I.attrs n) :=
  getRc_node_labels o hd I _ (LGraph.attrs_mem hn)

theorem proj_get? (keys : List String) (a : Attrs) (k : String) :
    (proj keys a).get? k = if k ∈ keys then a.get? k else none :=
  Core.foldl_inv_prefix (l := keys) (s := [])
    (P := fun s acc => Dict.get? acc k = if k ∈ s then Dict.get? a k else none)
    (fun s acc k0 _ h => by
      by_cases hk : k = k0
      · subst hk
        cases ha : Dict.get? a k with
        | none => simpa [ha] using h
        | some v => simp [Dict.get?_set_self]
      · simp only [List.mem_append, List.mem_singleton, hk, or_false]
        refine Eq.trans ?_ h
        cases Dict.get? a k0 with
        | none => rfl
        | some v => exact Dict.get?_set_other _ _ _ _ hk)
    rfl

theorem proj_get (keys : List String) (a : Attrs) (k : String) (hk : k ∈ keys) :
    (proj keys a).get k = a.get k := by
  unfold Attrs.get Dict.getD; rw [proj_get?, if_pos hk]

theorem hhLabel_get (keys : List String) (a : Attrs) (k : String) (hk : k ∈ keys)
    (h : k ≠ "typesGH" ∨ (a.get? "typesGH").isSome = true) : (hhLabel keys a).get k = a.get k := by
  -- on `keys` the label reads like the dict it is projected from; that one differs from `a` at most in a `typesGH`
  -- which `a` lacks
  have hnd : (if (a.get? "typesGH").isSome then a else a.set "typesGH" hhFallback).get k = a.get k := by
    split
    · rfl
    · exact Attrs.get_set_other (h.resolve_right ‹_›)
  unfold hhLabel
  simp only
  by_cases hkk : k = "typesGH"
  · subst hkk
    rw [Attrs.get_set_self]
    exact hnd
  · rw [Attrs.get_set_other hkk, proj_get _ _ _ hk]
    exact hnd

/-- `h`: on an H–H atom without `typesGH` the code writes `hhFallback`, which the ITS label does not have. -/
theorem getRc_label (o : RcOpts) (hd : o.disconnected = false) (I : LGraph) (n : Nat)
    (hn : n ∈ (getRc o I).ids) (k : String) (hk : k ∈ o.elementKey)
    (h : k ≠ "typesGH" ∨ ((I.attrs n).get? "typesGH").isSome = true) :
    ((getRc o I).attrs n).get k = (I.attrs n).get k := by
  rcases getRc_attrs_cases o hd I n hn with h1 | h1
  · rw [h1, proj_get _ _ _ hk]
  · rw [h1, hhLabel_get _ _ _ hk h]

/-- `RadiusExpand.extract_subgraph` is `LGraph.induce` (`Core/Graph.lean`). -/
theorem induced_eq (I : LGraph) (X : List Nat) : induced I X = I.induce X := rfl

theorem mem_ids_induced (I : LGraph) (X : List Nat) (n : Nat) : n ∈ (induced I X).ids ↔ n ∈ I.ids ∧ n ∈ X :=
  LGraph.mem_ids_induce

theorem induced_hasEdge (I : LGraph) (X : List Nat) (u v : Nat) :
    (induced I X).hasEdge u v = true ↔ I.hasEdge u v = true ∧ u ∈ X ∧ v ∈ X :=
  LGraph.hasEdge_induce

theorem induced_attrs (I : LGraph) (X : List Nat) (n : Nat) (hn : n ∈ X) :
    (induced I X).attrs n = I.attrs n :=
  LGraph.attrs_induce hn

theorem induced_edge? (I : LGraph) (X : List Nat) {u v : Nat} (hu : u ∈ X) (hv : v ∈ X) :
    (induced I X).edge? u v = I.edge? u v :=
  LGraph.edge?_induce_of_mem hu hv

theorem induced_congr (I : LGraph) {X Y : List Nat} (h : ∀ n, n ∈ X ↔ n ∈ Y) : induced I X = induced I Y :=
  LGraph.induce_congr h

theorem induced_nil (I : LGraph) {X : List Nat} (h : ∀ n, n ∉ X) : induced I X = {} :=
  (induced_congr I (Y := []) fun n => ⟨fun hn => absurd hn (h n), fun hn => absurd hn List.not_mem_nil⟩).trans
    (by simp [induced])

theorem induced_all {I : LGraph} (hI : I.WF) {X : List Nat} (h : ∀ n ∈ I.ids, n ∈ X) : induced I X = I :=
  LGraph.induce_all hI h

/-- What `ITSConstruction.construct` (without `ignore_aromaticity`) guarantees of the ITS of two molecule
graphs: `ReactorLink.wfits_construct`. -/
def WFits (I : LGraph) : Prop :=
  I.WF ∧ (∀ n ∈ I.ids, ((I.attrs n).get? "typesGH").isSome = true) ∧
  (∀ e ∈ I.edges, ∃ a b : Int, e.2.2.get "order" = .tup [.num a, .num b] ∧
      e.2.2.get "standard_order" = .num (a - b))

def changed (a : Attrs) : Prop := idx (a.get "order") 0 ≠ idx (a.get "order") 1

instance (a : Attrs) : Decidable (changed a) := by unfold changed; infer_instance

theorem stdNonzero_iff_changed {a : Attrs} {x y : Int} (ho : a.get "order" = .tup [.num x, .num y])
    (hs : a.get "standard_order" = .num (x - y)) : stdNonzero (a.get "standard_order") = true ↔ changed a := by
  unfold changed
  rw [hs, ho]
  simp only [stdNonzero, idx, List.getD_cons_zero, List.getD_cons_succ, bne_iff_ne, ne_eq, Val.num.injEq]
  omega

theorem includeEdge_default (a : Attrs) : includeEdge {} a = stdNonzero (a.get "standard_order") := by
  simp [includeEdge]

theorem sel_default_iff {I : LGraph} {e : Nat × Nat × Attrs} {u v : Nat} (h : Adj e u v) :
    Sel {} I e ↔ stdNonzero (e.2.2.get "standard_order") = true ∨ isHH I u v = true := by
  unfold Sel; rw [includeEdge_default, isHH_of_adj h]

theorem rcEdgeAttrs_order (a : Attrs) : (rcEdgeAttrs {} a).get "order" = a.get "order" := by
  simp [rcEdgeAttrs, Dict.set, Attrs.get, Dict.getD, Dict.get?]

theorem rcEdgeAttrs_std (a : Attrs) : (rcEdgeAttrs {} a).get "standard_order" = a.get "standard_order" := by
  simp [rcEdgeAttrs, Dict.set, Attrs.get, Dict.getD, Dict.get?]

theorem getRc_ids_sub {I : LGraph} (hI : I.WF) (o : RcOpts) (hd : o.disconnected = false) (n : Nat)
    (hn : n ∈ (getRc o I).ids) : n ∈ I.ids := by
  obtain ⟨e, he, _, h | h⟩ := (getRc_ids o hd I n).1 hn
  · rw [h]; exact (hI.2.1 e he).1
  · rw [h]; exact (hI.2.1 e he).2.1

theorem mem_ids_induced_expand {I : LGraph} (hI : I.WF) {S : List Nat} (hS : ∀ s ∈ S, s ∈ I.ids) (k n : Nat) :
    n ∈ (induced I (expand I S k)).ids ↔ n ∈ expand I S k :=
  (mem_ids_induced I _ n).trans
    (and_iff_right_of_imp fun h => let ⟨s, hs, hd⟩ := (mem_expand_iff I S k n).1 h; hd.mem_ids hI (hS s hs))

theorem getRc_edge_labels {I : LGraph} (hI : I.WF) (u v : Nat) (a' : Attrs)
    (h : (getRc {} I).edge? u v = some a') :
    ∃ a, I.edge? u v = some a ∧ a'.get "order" = a.get "order" ∧
      a'.get "standard_order" = a.get "standard_order" := by
  obtain ⟨e', he', rfl, hadj⟩ := LGraph.edge?_some_mem h
  obtain ⟨e, he, _, rfl⟩ := getRc_edges_from {} rfl I e' he'
  exact ⟨e.2.2, LGraph.edge?_of_mem hI he hadj, rcEdgeAttrs_order _, rcEdgeAttrs_std _⟩

/-- Sub-graph with labels.  Atom labels are compared on `rcKeys` only: the centre carries no other key. -/
def Sub (A B : LGraph) : Prop :=
  (∀ n ∈ A.ids, n ∈ B.ids) ∧ (∀ u v, A.hasEdge u v = true → B.hasEdge u v = true) ∧
  (∀ n ∈ A.ids, ∀ k ∈ rcKeys, (A.attrs n).get k = (B.attrs n).get k) ∧
  (∀ u v a, A.edge? u v = some a → ∃ b, B.edge? u v = some b ∧ a.get "order" = b.get "order" ∧
      a.get "standard_order" = b.get "standard_order")

theorem induced_sub (I : LGraph) (X : List Nat) : Sub (induced I X) I := by
  refine ⟨fun n hn => ((mem_ids_induced I X n).1 hn).1, fun u v h => ((induced_hasEdge I X u v).1 h).1, ?_, ?_⟩
  · intro n hn k _
    rw [induced_attrs I X n ((mem_ids_induced I X n).1 hn).2]
  · intro u v a h
    obtain ⟨hu, hv⟩ := ((induced_hasEdge I X u v).1 (LGraph.hasEdge_of_edge? h)).2
    exact ⟨a, by rw [← induced_edge? I X hu hv]; exact h, rfl, rfl⟩

theorem induced_sub_induced (I : LGraph) (X Y : List Nat) (hXY : ∀ n ∈ X, n ∈ Y) :
    Sub (induced I X) (induced I Y) := by
  rw [induced_eq I X, ← LGraph.induce_induce hXY, ← induced_eq, ← induced_eq]
  exact induced_sub _ X

theorem getRc_sub_induced {I : LGraph} (hI : WFits I) (X : List Nat) (hX : ∀ n ∈ (getRc {} I).ids, n ∈ X) :
    Sub (getRc {} I) (induced I X) := by
  have hends : ∀ u v, (getRc {} I).hasEdge u v = true → u ∈ X ∧ v ∈ X := fun u v h =>
    ⟨hX u ((getRc_ids_iff_endpoints {} rfl I u).2 ⟨v, h⟩),
      hX v ((getRc_ids_iff_endpoints {} rfl I v).2 ⟨u, by rw [LGraph.hasEdge_comm]; exact h⟩)⟩
  refine ⟨?_, ?_, ?_, ?_⟩
  · intro n hn
    exact (mem_ids_induced I X n).2 ⟨getRc_ids_sub hI.1 {} rfl n hn, hX n hn⟩
  · intro u v h
    obtain ⟨e, he, _, hadj⟩ := (getRc_hasEdge {} rfl I u v).1 h
    exact (induced_hasEdge I X u v).2 ⟨LGraph.hasEdge_iff.2 ⟨e, he, hadj⟩, hends u v h⟩
  · intro n hn k hk
    rw [induced_attrs I X n (hX n hn)]
    exact getRc_label {} rfl I n hn k hk (Or.inr (hI.2.1 n (getRc_ids_sub hI.1 {} rfl n hn)))
  · intro u v a h
    obtain ⟨b, hb, h1, h2⟩ := getRc_edge_labels hI.1 u v a h
    obtain ⟨hu, hv⟩ := hends u v (LGraph.hasEdge_of_edge? h)
    exact ⟨b, by rw [induced_edge? I X hu hv]; exact hb, h1, h2⟩

def RcEq (A B : LGraph) : Prop :=
  (∀ n, n ∈ A.ids ↔ n ∈ B.ids) ∧
  (∀ n ∈ A.ids, ∀ k ∈ rcKeys, (A.attrs n).get k = (B.attrs n).get k) ∧
  (∀ u v, A.hasEdge u v = B.hasEdge u v) ∧
  (∀ u v a b, A.edge? u v = some a → B.edge? u v = some b →
      a.get "order" = b.get "order" ∧ a.get "standard_order" = b.get "standard_order")

theorem includeEdge_rcEdgeAttrs (a : Attrs) : includeEdge {} (rcEdgeAttrs {} a) = includeEdge {} a := by
  rw [includeEdge_default, includeEdge_default, rcEdgeAttrs_std]

theorem getRc_isHH (I : LGraph) {u v : Nat} (hu : u ∈ (getRc {} I).ids) (hv : v ∈ (getRc {} I).ids) :
    isHH (getRc {} I) u v = isHH I u v := by
  have hel : ∀ n ∈ (getRc {} I).ids, ((getRc {} I).attrs n).get "element" = (I.attrs n).get "element" :=
    fun n hn => getRc_label {} rfl I n hn "element" (.head _) (Or.inl (by decide +kernel))
  unfold isHH
  rw [hel u hu, hel v hv]

theorem getRc_edges_sel (I : LGraph) : ∀ e' ∈ (getRc {} I).edges, Sel {} (getRc {} I) e' := by
  intro e' he'
  obtain ⟨h1, h2⟩ := getRc_edge_ends {} rfl I e' he'
  obtain ⟨e, he, hs, rfl⟩ := getRc_edges_from {} rfl I e' he'
  exact hs.imp (fun h => (includeEdge_rcEdgeAttrs e.2.2).trans h) (fun h => (getRc_isHH I h1 h2).trans h)

theorem getRc_getRc_hasEdge (I : LGraph) (u v : Nat) :
    (getRc {} (getRc {} I)).hasEdge u v = (getRc {} I).hasEdge u v := by
  rw [Bool.eq_iff_iff, getRc_hasEdge {} rfl, LGraph.hasEdge_iff]
  constructor
  · rintro ⟨e, he, _, hadj⟩; exact ⟨e, he, hadj⟩
  · rintro ⟨e, he, hadj⟩; exact ⟨e, he, getRc_edges_sel I e he, hadj⟩

theorem getRc_has_typesGH {I : LGraph} (hI : WFits I) (n : Nat) (hn : n ∈ (getRc {} I).ids) :
    (((getRc {} I).attrs n).get? "typesGH").isSome = true := by
  rcases getRc_attrs_cases {} rfl I n hn with h1 | h1
  · rw [h1, proj_get?, if_pos (.tail _ (.tail _ (.head _)))]
    exact hI.2.1 n (getRc_ids_sub hI.1 {} rfl n hn)
  · rw [h1]; unfold hhLabel
    simp only [Dict.get?_set_self, Option.isSome_some]

/-! ## Renaming the atoms

`get_rc` is four passes over the bonds or atoms of `I`, each a fold whose step commutes with an injective renaming `π`
(`foldl_relabel`); so each pass does, and `get_rc` with every option setting. -/

section RelabelRc
variable {π : Nat → Nat} (hπ : Function.Injective π)
include hπ

omit hπ in
theorem foldl_relabel {β : Type} (step step' : LGraph → β → LGraph) (f : β → β)
    (h : ∀ rc e, step' (rc.relabel π) (f e) = (step rc e).relabel π) (rc : LGraph) (es : List β) :
    (es.map f).foldl step' (rc.relabel π) = (es.foldl step rc).relabel π := by
  induction es generalizing rc with
  | nil => rfl
  | cons e es ih => rw [List.map_cons, List.foldl_cons, List.foldl_cons, h, ih]

theorem ensureNode_relabel (keys : List String) (I rc : LGraph) (n : Nat) :
    ensureNode keys (I.relabel π) (rc.relabel π) (π n) = (ensureNode keys I rc n).relabel π := by
  unfold ensureNode
  rw [LGraph.hasNode_relabel hπ, LGraph.attrs_relabel_of_injective hπ]
  split
  · rfl
  · simp [LGraph.relabel]

theorem ensureNodeHH_relabel (keys : List String) (I rc : LGraph) (n : Nat) :
    ensureNodeHH keys (I.relabel π) (rc.relabel π) (π n) = (ensureNodeHH keys I rc n).relabel π := by
  unfold ensureNodeHH
  rw [LGraph.hasNode_relabel hπ, LGraph.attrs_relabel_of_injective hπ]
  split
  · rfl
  · simp [LGraph.relabel]

omit hπ in
theorem pushEdge_relabel (rc : LGraph) (u v : Nat) (a : Attrs) :
    pushEdge (rc.relabel π) (π u, π v, a) = (pushEdge rc (u, v, a)).relabel π := by
  simp [pushEdge, LGraph.relabel]

theorem addChanged_relabel (o : RcOpts) (I rc : LGraph) :
    addChanged o (I.relabel π) (rc.relabel π) = (addChanged o I rc).relabel π :=
  foldl_relabel (changedStep o I) _ (fun e => (π e.1, π e.2.1, e.2.2)) (fun rc e => by
    unfold changedStep
    simp only
    split
    · rw [ensureNode_relabel hπ, ensureNode_relabel hπ, pushEdge_relabel]
    · rfl) rc I.edges

theorem isHH_relabel (I : LGraph) (u v : Nat) : isHH (I.relabel π) (π u) (π v) = isHH I u v := by
  unfold isHH; rw [LGraph.attrs_relabel_of_injective hπ, LGraph.attrs_relabel_of_injective hπ]

theorem addHH_relabel (o : RcOpts) (I rc : LGraph) :
    addHH o (I.relabel π) (rc.relabel π) = (addHH o I rc).relabel π :=
  foldl_relabel (hhStep o I) _ (fun e => (π e.1, π e.2.1, e.2.2)) (fun rc e => by
    unfold hhStep
    simp only
    rw [isHH_relabel hπ]
    split
    · rw [ensureNodeHH_relabel hπ, ensureNodeHH_relabel hπ, LGraph.hasEdge_relabel_of_injective hπ]
      split
      · rfl
      · rw [pushEdge_relabel]
    · rfl) rc I.edges

theorem addChargeNodes_relabel (o : RcOpts) (I rc : LGraph) :
    addChargeNodes o (I.relabel π) (rc.relabel π) = (addChargeNodes o I rc).relabel π :=
  foldl_relabel _ _ (fun p => (π p.1, p.2)) (fun rc p => by
    simp only
    split
    · rw [ensureNode_relabel hπ]
    · rfl) rc I.nodes

theorem reconnect_relabel (o : RcOpts) (I rc : LGraph) :
    reconnect o (I.relabel π) (rc.relabel π) = (reconnect o I rc).relabel π :=
  foldl_relabel _ _ (fun e => (π e.1, π e.2.1, e.2.2)) (fun rc e => by
    simp only
    rw [LGraph.hasNode_relabel hπ, LGraph.hasNode_relabel hπ, LGraph.hasEdge_relabel_of_injective hπ]
    split
    · rw [pushEdge_relabel]
    · rfl) rc I.edges

end RelabelRc

def ekey (e : Nat × Nat × Attrs) : Nat × Nat := (min e.1 e.2.1, max e.1 e.2.1)

theorem ekey_mkE (o : RcOpts) (e : Nat × Nat × Attrs) : ekey (mkE o e) = ekey e := rfl

theorem nodup_keys_hhEdges (o : RcOpts) (I : LGraph) (es E : List (Nat × Nat × Attrs)) (h : (E.map ekey).Nodup) :
    ((hhEdges o I E es).map ekey).Nodup :=
  Core.foldl_inv (P := fun E : List (Nat × Nat × Attrs) => (E.map ekey).Nodup) (fun E e _ h => by
    rcases hhPush_cases o I E e with ⟨h', -⟩ | ⟨h', -, hno⟩ <;> rw [h']
    · exact h
    · rw [List.map_append]
      exact h.append (List.nodup_singleton _)
        (List.disjoint_singleton.2 fun hm => Bool.false_ne_true (hno ▸ LGraph.hasEdge_iff_key.2 hm))) h

theorem getRc_wf (I : LGraph) (hI : I.WF) : (getRc {} I).WF := by
  refine ⟨?_, ?_, ?_⟩
  · rw [getRc_closed {} rfl]
    exact nodup_nodesF (nodup_nodesF List.nodup_nil)
  · intro x hx
    obtain ⟨h1, h2⟩ := getRc_edge_ends {} rfl I x hx
    obtain ⟨e, he, _, rfl⟩ := getRc_edges_from {} rfl I x hx
    exact ⟨h1, h2, (hI.2.1 e he).2.2⟩
  · -- no parallel bonds: the first loop copies bonds of `I`, the second adds a bond only where there is none
    rw [getRc_closed {} rfl]
    refine nodup_keys_hhEdges {} I _ _ ?_
    rw [List.map_map]
    exact List.Nodup.sublist (List.Sublist.map _ List.filter_sublist) hI.2.2

theorem mem_unequalOrderEdges_iff (I : LGraph) (n : Nat) :
    n ∈ unequalOrderEdges I ↔ ∃ e ∈ I.edges, unequalEdge e.2.2 = true ∧ (n = e.1 ∨ n = e.2.1) := by
  unfold unequalOrderEdges
  rw [Core.foldl_or_iff (Q := fun acc => n ∈ acc) (C := fun e => unequalEdge e.2.2 = true ∧ (n = e.1 ∨ n = e.2.1))]
  · simp only [List.not_mem_nil, false_or]
  · intro acc e
    by_cases h : unequalEdge e.2.2 = true
    · simp only [h, if_true, mem_unionL, List.mem_cons, List.not_mem_nil, or_false, true_and]
    · rw [if_neg h]
      exact ⟨Or.inl, fun h' => h'.elim id fun h'' => absurd h''.1 h⟩

theorem unequalEdge_iff_changed {a : Attrs} {x y : Int} (ho : a.get "order" = .tup [.num x, .num y])
    (hs : a.get "standard_order" = .num (x - y)) : unequalEdge a = true ↔ changed a := by
  have h1 := Attrs.get?_of_get ho (by simp)
  have h2 := Attrs.get?_of_get hs (by simp)
  unfold unequalEdge stdIsZero changed
  rw [h1, h2, ho]
  simp only [Option.getD_some, pyEq, idx, List.getD_cons_zero, List.getD_cons_succ, Bool.and_eq_true,
    Bool.not_eq_true', decide_eq_false_iff_not, beq_eq_false_iff_ne, ne_eq, Val.num.injEq]
  omega

theorem unequalOrderEdges_iff_changed {I : LGraph} (hI : WFits I) (n : Nat) :
    n ∈ unequalOrderEdges I ↔ ∃ v a, I.edge? n v = some a ∧ changed a := by
  simp only [mem_unequalOrderEdges_iff, end_iff_adj, exists_edge_iff hI.1]
  constructor
  · rintro ⟨e, he, hu, v, hadj⟩
    obtain ⟨x, y, ho, hs⟩ := hI.2.2 e he
    exact ⟨v, e, he, hadj, (unequalEdge_iff_changed ho hs).1 hu⟩
  · rintro ⟨v, e, he, hadj, hc⟩
    obtain ⟨x, y, ho, hs⟩ := hI.2.2 e he
    exact ⟨e, he, (unequalEdge_iff_changed ho hs).2 hc, v, hadj⟩

theorem includeEdge_iff_unequal {I : LGraph} (hI : WFits I) {e : Nat × Nat × Attrs} (he : e ∈ I.edges) :
    includeEdge {} e.2.2 = true ↔ unequalEdge e.2.2 = true := by
  obtain ⟨x, y, ho, hs⟩ := hI.2.2 e he
  rw [includeEdge_default, stdNonzero_iff_changed ho hs, unequalEdge_iff_changed ho hs]

theorem getRc_ids_iff_unequal {I : LGraph} (hI : WFits I) (n : Nat) :
    n ∈ (getRc {} I).ids ↔ n ∈ unequalOrderEdges I ∨ ∃ v, I.hasEdge n v = true ∧ isHH I n v = true := by
  simp only [getRc_ids {} rfl, mem_unequalOrderEdges_iff, end_iff_adj]
  constructor
  · rintro ⟨e, he, hs | hs, v, hadj⟩
    · exact Or.inl ⟨e, he, (includeEdge_iff_unequal hI he).1 hs, v, hadj⟩
    · exact Or.inr ⟨v, LGraph.hasEdge_iff.2 ⟨e, he, hadj⟩, by rw [← isHH_of_adj hadj]; exact hs⟩
  · rintro (⟨e, he, hu, hn⟩ | ⟨v, hE, hh⟩)
    · exact ⟨e, he, Or.inl ((includeEdge_iff_unequal hI he).2 hu), hn⟩
    · obtain ⟨e, he, hadj⟩ := LGraph.hasEdge_iff.1 hE
      exact ⟨e, he, Or.inr (by rw [isHH_of_adj hadj]; exact hh), v, hadj⟩

end SynKit.ITS
