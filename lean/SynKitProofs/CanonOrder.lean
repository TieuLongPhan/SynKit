import SynKitModel.Canon
import SynKitProofs.StrictTotal
/-!
# The order on attribute values and on serialisations

`Val.cmp` is a total order (`Val.ltList_strictTotal`), hence so are `serNodeLt`, `serEdgeLt`, `Ser.lt`.
Each law of `Val.cmp` is proved together with the same law of `Val.cmpList`, by the induction `Val.ind₂` over a value
and a list of values at once; across types `Val.cmp` compares the ranks (`Val.cmp_of_rank_ne`).
-/
namespace SynKit.Canon

/-- `Val.rec` with both motives named: induction on a value and on a list of values at once, so that a fact
about `Val.cmp` and the same fact about `Val.cmpList` are proved together. -/
theorem Val.ind₂ {P : Val → Prop} {Q : List Val → Prop} (hnone : P .none) (hnum : ∀ h, P (.num h))
    (hstr : ∀ s, P (.str s)) (hbool : ∀ b, P (.bool b)) (htup : ∀ xs, Q xs → P (.tup xs))
    (hnil : Q []) (hcons : ∀ x xs, P x → Q xs → Q (x :: xs)) : (∀ a, P a) ∧ ∀ as, Q as :=
  ⟨Val.rec (motive_1 := P) (motive_2 := Q) hnone hnum hstr hbool htup hnil hcons,
    Val.rec_1 (motive_1 := P) (motive_2 := Q) hnone hnum hstr hbool htup hnil hcons⟩

theorem Val.cmpList_nil_nil : Val.cmpList [] [] = .eq := by simp [Val.cmpList]
theorem Val.cmpList_nil_cons (b : Val) (bs : List Val) : Val.cmpList [] (b :: bs) = .lt := by
  simp [Val.cmpList]
theorem Val.cmpList_cons_nil (a : Val) (as : List Val) : Val.cmpList (a :: as) [] = .gt := by
  simp [Val.cmpList]
theorem Val.cmpList_cons_cons (a b : Val) (as bs : List Val) :
    Val.cmpList (a :: as) (b :: bs) = (Val.cmp a b).then (Val.cmpList as bs) := by
  rw [Val.cmpList]
  cases Val.cmp a b <;> rfl

theorem Val.cmp_eq_iff :
    (∀ a b : Val, Val.cmp a b = .eq ↔ a = b) ∧ ∀ as bs, Val.cmpList as bs = .eq ↔ as = bs := by
  refine Val.ind₂ ?_ ?_ ?_ ?_ ?_ ?_ ?_
  · intro b; cases b <;> simp [Val.cmp, Val.rank]
  · intro x b; cases b <;> simp [Val.cmp, Val.rank]
  · intro x b; cases b <;> simp [Val.cmp, Val.rank]
  · intro x b; cases b <;> simp [Val.cmp, Val.rank]
  · intro xs ih b
    cases b with
    | tup ys =>
      simp only [Val.cmp, Val.tup.injEq]
      exact ih ys
    | _ => simp [Val.cmp, Val.rank]
  · intro bs
    cases bs with
    | nil => simp [Val.cmpList_nil_nil]
    | cons b bs => simp [Val.cmpList_nil_cons]
  · intro a as iha ihas bs
    cases bs with
    | nil => simp [Val.cmpList_cons_nil]
    | cons b bs => rw [Val.cmpList_cons_cons, Ordering.then_eq_eq, iha, ihas, List.cons.injEq]

theorem Val.cmp_swap :
    (∀ a b : Val, Val.cmp b a = (Val.cmp a b).swap) ∧
    ∀ as bs, Val.cmpList bs as = (Val.cmpList as bs).swap := by
  refine Val.ind₂ ?_ ?_ ?_ ?_ ?_ ?_ ?_
  · intro b; cases b <;> simp [Val.cmp, Val.rank] <;> rfl
  · intro x b
    cases b with
    | num y => simp only [Val.cmp]; exact Std.OrientedCmp.eq_swap
    | _ => simp [Val.cmp, Val.rank]; rfl
  · intro x b
    cases b with
    | str y => simp only [Val.cmp]; exact Std.OrientedCmp.eq_swap
    | _ => simp [Val.cmp, Val.rank]; rfl
  · intro x b
    cases b with
    | bool y => simp only [Val.cmp]; exact Std.OrientedCmp.eq_swap
    | _ => simp [Val.cmp, Val.rank]; rfl
  · intro xs ih b
    cases b with
    | tup ys =>
      simp only [Val.cmp]
      exact ih ys
    | _ => simp [Val.cmp, Val.rank]; rfl
  · intro bs
    cases bs with
    | nil => simp [Val.cmpList_nil_nil]
    | cons b bs => simp [Val.cmpList_nil_cons, Val.cmpList_cons_nil]
  · intro a as iha ihas bs
    cases bs with
    | nil => simp [Val.cmpList_nil_cons, Val.cmpList_cons_nil]
    | cons b bs => rw [Val.cmpList_cons_cons, Val.cmpList_cons_cons, Ordering.swap_then, iha, ihas]

theorem Val.cmp_of_rank_ne {a b : Val} (h : Val.rank a ≠ Val.rank b) :
    Val.cmp a b = compare (Val.rank a) (Val.rank b) := by
  cases a <;> cases b <;> simp [Val.cmp, Val.rank] at h ⊢

theorem Val.rank_le_of_cmp_lt {a b : Val} (h : Val.cmp a b = .lt) : Val.rank a ≤ Val.rank b := by
  by_cases e : Val.rank a = Val.rank b
  · exact Nat.le_of_eq e
  · rw [Val.cmp_of_rank_ne e, Nat.compare_eq_lt] at h
    exact Nat.le_of_lt h

/-- Values of different types are ordered by type, so only a chain within one type needs the order of
that type. -/
theorem Val.cmp_trans_of_same_rank {a : Val}
    (h : ∀ b c, Val.rank a = Val.rank b → Val.rank b = Val.rank c →
      Val.cmp a b = .lt → Val.cmp b c = .lt → Val.cmp a c = .lt) (b c : Val)
    (hab : Val.cmp a b = .lt) (hbc : Val.cmp b c = .lt) : Val.cmp a c = .lt := by
  by_cases hr : Val.rank a = Val.rank b ∧ Val.rank b = Val.rank c
  · exact h b c hr.1 hr.2 hab hbc
  · have h1 := Val.rank_le_of_cmp_lt hab
    have h2 := Val.rank_le_of_cmp_lt hbc
    rw [Val.cmp_of_rank_ne (by omega), Nat.compare_eq_lt]
    omega

theorem Val.cmp_trans :
    (∀ a b c : Val, Val.cmp a b = .lt → Val.cmp b c = .lt → Val.cmp a c = .lt) ∧
    ∀ as bs cs, Val.cmpList as bs = .lt → Val.cmpList bs cs = .lt → Val.cmpList as cs = .lt := by
  -- within one type the second and third value have the constructor of the first
  refine Val.ind₂ ?_ ?_ ?_ ?_ ?_ ?_ ?_
  · refine Val.cmp_trans_of_same_rank fun b c h1 _ hab _ => ?_
    cases b <;> simp [Val.rank] at h1
    simp [Val.cmp, Val.rank] at hab
  · refine fun x => Val.cmp_trans_of_same_rank fun b c h1 h2 hab hbc => ?_
    cases b <;> simp [Val.rank] at h1
    cases c <;> simp [Val.rank] at h2
    exact Std.TransCmp.lt_trans (cmp := compare) hab hbc
  · refine fun x => Val.cmp_trans_of_same_rank fun b c h1 h2 hab hbc => ?_
    cases b <;> simp [Val.rank] at h1
    cases c <;> simp [Val.rank] at h2
    exact Std.TransCmp.lt_trans (cmp := compare) hab hbc
  · refine fun x => Val.cmp_trans_of_same_rank fun b c h1 h2 hab hbc => ?_
    cases b <;> simp [Val.rank] at h1
    cases c <;> simp [Val.rank] at h2
    exact Std.TransCmp.lt_trans (cmp := compare) hab hbc
  · refine fun xs ih => Val.cmp_trans_of_same_rank fun b c h1 h2 hab hbc => ?_
    cases b <;> simp [Val.rank] at h1
    cases c <;> simp [Val.rank] at h2
    simp only [Val.cmp] at hab hbc ⊢
    exact ih _ _ hab hbc
  · intro bs cs hab hbc
    cases bs with
    | nil => simp [Val.cmpList_nil_nil] at hab
    | cons b bs =>
      cases cs with
      | nil => simp [Val.cmpList_cons_nil] at hbc
      | cons c cs => exact Val.cmpList_nil_cons _ _
  · intro a as iha ihas bs cs hab hbc
    cases bs with
    | nil => simp [Val.cmpList_cons_nil] at hab
    | cons b bs =>
      cases cs with
      | nil => simp [Val.cmpList_cons_nil] at hbc
      | cons c cs =>
        rw [Val.cmpList_cons_cons, Ordering.then_eq_lt] at hab hbc ⊢
        rcases hab with hab | ⟨eab, hab⟩
        · rcases hbc with hbc | ⟨ebc, _⟩
          · exact Or.inl (iha b c hab hbc)
          · exact Or.inl ((Val.cmp_eq_iff.1 b c).1 ebc ▸ hab)
        · rw [(Val.cmp_eq_iff.1 a b).1 eab]
          exact hbc.imp_right fun h => ⟨h.1, ihas bs cs hab h.2⟩

theorem Val.ltList_strictTotal : StrictTotal Val.ltList where
  irrefl a := by
    simp only [Val.ltList, (Val.cmp_eq_iff.2 a a).mpr rfl]
    rfl
  trans a b c := by
    simp only [Val.ltList, beq_iff_eq]
    exact Val.cmp_trans.2 a b c
  total a b := by
    simp only [Val.ltList, beq_iff_eq]
    cases e : Val.cmpList a b
    · exact Or.inl rfl
    · exact Or.inr (Or.inl ((Val.cmp_eq_iff.2 a b).mp e))
    · right; right
      rw [Val.cmp_swap.2 a b, e]
      rfl

theorem serNodeLt_eq : serNodeLt = lexIte natLt Val.ltList := by
  funext a b
  simp [serNodeLt, lexIte, natLt]

theorem serNodeLt_strictTotal : StrictTotal serNodeLt := by
  rw [serNodeLt_eq]
  exact lexIte_strictTotal _ _ natLt_strictTotal Val.ltList_strictTotal

/-- `serEdgeLt` unfolds to `lexIte pairLt (lexIte pairLt Val.ltList)`. -/
theorem serEdgeLt_strictTotal : StrictTotal serEdgeLt :=
  lexIte_strictTotal pairLt (lexIte pairLt Val.ltList) pairLt_strictTotal
    (lexIte_strictTotal _ _ pairLt_strictTotal Val.ltList_strictTotal)

/-- `Ser.lt` is the product order of the two fields; the map to the pair of fields is injective by eta. -/
theorem Ser.lt_strictTotal : StrictTotal Ser.lt :=
  StrictTotal.pullback
    (lexIte_strictTotal _ _ (ltLex_strictTotal _ serNodeLt_strictTotal) (ltLex_strictTotal _ serEdgeLt_strictTotal))
    (fun s : Ser => (s.nodes, s.edges)) (fun _ _ h => congrArg (fun p => Ser.mk p.1 p.2) h) Ser.lt fun _ _ => rfl

end SynKit.Canon
