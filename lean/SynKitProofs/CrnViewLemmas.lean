import SynKitModel.CrnIR
import SynKitProofs.CrnCanonLemmas
import SynKitProofs.Core.Upsert
/-!
The two views of a reaction network for C18.  Each view is described in closed form: ids `0 … n-1`, the attributes
of a node, and its arcs as facts about the network —

* bipartite view: the arcs between species `u` and reaction `j` are the entries of `u` on the two sides of reaction
  `j` (`bip_edge_sp_rx`, `bip_edge_rx_sp`), there are no others (`bip_edge_kinds`), and a pair of nodes carries at most
  one (`bip_funEdges`);
* species view: `u → v` is present iff some reaction has `u` among its reactants and `v` among its products
  (`sp_arc_ne_none_iff`), and its `stoich_r` / `stoich_p` are the least such coefficients (`minOf_speciesArcs`).

Renaming the species by `σ` and listing reactions and sides in another order keeps these facts (`side_mem_iff`), which
is the isomorphism between the views of two networks that differ only by names (`viewBip_iso_of_sameUpToNames'`, where
reaction nodes follow the reordering; `viewSpecies_iso_of_sameUpToNames_stoich'` through `sp_arc_congr`).  Last, both
views satisfy the attribute hypothesis `CrnAttrOK` of the IR theorems.
-/
namespace SynKit.CrnCanon

def FunEdges (g : LGraph) : Prop :=
  ∀ u v a a', (u, v, a) ∈ g.edges → (u, v, a') ∈ g.edges → a = a'

theorem arc?_eq_some_iff (g : LGraph) (hfun : FunEdges g) (u v : Nat) (a : Attrs) :
    g.arc? u v = some a ↔ (u, v, a) ∈ g.edges := by
  refine ⟨LGraph.arc?_some_mem, fun h => ?_⟩
  cases hf : g.arc? u v with
  | none => exact absurd h (LGraph.arc?_eq_none_iff.1 hf a)
  | some b => rw [hfun u v b a (LGraph.arc?_some_mem hf) h]

theorem bip_ids (stoich : Bool) (N : Net) :
    (viewBip stoich N).ids = List.range' 0 (N.labels.length + N.rxns.length) := by
  unfold viewBip LGraph.ids
  simp only [List.map_append, List.map_map]
  have h1 : (N.labels.zipIdx.map ((fun x : Nat × Attrs => x.1) ∘ fun li => (li.2, spAttrsBip li.1))) =
      List.range' 0 N.labels.length := by
    rw [← List.zipIdx_map_snd 0 N.labels]; rfl
  have h2 : (N.rxns.zipIdx.map ((fun x : Nat × Attrs => x.1) ∘
        fun rj => (N.labels.length + rj.2, rxAttrsBip rj.1.rule))) =
      List.range' (N.labels.length) N.rxns.length := by
    have : ((fun x : Nat × Attrs => x.1) ∘ fun rj : Rxn × Nat => (N.labels.length + rj.2, rxAttrsBip rj.1.rule)) =
        (fun x => N.labels.length + x) ∘ Prod.snd := rfl
    rw [this, ← List.map_map, List.zipIdx_map_snd, List.map_add_range']
    rfl
  rw [h1, h2]
  have := @List.range'_append 0 N.labels.length N.rxns.length 1
  simpa using this

theorem bip_mem_ids (stoich : Bool) (N : Net) (v : Nat) :
    v ∈ (viewBip stoich N).ids ↔ v < N.labels.length + N.rxns.length := by
  rw [bip_ids, List.mem_range'_1]; omega

theorem bip_ids_nodup (stoich : Bool) (N : Net) : (viewBip stoich N).ids.Nodup := by
  rw [bip_ids]; exact List.nodup_range' 1

theorem bip_attrs_sp (stoich : Bool) (N : Net) {i : Nat} {l : String} (h : N.labels[i]? = some l) :
    (viewBip stoich N).attrs i = spAttrsBip l := by
  apply LGraph.attrs_of_mem (bip_ids_nodup stoich N)
  unfold viewBip
  simp only
  apply List.mem_append_left
  exact List.mem_map.mpr ⟨(l, i), List.mem_zipIdx_iff_getElem?.mpr h, rfl⟩

theorem spAttrsBip_get_eq (l l' k : String) (hk : k = "kind" ∨ k = "bipartite") :
    (spAttrsBip l).get k = (spAttrsBip l').get k := by
  rcases hk with rfl | rfl <;> simp [spAttrsBip, Attrs.get, Dict.getD, Dict.get?]

theorem bip_attrs_rx (stoich : Bool) (N : Net) {j : Nat} {r : Rxn} (h : N.rxns[j]? = some r) :
    (viewBip stoich N).attrs (N.labels.length + j) = rxAttrsBip r.rule := by
  apply LGraph.attrs_of_mem (bip_ids_nodup stoich N)
  unfold viewBip
  simp only
  apply List.mem_append_right
  exact List.mem_map.mpr ⟨(r, j), List.mem_zipIdx_iff_getElem?.mpr h, rfl⟩

theorem bip_mem_edges (stoich : Bool) (N : Net) (u v : Nat) (a : Attrs) :
    (u, v, a) ∈ (viewBip stoich N).edges ↔ ∃ r j, N.rxns[j]? = some r ∧
      ((∃ sc ∈ r.reactants, u = sc.1 ∧ v = N.labels.length + j ∧ a = arcAttrsBip stoich sc.2 "reactant") ∨
       (∃ sc ∈ r.products, u = N.labels.length + j ∧ v = sc.1 ∧ a = arcAttrsBip stoich sc.2 "product")) := by
  simp only [viewBip, List.mem_flatMap, List.mem_append, List.mem_map, Prod.exists, List.mem_zipIdx_iff_getElem?,
    Prod.mk.injEq, eq_comm (a := u), eq_comm (a := v), eq_comm (a := a)]

theorem wf_bound {N : Net} (hN : N.WF) {r : Rxn} {j : Nat} (hj : N.rxns[j]? = some r) :
    (∀ sc ∈ r.reactants, sc.1 < N.labels.length) ∧ (∀ sc ∈ r.products, sc.1 < N.labels.length) ∧
    (r.reactants.map (·.1)).Nodup ∧ (r.products.map (·.1)).Nodup ∧ j < N.rxns.length := by
  have hr : r ∈ N.rxns := List.mem_of_getElem? hj
  obtain ⟨h1, h2, h3, -⟩ := hN.1 r hr
  refine ⟨fun sc hsc => (h1 sc (List.mem_append_left _ hsc)).1,
    fun sc hsc => (h1 sc (List.mem_append_right _ hsc)).1, h2, h3, ?_⟩
  obtain ⟨h, -⟩ := List.getElem?_eq_some_iff.mp hj
  exact h

theorem bip_edge_kinds (s : Bool) (N : Net) (hN : N.WF) {u v : Nat} {a : Attrs} (h : (u, v, a) ∈ (viewBip s N).edges) :
    u < N.labels.length + N.rxns.length ∧ v < N.labels.length + N.rxns.length ∧
      ¬ (u < N.labels.length ↔ v < N.labels.length) := by
  obtain ⟨r, j, hj, hc⟩ := (bip_mem_edges s N u v a).1 h
  obtain ⟨b1, b2, -, -, hjl⟩ := wf_bound hN hj
  rcases hc with ⟨sc, hsc, e1, e2, -⟩ | ⟨sc, hsc, e1, e2, -⟩
  · have := b1 sc hsc; omega
  · have := b2 sc hsc; omega

theorem viewBip_wfd' (stoich : Bool) (N : Net) (hN : N.WF) : WFD (viewBip stoich N) := by
  refine ⟨bip_ids_nodup stoich N, ?_⟩
  rintro ⟨u, v, a⟩ he
  simp only [bip_mem_ids]
  exact ⟨(bip_edge_kinds stoich N hN he).1, (bip_edge_kinds stoich N hN he).2.1⟩

theorem bip_edge_sp_rx (s : Bool) (N : Net) {u j : Nat} {r : Rxn} (hu : u < N.labels.length)
    (hj : N.rxns[j]? = some r) (a : Attrs) :
    (u, N.labels.length + j, a) ∈ (viewBip s N).edges ↔
      ∃ c, (u, c) ∈ r.reactants ∧ a = arcAttrsBip s c "reactant" := by
  rw [bip_mem_edges]
  constructor
  · rintro ⟨r', j', hj', ⟨sc, hsc, e1, e2, e3⟩ | ⟨sc, hsc, e1, e2, e3⟩⟩
    · obtain rfl : j = j' := by omega
      rw [hj] at hj'
      cases hj'
      exact ⟨sc.2, e1 ▸ hsc, e3⟩
    · omega
  · rintro ⟨c, hc, rfl⟩
    exact ⟨r, j, hj, Or.inl ⟨(u, c), hc, rfl, rfl, rfl⟩⟩

theorem bip_edge_rx_sp (s : Bool) (N : Net) {v j : Nat} {r : Rxn} (hv : v < N.labels.length)
    (hj : N.rxns[j]? = some r) (a : Attrs) :
    (N.labels.length + j, v, a) ∈ (viewBip s N).edges ↔
      ∃ c, (v, c) ∈ r.products ∧ a = arcAttrsBip s c "product" := by
  rw [bip_mem_edges]
  constructor
  · rintro ⟨r', j', hj', ⟨sc, hsc, e1, e2, e3⟩ | ⟨sc, hsc, e1, e2, e3⟩⟩
    · omega
    · obtain rfl : j = j' := by omega
      rw [hj] at hj'
      cases hj'
      exact ⟨sc.2, e2 ▸ hsc, e3⟩
  · rintro ⟨c, hc, rfl⟩
    exact ⟨r, j, hj, Or.inr ⟨(v, c), hc, rfl, rfl, rfl⟩⟩

/-- A species occurs once on a side, so a pair of nodes carries at most one arc. -/
theorem bip_funEdges (stoich : Bool) (N : Net) (hN : N.WF) : FunEdges (viewBip stoich N) := by
  intro u v a a' h h'
  obtain ⟨r, j, hj, hc⟩ := (bip_mem_edges stoich N u v a).1 h
  obtain ⟨b1, b2, n1, n2, -⟩ := wf_bound hN hj
  rcases hc with ⟨sc, hsc, rfl, rfl, rfl⟩ | ⟨sc, hsc, rfl, rfl, rfl⟩
  · obtain ⟨c, hc, rfl⟩ := (bip_edge_sp_rx stoich N (b1 sc hsc) hj a').1 h'
    exact congrArg (fun x => arcAttrsBip stoich x.2 "reactant") (List.inj_on_of_nodup_map n1 hsc hc rfl)
  · obtain ⟨c, hc, rfl⟩ := (bip_edge_rx_sp stoich N (b2 sc hsc) hj a').1 h'
    exact congrArg (fun x => arcAttrsBip stoich x.2 "product") (List.inj_on_of_nodup_map n2 hsc hc rfl)

theorem perm_index {α : Type} [DecidableEq α] [Inhabited α] (l1 l2 : List α) (hp : l1.Perm l2)
    (hnd : l2.Nodup) :
    ∃ τ : Nat → Nat, (∀ j x, l1[j]? = some x → l2[τ j]? = some x) ∧
      (∀ i < l1.length, ∀ j < l1.length, τ i = τ j → i = j) := by
  have hnd1 : l1.Nodup := hp.nodup_iff.2 hnd
  have key : ∀ j x, l1[j]? = some x → l2[l2.idxOf (l1.getD j default)]? = some x := by
    intro j x hx
    have : l1.getD j default = x := by rw [List.getD_eq_getElem?_getD, hx]; rfl
    rw [this]
    exact List.getElem?_idxOf (hp.subset (List.mem_of_getElem? hx))
  refine ⟨fun j => l2.idxOf (l1.getD j default), key, ?_⟩
  intro i hi j hj e
  have g1 := key i _ (List.getElem?_eq_getElem hi)
  have g2 := key j _ (List.getElem?_eq_getElem hj)
  simp only at e
  rw [e, g2] at g1
  exact (hnd1.getElem_inj_iff).1 (Option.some.inj g1).symm

theorem side_mem_iff {l l' : List (Nat × Nat)} {σ : Nat → Nat} {u c : Nat}
    (hp : l'.Perm (l.map fun sc => (σ sc.1, sc.2))) (hinj : ∀ sc ∈ l, σ sc.1 = σ u → sc.1 = u) :
    (σ u, c) ∈ l' ↔ (u, c) ∈ l := by
  rw [hp.mem_iff, List.mem_map]
  constructor
  · rintro ⟨sc, hsc, e⟩
    simp only [Prod.mk.injEq] at e
    rw [← hinj sc hsc e.1, ← e.2]
    exact hsc
  · exact fun h => ⟨(u, c), h, rfl⟩

theorem viewBip_iso_of_sameUpToNames' (sel : SelD) (stoich : Bool) (N N' : Net)
    (hsel : ∀ k ∈ sel.nodeKeys, k = "kind" ∨ k = "bipartite")
    (hN : N.WF) (hN' : N'.WF) (h : SameUpToNames N N') :
    ∃ f, IsIsoF sel (viewBip stoich N') (viewBip stoich N) f := by
  obtain ⟨hlen, σ, hσ1, hσ2, rs, hperm, hrl, hz⟩ := h
  obtain ⟨τ, hτ, hτinj⟩ := perm_index rs N'.rxns hperm (List.Nodup.of_map _ hN'.2)
  have hR : ∀ n j : Nat, ¬ n + j < n := fun n j => Nat.not_lt.2 (Nat.le_add_right n j)
  obtain ⟨f, hf1, hf2⟩ : ∃ f : Nat → Nat, (∀ v, v < N.labels.length → f v = σ v) ∧
      ∀ j, f (N.labels.length + j) = N'.labels.length + τ j :=
    ⟨fun v => if v < N.labels.length then σ v else N'.labels.length + τ (v - N.labels.length),
      fun v hv => if_pos hv, fun j => by
        show (if _ then _ else _) = _
        rw [if_neg (hR _ j), Nat.add_sub_cancel_left]⟩
  have hfS : ∀ v, v < N.labels.length → f v < N'.labels.length := fun v hv => hf1 v hv ▸ hlen ▸ hσ1 v hv
  have hfR : ∀ j, ¬ f (N.labels.length + j) < N'.labels.length := fun j => hf2 j ▸ hR _ _
  have hcases : ∀ p ∈ (viewBip stoich N).ids, p < N.labels.length ∨
      ∃ j r r', p = N.labels.length + j ∧ j < rs.length ∧ N.rxns[j]? = some r ∧ N'.rxns[τ j]? = some r' ∧
        r'.rule = r.rule ∧ r'.reactants.Perm (r.reactants.map fun sc => (σ sc.1, sc.2)) ∧
        r'.products.Perm (r.products.map fun sc => (σ sc.1, sc.2)) := by
    intro p hp
    rw [bip_mem_ids] at hp
    refine (Nat.lt_or_ge p N.labels.length).imp_right fun h => ?_
    have hj : p - N.labels.length < N.rxns.length := by omega
    have hjl : p - N.labels.length < rs.length := hrl ▸ hj
    exact ⟨_, _, rs[p - N.labels.length], by omega, hjl, List.getElem?_eq_getElem hj,
      hτ _ _ (List.getElem?_eq_getElem hjl), hz (_, _) (List.mem_iff_getElem?.2
        ⟨_, List.getElem?_zip_eq_some.2 ⟨List.getElem?_eq_getElem hj, List.getElem?_eq_getElem hjl⟩⟩)⟩
  refine ⟨f, ?_, ?_, ?_, ?_, ?_⟩
  · intro p hp q hq e
    rcases hcases p hp with h1 | ⟨i, _, _, rfl, hi, -⟩ <;> rcases hcases q hq with h2 | ⟨j, _, _, rfl, hj, -⟩
    · rw [hf1 p h1, hf1 q h2] at e; exact hσ2 p h1 q h2 e
    · exact absurd (e ▸ hfS p h1) (hfR j)
    · exact absurd (e ▸ hfS q h2) (hfR i)
    · rw [hf2, hf2] at e
      rw [hτinj i hi j hj (Nat.add_left_cancel e)]
  · intro p hp
    rw [bip_mem_ids]
    rcases hcases p hp with h1 | ⟨j, r, r', rfl, -, -, g1, -⟩
    · exact Nat.lt_add_right _ (hfS p h1)
    · rw [hf2]
      exact Nat.add_lt_add_left (List.getElem?_eq_some_iff.1 g1).1 _
  · rw [bip_ids, bip_ids, List.length_range', List.length_range', hlen, ← hperm.length_eq, hrl]
  · intro p hp
    rcases hcases p hp with h1 | ⟨j, r, r', rfl, -, hj, g1, g2, -⟩
    · rw [hf1 p h1, bip_attrs_sp stoich N (List.getElem?_eq_getElem h1),
        bip_attrs_sp stoich N' (List.getElem?_eq_getElem (hlen ▸ hσ1 p h1))]
      exact (nodeOkD_iff ..).2 (List.map_congr_left fun k hk => spAttrsBip_get_eq _ _ k (hsel k hk))
    · rw [hf2, bip_attrs_rx stoich N' g1, bip_attrs_rx stoich N hj, g2]
      exact nodeOkD_refl _ _
  · intro p hp q hq
    suffices ∀ a, (f p, f q, a) ∈ (viewBip stoich N').edges ↔ (p, q, a) ∈ (viewBip stoich N).edges by
      rw [Option.ext fun a => (arc?_eq_some_iff _ (bip_funEdges stoich N' hN') _ _ a).trans
        ((this a).trans (arc?_eq_some_iff _ (bip_funEdges stoich N hN) _ _ a).symm)]
      exact arcOkD_refl _ _
    intro a
    rcases hcases p hp with h1 | ⟨i, r, r', rfl, -, hi, g1, -, g3, g4⟩ <;>
      rcases hcases q hq with h2 | ⟨j, r₂, r₂', rfl, -, hj, k1, -, k3, k4⟩
    · exact iff_of_false (fun h => (bip_edge_kinds _ _ hN' h).2.2 (iff_of_true (hfS p h1) (hfS q h2)))
        fun h => (bip_edge_kinds _ _ hN h).2.2 (iff_of_true h1 h2)
    · obtain ⟨c1, -⟩ := wf_bound hN hj
      rw [hf1 p h1, hf2, bip_edge_sp_rx stoich N' (hlen ▸ hσ1 p h1) k1, bip_edge_sp_rx stoich N h1 hj]
      exact exists_congr fun c => and_congr_left fun _ =>
        side_mem_iff k3 fun sc hsc e => hσ2 _ (c1 sc hsc) _ h1 e
    · obtain ⟨-, c2, -⟩ := wf_bound hN hi
      rw [hf2, hf1 q h2, bip_edge_rx_sp stoich N' (hlen ▸ hσ1 q h2) g1, bip_edge_rx_sp stoich N h2 hi]
      exact exists_congr fun c => and_congr_left fun _ =>
        side_mem_iff g4 fun sc hsc e => hσ2 _ (c2 sc hsc) _ h2 e
    · exact iff_of_false (fun h => (bip_edge_kinds _ _ hN' h).2.2 (iff_of_false (hfR i) (hfR j)))
        fun h => (bip_edge_kinds _ _ hN h).2.2 (iff_of_false (hR _ i) (hR _ j))

/-! Species view.  `speciesArcs` is a fold of keyed upserts on the pair `(u, v)` (`Core/Upsert.lean`), so every arc is
built from the loop steps of its pair; what matters of it here is that the aggregated coefficients `stoich_r` /
`stoich_p` are the minima over those steps, hence invariant under renaming. -/

/-- One `(reaction, reactant, product)` triple of the exporter's loop. -/
abbrev Step := Rxn × (Nat × Nat) × (Nat × Nat)

def arcKey (a : SArc) : Nat × Nat := (a.u, a.v)
def stepKey (t : Step) : Nat × Nat := (t.2.1.1, t.2.2.1)

def updArc (t : Step) (a : SArc) : SArc :=
  { a with via := setAdd a.via t.1.id, rules := setAdd a.rules t.1.rule,
           srMap := Dict.set a.srMap t.1.id t.2.1.2, spMap := Dict.set a.spMap t.1.id t.2.2.2,
           sr := min a.sr t.2.1.2, sp := min a.sp t.2.2.2 }

def newArc (t : Step) : SArc :=
  { u := t.2.1.1, v := t.2.2.1, via := [t.1.id], rules := [t.1.rule], sr := t.2.1.2, sp := t.2.2.2,
    srMap := [(t.1.id, t.2.1.2)], spMap := [(t.1.id, t.2.2.2)] }

def triples (N : Net) : List Step :=
  N.rxns.flatMap fun e => e.reactants.flatMap fun rc => e.products.map fun pc => (e, rc, pc)

/-- `addPair` rewrites EVERY arc of the pair, `upsertBy` the first: the same while the pairs are distinct. -/
theorem addPair_eq_upsert {arcs : List SArc} (hn : (arcs.map arcKey).Nodup) (t : Step) :
    addPair arcs t.1.id t.1.rule t.2.1.1 t.2.1.2 t.2.2.1 t.2.2.2 =
      Core.upsertBy arcKey (stepKey t) (updArc t) (newArc t) arcs := by
  have hk : ∀ a : SArc, (a.u = t.2.1.1 ∧ a.v = t.2.2.1) ↔ arcKey a = stepKey t := fun a => by
    simp only [arcKey, stepKey, Prod.mk.injEq]
  have hany : (arcs.any fun a => a.u = t.2.1.1 ∧ a.v = t.2.2.1) = true ↔ stepKey t ∈ arcs.map arcKey := by
    simp only [List.any_eq_true, decide_eq_true_eq, hk, List.mem_map]
  unfold addPair
  split
  · next h =>
    rw [Core.upsertBy_eq_map hn, if_pos (hany.1 h), List.append_nil]
    exact List.map_congr_left fun a _ => if_congr (hk a) rfl rfl
  · next h =>
    rw [Core.upsertBy_of_not_mem fun h' => h (hany.2 h')]
    rfl

theorem speciesArcs_eq_foldl (N : Net) : speciesArcs N = (triples N).foldl
    (fun arcs t => addPair arcs t.1.id t.1.rule t.2.1.1 t.2.1.2 t.2.2.1 t.2.2.2) [] := by
  simp only [speciesArcs, triples, List.foldl_flatMap, List.foldl_map]

theorem grouped_speciesArcs (N : Net) :
    Core.Grouped arcKey stepKey updArc newArc (triples N) (speciesArcs N) := by
  rw [speciesArcs_eq_foldl]
  exact Core.grouped_foldl (fun _ t hn => addPair_eq_upsert hn t) (fun _ => rfl) (fun _ _ => rfl) _

def Tri (N : Net) (u c v d : Nat) : Prop :=
  ∃ e ∈ N.rxns, (u, c) ∈ e.reactants ∧ (v, d) ∈ e.products

theorem mem_triples {N : Net} {t : Step} :
    t ∈ triples N ↔ t.1 ∈ N.rxns ∧ t.2.1 ∈ t.1.reactants ∧ t.2.2 ∈ t.1.products := by
  simp only [triples, List.mem_flatMap, List.mem_map]
  constructor
  · rintro ⟨e, he, rc, hrc, pc, hpc, rfl⟩
    exact ⟨he, hrc, hpc⟩
  · exact fun ⟨he, hrc, hpc⟩ => ⟨_, he, _, hrc, _, hpc, rfl⟩

theorem tri_iff_group {N : Net} {a : SArc} {c d : Nat} :
    Tri N a.u c a.v d ↔ ∃ t ∈ Core.group stepKey (triples N) (arcKey a), t.2.1.2 = c ∧ t.2.2.2 = d := by
  simp only [Core.mem_group, mem_triples, stepKey, arcKey, Prod.mk.injEq]
  constructor
  · rintro ⟨e, he, hrc, hpc⟩
    exact ⟨(e, (a.u, c), (a.v, d)), ⟨⟨he, hrc, hpc⟩, rfl, rfl⟩, rfl, rfl⟩
  · rintro ⟨⟨e, ⟨u, c'⟩, ⟨v, d'⟩⟩, ⟨⟨he, hrc, hpc⟩, rfl, rfl⟩, rfl, rfl⟩
    exact ⟨e, he, hrc, hpc⟩

theorem minOf_speciesArcs (N : Net) : ∀ a ∈ speciesArcs N,
    Core.IsMinOf a.sr (fun c => ∃ d, Tri N a.u c a.v d) ∧ Core.IsMinOf a.sp (fun d => ∃ c, Tri N a.u c a.v d) := by
  intro a ha
  have G := grouped_speciesArcs N
  exact ⟨(G.isMinOf SArc.sr (·.2.1.2) (fun _ => rfl) (fun _ _ => rfl) a ha).congr fun c =>
      ⟨fun ⟨_, ht⟩ => (tri_iff_group.1 ht).imp fun _ h => ⟨h.1, h.2.1⟩,
        fun ⟨t, ht, hc⟩ => ⟨t.2.2.2, tri_iff_group.2 ⟨t, ht, hc, rfl⟩⟩⟩,
    (G.isMinOf SArc.sp (·.2.2.2) (fun _ => rfl) (fun _ _ => rfl) a ha).congr fun d =>
      ⟨fun ⟨_, ht⟩ => (tri_iff_group.1 ht).imp fun _ h => ⟨h.1, h.2.2⟩,
        fun ⟨t, ht, hd⟩ => ⟨t.2.1.2, tri_iff_group.2 ⟨t, ht, rfl, hd⟩⟩⟩⟩

theorem sp_ids (N : Net) : (viewSpecies N).ids = List.range' 0 N.labels.length := by
  unfold viewSpecies LGraph.ids
  simp only [List.map_map]
  rw [← List.zipIdx_map_snd 0 N.labels]; rfl

theorem sp_mem_ids (N : Net) (v : Nat) : v ∈ (viewSpecies N).ids ↔ v < N.labels.length := by
  rw [sp_ids, List.mem_range'_1]; omega

theorem sp_ids_nodup (N : Net) : (viewSpecies N).ids.Nodup := by
  rw [sp_ids]; exact List.nodup_range' 1

theorem sp_attrs (N : Net) {p : Nat} (hp : p < N.labels.length) :
    (viewSpecies N).attrs p = [("label", .str N.labels[p]), ("kind", .str "species")] := by
  apply LGraph.attrs_of_mem (sp_ids_nodup N)
  unfold viewSpecies
  exact List.mem_map.mpr ⟨(N.labels[p], p), List.mem_zipIdx_iff_getElem?.mpr (List.getElem?_eq_getElem hp), rfl⟩

theorem sp_mem_edges (N : Net) (u v : Nat) (a : Attrs) :
    (u, v, a) ∈ (viewSpecies N).edges ↔ ∃ x ∈ speciesArcs N, u = x.u ∧ v = x.v ∧ a = x.attrs := by
  simp only [viewSpecies, List.mem_map, Prod.mk.injEq, eq_comm (a := u), eq_comm (a := v), eq_comm (a := a)]

theorem sp_arc_ne_none_iff (N : Net) (u v : Nat) :
    (viewSpecies N).arc? u v ≠ none ↔ ∃ c d, Tri N u c v d := by
  rw [Ne, LGraph.arc?_eq_none_iff]
  simp only [sp_mem_edges, not_forall, not_not]
  constructor
  · rintro ⟨_, x, hx, rfl, rfl, -⟩
    exact ⟨x.sr, (minOf_speciesArcs N x hx).1.1⟩
  · rintro ⟨c, d, e, he, hrc, hpc⟩
    obtain ⟨x, hx, hk⟩ := List.mem_map.1
      ((grouped_speciesArcs N).cover (e, (u, c), (v, d)) (mem_triples.2 ⟨he, hrc, hpc⟩))
    rw [arcKey, stepKey, Prod.mk.injEq] at hk
    exact ⟨x.attrs, x, hx, hk.1.symm, hk.2.symm, rfl⟩

theorem viewSpecies_wfd' (N : Net) (hN : N.WF) : WFD (viewSpecies N) := by
  refine ⟨sp_ids_nodup N, ?_⟩
  rintro ⟨u, v, a⟩ he
  obtain ⟨x, hx, rfl, rfl, -⟩ := (sp_mem_edges N u v a).1 he
  obtain ⟨d, e, he, hrc, hpc⟩ := (minOf_speciesArcs N x hx).1.1
  obtain ⟨hb, -⟩ := hN.1 e he
  simp only [sp_mem_ids]
  exact ⟨(hb _ (List.mem_append_left _ hrc)).1, (hb _ (List.mem_append_right _ hpc)).1⟩

theorem sarc_get_none (x : SArc) (k : String)
    (hk : k ∉ ["via", "rules", "stoich_r", "stoich_p", "stoich_r_map", "stoich_p_map"]) :
    x.attrs.get k = Val.none := by
  simp only [List.mem_cons, List.not_mem_nil, or_false, not_or] at hk
  obtain ⟨h1, h2, h3, h4, h5, h6⟩ := hk
  simp [SArc.attrs, Attrs.get, Dict.getD, Dict.get?, Ne.symm h1, Ne.symm h2, Ne.symm h3, Ne.symm h4,
    Ne.symm h5, Ne.symm h6]

theorem sarc_get_eq (x y : SArc) (hsr : x.sr = y.sr) (hsp : x.sp = y.sp) (k : String)
    (hk : k ∉ ["via", "rules", "stoich_r_map", "stoich_p_map"]) :
    x.attrs.get k = y.attrs.get k := by
  simp only [List.mem_cons, List.not_mem_nil, or_false, not_or] at hk
  obtain ⟨h1, h2, h5, h6⟩ := hk
  by_cases h3 : k = "stoich_r"
  · subst h3
    simp [SArc.attrs, Attrs.get, Dict.getD, Dict.get?, hsr]
  · by_cases h4 : k = "stoich_p"
    · subst h4
      simp [SArc.attrs, Attrs.get, Dict.getD, Dict.get?, hsp]
    · rw [sarc_get_none x k (by simp [h1, h2, h3, h4, h5, h6]),
        sarc_get_none y k (by simp [h1, h2, h3, h4, h5, h6])]

/-- Read through keys other than `via`, `rules` and the two per-reaction maps, the arc `u → v` of the species view is a
function of the quadruples of `(u, v)`: present iff there is one, and then `stoich_r`, `stoich_p` are their minima. -/
theorem sp_arc_congr (sel : SelD) (hselE : ∀ k ∈ sel.edgeKeys, k ∉ ["via", "rules", "stoich_r_map", "stoich_p_map"])
    {N N' : Net} {u v u' v' : Nat} (h : ∀ c d, Tri N' u' c v' d ↔ Tri N u c v d) :
    arcOkD sel ((viewSpecies N').arc? u' v') ((viewSpecies N).arc? u v) = true := by
  have hcorr : (viewSpecies N').arc? u' v' ≠ none ↔ (viewSpecies N).arc? u v ≠ none := by
    rw [sp_arc_ne_none_iff, sp_arc_ne_none_iff]
    exact exists_congr fun c => exists_congr fun d => h c d
  cases hH : (viewSpecies N').arc? u' v' <;> cases hP : (viewSpecies N).arc? u v <;> rw [hH, hP] at hcorr
  · rfl
  · exact absurd (hcorr.2 (by simp)) (by simp)
  · exact absurd (hcorr.1 (by simp)) (by simp)
  · rename_i a b
    obtain ⟨x, hx, rfl, rfl, rfl⟩ := (sp_mem_edges N' _ _ a).1 (LGraph.arc?_some_mem hH)
    obtain ⟨y, hy, rfl, rfl, rfl⟩ := (sp_mem_edges N _ _ b).1 (LGraph.arc?_some_mem hP)
    have hx' := minOf_speciesArcs N' x hx
    have hy' := minOf_speciesArcs N y hy
    rw [arcOkD_some_iff]
    exact List.map_congr_left fun k hk =>
      sarc_get_eq x y ((hy'.1.congr fun c => exists_congr fun d => h c d).unique hx'.1).symm
        ((hy'.2.congr fun d => exists_congr fun c => h c d).unique hx'.2).symm k (hselE k hk)

theorem viewSpecies_iso_of_sameUpToNames_stoich' (sel : SelD) (N N' : Net)
    (hselN : ∀ k ∈ sel.nodeKeys, k = "kind")
    (hselE : ∀ k ∈ sel.edgeKeys, k ∉ ["via", "rules", "stoich_r_map", "stoich_p_map"])
    (hN : N.WF) (h : SameUpToNames N N') :
    ∃ f, IsIsoF sel (viewSpecies N') (viewSpecies N) f := by
  obtain ⟨hlen, σ, hσ1, hσ2, rs, hperm, hrl, hz⟩ := h
  have hTri : ∀ p c q d, p < N.labels.length → q < N.labels.length →
      (Tri N' (σ p) c (σ q) d ↔ Tri N p c q d) := by
    intro p c q d hp hq
    have hside : ∀ e e', (e, e') ∈ N.rxns.zip rs →
        (((σ p, c) ∈ e'.reactants ∧ (σ q, d) ∈ e'.products) ↔ ((p, c) ∈ e.reactants ∧ (q, d) ∈ e.products)) := by
      intro e e' hm
      obtain ⟨-, h3, h4⟩ := hz _ hm
      obtain ⟨hb, -⟩ := hN.1 e (List.of_mem_zip hm).1
      exact and_congr (side_mem_iff h3 fun sc hsc => hσ2 _ (hb sc (List.mem_append_left _ hsc)).1 _ hp)
        (side_mem_iff h4 fun sc hsc => hσ2 _ (hb sc (List.mem_append_right _ hsc)).1 _ hq)
    constructor
    · rintro ⟨e', he', h⟩
      obtain ⟨e, hm⟩ := Core.exists_mem_zip_right hrl.symm (hperm.mem_iff.2 he')
      exact ⟨e, (List.of_mem_zip hm).1, (hside e e' hm).1 h⟩
    · rintro ⟨e, he, h⟩
      obtain ⟨e', hm⟩ := Core.exists_mem_zip_left hrl.symm he
      exact ⟨e', hperm.mem_iff.1 (List.of_mem_zip hm).2, (hside e e' hm).2 h⟩
  refine ⟨σ, ?_, ?_, ?_, ?_, ?_⟩
  · intro p hp q hq e
    rw [sp_mem_ids] at hp hq
    exact hσ2 p hp q hq e
  · intro p hp
    rw [sp_mem_ids] at hp ⊢
    rw [hlen]; exact hσ1 p hp
  · rw [sp_ids, sp_ids, List.length_range', List.length_range', hlen]
  · intro p hp
    rw [sp_mem_ids] at hp
    rw [sp_attrs N hp, sp_attrs N' (hlen ▸ hσ1 p hp)]
    refine (nodeOkD_iff ..).2 (List.map_congr_left fun k hk => ?_)
    rw [hselN k hk]
    simp [Attrs.get, Dict.getD, Dict.get?]
  · intro p hp q hq
    rw [sp_mem_ids] at hp hq
    exact sp_arc_congr sel hselE fun c d => hTri p c q d hp hq

set_option linter.unusedVariables false in
theorem viewSpecies_iso_of_sameUpToNames' (sel : SelD) (N N' : Net)
    (hselN : ∀ k ∈ sel.nodeKeys, k = "kind")
    (hselE : ∀ k ∈ sel.edgeKeys, k ∉ ["via", "rules", "stoich_r", "stoich_p", "stoich_r_map", "stoich_p_map"])
    (hN : N.WF) (hN' : N'.WF) (h : SameUpToNames N N') :
    ∃ f, IsIsoF sel (viewSpecies N') (viewSpecies N) f :=
  viewSpecies_iso_of_sameUpToNames_stoich' sel N N' hselN
    (fun k hk hmem => hselE k hk
      ((List.Sublist.cons_cons _ <| .cons_cons _ <| .cons _ <| .cons _ <| .refl _).subset hmem)) hN h

def GoodVal (v : Val) : Prop := v ≠ Val.none ∧ v ≠ Val.str ""

theorem get?_good {a : Attrs} (h : ∀ kv ∈ a, GoodVal kv.2) (k : String) :
    Dict.get? a k ≠ some Val.none ∧ Dict.get? a k ≠ some (.str "") := by
  cases hx : Dict.get? a k with
  | none => simp
  | some v =>
    have := h _ (Dict.get?_some_mem a k v hx)
    simp only [ne_eq, Option.some.injEq]
    exact this

theorem arcAttrsBip_good (s : Bool) (c : Nat) {role : String} (hr : role ≠ "") :
    ∀ kv ∈ arcAttrsBip s c role, GoodVal kv.2 := by
  intro kv hkv
  have : kv.2 = natVal c ∨ kv.2 = .str role := by
    cases s <;> simp [arcAttrsBip] at hkv
    · exact Or.inr (by rw [hkv])
    · exact hkv.imp (fun h => by rw [h]) fun h => by rw [h]
  rcases this with h | h <;> simp [h, GoodVal, natVal, hr]

theorem crnAttrOK_viewBip (sel : SelD) (stoich : Bool) (N : Net)
    (hsel : ∀ k ∈ sel.nodeKeys, k = "kind" ∨ k = "bipartite") : CrnAttrOK sel (viewBip stoich N) := by
  constructor
  · intro p hp k hk
    simp only [viewBip, List.mem_append, List.mem_map] at hp
    rcases hp with ⟨li, _, rfl⟩ | ⟨rj, _, rfl⟩
    · rcases hsel k hk with rfl | rfl <;> simp [spAttrsBip, Dict.get?, natVal]
    · rcases hsel k hk with rfl | rfl <;> simp [rxAttrsBip, Dict.get?, natVal]
  · intro e he k hk
    obtain ⟨c, role, hrole, ea⟩ : ∃ c role, role ≠ "" ∧ e.2.2 = arcAttrsBip stoich c role := by
      obtain ⟨r, j, -, ⟨sc, -, -, -, ea⟩ | ⟨sc, -, -, -, ea⟩⟩ := (bip_mem_edges stoich N e.1 e.2.1 e.2.2).1 he
      exacts [⟨_, _, by decide, ea⟩, ⟨_, _, by decide, ea⟩]
    rw [ea]
    have h1 := get?_good (arcAttrsBip_good stoich c hrole) k
    refine ⟨h1.1, h1.2, ?_⟩
    rintro rfl
    cases stoich <;> simp [arcAttrsBip, Dict.get?, valIsTup]

theorem crnAttrOK_viewSpecies (sel : SelD) (N : Net) (hselN : ∀ k ∈ sel.nodeKeys, k = "kind") :
    CrnAttrOK sel (viewSpecies N) := by
  constructor
  · intro p hp k hk
    simp only [viewSpecies, List.mem_map] at hp
    obtain ⟨li, _, rfl⟩ := hp
    rw [hselN k hk]
    simp [Dict.get?]
  · intro e he k hk
    obtain ⟨a, -, -, -, ea⟩ := (sp_mem_edges N e.1 e.2.1 e.2.2).1 he
    rw [ea]
    have hgood : ∀ kv ∈ a.attrs, GoodVal kv.2 := by
      intro kv hkv
      simp only [SArc.attrs, List.mem_cons, List.not_mem_nil, or_false] at hkv
      rcases hkv with rfl | rfl | rfl | rfl | rfl | rfl <;> simp [GoodVal, natVal, strTup, mapTup]
    have h1 := get?_good hgood k
    refine ⟨h1.1, h1.2, ?_⟩
    rintro rfl
    simp [SArc.attrs, Dict.get?, valIsTup]

end SynKit.CrnCanon
