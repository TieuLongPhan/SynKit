import SynKitModel.ViewsClaim
/-!
# C16 claim conditions: the decidable forms of `SynKitModel/ViewsClaim.lean` are the hypotheses of the theorems
-/
namespace SynKit.Views.Raw

theorem all2_iff {α β : Type} (r : α → β → Bool) (l : List α) (l' : List β) :
    all2 r l l' = true ↔ l.length = l'.length ∧ ∀ z ∈ l.zip l', r z.1 z.2 = true := by
  induction l generalizing l' with
  | nil => cases l' <;> simp [all2]
  | cons a as ih =>
    cases l' with
    | nil => simp [all2]
    | cons b bs =>
      simp only [all2, Bool.and_eq_true, ih, List.length_cons, Nat.add_right_cancel_iff,
        List.zip_cons_cons, List.mem_cons, forall_eq_or_imp]
      constructor
      · rintro ⟨h1, h2, h3⟩; exact ⟨h2, h1, h3⟩
      · rintro ⟨h2, h1, h3⟩; exact ⟨h1, h2, h3⟩

theorem all2_zip {α β : Type} (r : α → β → Bool) (l : List α) (l' : List β) (h : all2 r l l' = true) :
    l = (l.zip l').map Prod.fst ∧ l' = (l.zip l').map Prod.snd ∧ ∀ z ∈ l.zip l', r z.1 z.2 = true := by
  obtain ⟨hl, hz⟩ := (all2_iff r l l').1 h
  refine ⟨?_, ?_, hz⟩
  · rw [List.map_fst_zip]; omega
  · rw [List.map_snd_zip]; omega

theorem all2_mem_left {α β : Type} (r : α → β → Bool) (l : List α) (l' : List β)
    (h : all2 r l l' = true) : ∀ a ∈ l, ∃ a' ∈ l', r a a' = true := by
  obtain ⟨h1, _, hz⟩ := all2_zip r l l' h
  intro a ha
  rw [h1] at ha
  obtain ⟨z, hzm, rfl⟩ := List.mem_map.1 ha
  exact ⟨z.2, (List.of_mem_zip hzm).2, hz z hzm⟩

theorem all2_mem_right {α β : Type} (r : α → β → Bool) (l : List α) (l' : List β)
    (h : all2 r l l' = true) : ∀ a' ∈ l', ∃ a ∈ l, r a a' = true := by
  obtain ⟨_, h2, hz⟩ := all2_zip r l l' h
  intro a' ha'
  rw [h2] at ha'
  obtain ⟨z, hzm, rfl⟩ := List.mem_map.1 ha'
  exact ⟨z.1, (List.of_mem_zip hzm).1, hz z hzm⟩

theorem all2_map_self {α β : Type} (r : α → β → Bool) (φ : α → β) (l : List α)
    (h : ∀ a ∈ l, r a (φ a) = true) : all2 r l (l.map φ) = true := by
  induction l with
  | nil => rfl
  | cons x xs ih =>
    simp only [List.map_cons, all2, Bool.and_eq_true]
    exact ⟨h x List.mem_cons_self, ih (fun a ha => h a (List.mem_cons_of_mem _ ha))⟩

theorem all2_map_left {α β γ : Type} (r : β → γ → Bool) (h : α → β) (l : List α) (l' : List γ) :
    all2 r (l.map h) l' = all2 (fun a b => r (h a) b) l l' := by
  induction l generalizing l' with
  | nil => cases l' <;> rfl
  | cons a l ih =>
    cases l' with
    | nil => rfl
    | cons b l' => simp only [List.map_cons, all2, ih]

theorem wfSideB_iff (m : Side) : wfSideB m = true ↔ WfSide m := by
  unfold wfSideB WfSide
  simp only [Bool.and_eq_true, decide_eq_true_eq, List.all_eq_true]

theorem wfNetB_iff (N : Net) : wfNetB N = true ↔ WfNet N := by
  unfold wfNetB
  simp only [Bool.and_eq_true, decide_eq_true_eq, List.all_eq_true, wfSideB_iff, Bool.or_eq_true,
    Bool.not_eq_true', List.isEmpty_eq_false_iff]
  constructor
  · rintro ⟨⟨⟨h1, h2⟩, h3⟩, h4⟩
    exact ⟨h1, fun e he => ⟨(h2 e he).1.1.1, (h2 e he).1.1.2⟩, fun e he => (h2 e he).1.2,
      fun e he => (h2 e he).2, h3, h4⟩
  · intro h
    exact ⟨⟨⟨h.idsNodup, fun e he => ⟨⟨h.sides e he, h.nonEmpty e he⟩, h.rules e he⟩⟩, h.speciesNodup⟩,
      h.speciesSup⟩

theorem noIdClashB_iff (f : BipFlags) (N : Net) : noIdClashB f N = true ↔ NoIdClash f N := by
  unfold noIdClashB NoIdClash
  simp only [Bool.or_eq_true, List.all_eq_true, decide_eq_true_eq]

theorem allOnesB_iff (N : Net) : allOnesB N = true ↔ AllOnes N := by
  unfold allOnesB AllOnes
  simp only [List.all_eq_true, Bool.and_eq_true, decide_eq_true_eq]

theorem stoichKeptB_iff (f : BipFlags) (N : Net) : stoichKeptB f N = true ↔ StoichKept f N := by
  unfold stoichKeptB StoichKept
  rw [Bool.or_eq_true, allOnesB_iff]
  rfl

theorem twoSidedB_iff (N : Net) : twoSidedB N = true ↔ TwoSided N := by
  unfold twoSidedB TwoSided
  simp only [List.all_eq_true, Bool.and_eq_true, Bool.not_eq_true', List.isEmpty_eq_false_iff]

theorem wfRuleB_iff (r : String) : wfRuleB r = true ↔ WfRule r := by
  unfold wfRuleB WfRule
  simp only [Bool.and_eq_true, decide_eq_true_eq, List.all_eq_true, Bool.not_eq_eq_eq_not, Bool.not_true]

theorem wfLabelsB_iff (m : Side) : wfLabelsB m = true ↔ WfLabels m := by
  unfold wfLabelsB WfLabels
  simp only [List.all_eq_true]

theorem wfStrNetB_iff (N : Net) : wfStrNetB N = true ↔ WfStrNet N := by
  unfold wfStrNetB
  simp only [List.all_eq_true, Bool.and_eq_true, wfSideB_iff, Bool.or_eq_true, Bool.not_eq_true',
    List.isEmpty_eq_false_iff, wfLabelsB_iff, wfRuleB_iff]
  constructor
  · intro h
    exact ⟨fun e he => ⟨(h e he).1.1.1.1.1, (h e he).1.1.1.1.2⟩, fun e he => (h e he).1.1.1.2,
      fun e he => ⟨(h e he).1.1.2, (h e he).1.2⟩, fun e he => (h e he).2⟩
  · intro h e he
    exact ⟨⟨⟨⟨h.sides e he, h.nonEmpty e he⟩, (h.labels e he).1⟩, (h.labels e he).2⟩, h.rules e he⟩

end SynKit.Views.Raw
