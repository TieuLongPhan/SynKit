import SynKitModel.NautyIR
import SynKitProofs.CanonOrder
import SynKitProofs.IRSearch
import SynKitProofs.Core.Graph
/-!
# The individualisation–refinement search of `nauty.py` as an instance; pruning is sound, the search is a fold over leaves

`irSys G` is the `IRSys` of the model: `irRefine`, `irLeaves`, `irSearch` are its `refine`, `leaves` and `gSearch` with the
leaf case `irUpd` and the prune test `irPr`.  It is lawful, the initial partition is a partition of the node list and the
fuel `N + 1` exceeds the number of cells a partition can have, so (`IRTree`) every leaf of the search tree orders all nodes
and the tree has a leaf.  `IRSig.lt` and `IRLabel.lt` are strict total orders.  The node segment of a prefix is a prefix of
the node segment of every leaf label below it, so for a strict total `lt` and a sound `pgt` (`IRPruneSound`) a pruned
branch holds no leaf that could replace `best` (`irPr_invisible`): with or without pruning the search is the fold of the
leaf case over the leaves (`gSearch_eq_fold`), which returns the first leaf with the least label.
-/
namespace SynKit.Canon

def irSys (G : LGraph) : IRSys IRSig :=
  { lt := IRSig.lt, sig := irSig G, fb := id, children := irChildren G, passes := G.nodes.length + 1 }

theorem irRefineLoop_eq (G : LGraph) : irRefineLoop G = refineLoop (irRefineStep G) := by
  funext k
  induction k with
  | zero => rfl
  | succ k ih => funext P; simp only [irRefineLoop, refineLoop, ih]

theorem irRefine_eq (G : LGraph) : irRefine G = (irSys G).refine := by
  funext P
  rw [irRefine, irRefineLoop_eq]
  rfl

theorem irLeaves_eq (G : LGraph) : irLeaves G = (irSys G).leaves := by
  funext fuel
  induction fuel with
  | zero => rfl
  | succ fuel ih => funext P pfx; simp only [irLeaves, IRSys.leaves, ih, irRefine_eq]; rfl

/-- The leaf case of `_search`. -/
def irUpd (lt : IRLabel → IRLabel → Bool) (G : LGraph) (b : IRBest) (l : List Nat × List Nat) : IRBest :=
  irUpdate lt b (irLeafLabel G l) l.2

theorem irUpd_cases (lt) (G : LGraph) (b : IRBest) (l : List Nat × List Nat) :
    irUpd lt G b l = some (irLeafLabel G l, l.2) ∨ irUpd lt G b l = b := by
  cases b with
  | none => exact Or.inl rfl
  | some p =>
    simp only [irUpd, irUpdate]
    split
    · exact Or.inl rfl
    · exact Or.inr rfl

/-- The test before the recursive call of `_search` (`prune = false`: the reference search). -/
def irPr (pgt : List (List Val) → IRLabel → Bool) (prune : Bool) (G : LGraph) (cp : List Nat) (b : IRBest) : Bool :=
  prune && irPruned pgt G cp b

theorem irSearch_eq (lt pgt) (prune : Bool) (G : LGraph) :
    irSearch lt pgt prune G = gSearch (irSys G) (irUpd lt G) (irPr pgt prune G) := by
  funext fuel
  induction fuel with
  | zero => rfl
  | succ fuel ih => funext P pfx b; simp only [irSearch, gSearch, ih, irRefine_eq]; rfl

theorem mem_irChildren (G : LGraph) (c : List Nat) (v : Nat) : v ∈ irChildren G c ↔ v ∈ c :=
  mem_sortBy _ _ _

theorem irSys_lawful (G : LGraph) : (irSys G).Lawful := ⟨fun _ => List.Perm.refl _, mem_irChildren G⟩

theorem irInitialPartition_ok (G : LGraph) : IRPartOK G.ids (irInitialPartition G) :=
  ⟨irSplitBy_flatten_perm _ _ _, irSplitBy_ne_nil _ _ _⟩

def irRootLeaves (G : LGraph) : List (List Nat × List Nat) :=
  irLeaves G (G.nodes.length + 1) (irInitialPartition G) []

theorem irRootLeaves_perm (G : LGraph) (hn : G.ids.Nodup) : ∀ l ∈ irRootLeaves G, l.2.Perm G.ids := by
  rw [irRootLeaves, irLeaves_eq]
  exact IRSys.leaves_order_perm (irSys_lawful G) hn _ _ _ (irInitialPartition_ok G)

theorem irRootLeaves_ne_nil (G : LGraph) (hn : G.ids.Nodup) : irRootLeaves G ≠ [] := by
  rw [irRootLeaves, irLeaves_eq]
  exact IRSys.leaves_ne_nil (irSys_lawful G) hn _ _ _ (irInitialPartition_ok G) (irFuel_lt G _)

theorem IRSig.ext' (a b : IRSig) (h1 : a.attrs = b.attrs) (h2 : a.degree = b.degree)
    (h3 : a.counts = b.counts) (h4 : a.edges = b.edges) : a = b := by
  cases a; cases b; simp_all

theorem IRSig.lt_strictTotal : StrictTotal IRSig.lt :=
  StrictTotal.pullback
    (lexIte_strictTotal Val.ltList (lexIte natLt (lexIte (ltLex natLt) (ltLex Val.ltList))) Val.ltList_strictTotal
      (lexIte_strictTotal natLt _ natLt_strictTotal
        (lexIte_strictTotal _ _ (ltLex_strictTotal natLt natLt_strictTotal)
          (ltLex_strictTotal Val.ltList Val.ltList_strictTotal))))
    (fun s : IRSig => (s.attrs, s.degree, s.counts, s.edges))
    (fun _ _ h => congrArg (fun p => IRSig.mk p.1 p.2.1 p.2.2.1 p.2.2.2) h) IRSig.lt fun _ _ => rfl

/-- `"0:" < "1:"`, then the tuples: the lexicographic order on `Option.toList`. -/
theorem irBitLt_strictTotal : StrictTotal irBitLt := by
  refine (ltLex_strictTotal _ Val.ltList_strictTotal).pullback Option.toList ?_ irBitLt ?_
  · intro a b h
    cases a <;> cases b <;> simp_all [Option.toList]
  · intro a b
    cases a <;> cases b <;> simp only [irBitLt, Option.toList, ltLex]
    cases Val.ltList _ _ <;> simp

theorem IRLabel.lt_strictTotal : StrictTotal IRLabel.lt :=
  StrictTotal.pullback
    (lexIte_strictTotal _ _ (ltLex_strictTotal _ Val.ltList_strictTotal) (ltLex_strictTotal _ irBitLt_strictTotal))
    (fun s : IRLabel => (s.nodes, s.edges)) (fun _ _ h => congrArg (fun p => IRLabel.mk p.1 p.2) h) IRLabel.lt
    fun _ _ => rfl

def IRPruneSound (lt : IRLabel → IRLabel → Bool) (pgt : List (List Val) → IRLabel → Bool) : Prop :=
  ∀ (seg : List (List Val)) (L best : IRLabel), seg <+: L.nodes → pgt seg best = true → lt best L = true

theorem irPartialGt_sound : IRPruneSound IRLabel.lt irPartialGt := by
  intro seg L best hseg h
  have := ltLex_take_of_prefix Val.ltList seg best.nodes L.nodes h hseg
  simp only [IRLabel.lt, this, if_true]

theorem irLeafLabel_nodeSeg_prefix (G : LGraph) (fuel : Nat) (P : List (List Nat)) (pfx : List Nat) :
    ∀ l ∈ irLeaves G fuel P pfx, irNodeSeg G pfx <+: (irLeafLabel G l).nodes := by
  rw [irLeaves_eq]
  intro l hl
  exact (((irSys G).leaves_prefix fuel P pfx l hl).trans (List.prefix_append _ _)).map _

/-- A sound test skips only branches that the fold ignores: every leaf below the prefix `cp` has a label whose node
segment starts with the node segment of `cp`, hence a label above `best`, and the leaf case keeps `best`. -/
theorem irPr_invisible (lt pgt) (hlt : StrictTotal lt) (hp : IRPruneSound lt pgt) (prune : Bool) (G : LGraph) :
    PruneInvisible (irUpd lt G) (irPr pgt prune G) := by
  intro cp b h ls hls
  simp only [irPr, Bool.and_eq_true] at h
  cases b with
  | none => exact absurd h.2 (by simp [irPruned])
  | some p =>
    obtain ⟨bl, bo⟩ := p
    refine Core.foldl_eq_self fun l hl => ?_
    have hl' : lt bl (irLeafLabel G l) = true :=
      hp _ _ _ (((hls l hl).trans (List.prefix_append _ _)).map _) h.2
    simp only [irUpd, irUpdate, hlt.asymm _ _ hl', Bool.false_eq_true, if_false]

def irFoldLeaves (lt : IRLabel → IRLabel → Bool) (G : LGraph) (ls : List (List Nat × List Nat)) (best : IRBest) : IRBest :=
  ls.foldl (fun b l => irUpdate lt b (irLeafLabel G l) l.2) best

theorem irFoldLeaves_nil (lt) (G : LGraph) (best : IRBest) : irFoldLeaves lt G [] best = best := rfl

theorem irFoldLeaves_cons (lt) (G : LGraph) (l : List Nat × List Nat) (ls : List (List Nat × List Nat))
    (best : IRBest) :
    irFoldLeaves lt G (l :: ls) best = irFoldLeaves lt G ls (irUpdate lt best (irLeafLabel G l) l.2) := rfl

theorem irSearch_eq_fold (lt pgt) (hlt : StrictTotal lt) (hp : IRPruneSound lt pgt) (prune : Bool) (G : LGraph)
    (fuel : Nat) (P : List (List Nat)) (pfx : List Nat) (best : IRBest) :
    irSearch lt pgt prune G fuel P pfx best = irFoldLeaves lt G (irLeaves G fuel P pfx) best := by
  rw [irSearch_eq, irLeaves_eq]
  exact gSearch_eq_fold (irPr_invisible lt pgt hlt hp prune G) fuel P pfx best

theorem irSearch_prune_eq_noprune (lt pgt) (hlt : StrictTotal lt) (hp : IRPruneSound lt pgt) (G : LGraph)
    (fuel : Nat) (P : List (List Nat)) (pfx : List Nat) (best : IRBest) :
    irSearch lt pgt true G fuel P pfx best = irSearch lt pgt false G fuel P pfx best := by
  rw [irSearch_eq_fold lt pgt hlt hp, irSearch_eq_fold lt pgt hlt hp]

/-- From the first leaf on, `best` is the image of the running minimum. -/
theorem irFoldLeaves_none_cons (lt) (G : LGraph) (l : List Nat × List Nat) (ls : List (List Nat × List Nat)) :
    irFoldLeaves lt G (l :: ls) none =
      some (irLeafLabel G (minBy (fun a b => lt (irLeafLabel G a) (irLeafLabel G b)) l ls),
            (minBy (fun a b => lt (irLeafLabel G a) (irLeafLabel G b)) l ls).2) :=
  List.foldl_hom (fun m : List Nat × List Nat => (some (irLeafLabel G m, m.2) : IRBest)) fun m y => by
    simp only [irUpdate]
    split <;> rfl

theorem irFoldLeaves_none_nil (lt) (G : LGraph) : irFoldLeaves lt G [] none = none := rfl

theorem irCanonWith_eq_fold (lt pgt) (hlt : StrictTotal lt) (hp : IRPruneSound lt pgt) (prune : Bool) (G : LGraph) :
    irCanonWith lt pgt prune G = irFoldLeaves lt G (irRootLeaves G) none :=
  irSearch_eq_fold lt pgt hlt hp prune G _ _ _ _

end SynKit.Canon
