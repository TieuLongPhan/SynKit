import SynKitModel.Match
import SynKitProofs.ClusterLemmas
import SynKitProofs.Match
import SynKitProofs.Core.Dict
import SynKitProofs.Core.Graph
/-!
# The isomorphism test of `GraphCluster()` / `BatchCluster()` (C13)

`clIso G H = isoDecide clSel (norm G) (norm H)` models `graph_isomorphism(g1, g2, nodeMatch, edgeMatch)` with
the matchers the two classes build: `generic_node_match(["element","charge"], ["*", 0], [eq, eq])` and
`generic_edge_match("order", 1, eq)`; no hydrogen rule.  `generic_*_match` reads `data.get(attr, default)`, the
engine reads `d.get(k)`, so `norm` writes each default under its ABSENT key (a key present with value `None`
stays `None`).
-/
namespace SynKit.Cluster

open SynKit.Match

def clSel : Sel := { nodeKeys := ["element", "charge"], edgeKeys := ["order"], hcountRule := false }

def withDefault (a : Attrs) (k : String) (v : Val) : Attrs := if Dict.contains a k then a else a ++ [(k, v)]

def normNode (a : Attrs) : Attrs := withDefault (withDefault a "element" (.str "*")) "charge" (.num 0)

/-- The default order `1` is `num 2`: numbers travel in half-units. -/
def normEdge (a : Attrs) : Attrs := withDefault a "order" (.num 2)

def norm (G : LGraph) : LGraph :=
  { nodes := G.nodes.map fun p => (p.1, normNode p.2)
    edges := G.edges.map fun e => (e.1, e.2.1, normEdge e.2.2) }

def clIso (G H : LGraph) : Bool := isoDecide clSel (norm G) (norm H)

theorem withDefault_eq (a : Attrs) (k : String) (v : Val) :
    withDefault a k v = if k ∈ Dict.keys a then a else Dict.set a k v := by
  unfold withDefault
  by_cases h : k ∈ Dict.keys a
  · rw [if_pos (Dict.contains_iff.2 h), if_pos h]
  · rw [if_neg (mt Dict.contains_iff.1 h), if_neg h, Dict.set_of_not_mem h]

theorem get_withDefault (a : Attrs) (k : String) (v : Val) :
    Attrs.get (withDefault a k v) k = Dict.getD a k v := by
  rw [withDefault_eq]
  split
  · rename_i h
    obtain ⟨x, hx⟩ := Dict.contains_iff_get?.1 (Dict.contains_iff.2 h)
    rw [Attrs.get, Dict.getD_of_get? hx, Dict.getD_of_get? hx]
  · rename_i h
    rw [Attrs.get_set_self, Dict.getD_of_not_mem h]

theorem getD_withDefault_other (a : Attrs) (k k' : String) (v w : Val) (hk : k ≠ k') :
    Dict.getD (withDefault a k v) k' w = Dict.getD a k' w := by
  rw [withDefault_eq]
  split
  · rfl
  · exact Dict.getD_set_other hk.symm

theorem nodeOk_norm_iff (a b : Attrs) :
    nodeOk clSel (normNode a) (normNode b) = true ↔
      Dict.getD a "element" (.str "*") = Dict.getD b "element" (.str "*") ∧
      Dict.getD a "charge" (.num 0) = Dict.getD b "charge" (.num 0) := by
  have he : ∀ a : Attrs, Attrs.get (normNode a) "element" = Dict.getD a "element" (.str "*") := by
    intro a
    unfold normNode
    rw [Attrs.get, getD_withDefault_other _ "charge" "element" _ _ (by decide)]
    exact get_withDefault _ _ _
  have hc : ∀ a : Attrs, Attrs.get (normNode a) "charge" = Dict.getD a "charge" (.num 0) := by
    intro a
    unfold normNode
    rw [get_withDefault, getD_withDefault_other _ "element" "charge" _ _ (by decide)]
  unfold nodeOk clSel
  simp only [List.all_cons, List.all_nil, Bool.and_true, Bool.not_false, Bool.true_or, Bool.and_eq_true,
    decide_eq_true_eq, he, hc]

theorem edgeOk_norm_iff (a b : Attrs) :
    edgeOk clSel (normEdge a) (normEdge b) = true ↔ Dict.getD a "order" (.num 2) = Dict.getD b "order" (.num 2) := by
  unfold edgeOk clSel normEdge
  simp only [List.all_cons, List.all_nil, Bool.and_true, decide_eq_true_eq, get_withDefault]

theorem norm_eq (G : LGraph) : norm G = G.mapAttrs (fun _ => normNode) normEdge := rfl

theorem norm_ids (G : LGraph) : (norm G).ids = G.ids := norm_eq G ▸ LGraph.ids_mapAttrs

theorem norm_nodes_length (G : LGraph) : (norm G).nodes.length = G.nodes.length := by
  unfold norm; simp

theorem norm_WF (G : LGraph) (hG : G.WF) : (norm G).WF := norm_eq G ▸ LGraph.wf_mapAttrs hG

theorem norm_relabel (G : LGraph) (f : Nat → Nat) : norm (G.relabel f) = (norm G).relabel f :=
  LGraph.mapAttrs_relabel normNode normEdge f

theorem clIso_iff (G H : LGraph) (hH : H.WF) : clIso G H = true ↔ ∃ m, IsIso clSel (norm G) (norm H) m :=
  isoDecide_iff clSel (norm G) (norm H) (norm_WF H hH)

theorem clIso_symm (G H : LGraph) (hG : G.WF) (hH : H.WF) : clIso G H = clIso H G :=
  isoDecide_symm clSel (norm G) (norm H) (norm_WF G hG) (norm_WF H hH) (Or.inl rfl)

theorem clIso_equivOn : IsEquivOn LGraph.WF clIso where
  refl := fun G hG => isoDecide_refl clSel (norm G) (norm_WF G hG)
  symm := fun G H hG hH h => by rw [← clIso_symm G H hG hH]; exact h
  trans := fun A B C _ hB hC => isoDecide_trans clSel (norm A) (norm B) (norm C) (norm_WF B hB) (norm_WF C hC)

theorem clIso_relabel_left (G H : LGraph) (hG : G.WF) (hH : H.WF) (f : Nat → Nat) (hf : Function.Injective f) :
    clIso (G.relabel f) H = clIso G H := by
  unfold clIso
  rw [norm_relabel]
  exact isoDecide_relabel_host clSel (norm G) (norm H) (norm_WF G hG) (norm_WF H hH) f hf

theorem clIso_relabel_right (G H : LGraph) (hH : H.WF) (f : Nat → Nat) (hf : Function.Injective f) :
    clIso G (H.relabel f) = clIso G H := by
  unfold clIso
  rw [norm_relabel]
  exact isoDecide_relabel_pattern clSel (norm G) (norm H) (norm_WF H hH) f hf

theorem clIso_relabel_self (G : LGraph) (hG : G.WF) (f : Nat → Nat) (hf : InjOnIds G f) :
    clIso (G.relabel f) G = true := by
  rw [clIso_iff _ G hG, norm_relabel]
  exact ⟨_, isIso_relabel clSel (norm G) (norm_WF G hG) f fun a ha b hb => hf a (norm_ids G ▸ ha) b (norm_ids G ▸ hb)⟩

end SynKit.Cluster
