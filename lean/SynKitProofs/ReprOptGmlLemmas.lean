import SynKitProofs.ReprOptLemmas
import SynKitProofs.GmlLemmas
import SynKitProofs.GmlReaderLemmas
import SynKitProofs.GmlReindexLemmas
/-!
C10, the GML writer with `explicit_hydrogen=True`, read back by `GMLToNX`: the context section then also lists bonds
(`Rd.readSideX_spec` in `GmlReaderLemmas.lean`).  The round trip is proved for any pendant extension `Pendant I K P` of
the ITS, whatever the new ids are: each re-read side is described by its ids, its node dicts (`readXg_spec`) and its
bonds at pairs of atoms (`readXg_edge?`), and `roundtripXg` reads both sides off these.  What `h_to_explicit` builds is
such an extension (`pendant_form`, from `Repr.plan_pend`).  With `reindex=True` the export is the ids-kept export of the
renumbered ITS (`itsToGmlX_reindex`); `roundtripX_relabel` is the round trip through any renumbering.
-/
namespace SynKit.ReprOpt
open SynKit.Repr SynKit.Gml SynKit.Gml.Rd

def sameOrders (a : Attrs) : Bool :=
  match Dict.get? a "order" with
  | some (.tup [.num x, .num y]) => x == y
  | _ => true

/-- `standard_order == 0` only on bonds whose order does not change; `ITSGraph` establishes it
(`standard_order = order[0] - order[1]`). -/
def StdConsistent (I : LGraph) : Prop := ∀ e ∈ I.edges, stdZero e.2.2 = true → sameOrders e.2.2 = true

instance (I : LGraph) : Decidable (StdConsistent I) := by unfold StdConsistent; infer_instance

theorem orderLabel_tup (xs : List Val) : orderLabel (.tup xs) = ['-'] := by simp [orderLabel]

theorem edgeItem_orderOne (u v : Nat) : edgeItem (u, v, orderOne) = .edge u v ['-'] := by
  have : orderLabel (edgeOrderVal orderOne) = ['-'] := by decide
  simp only [edgeItem, this]

theorem stdZero_orderOne : stdZero orderOne = true := by decide

/-- The writer reads `element` and `charge`, which the expansion leaves alone. -/
theorem nodeLabel_expNode (p : Nat × Attrs) : nodeLabel (expNode p).2 = nodeLabel p.2 := by
  unfold expNode
  split
  · simp only [nodeLabel, elemOf, chargeOf, get?_expandAttrs_other _ _ "element" (by decide) (by decide),
      get?_expandAttrs_other _ _ "charge" (by decide) (by decide)]
  · rfl

theorem nodeRow_congr (g g' : LGraph) (n : Nat) (h1 : g.hasNode n = g'.hasNode n) (h2 : g.attrs n = g'.attrs n) :
    nodeRow g n = nodeRow g' n := by
  simp only [nodeRow, h1, h2]

def chOf (I : LGraph) : List Nat := findChanged (side 0 I) (side 1 I)

def readD (I : LGraph) (i : Nat) : LGraph :=
  syncSide (readSection (sideItems (side i I) (chOf I))) (readSection (ctxItems I (chOf I)))

theorem gmlToIts_itsToGml (I : LGraph) :
    gmlToIts (itsToGml false false I) = construct (readD I 0) (readD I 1) := by
  unfold gmlToIts readLeft readRight readD chOf
  rw [itsToGml_full]

theorem readD_spec (I : LGraph) (hs : ItsShape I) (i : Nat) :
    (∀ n, n ∈ (readD I i).ids ↔ n ∈ I.ids) ∧
    (∀ p ∈ I.nodes, (readD I i).attrs p.1 =
      nodeAttrsOf p.1 (nodeLabel (if p.1 ∈ chOf I then (side i I).attrs p.1 else p.2))) ∧
    (readD I i).edges = (side i I).edges.map fun e => (e.1, e.2.1, [("order", edgeOrderVal e.2.2)]) := by
  obtain ⟨r1, r2, r3⟩ := readSide_spec (side i I) I (chOf I) (sideOk_side I hs i) hs.1.1
    (by intro n; rw [side_ids i I hs.2.1])
  refine ⟨r1, ?_, r3⟩
  intro p hp
  rw [show readD I i = syncSide (readSection (sideItems (side i I) (chOf I))) (readSection (ctxItems I (chOf I))) from rfl,
    r2 p.1 (List.mem_map.2 ⟨p, hp, rfl⟩), LGraph.attrs_of_mem hs.1.1 hp]

/-- What `StdConsistent` is for: a bond the context section lists (`standard_order == 0`) has equal, positive orders, so
both sides have it already and the reader's synchronisation does not add it a second time. -/
theorem StdConsistent.hasEdge_side {I : LGraph} (hc : StdConsistent I) (hs : ItsShape I) (i : Nat) (e : Nat × Nat × Attrs)
    (he : e ∈ I.edges) (hz : stdZero e.2.2 = true) : (side i I).hasEdge e.1 e.2.1 = true := by
  obtain ⟨x, y, hxy, hx, -, hnz⟩ := edgeShape_unpack e.2.2 (hs.2.2 e he)
  obtain rfl : x = y := by simpa [sameOrders, hxy] using hc e he hz
  have hpos : x > 0 := stdOrder_pos x hx fun h0 => hnz ⟨h0, h0⟩
  rw [LGraph.hasEdge, side_edge?_eq i I hs.1, LGraph.edge?_of_mem hs.1 he (Or.inl ⟨rfl, rfl⟩), Option.bind_some]
  simp only [sideAttr, hxy, ite_self, if_pos hpos, Option.isSome_some]

theorem labView_hAttrs : labView hAttrs = [.str "H", .num 0] := by decide

theorem alpha_hAttrs : alpha (elemOf hAttrs) := by decide

/-- `K` is `I` (node labels kept) plus the pendant hydrogens `P`, pairs (new id, atom it hangs on). -/
structure Pendant (I K : LGraph) (P : List (Nat × Nat)) : Prop where
  nd : (P.map (·.1)).Nodup
  fresh : ∀ q ∈ P, q.1 ∉ I.ids
  parent : ∀ q ∈ P, q.2 ∈ I.ids
  ids : ∀ n, n ∈ K.ids ↔ n ∈ I.ids ∨ ∃ q ∈ P, n = q.1
  knd : K.ids.Nodup
  edges : K.edges = I.edges ++ P.map freshEdge
  old : ∀ p ∈ I.nodes, nodeLabel (K.attrs p.1) = nodeLabel p.2
  new : ∀ q ∈ P, K.attrs q.1 = hAttrs

def ruleXg (I K : LGraph) : Rule :=
  { left := sideItems (side 0 I) (chOf I), context := ctxItemsX K (chOf I), right := sideItems (side 1 I) (chOf I) }

def readXg (I K : LGraph) (i : Nat) : LGraph :=
  syncSide (readSection (sideItems (side i I) (chOf I))) (readSection (ctxItemsX K (chOf I)))

theorem gmlToIts_ruleXg (I K : LGraph) : gmlToIts (ruleXg I K) = construct (readXg I K 0) (readXg I K 1) := rfl

/-- A new bond has a new atom at one end. -/
theorem Pendant.ukey_nodup {I K : LGraph} {P : List (Nat × Nat)} (hP : Pendant I K P) (hwf : I.WF) :
    (K.edges.map ukey).Nodup := by
  rw [hP.edges, List.map_append, List.nodup_append]
  refine ⟨hwf.2.2, ?_, ?_⟩
  · rw [List.map_map]
    refine List.Nodup.map_on ?_ (List.Nodup.of_map (·.1) hP.nd)
    intro x hx y hy e
    rcases LGraph.pair_eq_of_key_eq e with ⟨h2, h1⟩ | ⟨h2, _⟩
    · exact Prod.ext h1 h2
    · exact absurd (h2 ▸ hP.parent x hx : y.1 ∈ I.ids) (hP.fresh y hy)
  · intro a ha b hb e
    obtain ⟨e0, he0, rfl⟩ := List.mem_map.1 ha
    obtain ⟨e1, he1, rfl⟩ := List.mem_map.1 hb
    obtain ⟨q, hq, rfl⟩ := List.mem_map.1 he1
    rcases LGraph.pair_eq_of_key_eq e with ⟨_, h⟩ | ⟨h, _⟩
    · exact hP.fresh q hq (h ▸ (hwf.2.1 e0 he0).2.1 : q.1 ∈ I.ids)
    · exact hP.fresh q hq (h ▸ (hwf.2.1 e0 he0).1 : q.1 ∈ I.ids)

theorem readXg_spec (I K : LGraph) (P : List (Nat × Nat)) (hs : ItsShape I) (hc : StdConsistent I)
    (hP : Pendant I K P) (i : Nat) :
    (∀ n, n ∈ (readXg I K i).ids ↔ n ∈ I.ids ∨ ∃ q ∈ P, n = q.1) ∧
    (∀ p ∈ I.nodes, (readXg I K i).attrs p.1 =
      nodeAttrsOf p.1 (nodeLabel (if p.1 ∈ chOf I then (side i I).attrs p.1 else p.2))) ∧
    (∀ q ∈ P, (readXg I K i).attrs q.1 = nodeAttrsOf q.1 (nodeLabel hAttrs)) ∧
    (readXg I K i).edges = ((side i I).edges.map fun e => (e.1, e.2.1, [("order", edgeOrderVal e.2.2)])) ++
      P.map fun q => (q.2, q.1, [("order", .num 2)]) := by
  obtain ⟨hwf, hns, hes⟩ := id hs
  have hSok := sideOk_side I hs i
  have hSids : (side i I).ids = I.ids := side_ids i I hns
  have hmemK := hP.ids
  have hch : ∀ n ∈ chOf I, n ∈ I.ids := fun n hn => side_ids 0 I hns ▸ mem_findChanged_left _ _ n hn
  have hKe : ∀ e ∈ K.edges.filter (fun e => stdZero e.2.2), e ∈ I.edges ∨ ∃ q ∈ P, e = freshEdge q := fun e he => by
    have he' := (List.mem_filter.1 he).1
    rw [hP.edges, List.mem_append] at he'
    exact he'.imp_right fun h => by obtain ⟨q, hq, rfl⟩ := List.mem_map.1 h; exact ⟨q, hq, rfl⟩
  have hEz : K.edges.filter (fun e => stdZero e.2.2) =
      I.edges.filter (fun e => stdZero e.2.2) ++ P.map freshEdge := by
    rw [hP.edges, List.filter_append]
    congr 1
    rw [List.filter_eq_self]
    intro e he
    obtain ⟨q, _, rfl⟩ := List.mem_map.1 he
    exact stdZero_orderOne
  obtain ⟨r1, r2, r3⟩ := readSideX_spec (side i I) K (chOf I)
    (K.edges.filter fun e => stdZero e.2.2) ctxEdgeItem hSok hP.knd
    (by intro n hn; rw [hSids] at hn; exact (hmemK n).2 (Or.inl hn))
    (fun n hn _ => hSids ▸ hch n hn)
    (by
      intro e he
      rcases hKe e he with he' | ⟨q, hq, rfl⟩
      · exact ⟨(hmemK _).2 (Or.inl (hwf.2.1 e he').1), (hmemK _).2 (Or.inl (hwf.2.1 e he').2.1)⟩
      · exact ⟨(hmemK _).2 (Or.inl (hP.parent q hq)), (hmemK _).2 (Or.inr ⟨q, hq, rfl⟩)⟩)
    ((hP.ukey_nodup hwf).sublist (List.Sublist.map _ List.filter_sublist))
    (by
      intro e he
      rw [edgeItem_orderOne]
      rcases hKe e he with he' | ⟨q, _, rfl⟩
      · obtain ⟨x, y, hxy, _⟩ := edgeShape_unpack e.2.2 (hes e he')
        simp only [ctxEdgeItem, Dict.getD, hxy, Option.getD_some, orderLabel_tup]
      · simp only [ctxEdgeItem, freshEdge]
        have : orderLabel (Dict.getD orderOne "order" (.tup [.num 2, .num 2])) = ['-'] := by decide
        rw [this])
  have hnew : (K.edges.filter fun e => stdZero e.2.2).filter
      (fun e => !(side i I).hasEdge e.1 e.2.1) = P.map freshEdge := by
    rw [hEz, List.filter_append]
    have h1 : (I.edges.filter fun e => stdZero e.2.2).filter (fun e => !(side i I).hasEdge e.1 e.2.1) = [] := by
      rw [List.filter_eq_nil_iff]
      intro e he
      obtain ⟨he1, he2⟩ := List.mem_filter.1 he
      rw [hc.hasEdge_side hs i e he1 he2]
      exact Bool.false_ne_true
    have h2 : (P.map freshEdge).filter (fun e => !(side i I).hasEdge e.1 e.2.1) = P.map freshEdge := by
      rw [List.filter_eq_self]
      intro e he
      obtain ⟨q, hq, rfl⟩ := List.mem_map.1 he
      rw [Bool.not_eq_true', LGraph.hasEdge_false_iff]
      intro e' he' hj
      obtain ⟨c1, c2⟩ := hSok.ends e' he'
      rw [hSids] at c1 c2
      rcases hj with ⟨_, m2⟩ | ⟨m1, _⟩
      · exact hP.fresh q hq (m2 ▸ c2)
      · exact hP.fresh q hq (m1 ▸ c1)
    rw [h1, h2, List.nil_append]
  unfold readXg ctxItemsX
  refine ⟨?_, ?_, ?_, ?_⟩
  · intro n; rw [r1 n, hmemK]
  · intro p hp
    have hpid : p.1 ∈ I.ids := List.mem_map.2 ⟨p, hp, rfl⟩
    rw [r2 p.1 ((hmemK _).2 (Or.inl hpid))]
    by_cases hc' : p.1 ∈ chOf I
    · rw [if_pos hc', if_pos hc']
    · rw [if_neg hc', if_neg hc', hP.old p hp]
  · intro q hq
    rw [r2 q.1 ((hmemK _).2 (Or.inr ⟨q, hq, rfl⟩)), if_neg fun h => hP.fresh q hq (hch _ h), hP.new q hq]
  · rw [r3, hnew, List.map_map]
    rfl

theorem readXg_edge? (I K : LGraph) (P : List (Nat × Nat)) (hs : ItsShape I) (hc : StdConsistent I)
    (hP : Pendant I K P) (i : Nat) :
    (∀ u ∈ I.ids, ∀ v ∈ I.ids, (readXg I K i).edge? u v = (readD I i).edge? u v) ∧
    ∀ q ∈ P, (readXg I K i).edge? q.2 q.1 = some [("order", .num 2)] ∧
      ∀ u, u ≠ q.2 → (readXg I K i).edge? u q.1 = none := by
  obtain ⟨-, -, -, x4⟩ := readXg_spec I K P hs hc hP i
  obtain ⟨-, -, d3⟩ := readD_spec I hs i
  refine ⟨fun u hu v hv => LGraph.edge?_append_left (by rw [x4, d3]) fun e he h => ?_, fun q hq => ?_⟩
  · obtain ⟨q, hq, rfl⟩ := List.mem_map.1 he
    rcases h with h | h
    · exact hP.fresh q hq (h.2 ▸ hv)
    · exact hP.fresh q hq (h.2 ▸ hu)
  · have b1 := hP.fresh q hq
    have hj : ∀ u, ∀ e ∈ (readXg I K i).edges, (e.1 = u ∧ e.2.1 = q.1) ∨ (e.1 = q.1 ∧ e.2.1 = u) →
        u = q.2 ∧ e.2.2 = [("order", .num 2)] := by
      intro u e he h
      rw [x4, List.mem_append] at he
      rcases he with he | he
      · obtain ⟨e0, he0, rfl⟩ := List.mem_map.1 he
        obtain ⟨c1, c2⟩ := (sideOk_side I hs i).ends e0 he0
        rw [side_ids i I hs.2.1] at c1 c2
        rcases h with h | h
        · exact absurd (h.2 ▸ c2) b1
        · exact absurd (h.1 ▸ c1) b1
      · obtain ⟨q', hq', rfl⟩ := List.mem_map.1 he
        rcases h with h | h
        · rw [← List.inj_on_of_nodup_map hP.nd hq' hq h.2]
          exact ⟨h.1.symm, rfl⟩
        · exact absurd (h.1 ▸ hP.parent q' hq') b1
    refine ⟨?_, fun u hu => LGraph.edge?_eq_none_iff.2 fun e he h => hu (hj u e he h).1⟩
    have hm : (q.2, q.1, [("order", .num 2)]) ∈ (readXg I K i).edges := by
      rw [x4]
      exact List.mem_append_right _ (List.mem_map.2 ⟨q, hq, rfl⟩)
    cases hf : (readXg I K i).edge? q.2 q.1 with
    | none => exact absurd (Or.inl ⟨rfl, rfl⟩) (LGraph.edge?_eq_none_iff.1 hf _ hm)
    | some a =>
      obtain ⟨e, he, rfl, h⟩ := LGraph.edge?_some_mem hf
      rw [(hj _ e he h).2]

theorem roundtripXg (I K : LGraph) (P : List (Nat × Nat)) (hs : ItsShape I) (hc : StdConsistent I)
    (hP : Pendant I K P) :
    (∀ n, n ∈ (gmlToIts (ruleXg I K)).ids ↔ n ∈ I.ids ∨ ∃ q ∈ P, n = q.1) ∧
    (∀ n ∈ I.ids, nodeView (gmlToIts (ruleXg I K)) n = nodeView (gmlToIts (itsToGml false false I)) n) ∧
    (∀ u ∈ I.ids, ∀ v ∈ I.ids, edgeView (gmlToIts (ruleXg I K)) u v =
      edgeView (gmlToIts (itsToGml false false I)) u v) ∧
    (∀ q ∈ P,
      nodeView (gmlToIts (ruleXg I K)) q.1 = .tup [.str "H", .num 0, .str "H", .num 0] ∧
      edgeView (gmlToIts (ruleXg I K)) q.2 q.1 = some (.tup [.num 2, .num 2]) ∧
      ∀ u, u ≠ q.2 → edgeView (gmlToIts (ruleXg I K)) u q.1 = none) := by
  obtain ⟨x1, x2, x3, -⟩ := readXg_spec I K P hs hc hP 0
  obtain ⟨y1, y2, y3, -⟩ := readXg_spec I K P hs hc hP 1
  obtain ⟨xo, xn⟩ := readXg_edge? I K P hs hc hP 0
  obtain ⟨yo, yn⟩ := readXg_edge? I K P hs hc hP 1
  obtain ⟨d1, d2, -⟩ := readD_spec I hs 0
  obtain ⟨e1, e2, -⟩ := readD_spec I hs 1
  rw [gmlToIts_ruleXg, gmlToIts_itsToGml]
  have hids : ∀ n, n ∈ (construct (readXg I K 0) (readXg I K 1)).ids ↔ n ∈ I.ids ∨ ∃ q ∈ P, n = q.1 := by
    intro n; rw [Rd.mem_construct_ids, x1, y1, or_self]
  have hids0 : ∀ n, n ∈ (construct (readD I 0) (readD I 1)).ids ↔ n ∈ I.ids := by
    intro n; rw [Rd.mem_construct_ids, d1, e1, or_self]
  refine ⟨hids, ?_, ?_, ?_⟩
  · intro n hn
    obtain ⟨p, hp, rfl⟩ := List.mem_map.1 hn
    rw [construct_nodeView _ _ _ ((hids _).2 (Or.inl hn)), construct_nodeView _ _ _ ((hids0 _).2 hn)]
    rw [nodeRow_congr (readXg I K 0) (readD I 0) p.1
        (by rw [LGraph.hasNode_iff.2 ((x1 _).2 (Or.inl hn)), LGraph.hasNode_iff.2 ((d1 _).2 hn)])
        (by rw [x2 p hp, d2 p hp]),
      nodeRow_congr (readXg I K 1) (readD I 1) p.1
        (by rw [LGraph.hasNode_iff.2 ((y1 _).2 (Or.inl hn)), LGraph.hasNode_iff.2 ((e1 _).2 hn)])
        (by rw [y2 p hp, e2 p hp])]
  · intro u hu v hv
    simp only [construct_edgeView, LGraph.hasEdge, orderIn, xo u hu v hv, yo u hu v hv]
    rfl
  · intro q hq
    refine ⟨?_, ?_, fun u hu => ?_⟩
    · rw [construct_nodeView _ _ _ ((hids _).2 (Or.inr ⟨q, hq, rfl⟩)),
        nodeRow_view (readXg I K 0) q.1 hAttrs ((x1 _).2 (Or.inr ⟨q, hq, rfl⟩)) alpha_hAttrs (x3 q hq),
        nodeRow_view (readXg I K 1) q.1 hAttrs ((y1 _).2 (Or.inr ⟨q, hq, rfl⟩)) alpha_hAttrs (y3 q hq), labView_hAttrs]
      rfl
    · rw [construct_edgeView]
      simp only [LGraph.hasEdge, orderIn, (xn q hq).1, (yn q hq).1]
      rfl
    · rw [construct_edgeView]
      simp only [LGraph.hasEdge, (xn q hq).2 u hu, (yn q hq).2 u hu]
      rfl

theorem addedH_spec (I : LGraph) (q : Nat × Nat) (hq : q ∈ addedH I) :
    maxId I + 1 ≤ q.1 ∧ q.2 ∈ I.ids := by
  obtain ⟨h1, h2, _⟩ := mem_planL I _ _ q hq
  exact ⟨h1, ((expanded_inv I []).2 q.2 h2).1⟩

theorem addedH_fresh (I : LGraph) (q : Nat × Nat) (hq : q ∈ addedH I) : q.1 ∉ I.ids := fun h => by
  have := le_maxId I _ h
  have := (addedH_spec I q hq).1
  omega

theorem pendant_form (I : LGraph) (hwf : I.WF) : Pendant I (form I (expanded I [])) (addedH I) := by
  have hP := plan_pend I hwf (expanded I []) _ (ite_expNode_fst (expanded I []))
  have hK := form_eq_pend I (expanded I [])
  have hA : addedH I = plan (atomsOf I (expanded I [])) (maxId I) := planL_eq_plan _ _ _
  rw [hK, hA]
  refine ⟨hP.new, fun q hq => form_old_ids I _ ▸ hP.fresh q hq, fun q hq => ?_, fun n => ?_, hP.nodup, rfl,
    fun p hp => ?_, fun q hq => hP.attrs_new hq⟩
  · exact (addedH_spec I q (hA ▸ hq)).2
  · rw [pend_ids, form_old_ids, List.mem_append]
    exact or_congr_right ⟨fun h => by obtain ⟨q, hq, rfl⟩ := List.mem_map.1 h; exact ⟨q, hq, rfl⟩,
      fun ⟨q, hq, h⟩ => h ▸ List.mem_map.2 ⟨q, hq, rfl⟩⟩
  · rw [← hK, form_attrs_old I hwf.1 _ p hp]
    split
    · exact nodeLabel_expNode p
    · rfl

theorem itsToGmlX_eq_ruleXg (I : LGraph) : itsToGmlX false false true I = ruleXg I (hToExplicitG I [] false) := by
  simp [itsToGmlX, writeRuleX, decompose, LGraph.relabel_id', ruleXg, chOf]

theorem count_addedH (I : LGraph) (hn : I.ids.Nodup) (v : Nat) (hv : v ∈ I.ids) :
    ((addedH I).map (·.2)).count v = (hcnt (I.attrs v)).toNat := by
  rw [addedH, planL_eq_plan, plan_snd]
  by_cases hm : v ∈ expanded I []
  · exact count_parents _ (by rw [atomsOf_fst]; exact (expanded_inv I []).1) (v, I.attrs v) (List.mem_map.2 ⟨v, hm, rfl⟩)
  · rw [count_parents_notin _ _ (by rw [atomsOf_fst]; exact hm)]
    rw [(expanded_all I hn).1, List.mem_filter] at hm
    have : ¬ hcnt (I.attrs v) > 0 := fun hc => hm ⟨hv, by simpa using hc⟩
    omega

theorem stdConsistent_relabel (I : LGraph) (hc : StdConsistent I) (f : Nat → Nat) : StdConsistent (I.relabel f) := by
  intro e he hz
  simp only [LGraph.relabel] at he
  obtain ⟨e0, he0, rfl⟩ := List.mem_map.1 he
  exact hc e0 he0 hz

/-- The writer renumbers the three graphs first and expands the hydrogens of the renumbered context graph
afterwards (`NXToGML.transform`). -/
theorem itsToGmlX_reindex (I : LGraph) (hs : ItsShape I) :
    itsToGmlX false true true I = itsToGmlX false false true (I.relabel (indexMap (side 0 I))) := by
  obtain ⟨h1, h2⟩ := relabel_sides I hs (indexMap (side 0 I))
  rw [itsToGmlX_eq_ruleXg]
  simp only [itsToGmlX, writeRuleX, decompose, if_true, Bool.false_eq_true, if_false, Bool.not_true, ruleXg]
  rw [h1, h2 0, h2 1]
  rfl

/-- The ids-kept export with `explicit_hydrogen=True` of the ITS renumbered along any `f` injective on its atoms, read
back and seen through `f`: `roundtripXg` at the pendant extension `h_to_explicit` builds on the renumbered graph, each
comparison stated with `I` (by `gml_roundtrip_full'`) and with the default export.  The new hydrogens are those of the
renumbered graph, so nothing is asked of the ids of `I`.  `f = id` is the writer with `reindex=False`,
`f = indexMap (side 0 I)` the one with `reindex=True` (`itsToGmlX_reindex`). -/
theorem roundtripX_relabel (I : LGraph) (hs : ItsShape I) (hc : StdConsistent I) (f : Nat → Nat) (hf : Match.InjOnIds I f) :
    (∀ n, n ∈ (gmlToIts (itsToGmlX false false true (I.relabel f))).ids ↔
      n ∈ I.ids.map f ∨ ∃ q ∈ addedH (I.relabel f), n = q.1) ∧
    (∀ n ∈ I.ids, nodeView (gmlToIts (itsToGmlX false false true (I.relabel f))) (f n) = nodeView I n ∧
      nodeView (gmlToIts (itsToGmlX false false true (I.relabel f))) (f n) =
        nodeView (gmlToIts (itsToGml false false (I.relabel f))) (f n)) ∧
    (∀ u ∈ I.ids, ∀ v ∈ I.ids,
      edgeView (gmlToIts (itsToGmlX false false true (I.relabel f))) (f u) (f v) = edgeView I u v ∧
      edgeView (gmlToIts (itsToGmlX false false true (I.relabel f))) (f u) (f v) =
        edgeView (gmlToIts (itsToGml false false (I.relabel f))) (f u) (f v)) ∧
    (∀ q ∈ addedH (I.relabel f), q.1 ∉ I.ids.map f ∧ q.2 ∈ I.ids.map f ∧
      nodeView (gmlToIts (itsToGmlX false false true (I.relabel f))) q.1 = .tup [.str "H", .num 0, .str "H", .num 0] ∧
      edgeView (gmlToIts (itsToGmlX false false true (I.relabel f))) q.2 q.1 = some (.tup [.num 2, .num 2]) ∧
      ∀ u, u ≠ q.2 → edgeView (gmlToIts (itsToGmlX false false true (I.relabel f))) u q.1 = none) ∧
    (∀ v ∈ I.ids, ((addedH (I.relabel f)).map (·.2)).count (f v) = (hcnt (I.attrs v)).toNat) := by
  have hsJ := itsShape_relabel I hs f hf
  have hJ : (I.relabel f).ids = I.ids.map f := LGraph.ids_relabel
  rw [itsToGmlX_eq_ruleXg, hToExplicitG_eq_form _ hsJ.1.1]
  obtain ⟨a, b, c, d⟩ := roundtripXg _ _ _ hsJ (stdConsistent_relabel I hc f) (pendant_form _ hsJ.1)
  obtain ⟨_, r2, r3⟩ := gml_roundtrip_full' _ hsJ
  rw [hJ] at a b c r2
  simp only [List.forall_mem_map] at b c r2
  refine ⟨a, fun n hn => ⟨?_, b n hn⟩, fun u hu v hv => ⟨?_, c u hu v hv⟩,
    fun q hq => ⟨hJ ▸ addedH_fresh _ q hq, hJ ▸ (addedH_spec _ q hq).2, d q hq⟩, fun v hv => ?_⟩
  · rw [b n hn, r2 n hn]
    unfold nodeView
    rw [LGraph.attrs_relabel fun x hx e => hf x hx n hn e]
  · rw [c u hu v hv, r3]
    unfold edgeView
    rw [LGraph.edge?_relabel hs.1 hf hu hv]
  · rw [count_addedH _ hsJ.1.1 _ (hJ ▸ List.mem_map_of_mem hv), LGraph.attrs_relabel fun x hx e => hf x hx v hv e]

def renum (ri : Bool) (I : LGraph) : Nat → Nat := if ri then indexMap (side 0 I) else id

theorem renum_true (I : LGraph) : renum true I = indexMap (side 0 I) := rfl
theorem renum_false (I : LGraph) : renum false I = id := rfl

def renumG (ri : Bool) (I : LGraph) : LGraph := if ri then I.relabel (indexMap (side 0 I)) else I

theorem renumG_true (I : LGraph) : renumG true I = I.relabel (indexMap (side 0 I)) := rfl
theorem renumG_false (I : LGraph) : renumG false I = I := rfl

end SynKit.ReprOpt
