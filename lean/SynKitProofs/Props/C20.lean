import SynKitModel.Petri
import SynKitProofs.PetriStructureLemmas
import SynKitProofs.PetriNetLemmas
import SynKitProofs.PetriLevel
import SynKitProofs.BipGraphViewsLemmas
import Mathlib.Data.Set.Card
/-!
C20 — siphons, traps and pathway realizability match their Petri-net definitions. Index sets are
lists of species indices (positions in `_species_order`); a *set* of species is represented by the
increasing list (`List.Sublist (List.range n)`), which is what `itertools.combinations(range(n), k)`
produces; minimality is stated against **every** index list.
-/
namespace SynKit.Petri

/-- **C20, `_minimal_sets`.** For candidates listed in ANY order (two candidates that are equal
as sets being equal as lists, which holds for `combinations`), the result is exactly the set of
inclusion-minimal candidates. -/
theorem minimalSets_spec (cands : List (List Nat))
    (hcanon : ∀ X ∈ cands, ∀ Y ∈ cands, X ⊆ Y → Y ⊆ X → X = Y) (X : List Nat) :
    X ∈ minimalSets cands ↔ X ∈ cands ∧ ∀ Y ∈ cands, Y ⊆ X → X ⊆ Y := by
  have inv := minInv_minimalSets cands
  constructor
  · exact inv.sound X
  · rintro ⟨hX, hmin⟩
    obtain ⟨T, hT, hTX⟩ := inv.cover X hX
    have hTc := (inv.sound T hT).1
    rw [hcanon X hX T hTc (hmin T hTc hTX) hTX]; exact hT

/-- **C20, the coded predicates are the defining ones.** `_is_siphon_indices` (repaired arcs) says:
non-empty, and every reaction that produces a member also consumes a member; `_is_trap_indices`
the mirror image. -/
theorem closure_predicates_spec (N : Net) (S : List Nat) :
    (isSiphon N S = true ↔ IsSiphon N S) ∧ (isTrap N S = true ↔ IsTrap N S) :=
  ⟨isSiphon_iff N S, isTrap_iff N S⟩

/-- **C20, siphons.** `find_siphons(crn, max_size)` reports an index set `X` exactly when `X` is a
non-empty set of species of the network that is a siphon, no non-empty proper subset of which is
a siphon, and (when `max_size` is given) has at most `max_size` members. -/
theorem siphons_spec (N : Net) (maxSize : Option Nat) (X : List Nat) :
    X ∈ findSiphonsIdx N maxSize ↔
      MinimalWrt (IsSiphon N) N.nSpecies X ∧ X.length ≤ maxSize.getD N.nSpecies :=
  mem_findIdx (isSiphon N) (IsSiphon N) N.nSpecies maxSize (isSiphon_iff N) (fun _ h => h.1)
    (closure_congr N (Produces N) (Consumes N)) X

/-- **C20, traps.** Same statement for `find_traps`. -/
theorem traps_spec (N : Net) (maxSize : Option Nat) (X : List Nat) :
    X ∈ findTrapsIdx N maxSize ↔
      MinimalWrt (IsTrap N) N.nSpecies X ∧ X.length ≤ maxSize.getD N.nSpecies :=
  mem_findIdx (isTrap N) (IsTrap N) N.nSpecies maxSize (isTrap_iff N) (fun _ h => h.1)
    (closure_congr N (Consumes N) (Produces N)) X

/-- Without `max_size` the size clause is void: the reported sets are exactly the minimal siphons /
traps. -/
theorem siphons_traps_spec_unbounded (N : Net) (X : List Nat) :
    (X ∈ findSiphonsIdx N none ↔ MinimalWrt (IsSiphon N) N.nSpecies X) ∧
    (X ∈ findTrapsIdx N none ↔ MinimalWrt (IsTrap N) N.nSpecies X) := by
  have hlen : ∀ P, MinimalWrt P N.nSpecies X → X.length ≤ (none : Option Nat).getD N.nSpecies := by
    intro P h; simpa using h.1.length_le
  exact ⟨(siphons_spec N none X).trans ⟨fun h => h.1, fun h => ⟨h, hlen _ h⟩⟩,
    (traps_spec N none X).trans ⟨fun h => h.1, fun h => ⟨h, hlen _ h⟩⟩⟩

/-- The reported label sets are the labels of the reported index sets. -/
theorem findSiphons_labels (N : Net) (maxSize : Option Nat) :
    findSiphons N maxSize = (findSiphonsIdx N maxSize).map N.labelsOf ∧
    findTraps N maxSize = (findTrapsIdx N maxSize).map N.labelsOf := ⟨rfl, rfl⟩

/-- **C20, firing rule, enabledness.** A transition is enabled exactly when the marking covers
every input arc (`marking.get(p, 0) ≥ w`). -/
theorem enabled_spec {κ : Type} [DecidableEq κ] (t : Transition κ) (m : Marking κ) :
    enabled t m = true ↔ ∀ pw ∈ t.pre, pw.2 ≤ mget m pw.1 := enabled_iff t m

/-- **C20, firing rule, effect.** Firing changes every place by (products − reactants): the new
count is the old count minus the input weight plus the output weight (for dicts, `weightAt` is the
entry, `weightAt_of_mem`). -/
theorem fire_spec {κ : Type} [DecidableEq κ] (t : Transition κ) (m : Marking κ) (p : κ) :
    mget (fire t m) p = mget m p - weightAt t.pre p + weightAt t.post p := mget_fire t m p

/-- What a valid certificate says about counts, for ANY sequence that passes the certificate check
the harness runs on the implementation's own certificate (`spec.certificate`). -/
theorem certificate_check_sound (P : Pathway) (hid : (P.edges.map (·.id)).Nodup)
    (hkeys : ∀ r ∈ P.edges, r.reactants.keys.Nodup) (seq : List String)
    (h : validCertificate P seq = true) :
    (∀ r ∈ P.edges, (seq.count r.id : Int) = P.flowOf r.id) ∧
    (∀ k m, runT (buildNet P) (toTuple (buildNet P).places (initialMarking P)) (seq.take k) = some m →
        ∀ v, 0 ≤ valT (buildNet P) m (Place.sp v)) ∧
    (∀ v, valT (buildNet P) (toTuple (buildNet P).places (targetMarking P)) (Place.sp v) = 0) := by
  simp only [validCertificate, beq_iff_eq] at h
  refine ⟨fun r hr => ?_, fun k m hk => ?_, fun v => valT_toTuple_zero _ _ _ (targetMarking_sp P v)⟩
  · have hc := runT_target_count P hid r hr seq _ _ h
    have hp := (buildNet_places_edge P r hr).2
    rw [valT_toTuple _ _ _ hp, valT_toTuple _ _ _ hp, targetMarking_target P r hr,
      initialMarking_target] at hc
    omega
  · exact runT_nonneg P hid hkeys _ _ _ hk fun v =>
      Int.le_of_eq (valT_toTuple_zero _ _ _ (initialMarking_sp P v)).symm

/-- **C20, certificate.** Whenever `is_realizable` answers `(True, seq)`:
replayed on the extended net from `M0` every step of `seq` is enabled and the final marking is
`MT`; hence (edge ids being dict keys, reactant sides being dicts) `seq` fires every reaction `e`
exactly `flow(e)` times, no species count is negative after any prefix, and every species count
is 0 at the end. -/
theorem realizable_sound (P : Pathway) (hid : (P.edges.map (·.id)).Nodup)
    (hkeys : ∀ r ∈ P.edges, r.reactants.keys.Nodup) (maxStates maxDepth : Nat) (seq : List String)
    (h : isRealizable P maxStates maxDepth = .found seq) :
    validCertificate P seq = true ∧
    (∀ r ∈ P.edges, (seq.count r.id : Int) = P.flowOf r.id) ∧
    (∀ k m, runT (buildNet P) (toTuple (buildNet P).places (initialMarking P)) (seq.take k) = some m →
        ∀ v, 0 ≤ valT (buildNet P) m (Place.sp v)) ∧
    (∀ v, valT (buildNet P) (toTuple (buildNet P).places (targetMarking P)) (Place.sp v) = 0) :=
  have hv := isRealizable_sound P maxStates maxDepth seq h
  ⟨hv, certificate_check_sound P hid hkeys seq hv⟩

/-- The modelled loop always terminates by itself (the fuel is never the reason for an answer). -/
theorem bfs_never_fuelOut (P : Pathway) (maxStates maxDepth : Nat) :
    isRealizable P maxStates maxDepth ≠ .fuelOut := fun h => by
  have := isRealizable_spec P maxStates maxDepth
  rwa [h] at this

/-- **C20, completeness within bounds — PARTIAL.**  Proved: if `is_realizable` answers "not found"
and neither bound was touched during the search (the `states > max_states` break was not taken and
no queue entry was skipped because `len(seq) > max_depth` — the two ghost flags of the model's
`notFound`), then no firing sequence at all leads from `M0` to `MT` on the extended net, i.e. the
pathway has no ordering.  Contrapositive: a pathway that has an ordering is reported realizable
unless a bound was touched.
This theorem alone does not say when the bounds are NOT touched; that is the breadth-first level
invariant, proved below: `bfs_notFound_within_states` and the full clause
`bfs_complete_within_bounds` (DESIGN §5a reading). -/
theorem bfs_complete_partial (P : Pathway) (maxStates maxDepth : Nat)
    (h : isRealizable P maxStates maxDepth = .notFound false false) :
    ∀ seq : List String, validCertificate P seq = false := by
  have := isRealizable_spec P maxStates maxDepth
  rw [h] at this
  exact fun seq => this.1 rfl seq (Or.inr rfl)

/-- **C20, completeness within bounds — the level invariant.**  "Reachable" is over the extended
net (species, `__ext__`, `__target__` places), from `M0`, by firing sequences as the search fires
them (`Reach`, `startT`).  If the reachable markings all lie in a list `R` of at most `max_states`
markings (i.e. the number of distinct reachable markings is `≤ max_states`), then whenever
`is_realizable` answers "not found":
* the `states > max_states` break was NOT taken (first ghost flag is `false`), and
* no firing sequence of length `≤ max_depth + 1` leads from `M0` to `MT`.
The bound is `max_depth + 1`, not `max_depth`: the code expands every popped entry with
`len(seq) <= max_depth`, so certificates of length `max_depth + 1` are still found. -/
theorem bfs_notFound_within_states (P : Pathway) (maxStates maxDepth : Nat) (R : List Tuple)
    (hR : ∀ m, Reach (buildNet P) (startT P) m → m ∈ R) (hcard : R.length ≤ maxStates) (a b : Bool)
    (h : isRealizable P maxStates maxDepth = .notFound a b) :
    a = false ∧ ∀ seq : List String, seq.length ≤ maxDepth + 1 → validCertificate P seq = false :=
  isRealizable_notFound_level P maxStates maxDepth R hR hcard a b h

/-- The clause as worded ("no pathway that has such an ordering within the search bounds is
reported unrealizable"), for every input including the edgeless one: under the hypotheses of
`bfs_complete_within_bounds` the answer is never "not found". -/
theorem bfs_never_unrealizable_within_bounds (P : Pathway) (maxStates maxDepth : Nat)
    (seq : List String) (hseq : validCertificate P seq = true) (hlen : seq.length ≤ maxDepth + 1)
    (R : List Tuple) (hR : ∀ m, Reach (buildNet P) (startT P) m → m ∈ R)
    (hcard : R.length ≤ maxStates) (a b : Bool) :
    isRealizable P maxStates maxDepth ≠ .notFound a b := by
  intro hres
  have := (bfs_notFound_within_states P maxStates maxDepth R hR hcard a b hres).2 seq hlen
  rw [hseq] at this; exact absurd this (by simp)

/-- **C20, last clause, in full (DESIGN §5a reading).**  If the pathway has an ordering within the
search bounds — a firing sequence `seq` that, replayed on the extended net from `M0`, is enabled at
every step and ends in `MT` (`validCertificate`; by `certificate_check_sound` it fires every
reaction `flow(e)` times, never goes negative and returns every species to 0), of length
`≤ max_depth + 1`, and the number of distinct markings reachable from `M0` is `≤ max_states` (they
all lie in a list `R` with `len(R) ≤ max_states`) — then `is_realizable(max_states, max_depth)`
answers `(True, cert)` and `cert` is itself a valid certificate.  A sequence of length
`≤ max_depth` is in particular of length `≤ max_depth + 1`, so the §5a reading is implied
(`bfs_complete_within_bounds_5a`).  (`P.edges ≠ []`: with no edges `build_petri_net_from_flow`
raises `RuntimeError` before any search; see `bfs_never_unrealizable_within_bounds`.) -/
theorem bfs_complete_within_bounds (P : Pathway) (hedges : P.edges.isEmpty = false)
    (maxStates maxDepth : Nat) (seq : List String) (hseq : validCertificate P seq = true)
    (hlen : seq.length ≤ maxDepth + 1) (R : List Tuple)
    (hR : ∀ m, Reach (buildNet P) (startT P) m → m ∈ R) (hcard : R.length ≤ maxStates) :
    ∃ cert : List String, isRealizable P maxStates maxDepth = .found cert ∧
      validCertificate P cert = true := by
  cases hres : isRealizable P maxStates maxDepth with
  | found cert => exact ⟨cert, rfl, isRealizable_sound P maxStates maxDepth cert hres⟩
  | notFound a b =>
    exact absurd hres (bfs_never_unrealizable_within_bounds P maxStates maxDepth seq hseq hlen R hR hcard a b)
  | noEdges => exact absurd hres (isRealizable_ne_noEdges P maxStates maxDepth hedges)
  | fuelOut => exact absurd hres (bfs_never_fuelOut P maxStates maxDepth)

/-- The clause exactly as read in DESIGN §5a: a firing sequence of length `≤ max_depth` exists and
the number of reachable markings is `≤ max_states` ⇒ the answer is `(True, cert)`. -/
theorem bfs_complete_within_bounds_5a (P : Pathway) (hedges : P.edges.isEmpty = false)
    (maxStates maxDepth : Nat) (seq : List String) (hseq : validCertificate P seq = true)
    (hlen : seq.length ≤ maxDepth) (R : List Tuple)
    (hR : ∀ m, Reach (buildNet P) (startT P) m → m ∈ R) (hcard : R.length ≤ maxStates) :
    ∃ cert : List String, isRealizable P maxStates maxDepth = .found cert ∧
      validCertificate P cert = true :=
  bfs_complete_within_bounds P hedges maxStates maxDepth seq hseq (Nat.le_succ_of_le hlen) R hR hcard

/-- The same full clause with the number of reachable markings counted as the cardinality of the
set of reachable markings (finite, `Set.ncard ≤ max_states`). -/
theorem bfs_complete_within_bounds_card (P : Pathway) (hedges : P.edges.isEmpty = false)
    (maxStates maxDepth : Nat) (seq : List String) (hseq : validCertificate P seq = true)
    (hlen : seq.length ≤ maxDepth + 1)
    (hfin : {m | Reach (buildNet P) (startT P) m}.Finite)
    (hcard : {m | Reach (buildNet P) (startT P) m}.ncard ≤ maxStates) :
    ∃ cert : List String, isRealizable P maxStates maxDepth = .found cert ∧
      validCertificate P cert = true := by
  refine bfs_complete_within_bounds P hedges maxStates maxDepth seq hseq hlen hfin.toFinset.toList
    (fun m hm => ?_) ?_
  · simpa using hm
  · rw [Finset.length_toList, ← Set.ncard_eq_toFinset_card _ hfin]; exact hcard

def closedUnderB (net : PNet Place) (s0 : Tuple) (R : List Tuple) : Bool :=
  R.contains s0 && R.all fun x => net.transitions.all fun t =>
    !enabled t (ofTuple net.places x) || R.contains (succT net x t)

theorem reach_subset_of_closedUnderB (net : PNet Place) (s0 : Tuple) (R : List Tuple)
    (h : closedUnderB net s0 R = true) (m : Tuple) (hm : Reach net s0 m) : m ∈ R := by
  simp only [closedUnderB, Bool.and_eq_true, List.contains_iff_mem, List.all_eq_true, Bool.or_eq_true,
    Bool.not_eq_true'] at h
  obtain ⟨σ, hσ⟩ := hm
  exact runT_induction (motive := fun _ m => m ∈ R) h.1
    (fun _ x t _ ih ht hen => (h.2 x ih t ht).resolve_left (by simp [hen])) hσ

/-- The four markings reachable in `exPath` (places `A, B, __ext__r_1, __target__r_1, …`). -/
def exPathReach : List Tuple :=
  [[0, 0, 1, 0, 1, 0, 1, 0], [1, 0, 0, 1, 1, 0, 1, 0], [0, 1, 0, 1, 0, 1, 1, 0], [0, 0, 0, 1, 0, 1, 0, 1]]

theorem exPathReach_closed : closedUnderB (buildNet exPath) (startT exPath) exPathReach = true := by
  decide +kernel

/-! ### non-vacuity and the defect witness (evaluations are in `SynKitModel/Petri.lean`) -/

/-- `A ⇌ B, B → C`: the repaired predicates give siphon `{A,B}` and trap `{C}` … -/
example : findSiphons exF17 none = [["A", "B"]] ∧ findTraps exF17 none = [["C"]] := exF17_repaired
/-- … so `siphons_spec` is used with a true left-hand side on a non-trivial input. -/
example : MinimalWrt (IsSiphon exF17) 3 [0, 1] := ((siphons_traps_spec_unbounded exF17 [0, 1]).1).1 exF17_idx.1
example : MinimalWrt (IsTrap exF17) 3 [2] := ((siphons_traps_spec_unbounded exF17 [2]).2).1 exF17_idx.2
example : minimalSets [[0, 1, 2], [1], [0, 1], [2, 0]] = [[1], [2, 0]] := exMinimal

/-- Negation witness against the code before the fix of finding F17 (product arcs only): it reports no
siphon and every singleton as a trap on `exF17`; `[0, 1]` is a minimal siphon that is not reported. -/
example : minimalSets (candidates (isSiphonF17 exF17) 3 3) = [] ∧
    minimalSets (candidates (isTrapF17 exF17) 3 3) = [[0], [1], [2]] := exF17_unrepaired

/-- `∅ → A, A → B, B → ∅` with unit flow: realizable, certificate `r_1 r_2 r_3`; hypotheses of
`realizable_sound` hold on it. -/
example : (∀ r ∈ exPath.edges, ((["r_1", "r_2", "r_3"] : List String).count r.id : Int) = exPath.flowOf r.id) :=
  (realizable_sound exPath (by decide +kernel) (by decide +kernel) 1000 100 _ exPath_found).2.1
example : validCertificate exPath ["r_2", "r_1", "r_3"] = false := exPath_badOrder
/-- `bfs_complete_partial` has a satisfiable hypothesis: firing only `A → B` is conclusively impossible. -/
example : ∀ seq, validCertificate { exPath with flow := [("r_2", 1)] } seq = false :=
  bfs_complete_partial _ 1000 100 exPath_unrealizable

/-- Hypotheses of `bfs_complete_within_bounds` hold on `exPath` (reachable markings: `exPathReach`,
four of them, closed under firing by evaluation) with the TIGHT bounds
`max_states = 4` (four reachable markings) and `max_depth = 2` (the only ordering has length
`3 = max_depth + 1`), and the conclusion is the observed answer. -/
example : ∃ cert, isRealizable exPath 4 2 = .found cert ∧ validCertificate exPath cert = true :=
  bfs_complete_within_bounds exPath (by decide +kernel) 4 2 ["r_1", "r_2", "r_3"] (by decide +kernel) (by decide +kernel)
    exPathReach (reach_subset_of_closedUnderB _ _ _ exPathReach_closed) (by decide +kernel)
example : isRealizable exPath 4 2 = .found ["r_1", "r_2", "r_3"] := by decide +kernel
/-- One less in depth and the (only) ordering is out of the bounds: the search gives up, having
skipped an entry for depth — the bound `max_depth + 1` of the theorem is the one the code has. -/
example : isRealizable exPath 4 1 = .notFound false true := by decide +kernel
/-- `bfs_notFound_within_states` has satisfiable hypotheses with a "not found" answer. -/
example : ∀ seq : List String, seq.length ≤ 2 → validCertificate exPath seq = false :=
  (bfs_notFound_within_states exPath 4 1 exPathReach (reach_subset_of_closedUnderB _ _ _ exPathReach_closed)
    (by decide +kernel) false true (by decide +kernel)).2

end SynKit.Petri

/-! ## C20 on a bipartite NetworkX graph (the graph entry path of `find_siphons` / `find_traps`)

Model: `SynKitModel/BipGraphViews.lean` (on top of `SynKitModel/BipGraph.lean`); lemmas:
`SynKitProofs/BipGraphViewsLemmas.lean`. `analysisNet g = viewNet (netOfGraph g)` is the network the
graph describes, species sorted by label (the index sets of the predicates refer to that order),
reactions in `G.nodes` order. Hypothesis: `BipGraph.WF` (node ids distinct, species labels
distinct, coefficients non-negative) and nothing else. Non-negativity is needed: the code tests
`stoich > 0` arc by arc, the described network carries the SUM of parallel arcs. -/
namespace SynKit.BipGraph
open SynKit.Petri

/-- **C20, graph input: `_is_siphon_indices` read off the graph is the closure predicate of the
described network.** For a well-formed bipartite graph of any of the four NetworkX classes, arcs
written in either direction, parallel arcs, `stoich` possibly missing, and every index set `S`. -/
theorem graphSiphonPred_eq (g : BipGraph) (wf : WF g) (S : List Nat) :
    graphSiphonPred g S = isSiphon (analysisNet g) S := by
  rw [graphSiphonPred, closurePred_closed g wf.ids _ _ (Or.inr rfl) (Or.inl rfl), closureC_eq g wf,
    isSiphon, analysisNet_reactions, List.all_map]
  rfl

/-- **C20, graph input: `_is_trap_indices` likewise.** -/
theorem graphTrapPred_eq (g : BipGraph) (wf : WF g) (S : List Nat) :
    graphTrapPred g S = isTrap (analysisNet g) S := by
  rw [graphTrapPred, closurePred_closed g wf.ids _ _ (Or.inl rfl) (Or.inr rfl), closureC_eq g wf,
    isTrap, analysisNet_reactions, List.all_map]
  rfl

/-- **C20, graph input: `find_siphons` / `find_traps`.** The subset search over the graph
predicates returns the index sets (in the same order) and the label sets the network-level search
returns on the described network. -/
theorem graphFindSiphons_eq (g : BipGraph) (wf : WF g) (maxSize : Option Nat) :
    graphFindSiphonsIdx g maxSize = findSiphonsIdx (analysisNet g) maxSize ∧
    graphFindTrapsIdx g maxSize = findTrapsIdx (analysisNet g) maxSize ∧
    graphFindSiphons g maxSize = findSiphons (analysisNet g) maxSize ∧
    graphFindTraps g maxSize = findTraps (analysisNet g) maxSize := by
  have hs : graphSiphonPred g = isSiphon (analysisNet g) := funext (graphSiphonPred_eq g wf)
  have ht : graphTrapPred g = isTrap (analysisNet g) := funext (graphTrapPred_eq g wf)
  have hn : (speciesRows g).length = (analysisNet g).nSpecies := by
    rw [Net.nSpecies, analysisNet_species, rowLabels, List.length_map]
  have hl : graphLabelsOf g = (analysisNet g).labelsOf := funext (graphLabelsOf_eq g)
  have h1 : graphFindSiphonsIdx g maxSize = findSiphonsIdx (analysisNet g) maxSize := by
    unfold graphFindSiphonsIdx findSiphonsIdx; rw [hs, hn]
  have h2 : graphFindTrapsIdx g maxSize = findTrapsIdx (analysisNet g) maxSize := by
    unfold graphFindTrapsIdx findTrapsIdx; rw [ht, hn]
  refine ⟨h1, h2, ?_, ?_⟩
  · unfold graphFindSiphons findSiphons; rw [h1, hl]
  · unfold graphFindTraps findTraps; rw [h2, hl]

/-- **C20, graph input: `siphons_spec` / `traps_spec` transferred.** What `find_siphons(G, max_size)`
reports for a well-formed graph are exactly the index sets of the inclusion-minimal siphons of the
described network with at most `max_size` members; traps likewise; and the graph-level predicates
are the defining ones (`closure_predicates_spec`). -/
theorem graphSiphonsTraps_spec (g : BipGraph) (wf : WF g) (maxSize : Option Nat) (X : List Nat) :
    (X ∈ graphFindSiphonsIdx g maxSize ↔
      MinimalWrt (IsSiphon (analysisNet g)) (analysisNet g).nSpecies X ∧
        X.length ≤ maxSize.getD (analysisNet g).nSpecies) ∧
    (X ∈ graphFindTrapsIdx g maxSize ↔
      MinimalWrt (IsTrap (analysisNet g)) (analysisNet g).nSpecies X ∧
        X.length ≤ maxSize.getD (analysisNet g).nSpecies) ∧
    (graphSiphonPred g X = true ↔ IsSiphon (analysisNet g) X) ∧
    (graphTrapPred g X = true ↔ IsTrap (analysisNet g) X) := by
  obtain ⟨h1, h2, _, _⟩ := graphFindSiphons_eq g wf maxSize
  rw [h1, h2, graphSiphonPred_eq g wf, graphTrapPred_eq g wf]
  exact ⟨siphons_spec _ _ _, traps_spec _ _ _, (closure_predicates_spec _ _).1, (closure_predicates_spec _ _).2⟩

/-- **C20, graph input: direction of the arcs is irrelevant.** Hypotheses as for
`graphS_orientation_invariant` (C17), without the two on directedness, plus `IdsDistinct`;
coefficients may have any sign. -/
theorem graphStructure_orientation_invariant (g g' : BipGraph) (hid : IdsDistinct g)
    (hn : g'.nodes = g.nodes) (hm : g'.multi = g.multi) (ha : Reoriented g.arcs g'.arcs)
    (hs : g.multi = true ∨ (ArcsSimple g ∧ ArcsSimple g')) :
    (∀ S, graphSiphonPred g' S = graphSiphonPred g S) ∧ (∀ S, graphTrapPred g' S = graphTrapPred g S) ∧
    (∀ ms, graphFindSiphons g' ms = graphFindSiphons g ms) ∧ (∀ ms, graphFindTraps g' ms = graphFindTraps g ms) :=
  structure_congr g g' hid (sameReading_orientation g g' hn hm ha hs)

/-- **C20, graph input: undirected = directed.** An undirected graph and the directed graph of
the same multiplicity class holding the same edges, each written in an arbitrary direction, have
the same siphon / trap predicates and the same reported families. -/
theorem graphStructure_undirected_eq_directed (g g' : BipGraph) (hid : IdsDistinct g)
    (hn : g'.nodes = g.nodes) (hd : g.directed = false) (hd' : g'.directed = true)
    (hm : g'.multi = g.multi) (ha : Reoriented g.arcs g'.arcs) (hs : g.multi = true ∨ ArcsSimple g) :
    (∀ S, graphSiphonPred g' S = graphSiphonPred g S) ∧ (∀ S, graphTrapPred g' S = graphTrapPred g S) ∧
    (∀ ms, graphFindSiphons g' ms = graphFindSiphons g ms) ∧ (∀ ms, graphFindTraps g' ms = graphFindTraps g ms) :=
  structure_congr g g' hid (sameReading_undirected g g' hn hd hd' hm ha hs)

/-- **C20, graph input: a missing `stoich` is 1** (and 1 > 0: the arc counts). -/
theorem graphStructure_missing_stoich (g g' : BipGraph) (hid : IdsDistinct g)
    (hn : g'.nodes = g.nodes) (hd : g'.directed = g.directed) (hm : g'.multi = g.multi)
    (ha : g'.arcs = g.arcs.map BArc.fillStoich) (hs : g.multi = true ∨ ArcsSimple g) :
    (∀ S, graphSiphonPred g' S = graphSiphonPred g S) ∧ (∀ S, graphTrapPred g' S = graphTrapPred g S) ∧
    (∀ ms, graphFindSiphons g' ms = graphFindSiphons g ms) ∧ (∀ ms, graphFindTraps g' ms = graphFindTraps g ms) :=
  structure_congr g g' hid (sameReading_fill g g' hn hd hm ha hs)

/-! ### Non-vacuity: `A ⇌ b, b → C` (the F17 network) written as a graph

Reaction nodes first and out of order, species not in label order (`b` has no label and sorts
after `C`); typing by `kind` or by the flag; three arcs have no `stoich`. -/

def c20Nodes : List BNode :=
  [⟨"r3", some "reaction", none, none⟩, ⟨"c", some "species", some 1, some "C"⟩,
   ⟨"r1", none, some 1, some "fwd"⟩, ⟨"b", none, some 0, none⟩, ⟨"r2", some "reaction", none, none⟩,
   ⟨"a", some "species", none, some "A"⟩]

def c20Arcs : List BArc :=
  [⟨"a", "r1", some "reactant", none⟩, ⟨"r1", "b", some "product", some 1⟩,
   ⟨"b", "r2", some "reactant", some 1⟩, ⟨"r2", "a", some "product", none⟩,
   ⟨"b", "r3", some "reactant", none⟩, ⟨"r3", "c", some "product", some 2⟩]

/-- the first, second and last arc written the other way round -/
def c20ArcsFlipped : List BArc :=
  [⟨"r1", "a", some "reactant", none⟩, ⟨"b", "r1", some "product", some 1⟩,
   ⟨"b", "r2", some "reactant", some 1⟩, ⟨"r2", "a", some "product", none⟩,
   ⟨"b", "r3", some "reactant", none⟩, ⟨"c", "r3", some "product", some 2⟩]

def c20Di : BipGraph := ⟨c20Nodes, c20Arcs, true, false⟩
def c20DiFlipped : BipGraph := ⟨c20Nodes, c20ArcsFlipped, true, false⟩
def c20Graph : BipGraph := ⟨c20Nodes, c20ArcsFlipped, false, false⟩
def c20Multi : BipGraph := ⟨c20Nodes, c20ArcsFlipped, false, true⟩

theorem c20Reoriented : Reoriented c20Arcs c20ArcsFlipped :=
  .flip _ (.flip _ (.keep _ (.keep _ (.keep _ (.flip _ .nil)))))

/-- `WF` holds on all four spellings. -/
example : WF c20Di ∧ WF c20DiFlipped ∧ WF c20Graph ∧ WF c20Multi :=
  ⟨wf_of_wfCoreB _ (by decide), wf_of_wfCoreB _ (by decide), wf_of_wfCoreB _ (by decide),
    wf_of_wfCoreB _ (by decide)⟩

/-- `graphSiphonPred_eq`, `graphTrapPred_eq`, `graphFindSiphons_eq`: both sides are the expected
values — species order `A, C, b`; `{A, b}` = `[0, 2]` is a siphon and no trap, `{C}` = `[1]` a trap and
no siphon; the families are those of `exF17`. -/
example : (analysisNet c20Graph).species = ["A", "C", "b"] ∧
    graphSiphonPred c20Graph [0, 2] = true ∧ isSiphon (analysisNet c20Graph) [0, 2] = true ∧
    graphTrapPred c20Graph [0, 2] = false ∧ isTrap (analysisNet c20Graph) [0, 2] = false ∧
    graphTrapPred c20Graph [1] = true ∧ graphSiphonPred c20Graph [1] = false ∧
    graphSiphonPred c20Graph [] = false ∧
    graphFindSiphons c20Graph none = [["A", "b"]] ∧ findSiphons (analysisNet c20Graph) none = [["A", "b"]] ∧
    graphFindTraps c20Graph none = [["C"]] ∧ findTraps (analysisNet c20Graph) none = [["C"]] ∧
    graphFindSiphons c20Di (some 1) = [] := by decide +kernel

/-- `graphSiphonsTraps_spec` is used with a true left-hand side. -/
example : MinimalWrt (IsSiphon (analysisNet c20Multi)) 3 [0, 2] :=
  ((graphSiphonsTraps_spec c20Multi (wf_of_wfCoreB _ (by decide +kernel)) none [0, 2]).1.1 (by decide +kernel)).1

/-- `graphStructure_orientation_invariant`: hypotheses satisfiable on the `DiGraph`, both readings as
expected. -/
example : IdsDistinct c20Di ∧ c20DiFlipped.nodes = c20Di.nodes ∧ Reoriented c20Di.arcs c20DiFlipped.arcs ∧
    ArcsSimple c20Di ∧ ArcsSimple c20DiFlipped ∧
    graphFindSiphons c20DiFlipped none = [["A", "b"]] ∧ graphFindSiphons c20Di none = [["A", "b"]] ∧
    graphFindTraps c20DiFlipped none = [["C"]] ∧ graphFindTraps c20Di none = [["C"]] :=
  ⟨by decide +kernel, rfl, c20Reoriented, by decide +kernel, by decide +kernel, by decide +kernel, by decide +kernel, by decide +kernel, by decide +kernel⟩

/-- `graphStructure_undirected_eq_directed`, `graphStructure_missing_stoich`: hypotheses hold, readings
agree. -/
example : IdsDistinct c20Graph ∧ ArcsSimple c20Graph ∧ c20Graph.directed = false ∧
    graphFindTraps c20Multi none = graphFindTraps c20Di none ∧
    c20Multi.arcs.map BArc.fillStoich ≠ c20Multi.arcs ∧
    graphFindSiphons ⟨c20Nodes, c20Multi.arcs.map BArc.fillStoich, false, true⟩ none =
      graphFindSiphons c20Multi none := by decide +kernel

/-- Non-negativity of the coefficients is necessary for `graphSiphonPred_eq`: two parallel product
arcs `+1`, `−1` from `r` to `a` — the code sees a positive product arc into `{a}`, the described
network carries the sum `0`. -/
example : graphSiphonPred ⟨[⟨"a", some "species", none, none⟩, ⟨"r", some "reaction", none, none⟩],
      [⟨"r", "a", some "product", some 1⟩, ⟨"r", "a", some "product", some (-1)⟩], true, true⟩ [0] = false ∧
    isSiphon (analysisNet ⟨[⟨"a", some "species", none, none⟩, ⟨"r", some "reaction", none, none⟩],
      [⟨"r", "a", some "product", some 1⟩, ⟨"r", "a", some "product", some (-1)⟩], true, true⟩) [0] = true := by
  decide +kernel

end SynKit.BipGraph
