import SynKitProofs.ReactorInvLemmas
import SynKitProofs.ReactorLink
import SynKitProofs.SubgraphSearchEquiv
import SynKitProofs.Props.C06
/-!
C05 — rule application depends on the chemistry only.  First over an abstract reactor `X`
(`SynKitModel/ReactorInv.lean`: search, prune, glue as parameters) under the named hypotheses
`PatternEquivariant`, `GlueEquivariant`, `SearchEquivariant`, `PruneSound` (`C05.statement_partial`); then the
hypotheses are discharged for the modelled implicit path `ReactorLink.concrete` (`C05.statement_concrete`).
The argument has three parts, put together in `C05.statement_of_searchPrune_partial`: un-pruned results are invariant
(`results_invariant_unpruned`); a pruning that meets `PruneSpec` is invisible in the result set
(`pruneSpec_preserves_results_on`); the fallback strategy is one of the other two (`searchBt_eq`).
-/
namespace SynKit.ReactorInv
open SynKit.Match

variable {R : Type}

/-- **C05 (engine level, host side).** `m` is a match into the renumbered host iff it is the
renumbering of a match into the host. -/
theorem allMonos_relabel_host (sel : Sel) (H P : LGraph) (f : Nat → Nat) (hf : Function.Injective f) (m : Mapping) :
    m ∈ allMonos sel (H.relabel f) P ↔ ∃ m₀ ∈ allMonos sel H P, m = relabelHost f m₀ := by
  rw [allMonos_relabel_host_list hf, Core.mem_map_iff]

/-- **C05 (engine level, pattern side).** -/
theorem allMonos_relabel_pattern (sel : Sel) (H P : LGraph) (π : Nat → Nat) (hπ : Function.Injective π) (m : Mapping) :
    m ∈ allMonos sel H (P.relabel π) ↔ ∃ m₀ ∈ allMonos sel H P, m = relabelPat π m₀ := by
  rw [allMonos_relabel_pattern_list hπ, Core.mem_map_iff]

/-- The correspondence is a bijection: relabelling a match by injective maps is injective. -/
theorem relabel_match_injective (f π : Nat → Nat) (hf : Function.Injective f) (hπ : Function.Injective π) :
    Function.Injective fun m : Mapping => relabelHost f (relabelPat π m) := by
  intro a b h
  simp only [relabelBoth_eq] at h
  exact List.map_injective_iff.2 (fun x y e => Prod.ext (hπ (congrArg Prod.fst e)) (hf (congrArg Prod.snd e))) h

/-- Number of matches is a chemistry-only quantity. -/
theorem allMonos_relabel_length (sel : Sel) (H P : LGraph) (f π : Nat → Nat)
    (hf : Function.Injective f) (hπ : Function.Injective π) :
    (allMonos sel (H.relabel f) (P.relabel π)).length = (allMonos sel H P).length := by
  rw [allMonos_relabel hf hπ, List.length_map]

/-- Named hypothesis: pattern preparation commutes with renumbering the template.  Holds of the modelled
reactor (`C05.patternEquivariant_concrete`). -/
def PatternEquivariant (X : Reactor R) : Prop :=
  ∀ (dir : Bool) (T : LGraph) (π : Nat → Nat), Function.Injective π →
    X.pattern dir (T.relabel π) = (X.pattern dir T).relabel π

/-- Named hypothesis on `_glue_graph` … `_to_smarts`: gluing the renumbered match onto the renumbered host
with the renumbered template gives the same reactions.  Holds of the modelled reactor
(`C05.glueEquivariant_concrete`). -/
def GlueEquivariant (X : Reactor R) : Prop :=
  ∀ (dir : Bool) (host T : LGraph) (f π : Nat → Nat) (m : Mapping), Function.Injective f → Function.Injective π →
    SetEqMod X.equiv (X.glue dir (host.relabel f) (T.relabel π) (relabelHost f (relabelPat π m))) (X.glue dir host T m)

/-- **C05 clause 1 without pruning.** For any equivariant search, pattern preparation and glue
step, gluing every raw match gives the same set of reactions whatever the numbering of substrate and
template. -/
theorem results_invariant_unpruned (X : Reactor R)
    (hpat : PatternEquivariant X) (hglue : GlueEquivariant X)
    (s : Strategy) (hs : SearchEquivariant (X.search s))
    (dir : Bool) (host T : LGraph) (f π : Nat → Nat) (hf : Function.Injective f) (hπ : Function.Injective π) :
    SetEqMod X.equiv (X.resultsUnpruned s dir (host.relabel f) (T.relabel π)) (X.resultsUnpruned s dir host T) := by
  unfold Reactor.resultsUnpruned resultsOf
  rw [hpat dir T π hπ]
  constructor
  · apply SubsetMod.flatMap
    intro m hm
    obtain ⟨m₀, hm₀, rfl⟩ := (hs host (X.pattern dir T) f π hf hπ m).1 hm
    exact ⟨m₀, hm₀, (hglue dir host T f π m₀ hf hπ).1⟩
  · apply SubsetMod.flatMap
    intro m₀ hm₀
    exact ⟨_, (hs host (X.pattern dir T) f π hf hπ _).2 ⟨m₀, hm₀, rfl⟩, (hglue dir host T f π m₀ hf hπ).2⟩

/-- **C05 clause 2.** If every component-aware match is an exhaustive match, every component-aware
result is an exhaustive result. -/
theorem comp_subset_all (glue : Mapping → List R) (comp all : List Mapping) (h : ∀ m ∈ comp, m ∈ all) :
    ∀ r ∈ resultsOf glue comp, r ∈ resultsOf glue all := by
  intro r hr
  obtain ⟨m, hm, hrm⟩ := List.mem_flatMap.1 hr
  exact List.mem_flatMap.2 ⟨m, h m hm, hrm⟩

/-- **C05 clause 3.** The fallback strategy is the component-aware one when that found something,
the exhaustive one otherwise. -/
theorem bt_def (glue : Mapping → List R) (comp all : List Mapping) :
    resultsOf glue (searchBt comp all) = if comp = [] then resultsOf glue all else resultsOf glue comp := by
  rw [searchBt_eq, apply_ite (resultsOf glue)]

theorem bt_subset_all (glue : Mapping → List R) (comp all : List Mapping) (h : ∀ m ∈ comp, m ∈ all) :
    ∀ r ∈ resultsOf glue (searchBt comp all), r ∈ resultsOf glue all :=
  comp_subset_all glue _ all (searchBt_subset h)

/-! #### Pruning specified rather than computed

How much a pruning removes is incidental; what the property needs is `PruneSpec`: the kept list is
a sub-list of the raw matches and every raw match is kept or *related* to a kept one (common image
under the rule automorphisms).  The implementation-level check evaluates `pruneSpecB` on what the
real pruning kept (`rinv.prune_spec`), so a pruning that removes less — or chooses other
representatives — stays silent, one that removes an unrelated match does not. -/

theorem relatedB_iff (keep : List Nat) (group : List Mapping) (m m' : Mapping) :
    relatedB keep group m m' = true ↔ Related keep group m m' := by
  unfold relatedB Related
  rw [List.any_eq_true]
  refine exists_congr fun σ₁ => and_congr_right fun _ => ?_
  cases composeOn keep m σ₁ <;> simp

theorem pruneSpecB_iff (keep : List Nat) (group raw kept : List Mapping) :
    pruneSpecB keep group raw kept = true ↔ PruneSpec keep group raw kept := by
  simp only [pruneSpecB, PruneSpec, Bool.and_eq_true, List.isSublist_iff_sublist, List.all_eq_true,
    Bool.or_eq_true, List.contains_iff_mem, List.any_eq_true, relatedB_iff]

/-- Named hypothesis on the glue step (premise of `prune_sound_of_aut`): composing a match with an
automorphism of the rule does not change what it glues to.  Holds of the modelled reactor on matches
(`C05.glueAutInvariant_concrete`). -/
def GlueAutInvariant (E : R → R → Prop) (glue : Mapping → List R) (keep : List Nat) (group : List Mapping) : Prop :=
  ∀ σ ∈ group, ∀ m k, composeOn keep m σ = some k → SetEqMod E (glue k) (glue m)

/-- **Any pruning that meets `PruneSpec` is invisible in the result set**; the invariance of the glue
step is demanded of the raw matches only (for an assignment list with a repeated key `get?` and
`preimage` read different pairs, and the concrete glue step is invariant on matches only). -/
theorem pruneSpec_preserves_results_on {E : R → R → Prop} (hE : Equivalence E) (glue : Mapping → List R)
    (keep : List Nat) (group : List Mapping) (raw kept : List Mapping)
    (hinv : ∀ σ ∈ group, ∀ m ∈ raw, ∀ k, composeOn keep m σ = some k → SetEqMod E (glue k) (glue m))
    (h : PruneSpec keep group raw kept) :
    SetEqMod E (resultsOf glue kept) (resultsOf glue raw) :=
  Covers.results (C := fun _ => True) hE glue
    ⟨h.1, fun m hm => (h.2 m hm).imp id fun ⟨m', hm', hr⟩ => ⟨m', hm', trivial, trivial, hr⟩⟩
    fun σ hσ m hm _ => hinv σ hσ m hm

theorem pruneSpec_preserves_results {E : R → R → Prop} (hE : Equivalence E) (glue : Mapping → List R)
    (keep : List Nat) (group : List Mapping) (hinv : GlueAutInvariant E glue keep group)
    (raw kept : List Mapping) (h : PruneSpec keep group raw kept) :
    SetEqMod E (resultsOf glue kept) (resultsOf glue raw) :=
  pruneSpec_preserves_results_on hE glue keep group raw kept (fun σ hσ m _ k hk => hinv σ hσ m k hk) h

/-- The modelled (repaired) pruning meets the specification. -/
theorem pruneByAut_spec (maxGroup : Nat) (keep : List Nat) (group ms : List Mapping) :
    PruneSpec keep group ms (pruneByAut maxGroup keep group ms) :=
  (pruneByAut_covers maxGroup keep group ms).pruneSpec

/-- **Pruning is sound (shape statement over the group action).** Two matches with the same
pruning key — i.e. with a common image under the listed automorphisms — glue to the same
reactions. No group axiom is needed for soundness. -/
theorem prune_sound_of_aut {E : R → R → Prop} (hE : Equivalence E) (glue : Mapping → List R)
    (keep : List Nat) (group : List Mapping) (hinv : GlueAutInvariant E glue keep group)
    (m₁ m₂ k : Mapping) (h₁ : pruneKey keep group m₁ = some k) (h₂ : pruneKey keep group m₂ = some k) :
    SetEqMod E (glue m₁) (glue m₂) :=
  (related_of_pruneKey h₁ h₂).glue_setEq hE (fun σ hσ => hinv σ hσ m₁) (fun σ hσ => hinv σ hσ m₂)

/-- `prune_preserves_results` with the invariance of the glue step demanded of the raw matches only. -/
theorem prune_preserves_results_on {E : R → R → Prop} (hE : Equivalence E) (glue : Mapping → List R)
    (maxGroup : Nat) (keep : List Nat) (group : List Mapping) (ms : List Mapping)
    (hinv : ∀ σ ∈ group, ∀ m ∈ ms, ∀ k, composeOn keep m σ = some k → SetEqMod E (glue k) (glue m)) :
    SetEqMod E (resultsOf glue (pruneByAut maxGroup keep group ms)) (resultsOf glue ms) :=
  pruneSpec_preserves_results_on hE glue keep group ms _ hinv (pruneByAut_spec maxGroup keep group ms)

/-- **C11/C05 pruning clause for the repaired code.** Pruning never changes the set of distinct
reactions compared with gluing every raw match. -/
theorem prune_preserves_results {E : R → R → Prop} (hE : Equivalence E) (glue : Mapping → List R)
    (maxGroup : Nat) (keep : List Nat) (group : List Mapping) (hinv : GlueAutInvariant E glue keep group)
    (ms : List Mapping) :
    SetEqMod E (resultsOf glue (pruneByAut maxGroup keep group ms)) (resultsOf glue ms) :=
  pruneSpec_preserves_results hE glue keep group hinv ms _ (pruneByAut_spec maxGroup keep group ms)

/-- The pruning stage of a reactor is invisible in the result set. -/
def PruneSound (X : Reactor R) : Prop :=
  ∀ (dir : Bool) (host T : LGraph) (ms : List Mapping),
    SetEqMod X.equiv (resultsOf (X.glue dir host T) (X.prune dir T ms)) (resultsOf (X.glue dir host T) ms)

/-- A reactor that prunes with `pruneByAut` over any list of rule symmetries that leave the glue
result unchanged is `PruneSound`. -/
theorem pruneSound_of_aut (X : Reactor R) (hE : Equivalence X.equiv) (maxGroup : Nat)
    (keepN : Bool → LGraph → List Nat) (grp : Bool → LGraph → List Mapping)
    (hprune : ∀ dir T ms, X.prune dir T ms = pruneByAut maxGroup (keepN dir T) (grp dir T) ms)
    (hinv : ∀ dir host T, GlueAutInvariant X.equiv (X.glue dir host T) (keepN dir T) (grp dir T)) :
    PruneSound X := by
  intro dir host T ms
  rw [hprune]
  exact prune_preserves_results hE _ maxGroup _ _ (hinv dir host T) ms

/-- **C05 at full strength** for a reactor `X`.  Property text: *the set of distinct reactions produced by
rule application is unchanged when the substrate SMILES is rewritten, when the template's atom-map numbers
are permuted, and when the call is repeated; the component-aware strategy returns a subset of the
exhaustive strategy and the fallback strategy returns the component-aware result whenever that is
non-empty.*  Rewriting a SMILES / permuting atom maps renumbers the nodes of the substrate graph / the
template graph: `host.relabel f`, `T.relabel π` with `f`, `π` injective.  (Appendix A of DESIGN.md; the third clause is the
property's own wording — "returns the component-aware result whenever that is non-empty" — plus the
fall-back when the component-aware *search* is empty; the draft's `if (results comp).isEmpty` would
ask more than the property does when matches exist but none renders).  Repetition of a call is
covered by `results` being a function. -/
def C05.FullStatement (X : Reactor R) : Prop :=
  ∀ (dir : Bool) (host T : LGraph),
    (∀ (s : Strategy) (f π : Nat → Nat), Function.Injective f → Function.Injective π →
      SetEqMod X.equiv (X.results s dir (host.relabel f) (T.relabel π)) (X.results s dir host T)) ∧
    SubsetMod X.equiv (X.results .comp dir host T) (X.results .all dir host T) ∧
    (X.results .comp dir host T ≠ [] → X.results .bt dir host T = X.results .comp dir host T) ∧
    (X.search .comp host (X.pattern dir T) = [] → X.results .bt dir host T = X.results .all dir host T)

/-- Every strategy of a reactor is equivariant as soon as the component-aware one is, the exhaustive one being the
proven enumerator and the fallback `searchBt` of the two. -/
theorem Reactor.search_equivariant (X : Reactor R)
    (hall : ∀ H P, X.search .all H P = allMonos X.sel H P)
    (hbt : ∀ H P, X.search .bt H P = searchBt (X.search .comp H P) (X.search .all H P))
    (hcompEq : SearchEquivariant (X.search .comp)) (s : Strategy) : SearchEquivariant (X.search s) := by
  have hallEq : SearchEquivariant (X.search .all) := by
    rw [show X.search .all = allMonos X.sel from funext fun H => funext (hall H)]
    exact allMonos_searchEquivariant X.sel
  cases s
  · exact hallEq
  · exact hcompEq
  · rw [show X.search .bt = fun H P => searchBt (X.search .comp H P) (X.search .all H P) from
      funext fun H => funext (hbt H)]
    exact searchBt_equivariant hcompEq hallEq

/-- The full statement for a reactor whose stages are as in `C05.statement_partial` below, with the
soundness of pruning demanded only of the match lists the searches return (what the full statement
uses; the form the concrete reactor provides). -/
theorem C05.statement_of_searchPrune_partial (X : Reactor R) (hE : Equivalence X.equiv)
    (hall : ∀ H P, X.search .all H P = allMonos X.sel H P)
    (hbt : ∀ H P, X.search .bt H P = searchBt (X.search .comp H P) (X.search .all H P))
    (hcompSub : ∀ H P m, m ∈ X.search .comp H P → m ∈ X.search .all H P)
    (hcompEq : SearchEquivariant (X.search .comp))
    (hpat : PatternEquivariant X) (hglue : GlueEquivariant X)
    (hres : ∀ s dir host T, SetEqMod X.equiv (X.results s dir host T) (X.resultsUnpruned s dir host T)) :
    C05.FullStatement X := by
  intro dir host T
  refine ⟨fun s f π hf hπ => ?_, ?_, fun hne => ?_, fun he => ?_⟩
  · exact SetEqMod.trans hE (hres s dir _ _)
      (SetEqMod.trans hE (results_invariant_unpruned X hpat hglue s (X.search_equivariant hall hbt hcompEq s)
        dir host T f π hf hπ) (SetEqMod.symm (hres s dir host T)))
  · exact SubsetMod.trans hE (hres .comp dir host T).1 (SubsetMod.trans hE
      (SubsetMod.of_subset hE (comp_subset_all _ _ _ (hcompSub host (X.pattern dir T)))) (hres .all dir host T).2)
  · -- without a component-aware match there is no component-aware result, pruned or not
    have hc : X.search .comp host (X.pattern dir T) ≠ [] := by
      intro e
      have h0 : X.resultsUnpruned .comp dir host T = [] := by simp [Reactor.resultsUnpruned, resultsOf, e]
      exact hne (SubsetMod.nil_right (h0 ▸ (hres .comp dir host T).1))
    unfold Reactor.results Reactor.kept
    rw [hbt, searchBt_eq, if_neg hc]
  · unfold Reactor.results Reactor.kept
    rw [hbt, searchBt_eq, if_pos he]

/-- **C05, proved part.** The full statement holds for every reactor whose exhaustive search is
the proven enumerator, whose fallback search is `searchBt`, whose component-aware search returns
exhaustive matches and is equivariant (C06), whose pattern preparation and glue step are
equivariant (C03) and whose pruning is sound (`pruneSound_of_aut`, i.e. the repaired pruning).
Of the modelled reactor all but the last hold as stated.  Its pruning is sound on lists of matches of the prepared
pattern (`C05.prune_preserves_results_concrete`) and not on every list of assignments;
`C05.statement_of_searchPrune_partial` asks no more than the former, and `C05.statement_concrete` goes through it.
The pruning of the pinned tree (before fix 0015: orbits and anchor of the left-hand pattern alone, ties broken by
node id) does NOT satisfy `PruneSound`: `harness/props/c05.py` exhibits the Suzuki witness (`regress/C05/`). -/
theorem C05.statement_partial (X : Reactor R) (hE : Equivalence X.equiv)
    (hall : ∀ H P, X.search .all H P = allMonos X.sel H P)
    (hbt : ∀ H P, X.search .bt H P = searchBt (X.search .comp H P) (X.search .all H P))
    (hcompSub : ∀ H P m, m ∈ X.search .comp H P → m ∈ X.search .all H P)
    (hcompEq : SearchEquivariant (X.search .comp))
    (hpat : PatternEquivariant X) (hglue : GlueEquivariant X) (hprune : PruneSound X) :
    C05.FullStatement X :=
  C05.statement_of_searchPrune_partial X hE hall hbt hcompSub hcompEq hpat hglue
    fun _ dir host T => hprune dir host T _

private def host3 : LGraph :=
  { nodes := [(1, [("element", .str "C"), ("hcount", .num 6)]), (2, [("element", .str "C"), ("hcount", .num 4)]),
              (3, [("element", .str "O"), ("hcount", .num 2)])],
    edges := [(1, 2, [("order", .num 2)]), (2, 3, [("order", .num 2)])] }

private def patCO : LGraph :=
  { nodes := [(10, [("element", .str "C"), ("hcount", .num 2)]), (11, [("element", .str "O")])],
    edges := [(10, 11, [("order", .num 2)])] }

private def selEO : Sel := { nodeKeys := ["element"], edgeKeys := ["order"] }

/-- The hypotheses of the relabelling theorems are satisfiable on a non-trivial input: the C–O
pattern has exactly one match in ethanol, and after renumbering host (+7) and pattern (+100) the
only match is its renumbering. -/
example : allMonos selEO host3 patCO = [[(10, 2), (11, 3)]] := by decide +kernel

example : allMonos selEO (host3.relabel (· + 7)) (patCO.relabel (· + 100)) = [[(110, 9), (111, 10)]] := by decide +kernel

example : relabelHost (· + 7) (relabelPat (· + 100) [(10, 2), (11, 3)]) = [(110, 9), (111, 10)] := by decide +kernel

/-- Pruning on a concrete symmetric situation: the pattern C–C (nodes 1,2) with the swap as a
rule automorphism; the two matches onto the same host bond are merged, the match onto another
bond is kept. -/
example : pruneByAut 5040 [1, 2] [[(1, 1), (2, 2)], [(1, 2), (2, 1)]]
    [[(1, 5), (2, 6)], [(1, 6), (2, 5)], [(1, 6), (2, 7)]] = [[(1, 5), (2, 6)], [(1, 6), (2, 7)]] := by decide +kernel

/-- … and with the identity as the only rule automorphism (the rule distinguishes its two atoms,
as the Suzuki rule does) nothing is merged: the behaviour whose absence was finding F11. -/
example : pruneByAut 5040 [1, 2] [[(1, 1), (2, 2)]]
    [[(1, 5), (2, 6)], [(1, 6), (2, 5)]] = [[(1, 5), (2, 6)], [(1, 6), (2, 5)]] := by decide +kernel

/-- `prune_preserves_results` applies to a concrete match list (with a glue step that renders every
match to the same reaction, trivially invariant under the swap): hypotheses satisfiable, conclusion
about a list that really shrinks (3 raw matches, 2 kept). -/
example : SetEqMod (· = ·)
    (resultsOf (fun _ : Mapping => [0]) (pruneByAut 5040 [1, 2] [[(1, 1), (2, 2)], [(1, 2), (2, 1)]]
      [[(1, 5), (2, 6)], [(1, 6), (2, 5)], [(1, 6), (2, 7)]]))
    (resultsOf (fun _ : Mapping => [0]) [[(1, 5), (2, 6)], [(1, 6), (2, 5)], [(1, 6), (2, 7)]]) :=
  prune_preserves_results eq_equivalence _ 5040 [1, 2] _
    (fun _ _ _ _ _ => SetEqMod.refl eq_equivalence _) _

/-- A concrete reactor satisfying every hypothesis of `C05.statement_partial` (each match
renders to the number of pattern nodes it covers, a renumbering-invariant quantity), so the theorem
is not vacuous. -/
private def toyX : Reactor Nat where
  sel := selEO
  pattern := fun _ T => T
  search := fun _ H P => allMonos selEO H P
  prune := fun _ _ ms => ms
  glue := fun _ _ _ m => [m.length]
  equiv := fun a b => a = b

example : C05.FullStatement toyX := by
  apply C05.statement_partial toyX eq_equivalence
  · intro H P; rfl
  · intro H P; simp [toyX, searchBt]
  · intro H P m h; exact h
  · exact allMonos_searchEquivariant selEO
  · intro dir T π _; rfl
  · intro dir host T f π m _ _
    simp only [toyX, relabelHost, relabelPat, List.length_map]
    exact SetEqMod.refl eq_equivalence _
  · intro dir host T ms
    exact SetEqMod.refl eq_equivalence _

section Concrete
open SynKit.Reactor SynKit.ReactorLink

/-- **C05, glue step.** `_glue_graph` commutes with renumbering substrate (`f`) and template (`π`):
an equality of graphs, no hypothesis beyond injectivity. -/
theorem C05.glue_relabel_concrete {f π : Nat → Nat} (hf : Function.Injective f) (hπ : Function.Injective π)
    (dir : Bool) (host T : LGraph) (m : Mapping) :
    glue (host.relabel f) (orient dir (T.relabel π)) (relabelHost f (relabelPat π m)) =
      (glue host (orient dir T) m).relabel f :=
  glue_orient_relabel hf hπ dir host T m

theorem C05.patternEquivariant_concrete (maxGroup : Nat) (comp : LGraph → LGraph → List Mapping) :
    PatternEquivariant (concrete maxGroup comp) :=
  fun dir T π _ => concrete_pattern_relabel maxGroup comp dir T π

theorem C05.glueEquivariant_concrete (maxGroup : Nat) (comp : LGraph → LGraph → List Mapping) :
    GlueEquivariant (concrete maxGroup comp) := by
  intro dir host T f π m hf hπ
  rw [concrete_glue_relabel maxGroup comp hf hπ]
  exact SetEqMod.map itsEquiv_equivalence fun r hr =>
    itsEquiv_relabel r (concrete_glue_wf maxGroup comp dir host T m r hr) f hf

/-- **C05 clause 1, concrete, exhaustive strategy, no pruning — list form.** The ITS graphs glued
along all matches for the renumbered substrate and template are the renumbered ITS graphs, in the
same order (no well-formedness hypothesis). -/
theorem C05.results_list_invariant_concrete {f π : Nat → Nat} (hf : Function.Injective f) (hπ : Function.Injective π)
    (dir : Bool) (host T : LGraph) :
    implicitResults (host.relabel f) (orient dir (T.relabel π))
        (allMonos monoSel (host.relabel f) (left (orient dir (T.relabel π)))) =
      (implicitResults host (orient dir T) (allMonos monoSel host (left (orient dir T)))).map (·.relabel f) := by
  unfold implicitResults
  rw [allMonos_left_orient_relabel hf hπ monoSel monoSel_no_atom_map, List.map_map, List.map_map]
  apply List.map_congr_left
  intro m _
  exact glue_orient_relabel hf hπ dir host T m

theorem concrete_searchEquivariant (maxGroup : Nat) (comp : LGraph → LGraph → List Mapping)
    (hc : SearchEquivariant comp) (s : Strategy) : SearchEquivariant ((concrete maxGroup comp).search s) :=
  (concrete maxGroup comp).search_equivariant (fun _ _ => rfl) (fun _ _ => rfl) hc s

/-- **C05 clause 1, concrete, no pruning.** Un-pruned results of the concrete implicit-path reactor
are invariant under renumbering substrate and template, for the exhaustive strategy and for any
equivariant component-aware search (and the fallback built from it). -/
theorem C05.results_invariant_concrete (maxGroup : Nat) (comp : LGraph → LGraph → List Mapping)
    (hc : SearchEquivariant comp) (s : Strategy) (dir : Bool) (host T : LGraph) (f π : Nat → Nat)
    (hf : Function.Injective f) (hπ : Function.Injective π) :
    SetEqMod ItsEquiv ((concrete maxGroup comp).resultsUnpruned s dir (host.relabel f) (T.relabel π))
      ((concrete maxGroup comp).resultsUnpruned s dir host T) :=
  results_invariant_unpruned (concrete maxGroup comp) (C05.patternEquivariant_concrete maxGroup comp)
    (C05.glueEquivariant_concrete maxGroup comp) s (concrete_searchEquivariant maxGroup comp hc s) dir host T f π hf hπ

/-- … in particular for the exhaustive strategy, unconditionally. -/
theorem C05.results_invariant_concrete_all (maxGroup : Nat) (comp : LGraph → LGraph → List Mapping)
    (dir : Bool) (host T : LGraph) (f π : Nat → Nat) (hf : Function.Injective f) (hπ : Function.Injective π) :
    SetEqMod ItsEquiv ((concrete maxGroup comp).resultsUnpruned .all dir (host.relabel f) (T.relabel π))
      ((concrete maxGroup comp).resultsUnpruned .all dir host T) :=
  results_invariant_unpruned (concrete maxGroup comp) (C05.patternEquivariant_concrete maxGroup comp)
    (C05.glueEquivariant_concrete maxGroup comp) .all (allMonos_searchEquivariant monoSel) dir host T f π hf hπ

/-- **`GlueAutInvariant`, concrete.** Composing a match of the prepared pattern with an
automorphism of the rule (the oriented template with its before/after labels, compared on `itsSel`)
does not change the reaction it glues to: the two ITS graphs are isomorphic (`IsIso itsSel`, inside
`ItsEquiv`; the isomorphism is the identity on the substrate's atoms, `ReactorLink.glue_aut_iso`).
Restricted to matches of the prepared pattern. -/
theorem C05.glueAutInvariant_concrete (maxGroup : Nat) (comp : LGraph → LGraph → List Mapping)
    (dir : Bool) (host T : LGraph) (m σ k : Mapping)
    (hm : WFHost host → WFTemplate (orient dir T) → IsMono monoSel host (left (orient dir T)) m)
    (hσ : σ ∈ auts itsSel (orient dir T))
    (hk : composeOn (left (orient dir T)).ids m σ = some k) :
    SetEqMod ItsEquiv ((concrete maxGroup comp).glue dir host T k) ((concrete maxGroup comp).glue dir host T m) :=
  concrete_glue_aut maxGroup comp dir host T m σ k hm hσ hk

/-- **C05/C11 pruning clause, concrete.** For the modelled reactor with the repaired pruning, pruning a
list of matches never changes the set of reactions obtained (up to isomorphism of ITS graphs). -/
theorem C05.prune_preserves_results_concrete (maxGroup : Nat) (comp : LGraph → LGraph → List Mapping)
    (dir : Bool) (host T : LGraph) (ms : List Mapping)
    (hms : ∀ m ∈ ms, WFHost host → WFTemplate (orient dir T) → IsMono monoSel host (left (orient dir T)) m) :
    SetEqMod ItsEquiv
      (resultsOf ((concrete maxGroup comp).glue dir host T) ((concrete maxGroup comp).prune dir T ms))
      (resultsOf ((concrete maxGroup comp).glue dir host T) ms) :=
  prune_preserves_results_on itsEquiv_equivalence _ maxGroup _ _ ms
    (fun σ hσ m hm k hk => concrete_glue_aut maxGroup comp dir host T m σ k (hms m hm) hσ hk)

/-- On the property's domain a match of the prepared pattern renders to exactly its glued graph. -/
theorem resultsOf_concrete_of_mono (maxGroup : Nat) (comp : LGraph → LGraph → List Mapping) (dir : Bool)
    (host T : LGraph) (hH : WFHost host) (hT : WFTemplate (orient dir T)) (ms : List Mapping)
    (hms : ∀ m ∈ ms, IsMono monoSel host (left (orient dir T)) m) :
    resultsOf ((concrete maxGroup comp).glue dir host T) ms = implicitResults host (orient dir T) ms := by
  unfold resultsOf implicitResults
  rw [List.map_eq_flatMap]
  exact List.flatMap_congr fun m hm => concrete_glue_of_mono maxGroup comp dir host T m hH hT (hms m hm)

/-- The same in the vocabulary of C03: on the property's domain, the ITS graphs glued along the
pruned matches and along all given matches are the same up to isomorphism. -/
theorem C05.prune_preserves_implicitResults (maxGroup : Nat) (host T : LGraph) (ms : List Mapping)
    (hH : WFHost host) (hT : WFTemplate T) (hms : ∀ m ∈ ms, IsMono monoSel host (left T) m) :
    SetEqMod ItsEquiv (implicitResults host T (pruneByAut maxGroup (left T).ids (auts itsSel T) ms))
      (implicitResults host T ms) := by
  have key := C05.prune_preserves_results_concrete maxGroup (fun _ _ => []) false host T ms
    (fun m hm _ _ => hms m hm)
  have hkept : ∀ m ∈ (concrete maxGroup fun _ _ => []).prune false T ms, IsMono monoSel host (left T) m :=
    fun m hm => hms m ((pruneByAut_spec _ _ _ ms).1.subset hm)
  rwa [resultsOf_concrete_of_mono _ _ false host T hH hT ms hms,
    resultsOf_concrete_of_mono _ _ false host T hH hT _ hkept] at key

theorem concrete_search_sub (maxGroup : Nat) (comp : LGraph → LGraph → List Mapping)
    (hcompSub : ∀ H P m, m ∈ comp H P → m ∈ allMonos monoSel H P)
    (s : Strategy) (H P : LGraph) (m : Mapping) (hm : m ∈ (concrete maxGroup comp).search s H P) :
    m ∈ allMonos monoSel H P := by
  cases s
  · exact hm
  · exact hcompSub H P m hm
  · exact searchBt_subset (hcompSub H P) m hm

/-- Pruning is invisible in the results of a search that returns exhaustive matches only. -/
theorem concrete_results_unpruned (maxGroup : Nat) (comp : LGraph → LGraph → List Mapping)
    (s : Strategy) (dir : Bool) (host T : LGraph)
    (hsub : ∀ m ∈ (concrete maxGroup comp).search s host ((concrete maxGroup comp).pattern dir T),
      m ∈ allMonos monoSel host ((concrete maxGroup comp).pattern dir T)) :
    SetEqMod ItsEquiv ((concrete maxGroup comp).results s dir host T)
      ((concrete maxGroup comp).resultsUnpruned s dir host T) :=
  C05.prune_preserves_results_concrete maxGroup comp dir host T _ fun m hm _ hT =>
    (mem_allMonos monoSel host _ (left_wf _ hT) m).1 (concrete_search_all maxGroup comp dir host T ▸ hsub m hm)

/-- **C05 for the concrete reactor (`_partial`)**: `C05.FullStatement` holds of the modelled
implicit path with the repaired pruning — invariance of the result set under renumbering substrate
and template for all three strategies, component-aware ⊆ exhaustive, the fallback rule — for every
component-aware search `comp` that returns exhaustive matches and is equivariant.  All hypotheses
about glue, pattern preparation, exhaustive search and pruning are discharged; the two on `comp` are
discharged for the C06 model in `C05.statement_concrete` below. -/
theorem C05.statement_concrete_partial (maxGroup : Nat) (comp : LGraph → LGraph → List Mapping)
    (hcompSub : ∀ H P m, m ∈ comp H P → m ∈ allMonos monoSel H P)
    (hcompEq : SearchEquivariant comp) :
    C05.FullStatement (concrete maxGroup comp) := by
  apply C05.statement_of_searchPrune_partial (concrete maxGroup comp) itsEquiv_equivalence
  · intro H P; rfl
  · intro H P; rfl
  · exact hcompSub
  · exact hcompEq
  · exact C05.patternEquivariant_concrete maxGroup comp
  · exact C05.glueEquivariant_concrete maxGroup comp
  · exact fun s dir host T => concrete_results_unpruned maxGroup comp s dir host T
      fun m => concrete_search_sub maxGroup comp hcompSub s _ _ m

/-- Non-vacuity of the hypotheses on `comp`: the exhaustive enumerator itself is an admissible
component search (every strategy then coincides with the exhaustive one), so the concrete full
statement has at least this unconditional instance. -/
theorem C05.statement_concrete_exhaustive (maxGroup : Nat) :
    C05.FullStatement (concrete maxGroup (allMonos monoSel)) :=
  C05.statement_concrete_partial maxGroup (allMonos monoSel) (fun _ _ _ h => h) (allMonos_searchEquivariant monoSel)

/-- C06 soundness: component-aware matches are exhaustive matches. -/
theorem compSearch_sub (strict : Bool) (thr : Nat) (H P : LGraph) (m : Mapping)
    (hm : m ∈ compSearch strict thr H P) : m ∈ allMonos monoSel H P := by
  unfold compSearch at hm
  split at hm
  · rename_i hw
    exact SynKit.SubgraphSearch.comp_subset_all monoSel H P hw.1 hw.2 0 strict thr m hm
  · cases hm

/-- **`SearchEquivariant` for the component-aware strategy**, from the list-level equivariance
`SubgraphSearch.findComp_relabel` of the C06 model. -/
theorem compSearch_equivariant (strict : Bool) (thr : Nat) : SearchEquivariant (compSearch strict thr) := by
  intro H P f π hf hπ m
  unfold compSearch
  rw [if_congr (and_congr (relabel_WF_iff H f hf) (relabel_WF_iff P π hπ)) rfl rfl]
  split
  · exact SynKit.SubgraphSearch.findComp_searchEquivariant monoSel 0 strict thr H P f π hf hπ m
  · exact ⟨nofun, fun ⟨_, h, _⟩ => nomatch h⟩

theorem concrete_search_comp (maxGroup : Nat) (strict : Bool) (thr : Nat) (dir : Bool) (host T : LGraph) :
    (concrete maxGroup (compSearch strict thr)).search .comp host ((concrete maxGroup (compSearch strict thr)).pattern dir T) =
      compSearch strict thr host (left (orient dir T)) := by
  show compSearch strict thr host (noMap (left (orient dir T))) = _
  unfold compSearch
  rw [SynKit.SubgraphSearch.findComp_noMap monoSel monoSel_no_atom_map,
    if_congr (and_congr_right' (noMap_WF_iff _)) rfl rfl]

/-- **C05 for the concrete reactor**: `C05.FullStatement` holds, without any hypothesis, of the
modelled implicit path of `SynReactor` — pattern preparation and glue step of the C03 model,
exhaustive search = the proven enumerator, component-aware search = `findComp` of the C06 model
(any `strict_cc_count`, any `threshold`), fallback = component-aware if non-empty else exhaustive,
pruning = the repaired `pruneByAut` over the automorphisms of the rule (any group-size bound), results
compared up to isomorphism of ITS graphs: the result set is invariant under renumbering substrate
and template for all three strategies, component-aware ⊆ exhaustive, and the fallback rule holds.
(Outside the model: the explicit-hydrogen re-matching path, `_explicit_h`, SMILES rendering; the
exhaustive strategy is taken without its threshold.) -/
theorem C05.statement_concrete (maxGroup : Nat) (strict : Bool) (thr : Nat) :
    C05.FullStatement (concrete maxGroup (compSearch strict thr)) :=
  C05.statement_concrete_partial maxGroup (compSearch strict thr) (compSearch_sub strict thr)
    (compSearch_equivariant strict thr)

/-- **The term the driver executes.** `reactor.results` (`Driver/Reactor.lean`) runs `theReactor max_group strict threshold`
(`SynKitModel/ReactorConcrete.lean`), which is `concrete max_group (compSearch strict threshold)` by definition: the
full statement holds of exactly the object that the end-to-end correspondence stream of `harness/props/c05.py`
compares with the real `SynReactor`. -/
theorem C05.statement_theReactor (maxGroup : Nat) (strict : Bool) (thr : Nat) :
    C05.FullStatement (theReactor maxGroup strict thr) :=
  C05.statement_concrete maxGroup strict thr

private def cHost : LGraph :=
  { nodes := [(1, [("element", .str "C"), ("hcount", .num 6), ("charge", .num 0)]),
              (2, [("element", .str "Br"), ("hcount", .num 0), ("charge", .num 0)]),
              (3, [("element", .str "N"), ("hcount", .num 4), ("charge", .num 0)])]
    edges := [(1, 2, [("order", .num 2)])] }

/-- N(10) loses a hydrogen and bonds to C(11); C(11)–Br(12) breaks; Br gains the hydrogen. -/
private def cT : LGraph :=
  { nodes := [(10, [("typesGH", .tup [.tup [.str "N", .bool false, .num 2, .num 0, .tup []],
                                       .tup [.str "N", .bool false, .num 0, .num 0, .tup []]])]),
              (11, [("typesGH", .tup [.tup [.str "C", .bool false, .num 0, .num 0, .tup []],
                                       .tup [.str "C", .bool false, .num 0, .num 0, .tup []]])]),
              (12, [("typesGH", .tup [.tup [.str "Br", .bool false, .num 0, .num 0, .tup []],
                                       .tup [.str "Br", .bool false, .num 2, .num 0, .tup []]])])]
    edges := [(10, 11, [("order", .tup [.num 0, .num 2]), ("standard_order", .num (-2))]),
              (11, 12, [("order", .tup [.num 2, .num 0]), ("standard_order", .num 2)])] }

/-- The concrete reactor really produces something on the property's domain (guards pass, one
match, one ITS) … -/
example : WFHost cHost ∧ WFTemplate cT ∧
    (concrete 5040 (allMonos monoSel)).results .all false cHost cT = [glue cHost cT [(10, 3), (11, 1), (12, 2)]] := by
  decide +kernel

/-- … and after renumbering substrate (+7) and template (+100) it produces the renumbered ITS: the
conclusion of `C05.results_list_invariant_concrete` / `C05.statement_concrete_partial` on a concrete
non-trivial input. -/
example : (concrete 5040 (allMonos monoSel)).results .all false (cHost.relabel (· + 7)) (cT.relabel (· + 100)) =
    [(glue cHost cT [(10, 3), (11, 1), (12, 2)]).relabel (· + 7)] := by decide +kernel

/-- The component-aware and the fallback strategy of the C06 model on the same input (two host
components, two pattern components): `C05.statement_concrete` is about a reactor that really
produces results under every strategy. -/
example : (concrete 5040 (compSearch false 5000)).results .comp false cHost cT = [glue cHost cT [(10, 3), (11, 1), (12, 2)]] ∧
    (concrete 5040 (compSearch false 5000)).results .bt false cHost cT = [glue cHost cT [(10, 3), (11, 1), (12, 2)]] := by
  decide +kernel

/-- The `atom_map` obstacle is real: pattern preparation does NOT commute with renumbering literally
(so `PatternEquivariant` fails for `pattern = left`), only up to `noMap`. -/
example : left (cT.relabel (· + 100)) ≠ (left cT).relabel (· + 100) ∧
    noMap (left (cT.relabel (· + 100))) = (noMap (left cT)).relabel (· + 100) := by decide +kernel

/-- A rule with a symmetry (Br–Br homolysis, the two atoms exchangeable): two matches, two rule
automorphisms, pruning keeps one match — `C05.prune_preserves_results_concrete` applies to a list
that really shrinks. -/
private def sHost : LGraph :=
  { nodes := [(1, [("element", .str "Br"), ("hcount", .num 0), ("charge", .num 0)]),
              (2, [("element", .str "Br"), ("hcount", .num 0), ("charge", .num 0)])]
    edges := [(1, 2, [("order", .num 2)])] }

private def sT : LGraph :=
  { nodes := [(10, [("typesGH", .tup [.tup [.str "Br", .bool false, .num 0, .num 0, .tup []],
                                       .tup [.str "Br", .bool false, .num 0, .num 0, .tup []]])]),
              (11, [("typesGH", .tup [.tup [.str "Br", .bool false, .num 0, .num 0, .tup []],
                                       .tup [.str "Br", .bool false, .num 0, .num 0, .tup []]])])]
    edges := [(10, 11, [("order", .tup [.num 2, .num 0]), ("standard_order", .num 2)])] }

example : WFHost sHost ∧ WFTemplate sT ∧ (auts itsSel sT).length = 2 ∧
    ((concrete 5040 (allMonos monoSel)).resultsUnpruned .all false sHost sT).length = 2 ∧
    ((concrete 5040 (allMonos monoSel)).results .all false sHost sT).length = 1 := by decide +kernel

end Concrete

end SynKit.ReactorInv

namespace SynKit.ReactorLink

/-- The substrate and rule of `sHost` / `sT` above under the names the reactor clause of C11 uses
(`Props/C11.lean`, non-vacuity of `C11.pruning_clause_model`). -/
def exSymHost : LGraph :=
  { nodes := [(1, [("element", .str "Br"), ("hcount", .num 0), ("charge", .num 0)]),
              (2, [("element", .str "Br"), ("hcount", .num 0), ("charge", .num 0)])]
    edges := [(1, 2, [("order", .num 2)])] }

/-- Homolysis of a Br–Br bond: a rule whose two atoms are exchangeable. -/
def exSymRule : LGraph :=
  { nodes := [(10, [("typesGH", .tup [.tup [.str "Br", .bool false, .num 0, .num 0, .tup []],
                                       .tup [.str "Br", .bool false, .num 0, .num 0, .tup []]])]),
              (11, [("typesGH", .tup [.tup [.str "Br", .bool false, .num 0, .num 0, .tup []],
                                       .tup [.str "Br", .bool false, .num 0, .num 0, .tup []]])])]
    edges := [(10, 11, [("order", .tup [.num 2, .num 0]), ("standard_order", .num 2)])] }

end SynKit.ReactorLink
