import SynKitModel.GraphMatcherEngine
import SynKitProofs.GraphMatcherEngineLemmas
import SynKitProofs.FindIsoLemmas
/-! C07 — isomorphism verdicts and embeddings are correct; pre-filters never change them.  The model
(`SynKitModel/GraphMatcherEngine.lean`, `SynKitModel/FindIso.lean`) follows the repaired code (DESIGN §6 F5, F5b, F6,
F7).  `preCheck_sound`, `get_mappings_nonempty_iff_contained` and `isomorphic_iff` hold with the WL filter on or off;
the theorems with the suffix `_partial` are their cases "filter off or sizes differ". -/
namespace SynKit.GME
open SynKit.Match

/-- **C07, query histories.** Whatever queries were made before, by engines with whatever attribute
selections, on the same (immutable) graph objects: every answer of a history run against the
shared cache equals the cache-free answer of that query alone. -/
theorem cache_transparent (heap : List LGraph) (qs : List Query) :
    run heap [] qs = qs.map (pureAnswer heap) :=
  run_ok heap [] (fun _ h => by cases h) qs

theorem mappingsCore_eq_take (e : Engine) (host pat : LGraph) :
    ∃ k, (e.maxMappings ≠ some 0 → k ≠ 0) ∧ mappingsCore e host pat = (allInduced e.sel host pat).take k := by
  unfold mappingsCore
  split
  · exact ⟨1, fun _ => Nat.one_ne_zero, rfl⟩
  · cases e.maxMappings with
    | none => exact ⟨_ + 1, fun _ => Nat.succ_ne_zero _, (List.take_of_length_le (Nat.le_succ _)).symm⟩
    | some k => exact ⟨k, fun hk h0 => hk (congrArg some h0), rfl⟩

theorem mappingsCore_induced (e : Engine) (host pat : LGraph) (hP : pat.WF) (m : Mapping)
    (hm : m ∈ mappingsCore e host pat) : IsInduced e.sel host pat m := by
  obtain ⟨k, _, hk⟩ := mappingsCore_eq_take e host pat
  exact (mem_allInduced e.sel host pat hP m).1 (List.mem_of_mem_take (hk ▸ hm))

theorem mappingsCore_ne_nil (e : Engine) (host pat : LGraph) (hk : e.maxMappings ≠ some 0)
    (hne : allInduced e.sel host pat ≠ []) : mappingsCore e host pat ≠ [] := by
  obtain ⟨k, hk0, h⟩ := mappingsCore_eq_take e host pat
  exact h ▸ fun h0 => (List.take_eq_nil_iff.1 h0).elim (hk0 hk) hne

/-- **C07, embeddings are valid**: everything `get_mappings(host, pattern)` returns is a
pattern→host induced embedding under the engine's attribute selection and the host-≥-pattern
hydrogen rule. -/
theorem get_mappings_valid (e : Engine) (host pat : LGraph) (hP : pat.WF) (m : Mapping)
    (hm : m ∈ getMappingsPure e host pat) : IsInduced e.sel host pat m := by
  unfold getMappingsPure at hm
  split at hm
  · cases hm
  · exact mappingsCore_induced e host pat hP m hm

/-- **Size pre-filter is sound**: a contained pattern has no more nodes and no more edges. -/
theorem filter_sound_size (sel : Sel) (H P : LGraph) (hP : P.WF) (m : Mapping) (hm : IsMono sel H P m) :
    P.nodes.length ≤ H.nodes.length ∧ P.edges.length ≤ H.edges.length :=
  ⟨hm.nodes_le, mono_edges_le hP hm⟩

/-- **WL pre-filter, proper sub-graphs, is sound** (the repaired branch): base-label histograms of
a contained pattern are contained in the host's. -/
theorem filter_sound_wl_base (e : Engine) (H P : LGraph) (hP : P.WF) (m : Mapping)
    (hm : IsMono e.sel H P m) : baseContained (wl1 H e.nodeAttrs) (wl1 P e.nodeAttrs) = true :=
  baseContained_of_mono e.sel H P m hP.1 hm

/-- The pre-check never rejects a contained pattern when the WL filter is off or the
pattern has fewer nodes than the host (a mere monomorphism between graphs with equally many nodes may fail
the refined containment, see `preCheck_sound`). -/
theorem preCheck_sound_partial (e : Engine) (host pat : LGraph) (hP : pat.WF) (m : Mapping)
    (hm : IsMono e.sel host pat m) (hw : e.wl1Filter = false ∨ host.nodes.length ≠ pat.nodes.length) :
    preCheckPure e host pat = true :=
  preCheckPure_of e host pat hm.nodes_le (mono_edges_le hP hm)
    (fun hf hl => hw.elim (fun h => by rw [h] at hf; cases hf) (fun h => absurd hl h))
    (fun _ _ => filter_sound_wl_base e host pat hP m hm)

/-- Soundness of the refined WL-1 filter: for graphs with equally many nodes and `wl1_filter=True`,
an isomorphism makes the refined WL-1 histogram of the pattern contained in the host's.  Proved below
(`wl_refined_sound`); the harness additionally tests it on every generated case: each isomorphism
question is asked with the filter on and off. -/
def WlRefinedSoundStatement : Prop :=
  ∀ (e : Engine) (H P : LGraph) (m : Mapping), H.WF → P.WF → IsIso e.sel H P m →
    wlContained (wl1 H e.nodeAttrs) (wl1 P e.nodeAttrs) = true

/-- **Refined WL pre-filter, equal sizes, is sound**: the (label, multiset of neighbour labels)
histogram containment never rejects isomorphic graphs.  An isomorphism maps the neighbours of a node
bijectively onto the neighbours of its image (`IsIsoFn.neighbors_perm`: pattern edges go to host edges,
non-edges to non-edges, and every host node is an image), so the key of the image is `keyEq` to the
key of the node. -/
theorem wl_refined_sound : WlRefinedSoundStatement :=
  fun e H P m hH hP hm => wlContained_of_iso e.sel H P m hH hP hm

/-- **The pre-check never rejects an induced embedding**, WL filter on or off, whatever the sizes.
Stated for `IsInduced` (what `get_mappings` / `isomorphic` look for), not `IsMono`: with equally many
nodes an induced embedding is an isomorphism (`IsIso = IsInduced ∧ equal node counts`), for which the
refined histogram containment holds (`wl_refined_sound`); a mere monomorphism between graphs with
equally many nodes may miss host edges, and then the refined filter may legitimately reject (see
`exTri` / `exPath` in the non-vacuity section).  For monomorphisms see `preCheck_sound_partial`. -/
theorem preCheck_sound (e : Engine) (host pat : LGraph) (hH : host.WF) (hP : pat.WF) (m : Mapping)
    (hm : IsInduced e.sel host pat m) : preCheckPure e host pat = true :=
  preCheckPure_of_induced e e.sel rfl host pat hH hP m hm

/-- The shape of every filtered engine: a test `c` that holds whenever the unfiltered answer `x` is not the default
`d` does not change the answer. -/
theorem guard_eq {α : Type} {c : Bool} {d x : α} (h : x ≠ d → c = true) : (if !c then d else x) = x := by
  cases hc : c with
  | true => rfl
  | false =>
    by_cases hx : x = d
    · simp [hx]
    · rw [h hx] at hc; cases hc

/-- `get_mappings` is its VF2 call: the pre-check only fires when there is no embedding. -/
theorem getMappingsPure_eq_core (e : Engine) (host pat : LGraph) (hH : host.WF) (hP : pat.WF) :
    getMappingsPure e host pat = mappingsCore e host pat := by
  unfold getMappingsPure
  refine guard_eq fun hne => ?_
  obtain ⟨m, hm⟩ := List.exists_mem_of_ne_nil _ hne
  exact preCheck_sound e host pat hH hP m (mappingsCore_induced e host pat hP m hm)

/-- **C07, embeddings non-empty iff contained**, for `max_mappings ≠ 0`: WL filter on or off, pattern
smaller than or as large as the host.  `get_mappings(host, pattern)` returns something exactly when an
induced embedding of the pattern into the host exists. -/
theorem get_mappings_nonempty_iff_contained (e : Engine) (host pat : LGraph) (hH : host.WF) (hP : pat.WF)
    (hk : e.maxMappings ≠ some 0) :
    getMappingsPure e host pat ≠ [] ↔ ∃ m, IsInduced e.sel host pat m := by
  rw [getMappingsPure_eq_core e host pat hH hP]
  exact ⟨fun h => (List.exists_mem_of_ne_nil _ h).imp fun m hm => mappingsCore_induced e host pat hP m hm,
    fun ⟨m, hm⟩ => mappingsCore_ne_nil e host pat hk (List.ne_nil_of_mem ((mem_allInduced e.sel host pat hP m).2 hm))⟩

/-- **C07, embeddings non-empty iff contained** (including strictly smaller patterns — the F5
regime — with the WL filter on or off), for `max_mappings ≠ 0`.  The case of
`get_mappings_nonempty_iff_contained` with the WL filter off or fewer pattern nodes. -/
theorem get_mappings_nonempty_iff_contained_partial (e : Engine) (host pat : LGraph) (hH : host.WF) (hP : pat.WF)
    (hk : e.maxMappings ≠ some 0) (hw : e.wl1Filter = false ∨ host.nodes.length ≠ pat.nodes.length) :
    getMappingsPure e host pat ≠ [] ↔ ∃ m, IsInduced e.sel host pat m :=
  get_mappings_nonempty_iff_contained e host pat hH hP hk

/-- After the pre-check, with `a` the smaller graph, the VF2 call is the isomorphism test: an induced embedding of a
larger pattern does not exist. -/
theorem isoCore_eq (e : Engine) (a b : LGraph) (hb : b.WF) (hle : a.nodes.length ≤ b.nodes.length) :
    isoCore e a b = isoDecide e.sel a b := by
  unfold isoCore
  split
  · rfl
  · next hne =>
    have hnil : allInduced e.sel a b = [] := List.eq_nil_iff_forall_not_mem.2 fun m hm =>
      absurd ((mem_allInduced e.sel a b hb m).1 hm).1.nodes_le (by omega)
    rw [isoDecide_eq_false_of_size hne, hnil]
    rfl

/-- The engine's verdict is `isoDecide`: the size swap, the pre-check and the choice of VF2 call are invisible. -/
theorem isomorphicPure_eq_isoDecide (e : Engine) (g1 g2 : LGraph) (h1 : g1.WF) (h2 : g2.WF) :
    isomorphicPure e g1 g2 = isoDecide e.sel g1 g2 := by
  unfold isomorphicPure
  by_cases hgt : g1.nodes.length > g2.nodes.length
  · -- sizes differ: both sides are `false`
    simp only [hgt, if_true, isoCore_eq e g2 g1 h1 (by omega)]
    rw [isoDecide_eq_false_of_size (Nat.ne_of_lt hgt), isoDecide_eq_false_of_size (Nat.ne_of_gt hgt), ite_self]
  · simp only [hgt, if_false, isoCore_eq e g1 g2 h2 (by omega)]
    refine guard_eq fun hne => ?_
    obtain ⟨m, hm⟩ := (isoDecide_iff e.sel g1 g2 h2).1 (by simpa using hne)
    -- the pre-check runs with `g2` as host: it passes on the inverse isomorphism, which exists without the hydrogen rule
    exact preCheckPure_of_induced e { e.sel with hcountRule := false } rfl g2 g1 h2 h1 _
      (isIso_inv_noH e.sel g1 g2 m h1 h2 hm).1

/-- **C07, verdict ⇔ bijection**, WL filter on or off: `isomorphic(g1, g2)` is `True` exactly when a
bijection preserving adjacency, the selected node and edge attributes and the hydrogen rule (`g1` as
host) exists.  With equal sizes the pre-check runs with `g2` as its host and `g1` as its pattern; its
refined histogram containment follows from the inverse isomorphism (hydrogen rule dropped — the
histograms only see the selected node keys). -/
theorem isomorphic_iff (e : Engine) (g1 g2 : LGraph) (h1 : g1.WF) (h2 : g2.WF) :
    isomorphicPure e g1 g2 = true ↔ ∃ m, IsIso e.sel g1 g2 m := by
  rw [isomorphicPure_eq_isoDecide e g1 g2 h1 h2, isoDecide_iff e.sel g1 g2 h2]

/-- **C07, verdict ⇒ bijection.** A `True` from `isomorphic(g1, g2)` means a bijection preserving
adjacency, the selected node and edge attributes and the hydrogen rule (`g1` as host) exists —
whatever the filter setting. -/
theorem isomorphic_sound (e : Engine) (g1 g2 : LGraph) (h1 : g1.WF) (h2 : g2.WF)
    (h : isomorphicPure e g1 g2 = true) : ∃ m, IsIso e.sel g1 g2 m :=
  (isomorphic_iff e g1 g2 h1 h2).1 h

/-- Graphs with different node counts are never isomorphic. -/
theorem isomorphic_false_of_size (e : Engine) (g1 g2 : LGraph) (h1 : g1.WF) (h2 : g2.WF)
    (hne : g1.nodes.length ≠ g2.nodes.length) : isomorphicPure e g1 g2 = false := by
  rw [isomorphicPure_eq_isoDecide e g1 g2 h1 h2]
  exact isoDecide_eq_false_of_size hne

/-- **C07, verdict ⇔ bijection**, with the WL filter off: the case `wl1_filter=False` of `isomorphic_iff`. -/
theorem isomorphic_iff_partial (e : Engine) (g1 g2 : LGraph) (h1 : g1.WF) (h2 : g2.WF) (hw : e.wl1Filter = false) :
    isomorphicPure e g1 g2 = true ↔ ∃ m, IsIso e.sel g1 g2 m :=
  isomorphic_iff e g1 g2 h1 h2

/-- **C07, relabelling invariance** of the verdict, either side, any injective renaming.  Stated for `isoDecide`, to
which the engine's verdict is tied by `isomorphic_iff` and `isoDecide_iff`. -/
theorem isomorphic_relabel (sel : Sel) (g1 g2 : LGraph) (h1 : g1.WF) (h2 : g2.WF) (π ρ : Nat → Nat)
    (hπ : Function.Injective π) (hρ : Function.Injective ρ) :
    isoDecide sel (g1.relabel π) (g2.relabel ρ) = isoDecide sel g1 g2 := by
  rw [isoDecide_relabel_host sel g1 (g2.relabel ρ) h1 (LGraph.wf_relabel_of_injective h2 hρ) π hπ,
    isoDecide_relabel_pattern sel g1 g2 h2 ρ hρ]

/-- **C07, symmetry** for graphs with equal or absent hydrogen counts (stated for `isoDecide`, as `isomorphic_relabel`). -/
theorem isomorphic_symm (sel : Sel) (g1 g2 : LGraph) (h1 : g1.WF) (h2 : g2.WF) (hh : NoHcountGap sel g1 g2) :
    isoDecide sel g1 g2 = isoDecide sel g2 g1 :=
  isoDecide_symm sel g1 g2 h1 h2 hh

/-- **`use_filter` is sound**: the three filter steps of the boolean sub-graph test pass whenever the
child is (monomorphically, a fortiori induced) contained in the parent. -/
theorem filter_sound_sub (c : SubCfg) (child parent : LGraph) (hc : child.WF) (hp : parent.WF) (hn : c.names.Nodup)
    (m : Mapping)
    (hm : IsMono c.sel (applyNodeDefaults c.names c.defaults parent) (applyNodeDefaults c.names c.defaults child) m) :
    subFilter c child parent = true :=
  subFilter_of_mono c child parent hc hn m hm

/-- The VF2 call in either mode: `check_type` is the flag of the enumerator. -/
theorem subCore_iff (c : SubCfg) (child parent : LGraph) (hc : child.WF) :
    subCore c child parent = true ↔ ∃ m, GenSpec c.sel c.induced (applyNodeDefaults c.names c.defaults parent)
      (applyNodeDefaults c.names c.defaults child) m := by
  have : subCore c child parent = !(extend c.sel c.induced (applyNodeDefaults c.names c.defaults parent)
      (applyNodeDefaults c.names c.defaults child) (applyNodeDefaults c.names c.defaults child).ids []).isEmpty := by
    unfold subCore
    cases c.induced <;> rfl
  rw [this, Bool.not_eq_true', List.isEmpty_eq_false_iff_exists_mem]
  exact exists_congr fun m => mem_extend_iff _ _ _ _ (applyNodeDefaults_WF c.names c.defaults child hc) m

/-- The filter never rejects where the VF2 call accepts: in either mode a `True` of the VF2 call yields a
monomorphism, on which the filter passes (`subFilter_of_mono`). -/
theorem subgraphIsomorphism_eq_subCore (c : SubCfg) (child parent : LGraph) (hc : child.WF) (hn : c.names.Nodup) :
    subgraphIsomorphism c child parent = subCore c child parent := by
  unfold subgraphIsomorphism
  cases c.useFilter
  · rfl
  · refine guard_eq fun hne => ?_
    obtain ⟨m, hm⟩ := (subCore_iff c child parent hc).1 (by simpa using hne)
    exact subFilter_of_mono c child parent hc hn m hm.1

/-- Turning `use_filter` on or off never changes the verdict of the boolean sub-graph test. -/
theorem subgraph_filter_irrelevant (c : SubCfg) (child parent : LGraph) (hc : child.WF) (hp : parent.WF)
    (hn : c.names.Nodup) :
    subgraphIsomorphism { c with useFilter := true } child parent =
      subgraphIsomorphism { c with useFilter := false } child parent := by
  rw [subgraphIsomorphism_eq_subCore { c with useFilter := true } child parent hc hn,
    subgraphIsomorphism_eq_subCore { c with useFilter := false } child parent hc hn]
  rfl

/-- **C07, boolean sub-graph test, induced mode** (filter on or off): `True` exactly when an induced
embedding of the child into the parent exists (labels compared with their defaults). -/
theorem subgraph_induced_iff (c : SubCfg) (child parent : LGraph) (hc : child.WF) (hp : parent.WF) (hn : c.names.Nodup)
    (hi : c.induced = true) :
    subgraphIsomorphism c child parent = true ↔
      ∃ m, IsInduced c.sel (applyNodeDefaults c.names c.defaults parent) (applyNodeDefaults c.names c.defaults child) m := by
  rw [subgraphIsomorphism_eq_subCore c child parent hc hn, subCore_iff c child parent hc, hi]
  exact exists_congr fun _ => and_congr_right fun _ => imp_iff_right rfl

/-- **C07, boolean sub-graph test, monomorphism mode** (filter on or off). -/
theorem subgraph_mono_iff (c : SubCfg) (child parent : LGraph) (hc : child.WF) (hp : parent.WF) (hn : c.names.Nodup)
    (hi : c.induced = false) :
    subgraphIsomorphism c child parent = true ↔
      ∃ m, IsMono c.sel (applyNodeDefaults c.names c.defaults parent) (applyNodeDefaults c.names c.defaults child) m := by
  rw [subgraphIsomorphism_eq_subCore c child parent hc hn, subCore_iff c child parent hc, hi]
  exact exists_congr fun _ => and_iff_left nofun

/-- **`graph_isomorphism` without defaults**: `True` exactly when a structure-preserving bijection exists. -/
theorem graph_isomorphism_iff (g1 g2 : LGraph) (h2 : g2.WF) :
    graphIsomorphism false g1 g2 = true ↔
      ∃ m, IsIso { nodeKeys := [], edgeKeys := [], hcountRule := false } g1 g2 m := by
  unfold graphIsomorphism
  simp only [Bool.false_eq_true, if_false]
  exact isoDecide_iff _ g1 g2 h2

/-! ### `find_graph_isomorphism`, certificates for large inputs

`SynKitModel/FindIso.lean`.  On graphs that are too large for the enumerating engine (more than 256 nodes or
edges — beyond CPython's small-integer cache) the harness plants the answer and lets Lean check a certificate:
a mapping (`isIsoB` / `isInducedB`, no search) for a positive verdict, an invariant (`isoInvariants` /
`containInvariants`) for a negative one.  The theorems below say that a checked certificate fixes the verdict
the specification demands. -/

/-- `isMonoB` accepts exactly the monomorphisms. -/
theorem isMonoB_iff (sel : Sel) (H P : LGraph) (m : Mapping) : isMonoB sel H P m = true ↔ IsMono sel H P m :=
  isMono_test_iff sel H P m

/-- `isInducedB` accepts exactly the induced embeddings. -/
theorem isInducedB_iff (sel : Sel) (H P : LGraph) (m : Mapping) : isInducedB sel H P m = true ↔ IsInduced sel H P m := by
  unfold isInducedB IsInduced
  rw [Bool.and_eq_true, isMonoB_iff, nonEdgesB_iff]

/-- **The mapping checker is the specification**: `isIsoB` accepts exactly the label-preserving bijections. -/
theorem isIsoB_iff (sel : Sel) (H P : LGraph) (m : Mapping) : isIsoB sel H P m = true ↔ IsIso sel H P m := by
  unfold isIsoB IsIso
  rw [Bool.and_eq_true, isInducedB_iff, decide_eq_true_eq]

/-- **A checked mapping fixes the engine's verdict**: if `isIsoB` accepts some mapping, `isomorphic(g1, g2)` must
answer `True` (WL filter on or off). -/
theorem isomorphic_of_certificate (e : Engine) (g1 g2 : LGraph) (h1 : g1.WF) (h2 : g2.WF) (m : Mapping)
    (h : isIsoB e.sel g1 g2 m = true) : isomorphicPure e g1 g2 = true :=
  (isomorphic_iff e g1 g2 h1 h2).2 ⟨m, (isIsoB_iff e.sel g1 g2 m).1 h⟩

/-- A checked induced embedding makes `get_mappings` return something (`max_mappings ≠ 0`). -/
theorem get_mappings_of_certificate (e : Engine) (host pat : LGraph) (hH : host.WF) (hP : pat.WF)
    (hk : e.maxMappings ≠ some 0) (m : Mapping) (h : isInducedB e.sel host pat m = true) :
    getMappingsPure e host pat ≠ [] :=
  (get_mappings_nonempty_iff_contained e host pat hH hP hk).2 ⟨m, (isInducedB_iff e.sel host pat m).1 h⟩

/-- **Invariants certify non-isomorphism**: when node count, edge count, degree sequence, base-label histogram or
refined WL-1 histogram differ, no label-preserving bijection exists. -/
theorem no_iso_of_invariants (sel : Sel) (H P : LGraph) (hH : H.WF) (hP : P.WF) (h : isoInvariants sel H P = false) :
    ¬ ∃ m, IsIso sel H P m := by
  rintro ⟨m, hm⟩
  rw [isoInvariants_of_iso sel H P m hH hP hm] at h
  cases h

/-- Invariants certify non-containment (no monomorphism, a fortiori no induced embedding). -/
theorem not_contained_of_invariants (sel : Sel) (H P : LGraph) (hH : H.WF) (hP : P.WF)
    (h : containInvariants sel H P = false) : ¬ ∃ m, IsMono sel H P m := by
  rintro ⟨m, hm⟩
  rw [containInvariants_of_mono sel H P m hP hm] at h
  cases h

/-- The engine answers `False` when an invariant differs. -/
theorem isomorphic_false_of_invariants (e : Engine) (g1 g2 : LGraph) (h1 : g1.WF) (h2 : g2.WF)
    (h : isoInvariants e.sel g1 g2 = false) : isomorphicPure e g1 g2 = false := by
  cases hv : isomorphicPure e g1 g2 with
  | false => rfl
  | true => exact absurd (isomorphic_sound e g1 g2 h1 h2 hv) (no_iso_of_invariants e.sel g1 g2 h1 h2 h)

/-- **`find_graph_isomorphism` returns a valid mapping**: a `G1 → G2` bijection preserving adjacency and the
compared attributes (with their defaults). -/
theorem find_iso_valid (d fast : Bool) (g1 g2 : LGraph) (h1 : g1.WF) (m : Mapping)
    (h : findGraphIsomorphism d fast g1 g2 = some m) : IsIso (findSel d) (findPrep d g2) (findPrep d g1) m := by
  unfold findGraphIsomorphism at h
  split at h
  · cases h
  · split at h
    · rename_i hlen
      have hmem := List.mem_of_mem_head? (Option.mem_def.2 h)
      refine ⟨(mem_allInduced _ _ _ (findPrep_WF d g1 h1) m).1 hmem, ?_⟩
      rw [findPrep_nodes_length, findPrep_nodes_length]; exact hlen
    · cases h

/-- **C07, `find_graph_isomorphism`: a mapping is returned exactly when a bijection exists**, with the quick
invariants on or off. -/
theorem find_iso_iff (d fast : Bool) (g1 g2 : LGraph) (h1 : g1.WF) (h2 : g2.WF) :
    (findGraphIsomorphism d fast g1 g2).isSome = true ↔ ∃ m, IsIso (findSel d) (findPrep d g2) (findPrep d g1) m := by
  constructor
  · intro h
    obtain ⟨m, hm⟩ := Option.isSome_iff_exists.1 h
    exact ⟨m, find_iso_valid d fast g1 g2 h1 m hm⟩
  · rintro ⟨m, hm⟩
    have hlen : g2.nodes.length = g1.nodes.length := by
      have := hm.2
      rwa [findPrep_nodes_length, findPrep_nodes_length] at this
    unfold findGraphIsomorphism
    rw [fastInvariants_of_iso d _ g1 g2 h1 h2 m hm]
    simp only [Bool.not_true, Bool.and_false, Bool.false_eq_true, if_false, if_pos hlen, List.isSome_head?]
    exact List.ne_nil_of_mem ((mem_allInduced _ _ _ (findPrep_WF d g1 h1) m).2 hm.1)

/-- The quick invariants never change the answer of `find_graph_isomorphism`: they only fire when VF2 finds nothing. -/
theorem findGraphIsomorphism_fast_eq (d : Bool) (g1 g2 : LGraph) (h1 : g1.WF) (h2 : g2.WF) :
    findGraphIsomorphism d true g1 g2 = findGraphIsomorphism d false g1 g2 := by
  unfold findGraphIsomorphism
  simp only [Bool.true_and, Bool.false_and, Bool.false_eq_true, if_false]
  refine guard_eq fun hne => ?_
  obtain ⟨m, hm⟩ := Option.ne_none_iff_exists'.1 hne
  exact fastInvariants_of_iso d _ g1 g2 h1 h2 m (find_iso_valid d false g1 g2 h1 m hm)

/-- **The quick invariants never change the verdict** of `find_graph_isomorphism`. -/
theorem find_iso_fast_irrelevant (d : Bool) (g1 g2 : LGraph) (h1 : g1.WF) (h2 : g2.WF) :
    (findGraphIsomorphism d true g1 g2).isSome = (findGraphIsomorphism d false g1 g2).isSome := by
  rw [findGraphIsomorphism_fast_eq d g1 g2 h1 h2]

/-- A checked mapping `G1 → G2` makes `find_graph_isomorphism` return a mapping. -/
theorem find_iso_of_certificate (d fast : Bool) (g1 g2 : LGraph) (h1 : g1.WF) (h2 : g2.WF) (m : Mapping)
    (h : isIsoB (findSel d) (findPrep d g2) (findPrep d g1) m = true) : (findGraphIsomorphism d fast g1 g2).isSome = true :=
  (find_iso_iff d fast g1 g2 h1 h2).2 ⟨m, (isIsoB_iff _ _ _ m).1 h⟩

/-- `find_graph_isomorphism` returns `None` when an invariant of the (defaulted) graphs differs. -/
theorem find_iso_none_of_invariants (d fast : Bool) (g1 g2 : LGraph) (h1 : g1.WF) (h2 : g2.WF)
    (h : isoInvariants (findSel d) (findPrep d g2) (findPrep d g1) = false) : findGraphIsomorphism d fast g1 g2 = none := by
  cases hv : findGraphIsomorphism d fast g1 g2 with
  | none => rfl
  | some m =>
    exact absurd ⟨m, find_iso_valid d fast g1 g2 h1 m hv⟩
      (no_iso_of_invariants _ _ _ (findPrep_WF d g2 h2) (findPrep_WF d g1 h1) h)

def cN (e : String) (q : Int) : Attrs := [("element", .str e), ("charge", .num q)]
def exHost : LGraph := { nodes := [(0, cN "C" 0), (1, cN "C" 0), (2, cN "O" 0)],
                         edges := [(0, 1, [("order", .num 2)]), (1, 2, [("order", .num 2)])] }
def exPat : LGraph := { nodes := [(7, cN "C" 0), (8, cN "O" 0)], edges := [(7, 8, [("order", .num 2)])] }
def exEng : Engine := { nodeAttrs := ["element"], edgeAttrs := ["order"], wl1Filter := true, maxMappings := none }

example : exHost.WF ∧ exPat.WF := by decide +kernel
/-- F5: a strictly smaller pattern is found inside the host, pattern → host. -/
example : getMappingsPure exEng exHost exPat = [[(7, 1), (8, 2)]] := by decide +kernel
example : isomorphicPure exEng exHost exHost = true := by decide +kernel
example : isomorphicPure exEng exHost exPat = false := by decide +kernel
/-- F6: an engine ignoring charge after an engine using charge on the same graph objects. -/
example : run [exHost, exPat] []
    [.iso { nodeAttrs := ["element", "charge"], wl1Filter := true } 0 0, .iso { nodeAttrs := ["element"], wl1Filter := true } 0 0]
    = [.verdict true, .verdict true] := by decide +kernel
/-- F7: the filtered boolean test on graphs whose node ids are unrelated. -/
example : subgraphIsomorphism { useFilter := true } exPat exHost = true := by decide +kernel
/-- Refined WL filter on, equal sizes, unrelated node ids and orders: the pre-check passes, the verdict
is `True` and an embedding is returned (`wl_refined_sound`, `preCheck_sound`, `isomorphic_iff`,
`get_mappings_nonempty_iff_contained` are not vacuous). -/
def exHost2 : LGraph := { nodes := [(5, cN "O" 0), (6, cN "C" 0), (7, cN "C" 0)],
                          edges := [(6, 5, [("order", .num 2)]), (7, 6, [("order", .num 2)])] }
example : exHost2.WF := by decide +kernel
example : preCheckPure exEng exHost exHost2 = true ∧ isomorphicPure exEng exHost exHost2 = true ∧
    getMappingsPure exEng exHost exHost2 = [[(5, 2), (6, 1), (7, 0)]] := by decide +kernel
/-- Why `preCheck_sound` is about induced embeddings: a path on three carbons is monomorphically
contained in a triangle with equally many nodes, and the refined filter rejects the pair. -/
def exTri : LGraph := { nodes := [(0, cN "C" 0), (1, cN "C" 0), (2, cN "C" 0)],
                        edges := [(0, 1, [("order", .num 2)]), (1, 2, [("order", .num 2)]), (0, 2, [("order", .num 2)])] }
def exPath : LGraph := { nodes := [(0, cN "C" 0), (1, cN "C" 0), (2, cN "C" 0)],
                         edges := [(0, 1, [("order", .num 2)]), (1, 2, [("order", .num 2)])] }
example : exTri.WF ∧ exPath.WF := by decide +kernel
example : allMonos exEng.sel exTri exPath ≠ [] ∧ allInduced exEng.sel exTri exPath = [] ∧
    preCheckPure exEng exTri exPath = false := by decide +kernel
/-- `find_graph_isomorphism`: defaults applied (`exHost` carries no `atom_map` / `hcount`), quick invariants on and
off, the mapping goes `G1 → G2`; the checker accepts it and rejects a wrong one; a one-label edit is certified
non-isomorphic by the invariants. -/
example : findGraphIsomorphism true true exHost exHost2 = some [(0, 7), (1, 6), (2, 5)] ∧
    findGraphIsomorphism true false exHost exHost2 = some [(0, 7), (1, 6), (2, 5)] ∧
    findGraphIsomorphism false true exHost exHost2 ≠ none ∧
    findGraphIsomorphism true true exHost exPat = none ∧ findGraphIsomorphism true false exHost exPat = none := by decide +kernel
example : isIsoB (findSel true) (findPrep true exHost2) (findPrep true exHost) [(0, 7), (1, 6), (2, 5)] = true ∧
    isIsoB (findSel true) (findPrep true exHost2) (findPrep true exHost) [(0, 5), (1, 6), (2, 7)] = false ∧
    isIsoB (findSel false) exHost2 exHost [(0, 5), (1, 6), (2, 7)] = true := by decide +kernel
def exHost3 : LGraph := { nodes := [(5, cN "O" 0), (6, cN "C" 0), (7, cN "N" 0)],
                          edges := [(6, 5, [("order", .num 2)]), (7, 6, [("order", .num 2)])] }
example : exHost3.WF ∧ isoInvariants (findSel true) (findPrep true exHost3) (findPrep true exHost) = false ∧
    isoInvariants (findSel true) (findPrep true exHost2) (findPrep true exHost) = true ∧
    findGraphIsomorphism true false exHost exHost3 = none := by decide +kernel

end SynKit.GME
