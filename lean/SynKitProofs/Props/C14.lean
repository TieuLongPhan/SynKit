import SynKitModel.BatchCache
import SynKitProofs.BatchCacheLemmas
/-!
# C14 — batching, parallelism and caching are operational only: results never change

Partial by nature: process start-up, pickling of the work items and the scheduling of worker processes
are not in the model (`parallelMap` *is* an order-preserving map); that part of C14 is explored on the
implementation only (harness/props/c14.py, streams b, d, e).
-/
deriving instance DecidableEq for Except

namespace SynKit.BatchCache

/-- The free result function of the concrete examples: a result records which contents it was
computed from. -/
def triple (a b : Nat) (i : Bool) : Nat × Nat × Bool := (a, b, i)

/-- **C14, cache clause ("whether the result cache is on or off", "tiny cache sizes that force
eviction", every history).**  For the repaired `_RuleApplier` (cache entries keep their key
objects alive): after EVERY history of heap operations — allocations (with whatever identity
the allocator hands out, reused or not), releases, calls — and for every cache size ≥ 1 or
the cache switched off, a call on two objects the caller holds returns the pure function of
their contents.  Proof: induction over the history with the invariant `Inv` (every cache
entry's key identities refer to the very objects whose contents produced the stored value). -/
theorem cache_transparent_if_pinned {C R : Type} (f : C → C → Bool → R) (cacheOn : Bool) (cacheMax : Int)
    (hsane : cacheOn = true → 0 < cacheMax) (ops : List (Op C))
    (sid rid : Id) (inv : Bool) (cs cr : C) :
    let cfg : Config := ⟨cacheOn, cacheMax, true⟩
    let s := run f cfg {} ops
    hget s.heap sid = some cs → hget s.heap rid = some cr →
      (stepPinned f cacheOn cacheMax s (.call sid rid inv)).2 = .val (f cs cr inv) := by
  intro cfg s hs hr
  exact step_of_expected f cfg hsane s (inv_run f cfg rfl {} ops (inv_init f)) _ _ (by simp only [expected, hs, hr])

/-- Same statement for whole histories: every outcome of the repaired machine is what the
property demands (`expected`: `f` of the contents the caller passed) whenever the op is a
possible call. -/
theorem cache_transparent_outs {C R : Type} (f : C → C → Bool → R) (cacheOn : Bool) (cacheMax : Int)
    (hsane : cacheOn = true → 0 < cacheMax) (ops : List (Op C)) (op : Op C) (r : R) :
    let cfg : Config := ⟨cacheOn, cacheMax, true⟩
    let s := run f cfg {} ops
    expected f s op = some r → (step f cfg s op).2 = .val r :=
  step_of_expected f ⟨cacheOn, cacheMax, true⟩ hsane _ (inv_run f _ rfl {} ops (inv_init f)) op r

/-- **Negation witness (finding F12).**  For the code before the repair of F12 (`stepAsWritten`: entries
hold only the result) a five-op history returns a wrong value: substrate object 0 (content 10)
is used and released, a new substrate (content 11) receives identity 0, and the call returns
the result computed from content 10.  Replayed on the implementation by forcing identity
reuse (harness stream a / regress/C14). -/
theorem cache_stale_witness :
    let ops : List (Op Nat) := [.alloc 1 20, .alloc 0 10, .call 0 1 false, .free 0, .alloc 0 11]
    let s := run triple ⟨true, 8, false⟩ {} ops
    expected triple s (.call 0 1 false) = some (11, 20, false) ∧
    (stepAsWritten triple true 8 s (.call 0 1 false)).2 = .val (10, 20, false) := by
  decide +kernel

/-- The same history is impossible for the repaired machine: the allocator cannot hand out
identity 0 while the cache entry keeps the first substrate alive (`badOp`), and with any other
identity the call is right. -/
example :
    outs triple ⟨true, 8, true⟩ {}
      [.alloc 1 20, .alloc 0 10, .call 0 1 false, .free 0, .alloc 0 11, .alloc 2 11, .call 2 1 false,
       .call 2 1 true, .call 2 1 false] =
      [.ok, .ok, .val (10, 20, false), .ok, .badOp, .ok, .val (11, 20, false), .val (11, 20, true),
       .val (11, 20, false)] := by
  decide +kernel

/-- Non-vacuity of `cache_transparent_if_pinned`: a history with eviction at size 1, after which
identity 0 *is* legitimately reused (its entry was evicted) and the call is still right. -/
example :
    outs triple ⟨true, 1, true⟩ {}
      [.alloc 1 20, .alloc 0 10, .call 0 1 false, .free 0, .alloc 2 12, .call 2 1 false, .alloc 0 11,
       .call 0 1 false] =
      [.ok, .ok, .val (10, 20, false), .ok, .ok, .val (12, 20, false), .ok, .val (11, 20, false)] := by
  decide +kernel

/-- The degenerate configuration `cache_enabled=True, cache_maxsize ≤ 0`: a call on the empty cache
raises `StopIteration` (`next(iter({}))`) and leaves it empty, with or without pinned entries.  This is
why `cache_transparent_if_pinned` asks for a size ≥ 1. -/
theorem cache_zero_raises {C R : Type} (f : C → C → Bool → R) (pin : Bool) (cacheMax : Int) (h : cacheMax ≤ 0)
    (heap : List (Id × C)) (sid rid : Id) (inv : Bool) (cs cr : C)
    (hs : hget heap sid = some cs) (hr : hget heap rid = some cr) :
    step f ⟨true, cacheMax, pin⟩ ⟨heap, []⟩ (.call sid rid inv) = (⟨heap, []⟩, .stopIteration) := by
  have : ((0 : Int) ≥ cacheMax) := h
  simp [step, hs, hr, cget, this]

section Fit
variable {C S : Type} [DecidableEq S]

/-- **C14, batch clause.**  `BatchReactor.fit` over a batch returns, entry by entry, exactly
what applying the rules to that substrate alone returns (`single`: `f` once per rule, flattened,
de-duplicated as configured) — for every batch (any composition, any order, repeated
substrates), every rule list, both directions, de-duplication on or off, cache off or any
cache size ≥ 1, every allocator the runtime can be (`ValidAlloc`: identities of dead objects
may be reused at will), and every state `s` the reactor's cache can be in (`Inv`; holds
initially, after every history by `inv_run`, and again after this `fit` — second conjunct —
so the statement chains over any sequence of `fit` calls on the same reactor). -/
theorem batch_eq_single (f : C → C → Bool → List S) (cacheOn : Bool) (cacheMax : Int)
    (hsane : cacheOn = true → 0 < cacheMax) (dd : Bool) (pick : State C (List S) → Id)
    (hpick : ValidAlloc pick) (s : State C (List S)) (hinv : Inv f s) (batch rules : List C) (inv : Bool) :
    (fit f ⟨cacheOn, cacheMax, true⟩ dd pick s batch rules inv).2 = .ok (batch.map (single f dd rules inv)) ∧
      Inv f (fit f ⟨cacheOn, cacheMax, true⟩ dd pick s batch rules inv).1 :=
  fit_spec f ⟨cacheOn, cacheMax, true⟩ rfl hsane dd pick hpick s hinv batch rules inv

/-- **C14, worker-process view ("however many worker processes are used").**  One entry handled
by `worker` from ANY cache state satisfying the invariant — in particular from the empty
cache a freshly started worker process has, or from whatever the same process accumulated on
earlier entries — returns `single`.  Hence any assignment of entries to processes gives the
same per-entry results; what the model cannot show is that joblib delivers them in order. -/
theorem worker_eq_single (f : C → C → Bool → List S) (cacheOn : Bool) (cacheMax : Int)
    (hsane : cacheOn = true → 0 < cacheMax) (dd : Bool) (pick : State C (List S) → Id)
    (hpick : ValidAlloc pick) (rids : List Id) (rules : List C) (inv : Bool)
    (s : State C (List S)) (hinv : Inv f s) (hh : Held s rids rules) (c : C) :
    (worker f ⟨cacheOn, cacheMax, true⟩ dd pick rids inv s c).2 = .ok (single f dd rules inv c) := by
  obtain ⟨s', h, _⟩ := worker_spec f ⟨cacheOn, cacheMax, true⟩ rfl hsane dd pick hpick rids rules inv s c hinv hh
  rw [h]

end Fit

theorem freshAlloc_valid {C S : Type} : ValidAlloc (freshAlloc : State C (List S) → Id) := by
  intro s hmem
  have := Core.le_foldl_max (α := Nat) (m := 0) (Or.inl hmem)
  unfold freshAlloc at this
  omega

theorem lowestAlloc_valid {C S : Type} : ValidAlloc (lowestAlloc : State C (List S) → Id) := by
  intro s
  unfold lowestAlloc
  cases hf : (List.range ((aliveIds s).length + 1)).find? (fun i => i ∉ aliveIds s) with
  | some i => simpa using List.find?_some hf
  | none => exact freshAlloc_valid s

/-- Non-vacuity of `batch_eq_single`: valid allocators exist (`freshAlloc_valid`,
`lowestAlloc_valid`), and on a concrete batch with a repeated substrate, a look-alike pair,
cache size 1 (eviction on every miss) and the reuse-happy allocator the model's `fit`
evaluates to the map of `single`. -/
example :
    let f : Nat → Nat → Bool → List Nat := fun c r i => if i then [r, c] else [c + r, c + r, c]
    (fit f ⟨true, 1, true⟩ true lowestAlloc {} [3, 5, 3, 4] [1, 2, 1] false).2 =
      .ok ([3, 5, 3, 4].map (single f true [1, 2, 1] false)) := by
  decide +kernel

/-- The same batch on the code before the repair of F12 with the reuse-happy allocator: the second
entry inherits the first entry's cached results (finding F12 inside `fit`). -/
example :
    let f : Nat → Nat → Bool → List Nat := fun c r _ => [c + r]
    (fit f ⟨true, 8, false⟩ false lowestAlloc {} [3, 5] [1] false).2 = .ok [[4], [4]] ∧
    [3, 5].map (single f false [1] false) = [[4], [6]] := by
  decide +kernel

section Dedupe
variable {S : Type} [DecidableEq S]

/-- **C14, de-duplication as coded.**  `_dedupe` keeps exactly the first occurrence of every
element, in the order of first occurrences (`firstOccs`): the output has no duplicates, the
same elements as the input, is a sub-list of the input (relative order kept), leaves a
duplicate-free list untouched, and is idempotent. -/
theorem dedupe_order_stable (xs : List S) :
    dedupe xs = firstOccs xs ∧ (dedupe xs).Nodup ∧ (∀ y, y ∈ dedupe xs ↔ y ∈ xs) ∧
      List.Sublist (dedupe xs) xs ∧ (xs.Nodup → dedupe xs = xs) ∧ dedupe (dedupe xs) = dedupe xs := by
  rw [dedupe_eq_firstOccs xs, dedupe_eq_firstOccs (firstOccs xs)]
  exact ⟨rfl, firstOccs_nodup xs, mem_firstOccs xs, firstOccs_sublist xs, firstOccs_of_nodup xs,
    firstOccs_of_nodup _ (firstOccs_nodup xs)⟩

example : dedupe [3, 1, 3, 2, 1, 4] = [3, 1, 2, 4] := by decide +kernel

end Dedupe

section Cluster
variable {α A : Type} [DecidableEq A]

/-- **C14, clustering clause.**  `BatchCluster.fit` with any batch size `k ≥ 1` writes the same
class into every entry as the one-shot call (`batch_size=None`), label for label — hence the
same partition — for every non-empty data list, every pre-grouping attribute and EVERY
relation `iso` (not even symmetry is needed: both paths compare an item with the earlier class
representatives in order of first appearance and number new classes 0,1,2,…), provided the
one-shot branch uses the matcher the instance was configured with (`isoOne = iso`: true for
the default configuration; see `oneshot_default_matcher_witness` for the other case). -/
theorem batched_cluster_eq_oneshot (attr : α → A) (iso : α → α → Bool) (xs : List α) (hne : xs ≠ [])
    (k : Int) (hk : 1 ≤ k) :
    fitClasses attr iso iso xs [] (some k) = fitClasses attr iso iso xs [] none ∧
      fitClasses attr iso iso xs [] none = .ok ((clusterBatch attr iso [] xs).1.map some) := by
  have h : ([] : List (α × Nat)) ≠ [] ∨ (xs ≠ [] ∧ iso = iso) := Or.inr ⟨hne, rfl⟩
  rw [fitClasses_eq_clusterBatch attr iso iso xs [] h (some k) fun _ hk' => Option.some.inj hk' ▸ hk,
    fitClasses_eq_clusterBatch attr iso iso xs [] h none fun _ hk' => nomatch hk']
  exact ⟨rfl, rfl⟩

/-- With initial templates the batched call equals the single-batch call for every data list
(empty included) and every `k ≥ 1`: feeding batches one after the other = feeding the whole
list. -/
theorem batched_cluster_eq_oneshot_templates (attr : α → A) (iso isoOne : α → α → Bool) (xs : List α)
    (ts : List (α × Nat)) (hts : ts ≠ []) (k : Int) (hk : 1 ≤ k) :
    fitClasses attr iso isoOne xs ts (some k) = fitClasses attr iso isoOne xs ts none := by
  rw [fitClasses_eq_clusterBatch attr iso isoOne xs ts (Or.inl hts) (some k)
      fun _ hk' => Option.some.inj hk' ▸ hk,
    fitClasses_eq_clusterBatch attr iso isoOne xs ts (Or.inl hts) none fun _ hk' => nomatch hk']

/-- Non-vacuity: six items, classes by parity, attribute = item mod 3 (so the pre-grouping
splits the parity classes), batch size 2: both calls give the same labels. -/
example :
    let iso : Nat → Nat → Bool := fun a b => a % 2 == b % 2
    fitClasses (fun n : Nat => n % 3) iso iso [0, 2, 3, 4, 6, 9] [] (some 2) = .ok [some 0, some 1, some 2, some 3, some 0, some 2] ∧
    fitClasses (fun n : Nat => n % 3) iso iso [0, 2, 3, 4, 6, 9] [] none = .ok [some 0, some 1, some 2, some 3, some 0, some 2] := by
  decide +kernel

/-- **Witness (finding F22).**  If the one-shot branch of `BatchCluster.fit` classifies with another
matcher than the configured one (`GraphCluster()` with default matchers; here the configured matcher
ignores what the default one distinguishes), batched and one-shot classes differ. -/
theorem oneshot_default_matcher_witness :
    let cfgIso : Nat → Nat → Bool := fun a b => a % 2 == b % 2   -- configured: coarse
    let dflt : Nat → Nat → Bool := fun a b => a == b             -- GraphCluster() default: fine
    fitClasses (fun _ : Nat => ()) cfgIso dflt [0, 2, 0] [] (some 1) = .ok [some 0, some 0, some 0] ∧
    fitClasses (fun _ : Nat => ()) cfgIso dflt [0, 2, 0] [] none = .ok [some 0, some 1, some 0] := by
  decide +kernel

/-- The empty data list: the one-shot call raises (`data[0]`), the batched call returns `[]`.
Outside the quantifier of C14 (batches are assembled from ≥ 1 item); recorded as an observation. -/
example : fitClasses (fun _ : Nat => ()) (fun a b => a == b) (fun a b => a == b) [] [] none = .error .indexError ∧
    fitClasses (fun _ : Nat => ()) (fun a b => a == b) (fun a b => a == b) [] [] (some 2) = .ok [] := by
  decide +kernel

end Cluster

/-- **C14, parallel clause, as far as the model goes.**  A parallel map that deals the inputs
out in consecutive chunks and concatenates the chunk results in input order equals the serial
map.  This is true by construction of `parallelMap` (trivial in the model): that joblib's
`Parallel` and `ProcessPoolExecutor.map` *are* such order-preserving maps, with every work item
pickled and unpickled faithfully, is runtime behaviour explored on the implementation only. -/
theorem parallel_map_eq {α β : Type} (n : Nat) (g : α → β) (xs : List α) : parallelMap n g xs = xs.map g := by
  unfold parallelMap
  split
  · rfl
  · rename_i hn
    have hpos : 0 < n := Nat.pos_of_ne_zero hn
    rw [← List.map_flatten, chunks_flatten n hpos]

example : parallelMap 2 (· + 1) [1, 2, 3, 4, 5] = [2, 3, 4, 5, 6] := by decide +kernel

/-- The property at full strength over the model (runtime scheduling excluded, see header):
cache transparency over every history, batch = single over every reachable cache state,
batched = one-shot clustering, parallel map = serial map. -/
def _root_.SynKit.C14.FullStatement : Prop :=
  (∀ (C R : Type) (f : C → C → Bool → R) (cacheOn : Bool) (cacheMax : Int),
      (cacheOn = true → 0 < cacheMax) → ∀ (ops : List (Op C)) (op : Op C) (r : R),
        expected f (run f ⟨cacheOn, cacheMax, true⟩ {} ops) op = some r →
          (step f ⟨cacheOn, cacheMax, true⟩ (run f ⟨cacheOn, cacheMax, true⟩ {} ops) op).2 = .val r) ∧
  (∀ (C S : Type) [DecidableEq S] (f : C → C → Bool → List S) (cacheOn : Bool) (cacheMax : Int),
      (cacheOn = true → 0 < cacheMax) → ∀ (dd : Bool) (pick : State C (List S) → Id), ValidAlloc pick →
        ∀ (s : State C (List S)), Inv f s → ∀ (batch rules : List C) (inv : Bool),
          (fit f ⟨cacheOn, cacheMax, true⟩ dd pick s batch rules inv).2 = .ok (batch.map (single f dd rules inv)) ∧
            Inv f (fit f ⟨cacheOn, cacheMax, true⟩ dd pick s batch rules inv).1) ∧
  (∀ (α A : Type) [DecidableEq A] (attr : α → A) (iso : α → α → Bool) (xs : List α), xs ≠ [] →
      ∀ k : Int, 1 ≤ k → fitClasses attr iso iso xs [] (some k) = fitClasses attr iso iso xs [] none) ∧
  (∀ (α β : Type) (n : Nat) (g : α → β) (xs : List α), parallelMap n g xs = xs.map g)

/-- The full statement holds over the model. -/
theorem c14_full : SynKit.C14.FullStatement :=
  ⟨fun _ _ f cacheOn cacheMax hs ops op r => cache_transparent_outs f cacheOn cacheMax hs ops op r,
   fun _ _ _ f cacheOn cacheMax hs dd pick hp s hi batch rules inv =>
     batch_eq_single f cacheOn cacheMax hs dd pick hp s hi batch rules inv,
   fun _ _ _ attr iso xs hne k hk => (batched_cluster_eq_oneshot attr iso xs hne k hk).1,
   fun _ _ n g xs => parallel_map_eq n g xs⟩

end SynKit.BatchCache
