import SynKitModel.Store
import SynKitProofs.StoreLemmas
import SynKitProofs.StoreStrLemmas
/-! # C15 — the reaction-network store stays consistent under every history of edits -/
namespace SynKit.Store

/-- **C15, invariant part.** Every store of every world reachable from empty stores by any
sequence of operations (add with generated or chosen ids, remove, remove species with or
without pruning, merge of another store or of the store itself, merge of a foreign object with
`edge_list()` (also one without: `TypeError`), copy, assign molecule, and the string entry points `add_rxn_from_str`,
`parse_rxns` in all its input forms — including histories in which a line fails to parse and
`parse_rxns` stops half way) satisfies `Store.Inv`: ids unique, species
set exact (up to explicitly kept species), both indices exact, molecule labels only for
present species, sides well formed. -/
theorem inv_reachable (n : Nat) (ops : List Op) : ∀ s ∈ run (initWorld n) ops, s.Inv :=
  inv_run _ ops (initWorld_inv n)

/-- **C15, isolation part.** An operation only changes the store it targets (slot `k`,
or slot `j` for `copy k j`): every other store of the world — in particular a copy taken
earlier, or the source of a merge — is left exactly as it was. -/
theorem step_frame (w : World) (op : Op) (i : Nat) (h : i ≠ op.target) :
    (step w op).1[i]? = w[i]? :=
  step_ind (P := fun _ => True) (by constructor <;> intros <;> trivial) w op (fun _ _ => trivial)
    (fun w' => w'[i]? = w[i]?) rfl fun _ _ => List.getElem?_set_ne (Ne.symm h)

/-- The id generator returns an id that is not in use. -/
theorem firstFree_fresh (ids : List String) (rule : String) (c : Nat) :
    mkId rule (firstFree ids rule c) ∉ ids :=
  (firstFreeAux_spec rule _ ids c (Nat.lt_succ_self _)).1

/-- Generated ids of one rule are pairwise different. -/
theorem mkId_injective (rule : String) (a b : Nat) (h : mkId rule a = mkId rule b) : a = b :=
  mkId_inj rule a b h

/-- **C15, refinement part (add).** A successful `add` stores exactly the given reaction
under the returned id … -/
theorem add_lookup_self (s s' : Store) (r p rule eid i) (hinv : s.Inv)
    (h : s.add r p rule eid = (s', .ok i)) :
    s'.findEdge i = some ⟨i, normRule rule, normSide r, normSide p⟩ ∧ i ∉ s.ids := by
  have _ := hinv
  have ha := addNorm_appends s (normSide r) (normSide p) rule eid
  rw [show s.addNorm _ _ rule eid = _ from h] at ha
  exact ⟨ha.findEdge_self, ha.fresh _ (List.mem_singleton_self _)⟩

/-- … and leaves every other id as it was (nothing is overwritten), whether it succeeds or not. -/
theorem add_lookup_other (s s' : Store) (r p rule eid res) (j : String)
    (h : s.add r p rule eid = (s', res)) (hj : ∀ i, res = .ok i → j ≠ i) :
    s'.findEdge j = s.findEdge j := by
  have ha := addNorm_appends s (normSide r) (normSide p) rule eid
  rw [show s.addNorm _ _ rule eid = _ from h] at ha
  refine ha.findEdge_other j fun e he => ?_
  cases res with
  | error _ => exact nomatch he
  | ok i => rw [List.mem_singleton.1 he]; exact hj i rfl

/-- **C15, refinement part (remove).** Removing reaction `i` leaves every other reaction alone
and `i` is gone. -/
theorem remove_lookup_other (s s' : Store) (i : String) (res) (h : s.remove i = (s', res)) :
    (∀ j, j ≠ i → s'.findEdge j = s.findEdge j) ∧ (res = .ok () → s'.findEdge i = none) := by
  obtain rfl : (s.remove i).1 = s' := by rw [h]
  simp only [Store.findEdge, remove_edges]
  constructor
  · intro j hj
    refine Core.find?_filter_of_imp fun x _ hx => decide_eq_true fun h' => hj ?_
    rw [← of_decide_eq_true hx, h']
  · intro _
    simp [List.find?_eq_none]

/-- **C15, refinement part (remove species).** After `remove_species sp` the stored reactions are
exactly the old ones with `sp` stripped from both sides, minus those that became empty. -/
theorem removeSpecies_lookup (s s' : Store) (sp : String) (prune : Bool) (hinv : s.Inv)
    (h : s.removeSpecies sp prune = (s', .ok ())) :
    s'.edges = (s.edges.map (·.strip sp)).filter (fun e => !e.isEmpty) := by
  by_cases hsp : sp ∈ s.species
  · rw [removeSpecies_eq s sp prune hinv hsp] at h
    cases h
    cases prune
    · rfl
    · exact dropIfOrphan_edges (rsStore s sp) sp
  · rw [removeSpecies_of_not_mem s sp prune hsp] at h
    cases h

/-- **C15, refinement part (merge).** A successful `merge` leaves every stored reaction untouched
and appends one reaction per reaction of the other network, carrying that reaction's rule and
stoichiometry; by `inv_reachable` the ids of the appended reactions are fresh. -/
theorem merge_edges (s s' : Store) (other : List Edge) (pfx : Bool)
    (h : s.merge other pfx = (s', .ok ())) :
    ∃ added : List Edge, s'.edges = s.edges ++ added ∧
      added.map (fun e => (e.rule, e.reactants, e.products)) =
        other.map (fun e => (normRule (some e.rule), e.reactants, e.products)) := by
  obtain ⟨added, ha, hpre, hlen⟩ := merge_appends other pfx s
  rw [h] at ha hlen
  exact ⟨added, ha.edges, hpre.eq_of_length (by simpa using hlen rfl)⟩

/-- **C15, refinement part (merge of a foreign object).** `merge` accepts any object with
`edge_list()`; a successful merge of such an object — whatever its edges look like: id missing,
`None`, duplicated or clashing with stored ids, rule `""` or missing, sides given as mappings,
label lists or `(species, count)` pairs — leaves every stored reaction untouched and appends one
reaction per foreign edge with that edge's rule and its normalised stoichiometry. (That the store
reached is consistent, also when the merge stops at an empty reaction, is `inv_reachable`.) -/
theorem mergeForeign_edges (s s' : Store) (other : List FEdge) (pfx : Bool)
    (h : s.mergeForeign other pfx = (s', .ok ())) :
    ∃ added : List Edge, s'.edges = s.edges ++ added ∧
      added.map (fun e => (e.rule, e.reactants, e.products)) =
        other.map (fun e => (normRule (some e.rule), normSide (rawOfItems e.reactants),
          normSide (rawOfItems e.products))) := by
  obtain ⟨added, ha, hpre, hlen⟩ := mergeForeign_appends other pfx s
  rw [h] at ha hlen
  exact ⟨added, ha.edges, hpre.eq_of_length (by simpa using hlen rfl)⟩

/-- **C15, stoichiometry of a stored reaction for non-mapping side inputs**
(`RXNSide._normalize_any` on an iterable: `add_rxn(["A", "A", "B"], [("C", 2)])`,
`RXNSide([...])`, `RXNSide.from_any`, foreign edges in `merge`): the coefficient of a species in
the normalised side is the sum of what the elements spell — a `(species, count)` pair its count
when positive, a non-empty label one; nothing else. Together with `add_lookup_self` (which
quantifies over all raw inputs) this fixes the stored stoichiometry for every input form. -/
theorem normSide_items_spec (items : List SideItem) (sp : String) :
    (normSide (rawOfItems items)).getD sp 0 = (items.map (itemContrib sp)).sum := by
  rw [normSide_coeff, rawOfItems_contrib]

/-- Non-vacuity / the documented examples: `["A", "B", "A"]` is `{A: 2, B: 1}`; pairs with
repeated species accumulate, non-positive counts and empty labels are dropped. -/
example : normSide (rawOfItems [.label "A", .label "B", .label "A"]) = [("A", 2), ("B", 1)] := by decide +kernel
example : normSide (rawOfItems [.pair "C" 2, .label "", .pair "D" 0, .pair "C" 1, .label "E", .pair "B" (-1)]) =
    [("C", 3), ("E", 1)] := by decide +kernel

/-- Non-vacuity of `mergeForeign_edges`, and the id rules of `merge` for foreign edges: no id →
generated from the edge's rule (`""` gives `_1`, stored rule `"r"`); a second edge with an id
already present gets a generated id; `prefix_edges=False` keeps a free id. -/
example : ((({} : Store).mergeForeign
      [⟨none, "", [.label "A"], [.pair "B" 2]⟩, ⟨some "x", "Q", [.pair "A" 1], [.label "B", .label "B"]⟩,
       ⟨some "x", "r", [.pair "A" 1], []⟩] false).1.edges.map (fun e => (e.id, e.rule))) =
    [("_1", "r"), ("x", "Q"), ("r_1", "r")] := by decide +kernel

/-- `merge` of an object without `edge_list()` raises `TypeError` and touches nothing; a network
can be merged into itself (the code iterates over a snapshot of the edge list). -/
example : (step [{}] (.mergeEdges 0 none true)).2 = .err .typeError ∧
    ((step [{}] (.mergeEdges 0 none true)).1.map (·.ids)) = [[]] := by decide +kernel
example : ((run (initWorld 1) [.add 0 [("A", 1)] [("B", 1)] none none, .merge 0 0 false])[0]?.map (·.ids)) =
    some ["r_1", "r_2"] := by decide +kernel

/-- **C15, incidence part.** For a reaction with well-formed sides the sparse incidence
mapping the code builds has entry (produced − consumed) for every species. -/
theorem incidence_spec (e : Edge) (hr : e.reactants.keys.Nodup) (hp : e.products.keys.Nodup)
    (sp : String) :
    (incidenceEdge e).getD sp 0 = coeff e.products sp - coeff e.reactants sp :=
  incidence_spec' e hr hp sp

/-- Non-vacuity: a concrete three-op history reaches a store with two reactions, and its
invariant is therefore covered by `inv_reachable`. -/
example : ((run (initWorld 1)
    [.add 0 [("A", 1)] [("B", 2)] none (some "r_1"), .add 0 [("B", 1)] [("C", 1)] none none,
     .removeSpecies 0 "A" false])[0]?.map (·.ids)) = some ["r_1", "r_2"] := by decide +kernel

open SynKit.Views in
/-- **C15, refinement part (add from string).** A well-formed line — the sides printed the way
`RXNSide.__repr__` prints them from labels that are `WfLabel`, ` >> ` between them, and either a
`| rule=R` suffix that is parsed (`LineMode`, first alternative) or no suffix at all (second) —
adds exactly the reaction it spells: the call succeeds, returns the id the generator hands out
for the decided rule (which was not in use), appends one reaction with that id, the decided rule
and the two spelled sides (in printed order: a permutation of the spelled dict), leaves every
other reaction alone and keeps the invariant. The rule is decided as the code does
(`decidedRule`): the `rule=` argument if it is not `None`; else the suffix's rule; else — and
also for `rule=""` — `"r"`. -/
theorem addFromStr_spec (s : Store) (f : StrFlags) (e : Views.Rxn) (ex : Option String) (sfx : Bool)
    (hm : LineMode f sfx)
    (hs : WfSide e.reactants ∧ WfSide e.products) (hl : WfLabels e.reactants ∧ WfLabels e.products)
    (hr : f.includeRule = true → WfRule e.rule) (hne : e.reactants ≠ [] ∨ e.products ≠ []) :
    let rule := decidedRule ex (if f.includeRule then some e.rule else none)
    let i := (s.nextId rule).2
    let new : Edge := ⟨i, rule, sortSide e.reactants, sortSide e.products⟩
    ∃ s', s.addFromStr (fmtLine f e) ex sfx = (s', .ok i) ∧ i ∉ s.ids ∧
      s'.edges = s.edges ++ [new] ∧ s'.findEdge i = some new ∧
      (∀ j, j ≠ i → s'.findEdge j = s.findEdge j) ∧
      new.reactants.Perm e.reactants ∧ new.products.Perm e.products ∧
      (s.Inv → s'.Inv) := by
  intro rule i new
  have heq := addFromStr_wfLine s f e ex sfx hm hs hl hr hne
  obtain ⟨added, ha, hw⟩ := addFromStr_appends s (fmtLine f e) ex sfx
  rw [heq] at ha
  obtain rfl : added = [new] := List.append_cancel_left (ha.edges.symm.trans (rfl : _ = s.edges ++ [new]))
  exact ⟨_, heq, ha.fresh new (List.mem_singleton_self _), ha.edges, ha.findEdge_self,
    fun j hj => ha.findEdge_other j fun e he => List.mem_singleton.1 he ▸ hj,
    sortSide_perm _, sortSide_perm _, fun hinv => ha.inv hinv hw⟩

/-- **C15, error part (add from string).** Whatever the text layer raises (`ValueError` when
`>>` is missing, `IndexError` on a part made of `*` only) is raised before the store is touched:
same exception class, store unchanged. -/
theorem addFromStr_parse_error (s : Store) (line : List Char) (rule : Option String) (sfx : Bool)
    (err : Views.Err) (h : Views.parseLine rule sfx line = .error err) :
    s.addFromStr line rule sfx = (s, .error (errOfViews err)) := by
  unfold Store.addFromStr
  rw [h]

/-- **C15, refinement part (parse_rxns).** For items that are well formed (`Item.Wf`: bare lines
always; lines with a `| rule=R` suffix when the loop body has the suffix parsed) `parse_rxns`
succeeds and appends, in order, one reaction per item with the spelled sides and the rule
`parseRxnsRule` decides from explicit rule / suffix / `default_rule` / `prefer_suffix`. -/
theorem parseRxns_spec (s : Store) (dr : String) (sfx pref : Bool) (items : List Item)
    (h : ∀ it ∈ items, it.Wf sfx pref) :
    ∃ s', s.parseRxns (items.map Item.line) dr sfx pref = (s', .ok ()) ∧
      ∃ added : List Edge, s'.edges = s.edges ++ added ∧
        added.map Edge.content = items.map (Item.expected dr sfx pref) := by
  induction items generalizing s with
  | nil => exact ⟨s, rfl, [], (List.append_nil _).symm, rfl⟩
  | cons it rest ih =>
    obtain ⟨hm, hs, hl, hr, hne⟩ := h it List.mem_cons_self
    obtain ⟨f, e, ex⟩ := it
    obtain ⟨hmode, hrule⟩ := lineArgs_wfLine dr sfx pref f e ex hm hl hr
    have hadd := addFromStr_wfLine s f e (lineArgs dr sfx pref (Views.fmtLine f e) ex).1
      (lineArgs dr sfx pref (Views.fmtLine f e) ex).2 hmode hs hl hr hne
    rw [hrule] at hadd
    generalize hs1 : Store.insertEdge _ _ = s1 at hadd
    obtain ⟨s', hrest, added, ha, hb⟩ := ih s1 (fun it' h' => h it' (List.mem_cons_of_mem _ h'))
    refine ⟨s', ?_, ?_⟩
    · simp only [List.map_cons, Item.line, Store.parseRxns, hadd, hrest]
    · rw [ha, ← hs1]
      exact ⟨_ :: added, List.append_assoc .., by rw [List.map_cons, hb]; rfl⟩

/-- **C15, partial effects (parse_rxns).** On arbitrary input — also when some line raises and
`parse_rxns` stops half way — the reactions stored before are untouched and still come first:
the table only grows at the end. (That the store reached is consistent is `inv_reachable`.) -/
theorem parseRxns_only_appends (s : Store) (items : List (List Char × Option String)) (dr : String)
    (sfx pref : Bool) :
    ∃ added, (s.parseRxns items dr sfx pref).1.edges = s.edges ++ added :=
  let ⟨added, ha, _⟩ := parseRxns_appends items dr sfx pref s
  ⟨added, ha.edges⟩

/-- `parse_rxns(lines, rules=...)` with a wrong number of rules raises `ValueError` before
anything is added. -/
theorem parseRxnsRules_length_mismatch (s : Store) (lines : List (List Char))
    (rules : List (Option String)) (dr : String) (sfx pref : Bool) (h : lines.length ≠ rules.length) :
    s.parseRxnsRules lines rules dr sfx pref = (s, .error .valueError) := by
  unfold Store.parseRxnsRules
  rw [if_pos h]

section Examples
open SynKit.Views

/-- Non-vacuity of `addFromStr_spec`: its hypotheses hold for the line `2A + B >> C | rule=R1`
(suffix parsed) and for the bare `2A + B >> C` … -/
def exRxn : Views.Rxn := ⟨"", "R1", [("B", 1), ("A", 2)], [("C", 1)]⟩

example : LineMode {} true ∧ LineMode { includeRule := false } false :=
  ⟨Or.inl ⟨rfl, rfl⟩, Or.inr ⟨rfl, rfl⟩⟩
example : (WfSide exRxn.reactants ∧ WfSide exRxn.products) ∧
    (WfLabels exRxn.reactants ∧ WfLabels exRxn.products) ∧ WfRule exRxn.rule ∧
    (exRxn.reactants ≠ [] ∨ exRxn.products ≠ []) := by
  unfold WfSide WfLabels WfRule; decide
example : String.ofList (fmtLine {} exRxn) = "2A + B >> C | rule=R1" := by decide +kernel

/-- … and the model computes what the theorem says: rule from the suffix, from the argument
(argument wins over suffix), default `"r"` (also for `rule=""`). -/
example : (({} : Store).addFromStr "2A + B >> C | rule=R1".toList none true).1.edges =
    [⟨"R1_1", "R1", [("A", 2), ("B", 1)], [("C", 1)]⟩] := by decide +kernel
example : (({} : Store).addFromStr "2A + B >> C | rule=R1".toList (some "X") true).1.edges =
    [⟨"X_1", "X", [("A", 2), ("B", 1)], [("C", 1)]⟩] := by decide +kernel
example : (step [{}] (.addFromStr 0 "2A+B>>C".toList (some "") false)).2 = .okId "r_1" := by decide +kernel

/-- Why a line with suffix is not well formed under `parse_rule_from_suffix=False` (which is
also how `parse_rxns` hands over a line that comes with an explicit per-line rule unless
`prefer_suffix`): the suffix stays in the text and becomes part of the last product label. -/
theorem suffix_unparsed_example :
    (({} : Store).addFromStr "A >> B | rule=R1".toList (some "X") false).1.edges =
      [⟨"X_1", "X", [("A", 1)], [("B | rule=R1", 1)]⟩] ∧
    (({} : Store).parseRxns [("A >> B | rule=R1".toList, some "X")] "r" true false).1.edges =
      [⟨"X_1", "X", [("A", 1)], [("B | rule=R1", 1)]⟩] := by decide +kernel

/-- Error branches are modelled explicitly: missing `>>`, a `*`-only part, an empty reaction
(`ValueError` of `add_rxn`, raised after the counter was advanced). -/
example : (step [{}] (.addFromStr 0 "A + B".toList none true)).2 = .err .valueError := by decide +kernel
example : (step [{}] (.addFromStr 0 "* >> B".toList none true)).2 = .err .indexError := by decide +kernel
example : (step [{}] (.addFromStr 0 "∅ >> ∅".toList none true)).2 = .err .valueError ∧
    (({} : Store).addFromStr "∅ >> ∅".toList none true).1.counters = [("r", 1)] := by decide +kernel

/-- `parse_rxns` stops at the first failing line and keeps what it added before it (here also the
counter advanced by the failing `add_rxn`): the next generated id is `r_3`. -/
example : (step [{}] (.parseRxns 0
      [("A>>B".toList, none), ("∅>>∅".toList, none), ("C>>D".toList, none)] "r" true false)).2 =
    .err .valueError := by decide +kernel
example : ((run (initWorld 1)
    [.parseRxns 0 [("A>>B".toList, none), ("∅>>∅".toList, none), ("C>>D".toList, none)] "r" true false,
     .addFromStr 0 "C>>D".toList none true])[0]?.map (·.ids)) = some ["r_1", "r_3"] := by decide +kernel

/-- The rule table of `parse_rxns`: `default_rule` only counts when suffixes are not parsed;
`prefer_suffix` lets the suffix override an explicit rule. -/
example : ((({} : Store).parseRxns
      [("A>>B".toList, none), ("A>>B | rule=R1".toList, none), ("A>>B".toList, some "X"),
       ("A>>B | rule=R1".toList, some "X")] "d" true true).1.edges.map (·.rule)) =
    ["r", "R1", "X", "R1"] := by decide +kernel
example : ((({} : Store).parseRxns [("A>>B".toList, none)] "d" false false).1.edges.map (·.rule)) =
    ["d"] := by decide +kernel

/-- Non-vacuity of `parseRxns_spec`: a bare line with an explicit rule and a suffixed line
without one are admissible together. -/
example : ∀ it ∈ ([({ includeRule := false }, exRxn, some "X"), ({}, exRxn, none)] : List Item),
    it.Wf true false := by
  intro it hit
  simp only [List.mem_cons, List.not_mem_nil, or_false] at hit
  rcases hit with rfl | rfl
  · exact ⟨Or.inl ⟨rfl, rfl⟩, by unfold WfSide; decide, by unfold WfLabels; decide,
      (by intro h; cases h), by decide⟩
  · exact ⟨Or.inr ⟨rfl, rfl, Or.inl rfl⟩, by unfold WfSide; decide, by unfold WfLabels; decide,
      by intro _; unfold WfRule; decide, by decide⟩

end Examples

end SynKit.Store
