import SynKitProofs.ReactorExplicit
import SynKitProofs.ReactorHydrogen
/-!
# C03 — every reaction proposed by rule application is a genuine instance of the rule

`host` is the substrate graph, `T` the template `rule.rc.raw`, `m` a match of the template's reactant side
`left T` into the substrate as `SynReactor.mappings` finds it (`IsMono monoSel host (left T) m`), `glue host T m`
the ITS `_glue_graph` returns for `m`.  Implicit path (`pattern_has_explicit_H = False`) first, then `_explicit_h`,
then the explicit re-match path.  A backward application is a forward application of `invert T`.
-/
namespace SynKit.Reactor
open SynKit.Match

/-- The property at full strength, at graph level (the SMILES rendering of each ITS by RDKit is
trusted).  `results` stands for the list of ITS graphs `SynReactor.its_list` returns for a
substrate and an oriented template.  (a) reactant side = substrate after hydrogen normalisation,
(b) hydrogen, charge and element balance, (c) labelled changed-bond graph isomorphic to the
template's; that no other bond is altered is part of (c) by the definition of `labelledChanges`
(a bond outside it has equal orders on both sides) together with (a). -/
def C03.FullStatement (results : LGraph → LGraph → List LGraph) : Prop :=
  ∀ host T : LGraph, WFHost host → WFTemplate T →
    ∀ its ∈ results host T,
      specA host its = true ∧ specB its = true ∧ specC its T = true

/-- **C03 (a)** — the substrate is unchanged on its side: decomposing the glued ITS gives back, on
the reactant side, exactly the substrate (same atoms with element, aromaticity, hydrogen count and
charge, same bonds with the same orders; nothing added, nothing dropped). -/
theorem glue_left_unchanged (host T : LGraph) (m : Mapping) (hH : WFHost host) (hT : WFTemplate T)
    (hm : IsMono monoSel host (left T) m) :
    left (glue host T m) = hostProj host :=
  glue_left_X host T m (hostX_of_wfHost host hH) hT hm

/-- Corollary of (a) in the form the harness evaluates on the implementation's outputs. -/
theorem glue_specA (host T : LGraph) (m : Mapping) (hH : WFHost host) (hT : WFTemplate T)
    (hm : IsMono monoSel host (left T) m) :
    normH (left (glue host T m)) = normH (hostProj host) := by
  rw [glue_left_unchanged host T m hH hT hm]

/-- **C03 (b)** — the result is exactly as (un)balanced as the template: total hydrogen-count
change and total charge change of the glued ITS equal those of the template, and every atom keeps
its element.  In particular a template that conserves hydrogens and charge yields a balanced
reaction (`glue_balanced`); a reaction-centre template in which an atom changes charge or hydrogen
count without a changed bond is itself unbalanced (finding F10) and passes its imbalance on. -/
theorem glue_balance (host T : LGraph) (m : Mapping) (hH : WFHost host) (hT : WFTemplate T)
    (hm : IsMono monoSel host (left T) m) :
    (imbalance (glue host T m)).1 = (imbalance T).1 ∧
    (imbalance (glue host T m)).2.1 = (imbalance T).2.1 ∧
    (imbalance (glue host T m)).2.2 = true :=
  glue_balance_X host T m (hostX_of_wfHost host hH) hT hm (wfHost_covers host m hH)

/-- (b) as a verdict: a balanced template gives balanced results. -/
theorem glue_balanced (host T : LGraph) (m : Mapping) (hH : WFHost host) (hT : WFTemplate T)
    (hm : IsMono monoSel host (left T) m) (hb : (imbalance T).1 = 0 ∧ (imbalance T).2.1 = 0) :
    specB (glue host T m) = true :=
  specB_of_balance _ T (glue_balance host T m hH hT hm) hb

/-- **C03 (c)** — the changed bonds of the result are the `m`-image of the template's.
1. every template bond has an image bond in the result with the same order change;
2. every bond of the result is either such an image (same order change) or a substrate bond that
   is the image of no template bond and keeps its order `(o, o)` — no other bond is altered;
3. a matched atom has the template atom's element and the template atom's hydrogen-count change;
4. an atom outside the match keeps its hydrogen count.
`RoundExact` says Python's `round` loses nothing where the template creates a bond between two
atoms the substrate already bonds (always true when such a clash does not occur). -/
theorem glue_rc_image (host T : LGraph) (m : Mapping) (hH : WFHost host) (hT : WFTemplate T)
    (hm : IsMono monoSel host (left T) m) (hr : RoundExact host T m) :
    (∀ te ∈ T.edges, ∃ e ∈ (glue host T m).edges, landsOn m te e.1 e.2.1 = true ∧ delta e.2.2 = delta te.2.2) ∧
    (∀ e ∈ (glue host T m).edges,
      (∃ te ∈ T.edges, landsOn m te e.1 e.2.1 = true ∧ delta e.2.2 = delta te.2.2) ∨
      (delta e.2.2 = 0 ∧ ordAt e.2.2 0 = ordAt e.2.2 1 ∧ ∀ te ∈ T.edges, landsOn m te e.1 e.2.1 = false)) ∧
    (∀ q h, (q, h) ∈ m →
      tgField ((glue host T m).attrs h) 0 0 = tgField (T.attrs q) 0 0 ∧
      hR ((glue host T m).attrs h) - hL ((glue host T m).attrs h) = hR (T.attrs q) - hL (T.attrs q)) ∧
    (∀ h ∈ host.ids, preimage m h = none →
      hR ((glue host T m).attrs h) = hL ((glue host T m).attrs h)) := by
  obtain ⟨h1, h2, h3, h4⟩ := glue_rc_image_X host T m (hostX_of_wfHost host hH) hT hm hr
  exact ⟨h1, h2, h3, h4 (wfHost_covers host m hH)⟩

/-- **C03 (c), in the form of the specification** — the labelled graph of changed bonds of the result
(end atoms labelled with element and hydrogen-count change, bonds with the amount by which their
order changes) is isomorphic to that of the template; the isomorphism is the match itself. -/
theorem glue_rc_iso (host T : LGraph) (m : Mapping) (hH : WFHost host) (hT : WFTemplate T)
    (hm : IsMono monoSel host (left T) m) (hr : RoundExact host T m) :
    ∃ m', IsIso chgSel (labelledChanges (glue host T m)) (labelledChanges T) m' :=
  glue_lc_iso_X host T m (hostX_of_wfHost host hH) hT hm hr

/-- The three clauses as the verdicts `reactor.spec` computes on an output, for the model's own
output: (a) and (b) unconditionally (for a balanced template), (c) given the matching engine's
theorem `isoDecide_iff` (hypothesis `hengine`). -/
theorem glue_meets_spec
    (hengine : ∀ H P : LGraph, P.WF → (isoDecide chgSel H P = true ↔ ∃ m, IsIso chgSel H P m))
    (host T : LGraph) (m : Mapping) (hH : WFHost host) (hT : WFTemplate T)
    (hm : IsMono monoSel host (left T) m) (hr : RoundExact host T m)
    (hb : (imbalance T).1 = 0 ∧ (imbalance T).2.1 = 0) :
    normH (left (glue host T m)) = normH (hostProj host) ∧ specB (glue host T m) = true ∧
    specC (glue host T m) T = true :=
  ⟨glue_specA host T m hH hT hm, glue_balanced host T m hH hT hm hb,
   (hengine _ _ (lc_wf T hT.1)).2 (glue_rc_iso host T m hH hT hm hr)⟩

/-- **C03 (a)+(b)+(c) as the verdicts of `reactor.spec`, unconditionally on the engine**: the engine
hypothesis of `glue_meets_spec` is discharged by `SynKit.Match.isoDecide_iff`. -/
theorem glue_meets_spec_full (host T : LGraph) (m : Mapping) (hH : WFHost host) (hT : WFTemplate T)
    (hm : IsMono monoSel host (left T) m) (hr : RoundExact host T m)
    (hb : (imbalance T).1 = 0 ∧ (imbalance T).2.1 = 0) :
    normH (left (glue host T m)) = normH (hostProj host) ∧ specB (glue host T m) = true ∧
    specC (glue host T m) T = true :=
  glue_meets_spec (fun H P hP => isoDecide_iff chgSel H P hP) host T m hH hT hm hr hb

/-- **C03 (a) as the verdict the harness computes.** -/
theorem glue_specA_verdict (host T : LGraph) (m : Mapping) (hH : WFHost host) (hT : WFTemplate T)
    (hm : IsMono monoSel host (left T) m) : specA host (glue host T m) = true :=
  specA_of_left host host _ (glue_left_unchanged host T m hH hT hm) rfl

/-- **C03 on a prepared host** — the three verdicts of `reactor.spec` for the ITS glued onto any prepared host `E` that
normalises to the substrate, under the guard `RematchCovers`.  The implicit path is `E = host` (guard vacuous), the
explicit path `E = explicitHost host nodes`. -/
theorem glue_meets_spec_X (host E T : LGraph) (m : Mapping) (hX : HostX E) (hn : normH E = normH host)
    (hT : WFTemplate T) (hb : (imbalance T).1 = 0 ∧ (imbalance T).2.1 = 0)
    (hm : IsMono monoSel E (left T) m) (hr : RoundExact E T m) (hc : RematchCovers E m) :
    specA host (glue E T m) = true ∧ specB (glue E T m) = true ∧ specC (glue E T m) T = true :=
  ⟨specA_of_left host E _ (glue_left_X E T m hX hT hm) hn,
   specB_of_balance _ T (glue_balance_X E T m hX hT hm hc) hb,
   (isoDecide_iff chgSel _ _ (lc_wf T hT.1)).2 (glue_lc_iso_X E T m hX hT hm hr)⟩

/-- **C03 for the implicit path (`_partial`)** — `C03.FullStatement` holds of the model's implicit
path: for a well-formed substrate and template, a hydrogen- and charge-balanced template and exact
rounding, every ITS glued along any list of matches drawn from the exhaustive enumeration (strategy
`all` uses all of them, `comp`/`bt` sub-lists) meets the three verdicts (a), (b), (c) that
`reactor.spec` evaluates.  Missing for the full statement: the explicit re-matching path
(`pattern_has_explicit_H`), which is proved separately under a guard (`fullStatement_explicit_partial`
below) — the pinned code does *not* meet (b) there in general (`explicit_guard_needed_witness`; see
also the F20-family probe in `harness/props/c03.py`) —
and the composition with `_explicit_h` (proved separately, under its pairing hypothesis, as
`explicitH_balance`); templates that are themselves unbalanced pass their imbalance on
(`glue_balance`, finding F10). -/
theorem fullStatement_implicit_partial :
    ∀ host T : LGraph, WFHost host → WFTemplate T →
      ((imbalance T).1 = 0 ∧ (imbalance T).2.1 = 0) →
      ∀ ms : List Mapping, (∀ m ∈ ms, m ∈ allMonos monoSel host (left T) ∧ RoundExact host T m) →
        ∀ its ∈ implicitResults host T ms,
          specA host its = true ∧ specB its = true ∧ specC its T = true := by
  intro host T hH hT hb ms hms its hits
  obtain ⟨m, hmem, rfl⟩ := List.mem_map.1 hits
  exact glue_meets_spec_X host host T m (hostX_of_wfHost host hH) rfl hT hb
    ((mem_allMonos monoSel host (left T) (left_wf T hT) m).1 (hms m hmem).1) (hms m hmem).2 (wfHost_covers host m hH)

/-- **Orientation.** Applying a template backwards is applying `invert T` forwards:
`_invert_template` swaps the two sides of the template (as `its_decompose` reads them). -/
theorem invert_swaps_sides (T : LGraph) (hT : NumericOrders T) :
    left (invert T) = right T ∧ right (invert T) = left T :=
  ⟨decompSide_invert T hT 0 (by omega), decompSide_invert T hT 1 (by omega)⟩

/-- `_invert_template` is an involution on what the reactor reads from a template (its two
sides). -/
theorem invert_involutive (T : LGraph) (hT : NumericOrders T) :
    left (invert (invert T)) = left T ∧ right (invert (invert T)) = right T := by
  have h1 := invert_swaps_sides (invert T) (invert_numeric T)
  have h2 := invert_swaps_sides T hT
  exact ⟨by rw [h1.1, h2.2], by rw [h1.2, h2.1]⟩

/-! ### Non-vacuity: a concrete substitution (amine + bromide → C–N bond, HBr), all hypotheses hold -/

/-- Substrate `C–Br . N` (ids 1, 2, 3; CH3, Br, NH2). -/
def exHost : LGraph :=
  { nodes := [(1, [("element", .str "C"), ("hcount", .num 6), ("charge", .num 0)]),
              (2, [("element", .str "Br"), ("hcount", .num 0), ("charge", .num 0)]),
              (3, [("element", .str "N"), ("hcount", .num 4), ("charge", .num 0)])]
    edges := [(1, 2, [("order", .num 2)])] }

/-- Template: N(10) loses a hydrogen and bonds to C(11); C(11)–Br(12) breaks; Br gains the hydrogen. -/
def exT : LGraph :=
  { nodes := [(10, [("typesGH", .tup [.tup [.str "N", .bool false, .num 2, .num 0, .tup []],
                                       .tup [.str "N", .bool false, .num 0, .num 0, .tup []]])]),
              (11, [("typesGH", .tup [.tup [.str "C", .bool false, .num 0, .num 0, .tup []],
                                       .tup [.str "C", .bool false, .num 0, .num 0, .tup []]])]),
              (12, [("typesGH", .tup [.tup [.str "Br", .bool false, .num 0, .num 0, .tup []],
                                       .tup [.str "Br", .bool false, .num 2, .num 0, .tup []]])])]
    edges := [(10, 11, [("order", .tup [.num 0, .num 2]), ("standard_order", .num (-2))]),
              (11, 12, [("order", .tup [.num 2, .num 0]), ("standard_order", .num 2)])] }

def exM : Mapping := [(10, 3), (11, 1), (12, 2)]

theorem exHost_wf : WFHost exHost := by decide +kernel
theorem exT_wf : WFTemplate exT := by decide +kernel

example : WFHost exHost := exHost_wf
example : WFTemplate exT := exT_wf
example : RoundExact exHost exT exM := by decide +kernel
example : NumericOrders exT := by
  unfold NumericOrders
  decide +kernel

theorem exMono : IsMono monoSel exHost (left exT) exM :=
  (isMonoB_iff _ _ _ _).1 (by decide +kernel)

example : (labelledChanges (glue exHost exT exM)).edges.length = 2 ∧ imbalance exT = (0, 0, true) ∧
    specA exHost (glue exHost exT exM) = true ∧ specB (glue exHost exT exM) = true ∧
    specC (glue exHost exT exM) exT = true := by decide +kernel

/-- The exhaustive enumeration finds exactly the example match, so the implicit path returns exactly
one ITS and `fullStatement_implicit_partial` is not vacuous. -/
example : implicitResults exHost exT (allMonos monoSel exHost (left exT)) = [glue exHost exT exM] := by decide +kernel

example : left (glue exHost exT exM) = hostProj exHost :=
  glue_left_unchanged exHost exT exM exHost_wf exT_wf exMono

/-- **C03, `_explicit_h`** — it moves hydrogens and never creates or destroys them, *provided* every
atom that carries hydrogen-pair ids carries exactly as many as its hydrogen count changes (`hcons`)
and every pair component gives as many hydrogens as it takes (`hbal`) — which is what
`SynRule._strip_explicit_h` produces whenever no explicit hydrogen stays on its atom and no atom
both gives and receives one.  For every atom `n` of the input ITS, with `ms` the list of
(donor, receiver) migrations: the reactant-side count of `n` drops by exactly the number of new
hydrogen atoms bonded to `n` on the reactant side, the product-side count by the number bonded to
`n` on the product side; the only new atoms are those hydrogens.  Hence the reactant side is
unchanged up to making hydrogens explicit, and the hydrogen balance of the ITS is untouched. -/
theorem explicitH_balance (I I' : LGraph) (h : explicitH I = some I')
    (hw : ∀ n ∈ affected I, TgWF (I.attrs n))
    (hcons : ∀ n ∈ affected I, 2 * ((affected I).count n : Int) = |dOf I n|)
    (hbal : componentsBalanced I = true) :
    ∃ ms, migrations I = some ms ∧
      I'.ids = I.ids ++ (newHNodes (nextId I) ms).map (·.1) ∧
      ∀ n ∈ I.ids,
        hL (I'.attrs n) + 2 * cntSrc ms n = hL (I.attrs n) ∧
        hR (I'.attrs n) + 2 * cntDst ms n = hR (I.attrs n) := by
  obtain ⟨ms, hm, hids, hat⟩ := explicitH_attrs I I' h
  refine ⟨ms, hm, hids, fun n hn => ?_⟩
  obtain ⟨q1, q2⟩ := migrations_spec I ms hm (fun x hx => even_of_two_mul_eq_abs (hcons x hx)) hbal n
  rw [hat n hn]
  by_cases hna : n ∈ affected I
  · -- decremented `|dOf I n| / 2` times: the larger side comes down to the smaller one
    simp only [hna, true_and] at q1 q2
    obtain ⟨e1, e2⟩ := decH_iter _ _ (hw n hna) (hcons n hna)
    rw [e1, e2, q1, q2]
    exact conserve_arith _ _
  · simp only [hna, false_and, if_false] at q1 q2
    rw [List.count_eq_zero.2 hna, Function.iterate_zero, id_eq]
    constructor <;> omega

/-- Non-vacuity: the glued ITS of the example after `SynRule`-style pairing (N gives the hydrogen
that Br receives) satisfies the hypotheses, and one hydrogen atom is created. -/
def exPaired : LGraph :=
  { nodes := [(1, [("typesGH", .tup [.tup [.str "C", .bool false, .num 6, .num 0, .tup []],
                                      .tup [.str "C", .bool false, .num 6, .num 0, .tup []]])]),
              (2, [("typesGH", .tup [.tup [.str "Br", .bool false, .num 0, .num 0, .tup []],
                                      .tup [.str "Br", .bool false, .num 2, .num 0, .tup []]]),
                   ("h_pairs", .tup [.num 2])]),
              (3, [("typesGH", .tup [.tup [.str "N", .bool false, .num 4, .num 0, .tup []],
                                      .tup [.str "N", .bool false, .num 2, .num 0, .tup []]]),
                   ("h_pairs", .tup [.num 2])])]
    edges := [(1, 2, [("order", .tup [.num 2, .num 0])]), (3, 1, [("order", .tup [.num 0, .num 2])])] }

example : migrations exPaired = some [(3, 2)] ∧ componentsBalanced exPaired = true ∧ affected exPaired = [2, 3] ∧
    (explicitH exPaired).map (·.ids) = some [1, 2, 3, 4] := by decide +kernel

example : ∀ n ∈ affected exPaired, TgWF (exPaired.attrs n) ∧ 2 * ((affected exPaired).count n : Int) = |dOf exPaired n| := by
  decide +kernel

/-- The pairing hypothesis cannot be dropped (a defect of `_explicit_h` on templates outside the
corpus): an atom whose explicit hydrogen stays on it (a spectator hydrogen: pair id present, no
change of count) loses that hydrogen on the reactant side although no hydrogen atom is created. -/
def exSpectator : LGraph :=
  { nodes := [(1, [("typesGH", .tup [.tup [.str "N", .bool false, .num 2, .num 0, .tup []],
                                      .tup [.str "N", .bool false, .num 2, .num 0, .tup []]]),
                   ("h_pairs", .tup [.num 2])])]
    edges := [] }

theorem explicitH_spectator_witness :
    migrations exSpectator = some [] ∧
    (explicitH exSpectator).map (fun I' => (I'.ids, hL (I'.attrs 1), hR (I'.attrs 1))) = some ([1], 0, 2) ∧
    hL (exSpectator.attrs 1) = 2 := by decide +kernel

/-! ### The explicit-hydrogen re-match path (`pattern_has_explicit_H = True`)

Setting.  The pattern `left T` contains hydrogen atoms bonded to heavy atoms.  `SynReactor.mappings`
matches the *folded* pattern `hToImplicit (left T)` into the substrate; `nodes` is the list of images
of such a first match (`[v for _, v in mapping.items()]`).  `_get_explicit_map` makes every hydrogen
of those atoms an atom (`explicitHost host nodes` = `h_to_explicit` after the `typesGH` defaults) and
matches the explicit pattern `left T` into that graph again; `m` is any such re-match
(`IsMono monoSel (explicitHost host nodes) (left T) m`, i.e. any member of the exhaustive
enumeration by `explicit_rematch_sound`); `glue (explicitHost host nodes) T m` is the ITS
`_glue_graph` returns for it.

Outcome.  Clauses (a') and (c') hold for *every* re-match.  Clause (b') holds under the decidable
guard `RematchCovers (explicitHost host nodes) m` — every atom whose hydrogens were expanded is
matched again — and fails without it (`explicit_guard_needed_witness`,
`explicit_guard_needed_witness_sites`): an expanded atom the re-match leaves aside keeps the
substrate's hydrogen count on its product side *and* the explicit hydrogen atoms (findings F20 /
NEW-B).  The guard is about the re-match, not only about the template: a template atom with a
positive folded hydrogen count can never be matched back onto its own expanded image (its count
there is 0), so it is either not re-matched at all (F20: no output) or re-matched elsewhere
(NEW-B: unbalanced output); but an atom with hydrogen count 0 in the pattern can wander to an
equivalent site as well. -/

/-- **Explicit path, stage 1** — what `_glue_graph` hands to the re-match is a well-formed graph
with consistent labels: distinct ids (the new hydrogen ids are fresh), bonds between distinct existing
atoms, no parallel bonds, positive orders, and the reactant side of every `typesGH` an atom carries is
the atom's own label. -/
theorem explicit_host_prepared (host : LGraph) (nodes : List Nat) (hH : WFHost host) :
    HostX (explicitHost host nodes) :=
  explicitHost_hostX host nodes hH

/-- **Explicit path, stage 2** — the re-matches the exhaustive strategy enumerates are exactly the
monomorphisms of the explicit pattern into the explicit host (element, charge, bond order, and
"host hcount ≥ pattern hcount"). -/
theorem explicit_rematch_sound (host T : LGraph) (nodes : List Nat) (hT : WFTemplate T) (m : Mapping) :
    m ∈ allMonos monoSel (explicitHost host nodes) (left T) ↔ IsMono monoSel (explicitHost host nodes) (left T) m :=
  mem_allMonos monoSel _ (left T) (left_wf T hT) m

/-- **C03 (a'), explicit path** — the reactant side of the result is the substrate *up to making the
expanded hydrogens explicit*: decomposing the glued ITS gives back exactly `h_to_explicit(substrate,
matched atoms)` (same atoms with element, aromaticity, hydrogen count and charge, same bonds with the
same orders; the only additions are the hydrogen atoms `h_to_explicit` creates, each taken off its
heavy atom's count).  No guard. -/
theorem explicit_left_unchanged (host T : LGraph) (nodes : List Nat) (m : Mapping) (hH : WFHost host)
    (hT : WFTemplate T) (hm : IsMono monoSel (explicitHost host nodes) (left T) m) :
    left (glue (explicitHost host nodes) T m) = hostProj (hToExplicit host nodes) := by
  rw [glue_left_X _ T m (explicitHost_hostX host nodes hH) hT hm, hostProj_explicitHost]

/-- **C03 (b'), explicit path** — under the guard (every expanded atom is matched again) the result
is exactly as (un)balanced as the template: total hydrogen-count change and total charge change of
the glued ITS equal those of the template (the explicit hydrogen atoms are atoms on both sides and
count 0), every atom keeps its element. -/
theorem explicit_balance (host T : LGraph) (nodes : List Nat) (m : Mapping) (hH : WFHost host)
    (hT : WFTemplate T) (hm : IsMono monoSel (explicitHost host nodes) (left T) m)
    (hc : RematchCovers (explicitHost host nodes) m) :
    (imbalance (glue (explicitHost host nodes) T m)).1 = (imbalance T).1 ∧
    (imbalance (glue (explicitHost host nodes) T m)).2.1 = (imbalance T).2.1 ∧
    (imbalance (glue (explicitHost host nodes) T m)).2.2 = true :=
  glue_balance_X _ T m (explicitHost_hostX host nodes hH) hT hm hc

/-- (b') as a verdict: a balanced template gives balanced results on the explicit path, under the
guard. -/
theorem explicit_balanced (host T : LGraph) (nodes : List Nat) (m : Mapping) (hH : WFHost host)
    (hT : WFTemplate T) (hm : IsMono monoSel (explicitHost host nodes) (left T) m)
    (hc : RematchCovers (explicitHost host nodes) m) (hb : (imbalance T).1 = 0 ∧ (imbalance T).2.1 = 0) :
    specB (glue (explicitHost host nodes) T m) = true :=
  specB_of_balance _ T (explicit_balance host T nodes m hH hT hm hc) hb

/-- **C03 (c'), explicit path** — the changed bonds of the result are the `m`-image of the
template's (an explicit hydrogen atom of the template is an atom like any other):
1. every template bond has an image bond in the result with the same order change;
2. every bond of the result is such an image or a bond of the explicit host (a substrate bond or a
   bond to an expanded hydrogen) that is the image of no template bond and keeps its order;
3. a matched atom has the template atom's element and hydrogen-count change;
4. under the guard, an atom outside the re-match keeps its hydrogen count.
Clauses 1–3 need no guard. -/
theorem explicit_rc_image (host T : LGraph) (nodes : List Nat) (m : Mapping) (hH : WFHost host)
    (hT : WFTemplate T) (hm : IsMono monoSel (explicitHost host nodes) (left T) m)
    (hr : RoundExact (explicitHost host nodes) T m) :
    (∀ te ∈ T.edges, ∃ e ∈ (glue (explicitHost host nodes) T m).edges,
      landsOn m te e.1 e.2.1 = true ∧ delta e.2.2 = delta te.2.2) ∧
    (∀ e ∈ (glue (explicitHost host nodes) T m).edges,
      (∃ te ∈ T.edges, landsOn m te e.1 e.2.1 = true ∧ delta e.2.2 = delta te.2.2) ∨
      (delta e.2.2 = 0 ∧ ordAt e.2.2 0 = ordAt e.2.2 1 ∧ ∀ te ∈ T.edges, landsOn m te e.1 e.2.1 = false)) ∧
    (∀ q h, (q, h) ∈ m →
      tgField ((glue (explicitHost host nodes) T m).attrs h) 0 0 = tgField (T.attrs q) 0 0 ∧
      hR ((glue (explicitHost host nodes) T m).attrs h) - hL ((glue (explicitHost host nodes) T m).attrs h) =
        hR (T.attrs q) - hL (T.attrs q)) ∧
    (RematchCovers (explicitHost host nodes) m →
      ∀ h ∈ (explicitHost host nodes).ids, preimage m h = none →
        hR ((glue (explicitHost host nodes) T m).attrs h) = hL ((glue (explicitHost host nodes) T m).attrs h)) :=
  glue_rc_image_X _ T m (explicitHost_hostX host nodes hH) hT hm hr

/-- **C03 (c'), explicit path, in the form of the specification** — the labelled graph of changed
bonds of the result is isomorphic to that of the template; the isomorphism is the re-match.  No
guard: every end atom of a changed bond is matched. -/
theorem explicit_rc_iso (host T : LGraph) (nodes : List Nat) (m : Mapping) (hH : WFHost host)
    (hT : WFTemplate T) (hm : IsMono monoSel (explicitHost host nodes) (left T) m)
    (hr : RoundExact (explicitHost host nodes) T m) :
    ∃ m', IsIso chgSel (labelledChanges (glue (explicitHost host nodes) T m)) (labelledChanges T) m' :=
  glue_lc_iso_X _ T m (explicitHost_hostX host nodes hH) hT hm hr

/-- (c') as the verdict `specC` of `reactor.spec`. -/
theorem explicit_specC (host T : LGraph) (nodes : List Nat) (m : Mapping) (hH : WFHost host)
    (hT : WFTemplate T) (hm : IsMono monoSel (explicitHost host nodes) (left T) m)
    (hr : RoundExact (explicitHost host nodes) T m) :
    specC (glue (explicitHost host nodes) T m) T = true :=
  (isoDecide_iff chgSel _ _ (lc_wf T hT.1)).2 (explicit_rc_iso host T nodes m hH hT hm hr)

/-- **C03 (a'), explicit path, as the verdict `specA` of `reactor.spec`** — after hydrogen
normalisation (hydrogen atoms with a heavy neighbour folded into its count) the reactant side of the
result *is* the substrate: `h_to_explicit` preserves the total hydrogen content of every heavy atom and
the heavy-atom structure.  `WholeH`: the substrate's hydrogen counts are whole numbers and its
hydrogen atoms carry none (true of every `smiles_to_graph` output).  No guard on the re-match. -/
theorem explicit_specA_verdict (host T : LGraph) (nodes : List Nat) (m : Mapping) (hH : WFHost host)
    (hw : WholeH host) (hT : WFTemplate T) (hm : IsMono monoSel (explicitHost host nodes) (left T) m) :
    specA host (glue (explicitHost host nodes) T m) = true :=
  specA_of_left host _ _ (glue_left_X _ T m (explicitHost_hostX host nodes hH) hT hm)
    (normH_explicitHost host nodes hH hw)

/-- **Why a folded hydrogen count in an explicit pattern defeats the re-match (F20).**  In the
explicit host every atom of the first match has hydrogen count 0 (all its hydrogens are atoms), so a
re-match can send a template atom `q` onto an atom `v` of the first match only if `q` carries no
positive folded count.  A template atom that has explicit hydrogen neighbours *and* a positive count
(or any positive count, in a pattern with explicit hydrogens) is therefore never matched back onto its
own image: it is not re-matched at all (no output, F20) or re-matched onto an unexpanded atom
(unbalanced output, NEW-B, `explicit_guard_needed_witness`). -/
theorem explicit_folded_count_not_rematched (host T : LGraph) (nodes : List Nat) (m : Mapping)
    (hH : WFHost host) (hT : WFTemplate T) (hm : IsMono monoSel (explicitHost host nodes) (left T) m)
    (q v : Nat) (hqv : (q, v) ∈ m) (hv : v ∈ nodes) :
    numOf (tgField (T.attrs q) 0 2) ≤ 0 := by
  have hz := explicitHost_count_zero host nodes hH _ (LGraph.attrs_mem (hm.val_mem hqv)) hv
  rw [numOf_pyGet_zero] at hz
  exact (mono_hcount _ T m hT hm q v hqv).trans hz

/-- **The guard read on the substrate**: it holds as soon as every atom of the first match that
carries hydrogens in the substrate is in the image of the re-match — in particular whenever the
re-match extends the first match. -/
theorem explicit_guard_from_substrate (host : LGraph) (nodes : List Nat) (m : Mapping) (hH : WFHost host)
    (h : ∀ v ∈ nodes, 0 < numOf (pyGet (host.attrs v) "hcount" (.num 0)) → v ∈ m.map (·.2)) :
    RematchCovers (explicitHost host nodes) m :=
  rematchCovers_of_expanded_matched host nodes m hH h

/-- **C03 (b'), explicit path followed by `_explicit_h`** (a template whose un-removable hydrogens
stay atoms while others are folded with pair ids, `explicit_h=True`): the glued ITS has the template's
balance (`explicit_balance`), and `_explicit_h` then only moves hydrogens between counts and new
hydrogen atoms (`explicitH_balance`, under its pairing hypotheses on the glued ITS). -/
theorem explicit_balance_explicitH (host T : LGraph) (nodes : List Nat) (m : Mapping) (hH : WFHost host)
    (hT : WFTemplate T) (hm : IsMono monoSel (explicitHost host nodes) (left T) m)
    (hc : RematchCovers (explicitHost host nodes) m) (I' : LGraph)
    (h : explicitH (glue (explicitHost host nodes) T m) = some I')
    (hw : ∀ n ∈ affected (glue (explicitHost host nodes) T m), TgWF ((glue (explicitHost host nodes) T m).attrs n))
    (hcons : ∀ n ∈ affected (glue (explicitHost host nodes) T m),
      2 * ((affected (glue (explicitHost host nodes) T m)).count n : Int) = |dOf (glue (explicitHost host nodes) T m) n|)
    (hbal : componentsBalanced (glue (explicitHost host nodes) T m) = true) :
    ((imbalance (glue (explicitHost host nodes) T m)).1 = (imbalance T).1 ∧
     (imbalance (glue (explicitHost host nodes) T m)).2.1 = (imbalance T).2.1 ∧
     (imbalance (glue (explicitHost host nodes) T m)).2.2 = true) ∧
    ∃ ms, migrations (glue (explicitHost host nodes) T m) = some ms ∧
      I'.ids = (glue (explicitHost host nodes) T m).ids ++
        (newHNodes (nextId (glue (explicitHost host nodes) T m)) ms).map (·.1) ∧
      ∀ n ∈ (glue (explicitHost host nodes) T m).ids,
        hL (I'.attrs n) + 2 * cntSrc ms n = hL ((glue (explicitHost host nodes) T m).attrs n) ∧
        hR (I'.attrs n) + 2 * cntDst ms n = hR ((glue (explicitHost host nodes) T m).attrs n) :=
  ⟨explicit_balance host T nodes m hH hT hm hc, explicitH_balance _ I' h hw hcons hbal⟩

/-- **C03 for the explicit re-match path (`_partial`)** — `C03.FullStatement` holds of the model's
explicit path under a decidable guard: for a well-formed substrate with whole hydrogen counts, a
well-formed hydrogen- and charge-balanced template, any list `nodes` of first-match images and any list
of re-matches drawn from the exhaustive enumeration on `explicitHost host nodes` that satisfy exact
rounding and the guard `RematchCovers` (every expanded atom is matched again), every ITS
`_glue_graph` returns meets the three verdicts (a), (b), (c) of `reactor.spec`.  What is missing for
the full statement: the guard is necessary for (b) (`explicit_guard_needed_witness`,
`explicit_guard_needed_witness_sites`: on the pinned code the re-match does leave expanded atoms
aside — findings F20/NEW-B — and those outputs are unbalanced); (a) and (c) hold without it
(`explicit_specA_verdict`, `explicit_specC`); unbalanced templates pass their imbalance on
(`explicit_balance`, F10); the composition with `_explicit_h` is per stage
(`explicit_balance_explicitH`). -/
theorem fullStatement_explicit_partial :
    ∀ host T : LGraph, WFHost host → WholeH host → WFTemplate T →
      ((imbalance T).1 = 0 ∧ (imbalance T).2.1 = 0) →
      ∀ (nodes : List Nat) (ms : List Mapping),
        (∀ m ∈ ms, m ∈ allMonos monoSel (explicitHost host nodes) (left T) ∧
          RoundExact (explicitHost host nodes) T m ∧ RematchCovers (explicitHost host nodes) m) →
        ∀ its ∈ explicitResults host T nodes ms,
          specA host its = true ∧ specB its = true ∧ specC its T = true := by
  intro host T hH hw hT hb nodes ms hms its hits
  obtain ⟨m, hmem, rfl⟩ := List.mem_map.1 hits
  exact glue_meets_spec_X host _ T m (explicitHost_hostX host nodes hH) (normH_explicitHost host nodes hH hw) hT hb
    ((explicit_rematch_sound host T nodes hT m).1 (hms m hmem).1) (hms m hmem).2.1 (hms m hmem).2.2

/-! ### Non-vacuity on the explicit path: the substitution of the implicit example with the migrating
hydrogen written as an atom (N–H + C–Br → N–C + H–Br) -/

/-- Template: N(10)–H(13) breaks, N(10)–C(11) forms, C(11)–Br(12) breaks, Br(12)–H(13) forms; no
hydrogen is folded into a count. -/
def exTX : LGraph :=
  { nodes := [(10, [("typesGH", .tup [.tup [.str "N", .bool false, .num 0, .num 0, .tup []],
                                       .tup [.str "N", .bool false, .num 0, .num 0, .tup []]])]),
              (11, [("typesGH", .tup [.tup [.str "C", .bool false, .num 0, .num 0, .tup []],
                                       .tup [.str "C", .bool false, .num 0, .num 0, .tup []]])]),
              (12, [("typesGH", .tup [.tup [.str "Br", .bool false, .num 0, .num 0, .tup []],
                                       .tup [.str "Br", .bool false, .num 0, .num 0, .tup []]])]),
              (13, [("typesGH", .tup [.tup [.str "H", .bool false, .num 0, .num 0, .tup []],
                                       .tup [.str "H", .bool false, .num 0, .num 0, .tup []]])])]
    edges := [(10, 13, [("order", .tup [.num 2, .num 0]), ("standard_order", .num 2)]),
              (10, 11, [("order", .tup [.num 0, .num 2]), ("standard_order", .num (-2))]),
              (11, 12, [("order", .tup [.num 2, .num 0]), ("standard_order", .num 2)]),
              (12, 13, [("order", .tup [.num 0, .num 2]), ("standard_order", .num (-2))])] }

/-- Images of the first match (N, C, Br of `exHost`), in the order of the folded pattern. -/
def exNodes : List Nat := [3, 1, 2]

/-- The re-match: N, C, Br as before, the template's hydrogen onto the first expanded hydrogen of N. -/
def exMX : Mapping := [(10, 3), (11, 1), (12, 2), (13, 4)]

theorem exTX_wf : WFTemplate exTX := by decide +kernel

example : WFTemplate exTX := exTX_wf

example : hasXH (left exTX) = true ∧
    allMonos monoSel exHost (hToImplicit (left exTX)) = [[(10, 3), (11, 1), (12, 2)]] := by decide +kernel

example : (explicitHost exHost exNodes).ids = [1, 2, 3, 4, 5, 6, 7, 8] ∧
    (explicitHost exHost exNodes).edges.map (fun e => (e.1, e.2.1)) = [(1, 2), (3, 4), (3, 5), (1, 6), (1, 7), (1, 8)] := by
  decide +kernel

theorem exMonoX : IsMono monoSel (explicitHost exHost exNodes) (left exTX) exMX :=
  (isMonoB_iff _ _ _ _).1 (by decide +kernel)

theorem exMX_covers : RematchCovers (explicitHost exHost exNodes) exMX := by decide +kernel

example : RematchCovers (explicitHost exHost exNodes) exMX := exMX_covers
example : RoundExact (explicitHost exHost exNodes) exTX exMX := by decide +kernel

example : (labelledChanges (glue (explicitHost exHost exNodes) exTX exMX)).edges.length = 4 ∧
    imbalance exTX = (0, 0, true) ∧
    specA exHost (glue (explicitHost exHost exNodes) exTX exMX) = true ∧
    specB (glue (explicitHost exHost exNodes) exTX exMX) = true ∧
    specC (glue (explicitHost exHost exNodes) exTX exMX) exTX = true := by decide +kernel

example : left (glue (explicitHost exHost exNodes) exTX exMX) = hostProj (hToExplicit exHost exNodes) :=
  explicit_left_unchanged exHost exTX exNodes exMX exHost_wf exTX_wf exMonoX

example : specB (glue (explicitHost exHost exNodes) exTX exMX) = true :=
  explicit_balanced exHost exTX exNodes exMX exHost_wf exTX_wf exMonoX exMX_covers (by decide +kernel)

/-- `fullStatement_explicit_partial` is not vacuous: on the example the exhaustive re-match returns two
embeddings (the template's hydrogen onto either hydrogen of N), both satisfy the guard and exact
rounding, and the substrate has whole hydrogen counts. -/
example : WholeH exHost ∧
    allMonos monoSel (explicitHost exHost exNodes) (left exTX) = [exMX, [(10, 3), (11, 1), (12, 2), (13, 5)]] ∧
    (∀ m ∈ allMonos monoSel (explicitHost exHost exNodes) (left exTX),
      RoundExact (explicitHost exHost exNodes) exTX m ∧ RematchCovers (explicitHost exHost exNodes) m) ∧
    (explicitResults exHost exTX exNodes (allMonos monoSel (explicitHost exHost exNodes) (left exTX))).length = 2 := by
  decide +kernel

example : numOf (tgField (exTX.attrs 10) 0 2) ≤ 0 :=
  explicit_folded_count_not_rematched exHost exTX exNodes exMX exHost_wf exTX_wf exMonoX 10 3
    (by decide +kernel) (by decide +kernel)

/-- Two bromomethanes (C1–Br2, C4–Br5) and one amine (N3). -/
def exHost2 : LGraph :=
  { nodes := [(1, [("element", .str "C"), ("hcount", .num 6), ("charge", .num 0)]),
              (2, [("element", .str "Br"), ("hcount", .num 0), ("charge", .num 0)]),
              (3, [("element", .str "N"), ("hcount", .num 4), ("charge", .num 0)]),
              (4, [("element", .str "C"), ("hcount", .num 6), ("charge", .num 0)]),
              (5, [("element", .str "Br"), ("hcount", .num 0), ("charge", .num 0)])]
    edges := [(1, 2, [("order", .num 2)]), (4, 5, [("order", .num 2)])] }

/-- A re-match that moves to the second bromomethane although the first one was expanded. -/
def exMW : Mapping := [(10, 3), (11, 4), (12, 5), (13, 6)]

/-- **The guard of (b') cannot be dropped (NEW-B)**, even for a template without any folded hydrogen:
the first match `N3, C1, Br2` expands C1; the exhaustive re-match also returns the embedding onto the
*other* bromomethane; C1 then keeps `typesGH = (0 | 3 H)` and its three explicit hydrogens, so the
result gains three hydrogens (6 half-units) although the template is balanced.  Clauses (a') and (c')
still hold, as proved. -/
theorem explicit_guard_needed_witness_sites :
    WFHost exHost2 ∧ WFTemplate exTX ∧ imbalance exTX = (0, 0, true) ∧
    [(10, 3), (11, 1), (12, 2)] ∈ allMonos monoSel exHost2 (hToImplicit (left exTX)) ∧
    exMW ∈ allMonos monoSel (explicitHost exHost2 exNodes) (left exTX) ∧
    ¬ RematchCovers (explicitHost exHost2 exNodes) exMW ∧
    imbalance (glue (explicitHost exHost2 exNodes) exTX exMW) = (6, 0, true) ∧
    specB (glue (explicitHost exHost2 exNodes) exTX exMW) = false ∧
    specA exHost2 (glue (explicitHost exHost2 exNodes) exTX exMW) = true ∧
    specC (glue (explicitHost exHost2 exNodes) exTX exMW) exTX = true := by decide +kernel

/-- `exTX` plus a spectator water O(14) whose two hydrogens are folded into its count (the F20
shape: a pattern with explicit hydrogens in which an atom also carries a positive folded count). -/
def exTW : LGraph :=
  { exTX with nodes := exTX.nodes ++
      [(14, [("typesGH", .tup [.tup [.str "O", .bool false, .num 4, .num 0, .tup []],
                                .tup [.str "O", .bool false, .num 4, .num 0, .tup []]])])] }

/-- Bromomethane, amine and two waters (O4, O5). -/
def exHost3 : LGraph :=
  { nodes := [(1, [("element", .str "C"), ("hcount", .num 6), ("charge", .num 0)]),
              (2, [("element", .str "Br"), ("hcount", .num 0), ("charge", .num 0)]),
              (3, [("element", .str "N"), ("hcount", .num 4), ("charge", .num 0)]),
              (4, [("element", .str "O"), ("hcount", .num 4), ("charge", .num 0)]),
              (5, [("element", .str "O"), ("hcount", .num 4), ("charge", .num 0)])]
    edges := [(1, 2, [("order", .num 2)])] }

/-- **The guard cannot be dropped (F20 family)**: the first match sends the water of the pattern to
O4; all hydrogens of O4 are expanded, so O4 no longer passes "host hcount ≥ 2 H" and *every*
re-match goes to the other water O5; O4 keeps `typesGH = (0 | 2 H)` plus two explicit hydrogens and
each result of this first match gains two hydrogens (4 half-units). -/
theorem explicit_guard_needed_witness :
    WFHost exHost3 ∧ WFTemplate exTW ∧ imbalance exTW = (0, 0, true) ∧
    [(10, 3), (11, 1), (12, 2), (14, 4)] ∈ allMonos monoSel exHost3 (hToImplicit (left exTW)) ∧
    allMonos monoSel (explicitHost exHost3 [3, 1, 2, 4]) (left exTW) =
      [[(10, 3), (11, 1), (12, 2), (13, 6), (14, 5)], [(10, 3), (11, 1), (12, 2), (13, 7), (14, 5)]] ∧
    (∀ m ∈ allMonos monoSel (explicitHost exHost3 [3, 1, 2, 4]) (left exTW),
      ¬ RematchCovers (explicitHost exHost3 [3, 1, 2, 4]) m ∧
      imbalance (glue (explicitHost exHost3 [3, 1, 2, 4]) exTW m) = (4, 0, true) ∧
      specB (glue (explicitHost exHost3 [3, 1, 2, 4]) exTW m) = false) := by decide +kernel

end SynKit.Reactor
