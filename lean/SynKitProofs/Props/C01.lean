import SynKitModel.ITS
import SynKitModel.RsmiGraph
import SynKitProofs.ITSConstructLemmas
import SynKitProofs.ImplicitHLemmas
/-!
# C01 — ITS construction and decomposition are mutually inverse, relabelling-equivariant, and
reversal swaps the (before, after) pairs

Proved on the model of `ITSConstruction.construct` / `its_decompose`.  Of the RDKit clause (ITS graph →
reaction SMILES and back) only the SynKit-side graph part is proved (section `RsmiGraphPart`): the two graphs
`its_to_rsmi` hands to RDKit are the original pair up to folding spectator hydrogens into counts; the
rendering itself rests on the correspondence run.  `implicit_hydrogen` is modelled as repaired by F29
(draft fix 0022): a hydrogen without a non-hydrogen neighbour is never removed.
-/
namespace SynKit.ITS
open C01L

/-- A molecule graph as `rsmi_to_graph` produces it: simple graph, every atom carries element,
aromatic, hcount, charge, and its atom_map equals its node id (numbers are in half-units, hence
`2 * id`); every bond has a positive numeric order. -/
def MolWF (G : LGraph) : Prop :=
  G.WF ∧
  (∀ p ∈ G.nodes, (∀ k ∈ ["element", "aromatic", "hcount", "charge"], (p.2.get? k).isSome = true) ∧
      p.2.get? "atom_map" = some (.num (2 * (p.1 : Int)))) ∧
  (∀ e ∈ G.edges, ∃ h : Int, 0 < h ∧ e.2.2.get? "order" = some (.num h))

def SameNodes (G H : LGraph) : Prop := ∀ n, n ∈ G.ids ↔ n ∈ H.ids

/-- The `≈` of C01: equality of the node→label (on `molKeys`) and edge→order finite maps, irrespective of
list order. -/
def MolEq (A B : LGraph) : Prop :=
  (∀ n, n ∈ A.ids ↔ n ∈ B.ids) ∧
  (∀ n ∈ A.ids, ∀ k ∈ molKeys, (A.attrs n).get k = (B.attrs n).get k) ∧
  (∀ u v, (A.edge? u v).map (·.get "order") = (B.edge? u v).map (·.get "order"))

/-- The domain on which `its_decompose` does not raise and `construct ∘ decompose` can be the identity
(a bond with orders `(0, 0)` goes to neither side and is lost; `standard_order` is recomputed as the
difference). -/
def ITSWF (I : LGraph) : Prop :=
  I.WF ∧
  (∀ p ∈ I.nodes, ∃ g h : List Val,
    p.2.get? "typesGH" = some (.tup [.tup g, .tup h]) ∧ 4 ≤ g.length ∧ 4 ≤ h.length) ∧
  (∀ e ∈ I.edges, ∃ a b : Int,
    e.2.2.get? "order" = some (.tup [.num a, .num b]) ∧ 0 ≤ a ∧ 0 ≤ b ∧ ¬(a = 0 ∧ b = 0) ∧
      e.2.2.get? "standard_order" = some (.num (a - b)))

/-- Equality of ITS graphs as labelled graphs, irrespective of list order.  Only the first four entries of
each `typesGH` half are compared: `its_decompose` drops the fifth (`neighbors`), so it cannot be recovered. -/
def ItsEq (A B : LGraph) : Prop :=
  (∀ n, n ∈ A.ids ↔ n ∈ B.ids) ∧
  (∀ n ∈ A.ids, ∀ i < 4,
    idx (idx ((A.attrs n).get "typesGH") 0) i = idx (idx ((B.attrs n).get "typesGH") 0) i ∧
    idx (idx ((A.attrs n).get "typesGH") 1) i = idx (idx ((B.attrs n).get "typesGH") 1) i) ∧
  (∀ u v, (A.edge? u v).map (fun a => (a.get "order", a.get "standard_order")) =
    (B.edge? u v).map (fun a => (a.get "order", a.get "standard_order")))

/-- **C01 (1a).** The atoms of the ITS graph are exactly the union of the atoms of `G` and `H`. -/
theorem construct_nodes (o : Opts) (G H : LGraph) (n : Nat) :
    n ∈ (construct o G H).ids ↔ n ∈ G.ids ∨ n ∈ H.ids := construct_mem_ids o G H n

/-- **C01 (1b).** No atom appears twice. -/
theorem construct_ids_nodup (o : Opts) (G H : LGraph) (hG : G.WF) (hH : H.WF) :
    (construct o G H).ids.Nodup := construct_nodup o G H hG.1 hH.1

/-- **C01 (1c).** Every atom of the ITS graph carries as `typesGH` the pair of the `G`-side and
`H`-side tuples (element, aromatic, hcount, charge, neighbors), with the defaults on a side that
lacks the atom.  (Holds without well-formedness hypotheses.) -/
theorem construct_typesGH (o : Opts) (G H : LGraph) (n : Nat) (h : n ∈ (construct o G H).ids) :
    ((construct o G H).attrs n).get "typesGH" = .tup [.tup (sideTuple G n), .tup (sideTuple H n)] := by
  rw [get_def, construct_typesGH' o G H n h]; rfl

/-- **C01 (2a).** The bonds of the ITS graph are exactly the union of the bonds of `G` and `H`
(as unordered pairs), each carrying the (before, after) pair of orders — `0` for a side that
lacks the bond — and the standard order computed from them.  (Holds without well-formedness
hypotheses: the lookup predicate is symmetric.) -/
theorem construct_edges (o : Opts) (G H : LGraph) (u v : Nat) :
    (construct o G H).edge? u v =
      if G.hasEdge u v || H.hasEdge u v
      then some (itsEdgeAttrs o.ignoreArom (orderOf G u v) (orderOf H u v)) else none :=
  construct_edge? o G H u v

/-- **C01 (2b).** The `order` entry of an ITS bond is the (before, after) pair. -/
theorem construct_order (ia : Bool) (og oh : Val) :
    (itsEdgeAttrs ia og oh).get "order" = .tup [og, oh] := itsEdgeAttrs_order ia og oh

/-- **C01 (2c).** Without `ignore_aromaticity` the `standard_order` entry of an ITS bond with
numeric orders `a` (before) and `b` (after) is the difference `a - b`. -/
theorem construct_standard_order (o : Opts) (G H : LGraph) (u v : Nat) (a b : Int)
    (hia : o.ignoreArom = false) (ha : orderOf G u v = .num a) (hb : orderOf H u v = .num b) :
    (itsEdgeAttrs o.ignoreArom (orderOf G u v) (orderOf H u v)).get "standard_order" = .num (a - b) := by
  rw [itsEdgeAttrs_std, hia, ha, hb, standardOrder_num_false]

/-- **C01 (2d).** The ITS graph of two simple graphs is a simple graph: ids distinct, every bond
joins two distinct present atoms, no parallel bonds. -/
theorem construct_wf (o : Opts) (G H : LGraph) (hG : G.WF) (hH : H.WF) : (construct o G H).WF :=
  construct_wf' o G H hG hH

/-! ## The two round trips, for any side

`IsSide` (what `its_decompose` returns) at `I = construct o G H` and read by `MolEq`, and `construct` at two sides of `I` and
read by `ItsEq`; (3) and (4) below are the cases of the two graphs `decompose` returns. -/

namespace C01L.IsSide

/-- The side `(i, sel)` of `construct o G H` came from `S ∈ {G, H}`: half `i` of `typesGH` is `S`'s tuple, `sel` of the
order pair is `S`'s order. -/
theorem molEq_of_construct {i : Nat} {sel : Val × Val → Val} {o : Opts} {G H S g : LGraph}
    (h : IsSide i sel (construct o G H) g) (hS : MolWF S)
    (hi : ∀ n, idx (.tup [.tup (sideTuple G n), .tup (sideTuple H n)]) i = .tup (sideTuple S n))
    (hsel : ∀ u v, sel (orderOf G u v, orderOf H u v) = orderOf S u v)
    (hids : ∀ n, (n ∈ G.ids ∨ n ∈ H.ids) ↔ n ∈ S.ids)
    (hcov : ∀ u v, S.hasEdge u v = true → G.hasEdge u v = true ∨ H.hasEdge u v = true) : MolEq g S := by
  have hpos : EdgePos S := hS.2.2
  have hgids : ∀ n, n ∈ g.ids ↔ n ∈ S.ids := fun n => by rw [h.ids, construct_mem_ids, hids]
  refine ⟨hgids, fun n hn k hk => ?_, fun u v => ?_⟩
  · have hnC : n ∈ (construct o G H).ids := h.ids ▸ hn
    have hl := hS.2.1 _ (LGraph.attrs_mem ((hgids n).1 hn))
    have ht : halfOf i ((construct o G H).attrs n) = .tup (sideTuple S n) := by
      rw [halfOf, get_def, construct_typesGH' o G H n hnC]; exact hi n
    rw [h.attrs hnC, ht]
    exact sideNode_get S n hl.1 hl.2 k hk
  · -- the bond of the ITS graph on {u, v}, rewritten by `decAttr sel`: kept iff `S` has the bond
    rw [h.edge?, construct_edge?]
    have hd : decAttr sel (itsF o G H u v) =
        if S.hasEdge u v then some [("order", orderOf S u v)] else none := by
      rw [decAttr, orderPair_itsF, Option.bind_some, hsel, positive_orderOf S hpos]
    rcases hpos.orderOf_cases u v with ⟨hn, _⟩ | ⟨a, n, ha, ho, _, hn⟩
    · rw [hn]
      split
      · rw [Option.bind_some, hd, LGraph.hasEdge_false_iff_edge?.2 hn]; rfl
      · rfl
    · have hSe := LGraph.hasEdge_of_edge? ha
      have hc : (G.hasEdge u v || H.hasEdge u v) = true := by
        rcases hcov u v hSe with h | h <;> simp [h]
      rw [if_pos hc, Option.bind_some, hd, hSe, if_pos rfl, ha, Option.map_some, Option.map_some, hn, Attrs.get_of_get? ho]
      rfl

/-- (4) for any two graphs that are the sides of `I` and any options that do not ignore aromaticity: the `construct` readings
at `A`, `B`, then the `IsSide` readings of each.  Of `ITSWF I` only the bond clause is used. -/
theorem itsEq_construct {o : Opts} {I A B : LGraph} (hA : IsSide 0 Prod.fst I A)
    (hB : IsSide 1 Prod.snd I B) (hia : o.ignoreArom = false) (hI : ITSWF I) : ItsEq (construct o A B) I := by
  have hids : ∀ n, n ∈ (construct o A B).ids ↔ n ∈ I.ids := fun n => by
    rw [construct_mem_ids, hA.ids, hB.ids, or_self]
  refine ⟨hids, fun n hnC i hi => ?_, fun u v => ?_⟩
  · -- `i < 4`: the fifth entry of each half comes back as `nodeDefault "neighbors"` (`sideTuple_of_sideNode`)
    have hnI := (hids n).1 hnC
    rw [get_def, construct_typesGH' _ _ _ n hnC]
    exact ⟨sideTuple_sideNode_idx _ n _ (hA.attrs hnI) i hi, sideTuple_sideNode_idx _ n _ (hB.attrs hnI) i hi⟩
  · cases hE : I.edge? u v with
    | none =>
      rw [construct_edge?, LGraph.hasEdge, LGraph.hasEdge, hA.edge?, hB.edge?, hE]
      rfl
    | some a =>
      obtain ⟨e, hmem, rfl, _⟩ := LGraph.edge?_some_mem hE
      obtain ⟨x, y, hord, hx, hy, hxy, hstd⟩ := hI.2.2 e hmem
      have hop : orderPair e.2.2 = some (.num x, .num y) := by unfold orderPair; rw [hord]
      obtain ⟨hAo, hAe⟩ := hA.orderOf_eq hE hop rfl hx
      obtain ⟨hBo, hBe⟩ := hB.orderOf_eq hE hop rfl hy
      -- one of the two orders is positive, so one side has kept the bond
      have hc : (A.hasEdge u v || B.hasEdge u v) = true := by
        rw [hAe, hBe, Bool.or_eq_true, decide_eq_true_eq, decide_eq_true_eq]; omega
      rw [construct_edge?, if_pos hc, Option.map_some, Option.map_some, itsF, hAo, hBo, itsEdgeAttrs_order,
        itsEdgeAttrs_std, hia, standardOrder_num_false, Attrs.get_of_get? hord, Attrs.get_of_get? hstd]

end C01L.IsSide

/-- **C01 (3).** For two molecule graphs on the same atoms, `its_decompose` of the constructed ITS
graph returns graphs equal to `G` and `H` as labelled graphs (`MolEq`: same atoms with the same
element, aromatic, hcount, charge, atom_map; same bonds with the same order). -/
theorem decompose_construct (o : Opts) (G H : LGraph) (hs : SameNodes G H) (hG : MolWF G)
    (hH : MolWF H) :
    MolEq (decompose (construct o G H)).1 G ∧ MolEq (decompose (construct o G H)).2 H :=
  have h := decompose_isSide _ (construct_wf' o G H hG.1 hH.1) (nodeTyped_construct o G H)
  ⟨h.1.molEq_of_construct hG (fun _ => rfl) (fun _ _ => rfl)
      (fun n => ⟨fun h => h.elim id (hs n).2, Or.inl⟩) (fun _ _ => Or.inl),
    h.2.molEq_of_construct hH (fun _ => rfl) (fun _ _ => rfl)
      (fun n => ⟨fun h => h.elim (hs n).1 id, Or.inr⟩) (fun _ _ => Or.inr)⟩

/-- **C01 (4).** For a well-formed ITS graph `I`, `construct` (default options) applied to the two
graphs `its_decompose` returns is equal to `I` as a labelled graph (`ItsEq`; the `neighbors`
entry of `typesGH`, which `its_decompose` drops, is not compared). -/
theorem construct_decompose (I : LGraph) (hI : ITSWF I) :
    ItsEq (construct {} (decompose I).1 (decompose I).2) I :=
  have h := decompose_isSide I hI.1 hI.2.1
  h.1.itsEq_construct h.2 rfl hI

/-- **C01 (5).** The construction commutes with every injective renaming of the atoms, as a
literal equality of graphs (list order included). -/
theorem construct_relabel (o : Opts) (G H : LGraph) (π : Nat → Nat) (hπ : Function.Injective π) :
    construct o (G.relabel π) (H.relabel π) = (construct o G H).relabel π :=
  construct_relabel' hπ o G H

/-- **C01 (6a).** The reversed reaction has the same atoms. -/
theorem construct_swap_nodes (o : Opts) (G H : LGraph) (n : Nat) :
    n ∈ (construct o H G).ids ↔ n ∈ (construct o G H).ids := by
  rw [construct_nodes, construct_nodes, Or.comm]

/-- **C01 (6b).** The reversed reaction has the swapped `typesGH` pair on every atom. -/
theorem construct_swap_typesGH (o : Opts) (G H : LGraph) (n : Nat) (h : n ∈ (construct o G H).ids) :
    ∃ g h', ((construct o G H).attrs n).get "typesGH" = .tup [g, h'] ∧
      ((construct o H G).attrs n).get "typesGH" = .tup [h', g] :=
  ⟨_, _, construct_typesGH o G H n h,
    construct_typesGH o H G n ((construct_swap_nodes o H G n).1 h)⟩

/-- **C01 (6c).** The reversed reaction has the same bonds, each with the swapped order pair. -/
theorem construct_swap_edges (o : Opts) (G H : LGraph) (u v : Nat) :
    (construct o H G).edge? u v =
      if G.hasEdge u v || H.hasEdge u v
      then some (itsEdgeAttrs o.ignoreArom (orderOf H u v) (orderOf G u v)) else none := by
  rw [construct_edges, Bool.or_comm]

/-- **C01 (6d).** Swapping numeric before/after orders negates the standard order. -/
theorem construct_swap_standard_order (ia : Bool) (a b : Int) :
    (itsEdgeAttrs ia (.num b) (.num a)).get "standard_order" =
      vneg ((itsEdgeAttrs ia (.num a) (.num b)).get "standard_order") := by
  rw [itsEdgeAttrs_std, itsEdgeAttrs_std, standardOrder_swap]

/-- **C01 (6e).** Summary for molecule graphs: the ITS graph of the reversed reaction has, on
every unordered pair, the swapped `order` pair and the negated `standard_order`. -/
theorem construct_swap (o : Opts) (G H : LGraph) (hG : MolWF G) (hH : MolWF H) (u v : Nat) :
    ((construct o H G).edge? u v).map (fun x => (x.get "order", x.get "standard_order")) =
      ((construct o G H).edge? u v).map
        (fun x => (vswap (x.get "order"), vneg (x.get "standard_order"))) := by
  rw [construct_edge?, construct_edge?, Bool.or_comm]
  obtain ⟨a, _, ha, _⟩ := orderOf_num G hG.2.2 u v
  obtain ⟨b, _, hb, _⟩ := orderOf_num H hH.2.2 u v
  cases G.hasEdge u v || H.hasEdge u v
  · rfl
  · simp only [if_true, Option.map_some, itsF, ha, hb, itsEdgeAttrs_order, itsEdgeAttrs_std,
      standardOrder_swap o.ignoreArom a b, vswap]

/-- The graph-level content of C01, clauses (1)–(6), at full strength. -/
def C01.GraphStatement : Prop :=
  (∀ (o : Opts) (G H : LGraph),
    -- (1) atoms: the union, without repetition, each with the pair of per-side tuples
    (∀ n, n ∈ (construct o G H).ids ↔ n ∈ G.ids ∨ n ∈ H.ids) ∧
    (G.WF → H.WF → (construct o G H).WF) ∧
    (∀ n ∈ (construct o G H).ids, ((construct o G H).attrs n).get "typesGH" =
      .tup [.tup (sideTuple G n), .tup (sideTuple H n)]) ∧
    -- (2) bonds: the union, each with the (before, after) pair and the difference
    (∀ u v, (construct o G H).edge? u v =
      if G.hasEdge u v || H.hasEdge u v
      then some (itsEdgeAttrs o.ignoreArom (orderOf G u v) (orderOf H u v)) else none) ∧
    (∀ og oh, (itsEdgeAttrs o.ignoreArom og oh).get "order" = .tup [og, oh]) ∧
    (o.ignoreArom = false → ∀ u v a b, orderOf G u v = .num a → orderOf H u v = .num b →
      (itsEdgeAttrs o.ignoreArom (orderOf G u v) (orderOf H u v)).get "standard_order" = .num (a - b)) ∧
    -- (3) decompose ∘ construct
    (SameNodes G H → MolWF G → MolWF H →
      MolEq (decompose (construct o G H)).1 G ∧ MolEq (decompose (construct o G H)).2 H) ∧
    -- (5) relabelling
    (∀ π : Nat → Nat, Function.Injective π →
      construct o (G.relabel π) (H.relabel π) = (construct o G H).relabel π) ∧
    -- (6) reversal
    (∀ n, n ∈ (construct o H G).ids ↔ n ∈ (construct o G H).ids) ∧
    (∀ n ∈ (construct o G H).ids, ∃ g h, ((construct o G H).attrs n).get "typesGH" = .tup [g, h] ∧
      ((construct o H G).attrs n).get "typesGH" = .tup [h, g]) ∧
    (MolWF G → MolWF H → ∀ u v,
      ((construct o H G).edge? u v).map (fun x => (x.get "order", x.get "standard_order")) =
        ((construct o G H).edge? u v).map
          (fun x => (vswap (x.get "order"), vneg (x.get "standard_order"))))) ∧
  -- (4) construct ∘ decompose
  (∀ I : LGraph, ITSWF I → ItsEq (construct {} (decompose I).1 (decompose I).2) I)

/-- **C01, graph-level part.** All of the clauses hold. -/
theorem C01.graphStatement_holds : C01.GraphStatement :=
  ⟨fun o G H =>
    ⟨construct_nodes o G H, construct_wf o G H, construct_typesGH o G H, construct_edges o G H,
      construct_order o.ignoreArom,
      fun hia u v a b ha hb => construct_standard_order o G H u v a b hia ha hb,
      decompose_construct o G H, construct_relabel o G H, construct_swap_nodes o G H,
      construct_swap_typesGH o G H, construct_swap o G H⟩,
   construct_decompose⟩

/-! ## Non-vacuity: a three-atom reaction, bond 1–2 broken and bond 2–3 formed -/

namespace C01Example

def atom (el : String) (n : Nat) : Nat × Attrs :=
  (n, [("element", .str el), ("aromatic", .bool false), ("hcount", .num 0), ("charge", .num 0),
       ("atom_map", .num (2 * (n : Int)))])

/-- `[C:1][O:2].[N:3]` -/
def G : LGraph := { nodes := [atom "C" 1, atom "O" 2, atom "N" 3], edges := [(1, 2, [("order", .num 2)])] }
/-- `[C:1].[O:2][N:3]` -/
def H : LGraph := { nodes := [atom "C" 1, atom "O" 2, atom "N" 3], edges := [(2, 3, [("order", .num 2)])] }

/-- Makes `MolWF` of a concrete graph decidable by evaluation (here and in `RsmiExample`). -/
scoped instance (o : Option Val) : Decidable (∃ h : Int, 0 < h ∧ o = some (.num h)) :=
  match o with
  | some (.num h) =>
    decidable_of_iff (0 < h) ⟨fun hp => ⟨h, hp, rfl⟩, fun ⟨_, hp, he⟩ => by cases he; exact hp⟩
  | none | some .none | some (.bool _) | some (.str _) | some (.tup _) =>
    isFalse (by rintro ⟨_, _, ⟨⟩⟩)

scoped instance (G : LGraph) : Decidable (MolWF G) := by unfold MolWF; infer_instance

example : MolWF G := by decide +kernel

example : MolWF H := by decide +kernel

example : SameNodes G H := fun _ => Iff.rfl

example : (construct {} G H).ids = [1, 2, 3] := by decide +kernel

example : (construct {} G H).edges.map (fun e => (e.1, e.2.1, e.2.2.get "order", e.2.2.get "standard_order")) =
    [(1, 2, .tup [.num 2, .num 0], .num 2), (2, 3, .tup [.num 0, .num 2], .num (-2))] := by decide +kernel

example : ((construct {} G H).attrs 2).get "typesGH" =
    .tup [.tup [.str "O", .bool false, .num 0, .num 0, .tup [.str "", .str ""]],
          .tup [.str "O", .bool false, .num 0, .num 0, .tup [.str "", .str ""]]] := by decide +kernel

example : decompose (construct {} G H) = (G, H) := by decide +kernel

/-- The constructed ITS graph is in the domain of clause (4). -/
example : ITSWF (construct {} G H) :=
  ⟨by decide +kernel, nodeTyped_construct {} G H,
   fun e he => by
    have h : (construct {} G H).edges =
        [(1, 2, itsEdgeAttrs false (.num 2) (.num 0)), (2, 3, itsEdgeAttrs false (.num 0) (.num 2))] := by
      decide +kernel
    rw [h] at he
    simp only [List.mem_cons, List.not_mem_nil, or_false] at he
    rcases he with rfl | rfl
    · exact ⟨2, 0, by decide +kernel⟩
    · exact ⟨0, 2, by decide +kernel⟩⟩

example : (construct {} H G).edges.map (fun e => (e.1, e.2.1, e.2.2.get "order", e.2.2.get "standard_order")) =
    [(2, 3, .tup [.num 2, .num 0], .num 2), (1, 2, .tup [.num 0, .num 2], .num (-2))] := by decide +kernel

example : construct {} (G.relabel (· + 10)) (H.relabel (· + 10)) = (construct {} G H).relabel (· + 10) :=
  construct_relabel {} G H _ fun _ _ h => Nat.add_right_cancel h

/-- Unbalanced sides (the defaults path of `construct`). -/
example : ((construct {} { nodes := [atom "C" 1] } { nodes := [atom "C" 1, atom "O" 2] }).attrs 2).get "typesGH" =
    .tup [.tup [.str "*", .bool false, .num 0, .num 0, .tup [.str "", .str ""]],
          .tup [.str "O", .bool false, .num 0, .num 0, .tup [.str "", .str ""]]] := by decide +kernel

end C01Example

/-! ## RDKit clause, graph part: what `its_to_rsmi` hands to the SMILES writer

The glue (`its_decompose`, then `implicit_hydrogen` on both sides with the atom maps of the centre's hydrogens
as `preserve_atom_maps`, when there are any) is `rcHydrogenMaps` / `smiGraph` / `rsmiGraphs` of
`SynKitModel/RsmiGraph.lean`, tied to the code by the C01 `rsmi-graphs` stream; `implicit_hydrogen` is
`SynKit.Repr.implicitHydrogen`, tied to the code by the C10 check.  Everything after `GraphToMol` is RDKit and
is not modelled. -/

section RsmiGraphPart
open SynKit.Repr SynKit.Repr.ImplH

/-- **C01, RDKit clause, graph part (1): `implicit_hydrogen` keeps the total hydrogen count.**
`G` a simple graph; guard `FoldGuard G keep`: every hydrogen node that is *removed* — not preserved
(`element == "H"` and `atom_map ∉ keep`) and with at least one heavy neighbour — carries no
hydrogen count of its own and has exactly one heavy neighbour.  Hydrogens without heavy neighbour
(free H, H+, H-, H2) need no guard: they stay (F29).  (No typing guard is needed:
`HTyped` of C10 is not used.  C10's `HValence` implies the guard, see `foldGuard_of_HValence`.) -/
theorem implicitH_preserves_totalH (G : LGraph) (keep : List Nat) (hwf : G.WF)
    (hg : FoldGuard G keep) : totalH (implicitHydrogen G keep) = totalH G :=
  totalH_implicitH G hwf keep hg

/-- (1) under the stronger guard `FoldGuardStrict` (every non-preserved hydrogen, free or not, has exactly
one heavy neighbour): a corollary of the statement above. -/
theorem implicitH_preserves_totalH_of_strict (G : LGraph) (keep : List Nat) (hwf : G.WF)
    (hg : FoldGuardStrict G keep) : totalH (implicitHydrogen G keep) = totalH G :=
  implicitH_preserves_totalH G keep hwf (foldGuard_of_strict G keep hg)

/-- Relation to the C10 guard: `HValence` (every hydrogen node carries no count and has at most one
heavy neighbour) gives `FoldGuard` for every `keep` list. -/
theorem foldGuard_of_HValence (G : LGraph) (keep : List Nat) (hv : HValence G) :
    FoldGuard G keep := foldGuard_of_hValence G keep hv

/-- (1) under C10's guard alone: for every `keep` list. -/
theorem implicitH_preserves_totalH_of_HValence (G : LGraph) (keep : List Nat) (hwf : G.WF)
    (hv : HValence G) : totalH (implicitHydrogen G keep) = totalH G :=
  implicitH_preserves_totalH G keep hwf (foldGuard_of_HValence G keep hv)

/-- The nodes `implicit_hydrogen(G, keep)` does not remove: heavy atoms, preserved hydrogens, and
nodes without a heavy neighbour (free hydrogens, the atoms of H2). -/
def KeptBy (G : LGraph) (keep : List Nat) (n : Nat) : Prop :=
  isH (G.attrs n) = false ∨ keepsH keep (G.attrs n) = true ∨ hasHeavyNbr G n = false

instance (G : LGraph) (keep : List Nat) (n : Nat) : Decidable (KeptBy G keep n) := by
  unfold KeptBy; infer_instance

theorem not_gone_iff_keptBy (G : LGraph) (hn : G.ids.Nodup) (keep : List Nat) (n : Nat) :
    n ∉ gone G keep ↔ KeptBy G keep n := by
  rw [mem_gone_iff G hn, KeptBy, not_and_or, not_and_or]
  simp only [Bool.not_eq_true, Bool.not_eq_false]

/-- **C01, RDKit clause, graph part (2), general form: what `implicit_hydrogen` keeps.**  Every
heavy atom, every preserved hydrogen and every hydrogen without heavy neighbour of `G` is a node of
the result; all its attributes other than `hcount` (in particular `element`, `charge`, `atom_map`,
`aromatic`) are unchanged, a hydrogen keeps its whole attribute dict; every bond between two such
nodes (heavy–heavy, heavy–kept hydrogen, kept–kept, in particular the bond of an H2 molecule) is
still there with its whole attribute dict, in particular its `order`. -/
theorem implicitH_keeps (G : LGraph) (keep : List Nat) (hwf : G.WF) :
    (∀ p ∈ G.nodes, KeptBy G keep p.1 →
      p.1 ∈ (implicitHydrogen G keep).ids ∧
      (∀ k, k ≠ "hcount" → Dict.get? ((implicitHydrogen G keep).attrs p.1) k = Dict.get? p.2 k) ∧
      (isH p.2 = true → (implicitHydrogen G keep).attrs p.1 = p.2)) ∧
    (∀ u v, KeptBy G keep u → KeptBy G keep v →
      (implicitHydrogen G keep).edge? u v = G.edge? u v) := by
  rw [implicitHydrogen_eq_foldInW G hwf.1]
  refine ⟨fun p hp hst => ?_, fun u v hu hv => ?_⟩
  · have hid : p.1 ∈ G.ids := List.mem_map.2 ⟨p, hp, rfl⟩
    have hng := (not_gone_iff_keptBy G hwf.1 keep p.1).2 hst
    rw [foldInW_attrs hid hng, LGraph.attrs_of_mem hwf.1 hp]
    refine ⟨mem_foldInW_ids.2 ⟨hid, hng⟩, fun k hk => ?_, fun hH => by rw [foldNodeW, if_pos hH]⟩
    unfold foldNodeW
    split
    · rfl
    · exact Dict.get?_set_other _ _ _ _ hk
  · rw [foldInW_edge?, if_pos ⟨(not_gone_iff_keptBy G hwf.1 keep u).2 hu, (not_gone_iff_keptBy G hwf.1 keep v).2 hv⟩]

/-- **C01, RDKit clause, graph part (2): what `implicit_hydrogen` keeps**, restricted to heavy atoms and
preserved hydrogens (a corollary of `implicitH_keeps`).  Every heavy atom and every preserved hydrogen of
`G` is a node of the result;
all its attributes other than `hcount` are unchanged, a preserved hydrogen keeps its whole
attribute dict; every bond between two such nodes is still there with its whole attribute dict. -/
theorem implicitH_keeps_preserved (G : LGraph) (keep : List Nat) (hwf : G.WF) :
    (∀ p ∈ G.nodes, (isH p.2 = false ∨ keepsH keep p.2 = true) →
      p.1 ∈ (implicitHydrogen G keep).ids ∧
      (∀ k, k ≠ "hcount" → Dict.get? ((implicitHydrogen G keep).attrs p.1) k = Dict.get? p.2 k) ∧
      (isH p.2 = true → (implicitHydrogen G keep).attrs p.1 = p.2)) ∧
    (∀ u v, (isH (G.attrs u) = false ∨ keepsH keep (G.attrs u) = true) →
      (isH (G.attrs v) = false ∨ keepsH keep (G.attrs v) = true) →
      (implicitHydrogen G keep).edge? u v = G.edge? u v) := by
  have h := implicitH_keeps G keep hwf
  have lift : ∀ n, (isH (G.attrs n) = false ∨ keepsH keep (G.attrs n) = true) → KeptBy G keep n :=
    fun n hn => hn.elim Or.inl (fun h' => Or.inr (Or.inl h'))
  refine ⟨fun p hp hst => h.1 p hp (lift p.1 ?_), fun u v hu hv => h.2 u v (lift u hu) (lift v hv)⟩
  rw [LGraph.attrs_of_mem hwf.1 hp]; exact hst

/-- **C01, RDKit clause, graph part (2'): free hydrogens stay (F29).**  For *every* `keep`
list: a hydrogen node of `G` without a non-hydrogen neighbour (free H, H+, H-, an atom of H2) is a
node of `implicit_hydrogen(G, keep)` with its whole attribute dict unchanged (element, charge,
atom map, count, …); and a bond between two such hydrogens (H–H) is still there with its whole
attribute dict.  No hypothesis on `keep`, on counts or on valences. -/
theorem implicitHydrogen_keeps_free_hydrogen (G : LGraph) (keep : List Nat) (hwf : G.WF) :
    (∀ p ∈ G.nodes, isH p.2 = true → hasHeavyNbr G p.1 = false →
      p.1 ∈ (implicitHydrogen G keep).ids ∧ (implicitHydrogen G keep).attrs p.1 = p.2) ∧
    (∀ u v, hasHeavyNbr G u = false → hasHeavyNbr G v = false →
      (implicitHydrogen G keep).edge? u v = G.edge? u v) := by
  have h := implicitH_keeps G keep hwf
  refine ⟨fun p hp hH hf => ?_, fun u v hu hv => h.2 u v (Or.inr (Or.inr hu)) (Or.inr (Or.inr hv))⟩
  obtain ⟨hmem, _, hattr⟩ := h.1 p hp (Or.inr (Or.inr hf))
  exact ⟨hmem, hattr hH⟩

/-- **C01, RDKit clause, graph part (3): what `implicit_hydrogen` removes.**  (a) no node is
added; (b) a removed node is a hydrogen that is not preserved and has at least one heavy
neighbour; (c) every heavy atom's count goes up by exactly the number of its removed neighbours
(each removed hydrogen is folded into the count of its heavy neighbours); (d) the only bonds lost
are those at removed nodes, no bond is created or altered. -/
theorem implicitH_removes_only_H (G : LGraph) (keep : List Nat) (hwf : G.WF) :
    (∀ n, n ∈ (implicitHydrogen G keep).ids → n ∈ G.ids) ∧
    (∀ n ∈ G.ids, n ∉ (implicitHydrogen G keep).ids →
      isH (G.attrs n) = true ∧ keepsH keep (G.attrs n) = false ∧ hasHeavyNbr G n = true) ∧
    (∀ n ∈ G.ids, isH (G.attrs n) = false →
      hcnt ((implicitHydrogen G keep).attrs n) =
        hcnt (G.attrs n) +
          (((G.neighbors n).filter fun m => !((implicitHydrogen G keep).hasNode m)).length : Nat)) ∧
    (∀ u v, (implicitHydrogen G keep).edge? u v =
      if (implicitHydrogen G keep).hasNode u && (implicitHydrogen G keep).hasNode v
      then G.edge? u v else none) := by
  rw [implicitHydrogen_eq_foldInW G hwf.1]
  have hhas : ∀ m ∈ G.ids, (foldInW wset G (gone G keep)).hasNode m = decide (m ∉ gone G keep) := fun m hm => by
    rw [Bool.eq_iff_iff, LGraph.hasNode_iff, mem_foldInW_ids, decide_eq_true_eq]
    exact and_iff_right hm
  refine ⟨fun n h => (mem_foldInW_ids.1 h).1, fun n hn hnot => ?_, fun n hn hH => ?_, fun u v => ?_⟩
  · exact (mem_gone_iff G hwf.1 keep n).1 (by_contra fun h => hnot (mem_foldInW_ids.2 ⟨hn, h⟩))
  · -- a heavy atom stays, and `wset` adds the number of its neighbours that go
    have hng : n ∉ gone G keep := fun h => by rw [((mem_gone_iff G hwf.1 keep n).1 h).1] at hH; cases hH
    rw [foldInW_attrs hn hng, foldNodeW, if_neg (by rw [hH]; exact Bool.false_ne_true), addsH_wset.hcnt, absorbed]
    congr 3
    exact List.filter_congr fun m hm => by
      rw [hhas m (LGraph.neighbors_subset_ids hwf hm)]; simp
  · -- off the bonds of `G` both sides are `none`; a bond of `G` has both ends in `G`, where `hhas` reads `hasNode`
    rw [foldInW_edge?]
    cases hE : G.edge? u v with
    | none => rw [ite_self, ite_self]
    | some a =>
      obtain ⟨hu, hv⟩ := LGraph.edge?_mem_ids hwf hE
      rw [hhas u hu, hhas v hv]
      exact if_congr (by rw [Bool.and_eq_true, decide_eq_true_eq, decide_eq_true_eq]) rfl rfl

/-- `MolEq` is the relation `SameMol` of `SynKitProofs/ImplicitHLemmas.lean`. -/
theorem molEq_iff_sameMol (A B : LGraph) : MolEq A B ↔ SameMol A B := Iff.rfl

theorem smiGraph_congr (A B : LGraph) (h : MolEq A B) (hA : A.WF) (hB : B.WF) (keep : List Nat) :
    MolEq (smiGraph A keep) (smiGraph B keep) := by
  unfold smiGraph
  split
  · exact h
  · exact implicitH_congr A B h hA hB keep

/-- **C01, RDKit clause, graph part (4).**  For two molecule graphs on the same atoms (C01's
hypotheses), `I := construct o G H` and `keep :=` the atom maps of the hydrogens of `get_rc(I)`: the
two graphs `its_to_rsmi(I)` hands to the SMILES writer — `implicit_hydrogen` (or nothing, if
`keep` is empty) applied to the two graphs `its_decompose(I)` returns — are, as labelled graphs,
`implicit_hydrogen` (or nothing) applied to the original `G` and `H`.  So RDKit receives the
original pair up to folding the spectator hydrogens into counts; what the folding keeps and
removes is (1)–(3) above, spelled out for this pair in `its_to_rsmi_totalH` and
`its_to_rsmi_skeleton`. -/
theorem its_to_rsmi_graph_part (o : Opts) (G H : LGraph) (hs : SameNodes G H) (hG : MolWF G)
    (hH : MolWF H) :
    MolEq (rsmiGraphs (construct o G H)).1 (smiGraph G (rcHydrogenMaps (construct o G H))) ∧
    MolEq (rsmiGraphs (construct o G H)).2 (smiGraph H (rcHydrogenMaps (construct o G H))) := by
  have hdc := decompose_construct o G H hs hG hH
  have hwf := decompose_construct_wf o G H hG.1 hH.1
  exact ⟨smiGraph_congr _ _ hdc.1 hwf.1 hG.1 _, smiGraph_congr _ _ hdc.2 hwf.2 hH.1 _⟩

theorem totalH_smiGraph (g : LGraph) (keep : List Nat) (hwf : g.WF)
    (hg : keep ≠ [] → FoldGuard g keep) : totalH (smiGraph g keep) = totalH g := by
  unfold smiGraph
  split
  · rfl
  · rename_i hk
    exact totalH_implicitH g hwf keep (hg (by intro h; apply hk; simp [h]))

theorem smiGraph_ids_nodup (g : LGraph) (keep : List Nat) (hn : g.ids.Nodup) :
    (smiGraph g keep).ids.Nodup := by
  unfold smiGraph
  split
  · exact hn
  · exact implicitH_ids_nodup g hn keep

/-- **C01, RDKit clause, graph part (4), hydrogen total.**  Under C01's hypotheses and the guard
of (1) on the original sides (needed only when the reaction centre contains a hydrogen, since
otherwise nothing is folded; it constrains only the hydrogens that have a
heavy neighbour), each graph handed to the SMILES writer has as many hydrogens (counts + explicit
nodes) as the original side. -/
theorem its_to_rsmi_totalH (o : Opts) (G H : LGraph) (hs : SameNodes G H) (hG : MolWF G)
    (hH : MolWF H)
    (hgG : rcHydrogenMaps (construct o G H) ≠ [] → FoldGuard G (rcHydrogenMaps (construct o G H)))
    (hgH : rcHydrogenMaps (construct o G H) ≠ [] → FoldGuard H (rcHydrogenMaps (construct o G H))) :
    totalH (rsmiGraphs (construct o G H)).1 = totalH G ∧
    totalH (rsmiGraphs (construct o G H)).2 = totalH H := by
  have h := its_to_rsmi_graph_part o G H hs hG hH
  have hwf := decompose_construct_wf o G H hG.1 hH.1
  constructor
  · rw [totalH_congr _ _ h.1 (smiGraph_ids_nodup _ _ hwf.1.1) (smiGraph_ids_nodup _ _ hG.1.1)]
    exact totalH_smiGraph G _ hG.1 hgG
  · rw [totalH_congr _ _ h.2 (smiGraph_ids_nodup _ _ hwf.2.1) (smiGraph_ids_nodup _ _ hH.1.1)]
    exact totalH_smiGraph H _ hH.1 hgH

theorem smiGraph_skeleton (S R : LGraph) (keep : List Nat) (hwf : S.WF)
    (hR : MolEq R (smiGraph S keep)) :
    (∀ n ∈ S.ids, KeptBy S keep n →
      n ∈ R.ids ∧
      ∀ k ∈ ["element", "aromatic", "charge", "atom_map"], (R.attrs n).get k = (S.attrs n).get k) ∧
    (∀ u v, KeptBy S keep u → KeptBy S keep v →
      (R.edge? u v).map (·.get "order") = (S.edge? u v).map (·.get "order")) := by
  have hsub : ∀ k ∈ ["element", "aromatic", "charge", "atom_map"], k ∈ molKeys ∧ k ≠ "hcount" := by decide +kernel
  unfold smiGraph at hR
  split at hR
  · exact ⟨fun n hn _ => ⟨(hR.1 n).2 hn, fun k hk => hR.2.1 n ((hR.1 n).2 hn) k (hsub k hk).1⟩, fun u v _ _ => hR.2.2 u v⟩
  · have hk2 := implicitH_keeps S keep hwf
    refine ⟨fun n hn hst => ?_, fun u v hu hv => by rw [hR.2.2 u v, hk2.2 u v hu hv]⟩
    obtain ⟨hmem, hget, _⟩ := hk2.1 _ (LGraph.attrs_mem hn) hst
    have hnR : n ∈ R.ids := (hR.1 n).2 hmem
    refine ⟨hnR, fun k hk => ?_⟩
    rw [hR.2.1 n hnR k (hsub k hk).1]
    exact Attrs.get_congr (hget k (hsub k hk).2)

/-- **C01, RDKit clause, graph part (4), skeleton.**  Under C01's hypotheses, in each graph handed
to the SMILES writer every heavy atom, every reaction-centre hydrogen **and every hydrogen without
heavy neighbour** (spectator proton, hydride, H·, H2 — `KeptBy`) of the original side is present with its element, aromatic flag, charge and atom map,
and every bond between two such atoms has its original order: heavy-atom skeleton, free hydrogens,
charges and atom maps are those of the input. -/
theorem its_to_rsmi_skeleton (o : Opts) (G H : LGraph) (hs : SameNodes G H) (hG : MolWF G)
    (hH : MolWF H) :
    ∀ S R : LGraph, (S = G ∧ R = (rsmiGraphs (construct o G H)).1) ∨
        (S = H ∧ R = (rsmiGraphs (construct o G H)).2) →
      (∀ n ∈ S.ids, KeptBy S (rcHydrogenMaps (construct o G H)) n →
        n ∈ R.ids ∧
        ∀ k ∈ ["element", "aromatic", "charge", "atom_map"], (R.attrs n).get k = (S.attrs n).get k) ∧
      (∀ u v, KeptBy S (rcHydrogenMaps (construct o G H)) u →
        KeptBy S (rcHydrogenMaps (construct o G H)) v →
        (R.edge? u v).map (·.get "order") = (S.edge? u v).map (·.get "order")) := by
  have h := its_to_rsmi_graph_part o G H hs hG hH
  rintro S R (⟨rfl, rfl⟩ | ⟨rfl, rfl⟩)
  · exact smiGraph_skeleton _ _ _ hG.1 h.1
  · exact smiGraph_skeleton _ _ _ hH.1 h.2

end RsmiGraphPart

/-! ### Non-vacuity: a hydrogen shift `[CH2:1]([H:3])([H:4])[O:2] → [CH:1]([H:4])[O:2][H:3]`

Atoms `C:1, O:2, H:3, H:4`; `H:3` moves from carbon to oxygen (reaction-centre hydrogen, kept
explicit), `H:4` is a spectator (folded into the count of `C:1`). -/
namespace RsmiExample
open SynKit.Repr SynKit.Repr.ImplH C01Example

def bond (u v : Nat) : Nat × Nat × Attrs := (u, v, [("order", .num 2)])

def G : LGraph := { nodes := [atom "C" 1, atom "O" 2, atom "H" 3, atom "H" 4], edges := [bond 1 3, bond 1 4, bond 1 2] }
def H : LGraph := { nodes := [atom "C" 1, atom "O" 2, atom "H" 3, atom "H" 4], edges := [bond 1 4, bond 1 2, bond 2 3] }

theorem molWF_G : MolWF G := by decide +kernel

theorem molWF_H : MolWF H := by decide +kernel

example : SameNodes G H := fun _ => Iff.rfl

theorem rcMaps_GH : rcHydrogenMaps (construct {} G H) = [3] := by decide +kernel

theorem foldGuard_GH : FoldGuard G [3] ∧ FoldGuard H [3] ∧ keepsH [3] (G.attrs 4) = false := by decide +kernel

example : rcHydrogenMaps (construct {} G H) = [3] := rcMaps_GH

/-- the guard of (1) holds on both sides, and is not trivially true (`H:4` is removed). -/
example : FoldGuard G [3] ∧ FoldGuard H [3] ∧ keepsH [3] (G.attrs 4) = false := foldGuard_GH

example : (rsmiGraphs (construct {} G H)).1.ids = [1, 2, 3] ∧
    (rsmiGraphs (construct {} G H)).2.ids = [1, 2, 3] ∧
    hcnt ((rsmiGraphs (construct {} G H)).1.attrs 1) = 1 ∧
    (rsmiGraphs (construct {} G H)).1.edges.map (fun e => (e.1, e.2.1)) = [(1, 3), (1, 2)] ∧
    (rsmiGraphs (construct {} G H)).2.edges.map (fun e => (e.1, e.2.1)) = [(1, 2), (2, 3)] ∧
    totalH G = 2 ∧ totalH (rsmiGraphs (construct {} G H)).1 = 2 ∧
    totalH H = 2 ∧ totalH (rsmiGraphs (construct {} G H)).2 = 2 := by decide +kernel

example : totalH (implicitHydrogen G [3]) = totalH G :=
  implicitH_preserves_totalH G [3] molWF_G.1 foldGuard_GH.1

example : totalH (rsmiGraphs (construct {} G H)).1 = totalH G ∧
    totalH (rsmiGraphs (construct {} G H)).2 = totalH H :=
  its_to_rsmi_totalH {} G H (fun _ => Iff.rfl) molWF_G molWF_H (fun _ => rcMaps_GH ▸ foldGuard_GH.1)
    (fun _ => rcMaps_GH ▸ foldGuard_GH.2.1)

/-! ### Free hydrogens (F29)

A hydrogen with **no heavy neighbour** whose atom map is not in `keep` stays (there is no atom to fold it
into): with a spectator `H2` (`[H:3][H:4]`) next to `[C:1][O:2]` and a `keep` list that does not
name its atoms, both hydrogens and their bond are kept, `FoldGuard` holds (no hydrogen is removed
at all) and the hydrogen total is preserved. -/

def GH2 : LGraph := { nodes := [atom "C" 1, atom "O" 2, atom "H" 3, atom "H" 4], edges := [bond 1 2, bond 3 4] }
def HH2 : LGraph := { nodes := [atom "C" 1, atom "O" 2, atom "H" 3, atom "H" 4], edges := [bond 3 4] }

example : GH2.WF ∧ FoldGuard GH2 [9] ∧ ¬ FoldGuardStrict GH2 [9] ∧
    implicitHydrogen GH2 [9] = GH2 ∧
    (implicitHydrogen GH2 [9]).ids = [1, 2, 3, 4] ∧
    (implicitHydrogen GH2 [9]).edge? 3 4 = GH2.edge? 3 4 ∧
    totalH GH2 = 2 ∧ totalH (implicitHydrogen GH2 [9]) = 2 := by decide +kernel

example : totalH (implicitHydrogen GH2 [9]) = totalH GH2 :=
  implicitH_preserves_totalH GH2 [9] (by decide +kernel) (by decide +kernel)

/-- `get_rc` also puts every hydrogen–hydrogen bond into the reaction centre even when it is
unchanged (`_add_hh_bonds`, property C02), so in `its_to_rsmi` the atoms of a spectator `H2` are
named in `keep` anyway.  Here the `C–O` bond breaks, `H2` is a spectator, and `keep = [3, 4]`. -/
example : rcHydrogenMaps (construct {} GH2 HH2) = [3, 4] ∧
    FoldGuard GH2 [3, 4] ∧ FoldGuard HH2 [3, 4] ∧
    (rsmiGraphs (construct {} GH2 HH2)).1.ids = [1, 2, 3, 4] ∧
    totalH (rsmiGraphs (construct {} GH2 HH2)).1 = 2 ∧
    totalH (rsmiGraphs (construct {} GH2 HH2)).2 = 2 := by decide +kernel

/-! ### Non-vacuity of `implicitHydrogen_keeps_free_hydrogen`: the proton-spectator reaction

`[H:1][Cl:2].[NH3:3].[H+:4]>>[H:1][NH3+:3].[Cl-:2].[H+:4]` — `H:1` moves from chlorine to
nitrogen (reaction-centre hydrogen, `keep = [1]`), `H+:4` is a free spectator proton: no bond, atom
map not in `keep`. -/

def atomQ (el : String) (n : Nat) (hc q : Int) : Nat × Attrs :=
  (n, [("element", .str el), ("aromatic", .bool false), ("hcount", .num (2 * hc)), ("charge", .num (2 * q)),
       ("atom_map", .num (2 * (n : Int)))])

def GP : LGraph := { nodes := [atomQ "H" 1 0 0, atomQ "Cl" 2 0 0, atomQ "N" 3 3 0, atomQ "H" 4 0 1], edges := [bond 1 2] }
def HP : LGraph := { nodes := [atomQ "H" 1 0 0, atomQ "Cl" 2 0 (-1), atomQ "N" 3 3 1, atomQ "H" 4 0 1], edges := [bond 1 3] }

theorem molWF_GP : MolWF GP := by decide +kernel

theorem molWF_HP : MolWF HP := by decide +kernel

/-- hypotheses of the theorem on the example: `H+:4` is a hydrogen, not preserved, without heavy
neighbour — and `H:1` is a hydrogen *with* a heavy neighbour (so the predicate is not trivial). -/
example : rcHydrogenMaps (construct {} GP HP) = [1] ∧
    isH (GP.attrs 4) = true ∧ keepsH [1] (GP.attrs 4) = false ∧ hasHeavyNbr GP 4 = false ∧
    hasHeavyNbr GP 1 = true := by decide +kernel

example : 4 ∈ (implicitHydrogen GP [1]).ids ∧ (implicitHydrogen GP [1]).attrs 4 = (atomQ "H" 4 0 1).2 :=
  (implicitHydrogen_keeps_free_hydrogen GP [1] molWF_GP.1).1 (atomQ "H" 4 0 1) (by decide +kernel) (by decide +kernel) (by decide +kernel)

/-- Hydrogen total: 3 on N + `H:1` + `H+:4` = 5. -/
example : (rsmiGraphs (construct {} GP HP)).1.ids = [1, 2, 3, 4] ∧
    (rsmiGraphs (construct {} GP HP)).2.ids = [1, 2, 3, 4] ∧
    ((rsmiGraphs (construct {} GP HP)).1.attrs 4).get "charge" = .num 2 ∧
    ((rsmiGraphs (construct {} GP HP)).2.attrs 4).get "charge" = .num 2 ∧
    FoldGuard GP [1] ∧ FoldGuard HP [1] ∧
    totalH GP = 5 ∧ totalH (rsmiGraphs (construct {} GP HP)).1 = 5 ∧
    totalH HP = 5 ∧ totalH (rsmiGraphs (construct {} GP HP)).2 = 5 := by decide +kernel

/-- a spectator proton next to a *folded* hydrogen: `keep = [9]` names nobody, `H:1` is folded into
`Cl:2`, `H+:4` stays. -/
example : (implicitHydrogen GP [9]).ids = [2, 3, 4] ∧ hcnt ((implicitHydrogen GP [9]).attrs 2) = 1 ∧
    totalH (implicitHydrogen GP [9]) = totalH GP := by decide +kernel

/-- With no hydrogen in the reaction centre `keep` is empty and `graph_to_smi` does not call
`implicit_hydrogen` at all: explicit spectator hydrogens are handed to RDKit as they are. -/
example : rcHydrogenMaps (construct {} C01Example.G C01Example.H) = [] ∧
    rsmiGraphs (construct {} C01Example.G C01Example.H) = (C01Example.G, C01Example.H) := by decide +kernel

end RsmiExample

end SynKit.ITS
