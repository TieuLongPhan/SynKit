import SynKitModel.Stoich
import SynKitProofs.StoichLemmas
import SynKitProofs.StoreSides
import SynKitModel.BipGraph
import SynKitProofs.BipGraphLemmas
/-!
C17 — stoichiometric analysis agrees with exact linear algebra. NumPy/SciPy (`matrix_rank`, SVD null
space, HiGHS) are numeric oracles outside the model, so every reported value is compared, on every run,
with an exact value carried by a *certificate* that an executable checker accepts; the theorems say that
an accepted certificate proves the exact statement in Mathlib's terms (`Matrix.rank`, `mulVec`,
`vecMul`, `LinearIndependent` over `ℚ`), and that the code's own decision logic is right given correct
LP answers — except at the LP stage of `is_conservative` (finding F2).
-/
open Matrix SynKit.Store

namespace SynKit.Stoich

/-- **C17, shape.** `build_S` returns one row per species node and one column per reaction:
`S` has `|species|` rows, each of length `|reactions|`, and the returned label lists have those
lengths. -/
theorem buildS_shape (N : Net) (res : SResult) (h : buildS N = .ok res) :
    res.species.length = (speciesSet N).length ∧ res.rules.length = N.edges.length ∧
    res.S.length = res.species.length ∧ ∀ row ∈ res.S, row.length = res.rules.length := by
  cases buildS_ok h
  refine ⟨(sortBy_perm _ _).length_eq, (List.length_map _).trans (rxnOrder_perm N).length_eq, List.length_map _,
    fun row hrow => ?_⟩
  obtain ⟨s, _, rfl⟩ := List.mem_map.1 hrow
  rw [List.length_map, List.length_map]

/-- **C17, entries.** Row `i` is the `i`-th species in label order, column `j` the `j`-th
reaction in the code's column order, and the entry is (produced − consumed), which is also the
entry of the store's own sparse incidence mapping (`incidenceEdge`, the C15 model of
`CRNHyperGraph.incidence_matrix`) for that reaction and species. Sides are Python dicts
(distinct keys), as the C15 store invariant guarantees. -/
theorem buildS_entry (N : Net) (res : SResult) (h : buildS N = .ok res)
    (wf : ∀ e ∈ N.edges, e.reactants.keys.Nodup ∧ e.products.keys.Nodup)
    (i j : Nat) (hi : i < (speciesOrder N).length) (hj : j < (rxnOrder N).length) :
    entryI res.S i j
      = coeff ((rxnOrder N)[j]).products ((speciesOrder N)[i])
        - coeff ((rxnOrder N)[j]).reactants ((speciesOrder N)[i]) ∧
    entryI res.S i j = (incidenceEdge ((rxnOrder N)[j])).getD ((speciesOrder N)[i]) 0 := by
  cases buildS_ok h
  obtain ⟨wr, wp⟩ := wf _ ((rxnOrder_perm N).mem_iff.1 (List.getElem_mem hj))
  rw [entryI_map _ _ _ i j hi hj, sumCoeff_eq_coeff _ wp, sumCoeff_eq_coeff _ wr]
  exact ⟨rfl, (incidence_spec' _ wr wp _).symm⟩

/-- **C17, orders ("up to the column order").** The returned species list is a permutation of
the network's species, the columns are a permutation of the reactions, and also a permutation of
the column order of the store's own `incidence_matrix` (reactions sorted by id); the returned
reaction labels are the rules of the columns. Together with `buildS_entry` this is the
agreement of `S` with the incidence matrix. -/
theorem buildS_orders (N : Net) (res : SResult) (h : buildS N = .ok res) :
    res.species = speciesOrder N ∧ (speciesOrder N).Perm (speciesSet N) ∧
    res.rules = (rxnOrder N).map (·.rule) ∧ (rxnOrder N).Perm N.edges ∧
    (rxnOrder N).Perm (viewOrder N) ∧
    (∀ i j, entryI (incidenceMat N) i j =
      match (speciesOrder N)[i]?, (viewOrder N)[j]? with
      | some s, some e => (incidenceEdge e).getD s 0
      | _, _ => 0) := by
  cases buildS_ok h
  refine ⟨rfl, sortBy_perm _ _, rfl, rxnOrder_perm N, sortBy_perm _ _, fun i j => ?_⟩
  simp only [entryI, incidenceMat, List.getD_eq_getElem?_getD, List.getElem?_map]
  cases hs : (speciesOrder N)[i]? <;> cases he : (viewOrder N)[j]? <;> simp [he]

/-- Non-vacuity: `A + 2B → C` (rule `z`) and `C → A` (rule `a`, larger id): columns are ordered
by rule, not by id, and the matrix is what the implementation returns. -/
example : buildS ⟨["C", "A", "B"], [⟨"r_1", "z", [("A", 1), ("B", 2)], [("C", 1)]⟩,
      ⟨"r_2", "a", [("C", 1)], [("A", 1)]⟩]⟩
    = .ok ⟨["A", "B", "C"], ["a", "z"], [[1, -1], [0, -2], [-1, 1]]⟩ := by decide +kernel

/-- The error branch (`ValueError` of `_split_species_reactions`) is modelled explicitly. -/
example : buildS ⟨["A"], []⟩ = .error .valueError := by decide

/-- **C17, rank.** If the rank certificate (column basis `cols`, left inverse `L` of the
sub-matrix of those columns, coordinates `C` of every column in that basis) is accepted by the
executable checker, then the rank of `S` over `ℚ` — Mathlib's `Matrix.rank` — is the number of
listed columns. -/
theorem checkRank_sound (m n : ℕ) (S : Ent) (c : RankCert) (h : checkRank m n S c = true) :
    (toMat m n S).rank = c.cols.length := by
  simp only [checkRank, Bool.and_eq_true, allTo_iff, decide_eq_true_eq] at h
  obtain ⟨⟨h1, h2⟩, h3⟩ := h
  refine rank_of_cert (toMat m n S) (fun k => ⟨c.cols.getD k 0, h1 k k.2⟩)
    (toMat _ m (entQ c.L)) (toMat _ n (entQ c.C)) ?_ ?_
  · ext i j
    exact ((toMat_mul _ m _ (entQ c.L) (fun k j => S k (c.cols.getD j 0)) i j).trans
      (h2 i i.2 j j.2)).trans ((if_congr Fin.ext_iff.symm rfl rfl).trans (Matrix.one_apply ..).symm)
  · ext i j
    exact (h3 i i.2 j j.2).trans
      (toMat_mul m _ n (fun i k => S i (c.cols.getD k 0)) (entQ c.C) i j).symm

/-- Non-vacuity: `A → B`, `B → A` has rank 1. -/
example : checkRank 2 2 (entI [[-1, 1], [1, -1]]) ⟨[0], [[-1, 0]], [[1, -1]]⟩ = true := by decide +kernel

/-- **C17, kernel dimensions.** With an accepted rank certificate the right kernel of `S` has
dimension `n − r` and the left kernel (kernel of `Sᵀ`) dimension `m − r`: the exact numbers the
implementation's `right_nullspace` / `left_nullspace` / `summary` are compared with. -/
theorem kernel_dims (m n : ℕ) (S : Ent) (c : RankCert) (h : checkRank m n S c = true) :
    Module.finrank ℚ (LinearMap.ker (toMat m n S).mulVecLin) = n - c.cols.length ∧
    Module.finrank ℚ (LinearMap.ker (toMat m n S)ᵀ.mulVecLin) = m - c.cols.length := by
  rw [finrank_ker_mulVecLin, finrank_ker_mulVecLin, Matrix.rank_transpose, checkRank_sound m n S c h]
  exact ⟨rfl, rfl⟩

/-- **C17, kernel bases.** An accepted kernel-basis certificate for `A` (`m × n`; `A = S` for
the right kernel, `A = Sᵀ` for the left kernel) consists of `n − r` vectors, each annihilated by
`A`, which are linearly independent over `ℚ`. -/
theorem checkKernelBasis_sound (m n : ℕ) (A : Ent) (r : ℕ) (B : List QVec) (L : QMat)
    (h : checkKernelBasis m n A r B L = true) :
    B.length + r = n ∧
    (∀ a : Fin B.length, (toMat m n A).mulVec (toVec n (B.getD a [])) = 0) ∧
    LinearIndependent ℚ (fun a : Fin B.length => toVec n (B.getD a [])) := by
  simp only [checkKernelBasis, Bool.and_eq_true, allTo_iff, decide_eq_true_eq] at h
  obtain ⟨⟨h1, h2⟩, h3⟩ := h
  refine ⟨h1, fun a => funext fun i => (toMat_mulVec m n A _ i).trans (h2 a a.2 i i.2), ?_⟩
  -- `L` maps the listed vectors to the standard basis
  have hb : (toMat B.length n (entQ L)).mulVecLin ∘ (fun a : Fin B.length => toVec n (B.getD a [])) =
      ⇑(Pi.basisFun ℚ (Fin B.length)) := by
    funext a' a
    rw [Pi.basisFun_apply, Pi.single_apply]
    exact ((toMat_mulVec _ n (entQ L) _ a).trans (h3 a a.2 a' a'.2)).trans
      (if_congr Fin.ext_iff.symm rfl rfl)
  exact .of_comp _ (hb ▸ (Pi.basisFun ℚ (Fin B.length)).linearIndependent)

/-- **C17, the certified vectors are a basis of the kernel.** With an accepted rank certificate
of `r` columns and an accepted kernel-basis certificate for the same `r`, the span of the listed
vectors is exactly the kernel of `A` (independent by `checkKernelBasis_sound`, `n − r` of them,
and `n − r` is the dimension of the kernel by `kernel_dims`). -/
theorem kernelBasis_spans (m n : ℕ) (A : Ent) (c : RankCert) (B : List QVec) (L : QMat)
    (hr : checkRank m n A c = true) (hb : checkKernelBasis m n A c.cols.length B L = true) :
    Submodule.span ℚ (Set.range fun a : Fin B.length => toVec n (B.getD a [])) =
      LinearMap.ker (toMat m n A).mulVecLin := by
  obtain ⟨hcount, hker, hli⟩ := checkKernelBasis_sound m n A c.cols.length B L hb
  apply Submodule.eq_of_le_of_finrank_eq
  · rw [Submodule.span_le]
    rintro _ ⟨a, rfl⟩
    exact hker a
  · rw [finrank_span_eq_card hli, (kernel_dims m n A c hr).1, Fintype.card_fin]
    omega

/-- Non-vacuity: the right kernel of `A ⇌ B` is spanned by `(1, 1)`. -/
example : checkKernelBasis 2 2 (entI [[-1, 1], [1, -1]]) 1 [[1, 1]] [[0, 1]] = true := by decide +kernel

/-- **C17, positive witnesses.** An accepted positive-kernel certificate is a strictly positive
vector annihilated by `A`. -/
theorem checkPositive_sound (m n : ℕ) (A : Ent) (x : QVec) (h : checkPositiveKernel m n A x = true) :
    (∀ j, 0 < toVec n x j) ∧ (toMat m n A).mulVec (toVec n x) = 0 :=
  ((checkPositiveKernel_iff m n A x).1 h).mulVec

/-- **C17, easy half of Stiemke's theorem (consistency form).** If some `y` has `yᵀA ≥ 0` and
`yᵀA ≠ 0` then no strictly positive `x` satisfies `A x = 0`. -/
theorem stiemke_easy {m n : ℕ} (A : Matrix (Fin m) (Fin n) ℚ)
    (h : ∃ y : Fin m → ℚ, (∀ j, 0 ≤ Matrix.vecMul y A j) ∧ Matrix.vecMul y A ≠ 0) :
    ¬ ∃ x : Fin n → ℚ, (∀ j, 0 < x j) ∧ A.mulVec x = 0 := by
  rintro ⟨x, hx, hAx⟩
  obtain ⟨y, hy, hne⟩ := h
  obtain ⟨j, hj⟩ := Function.ne_iff.1 hne
  -- `(yᵀA) x` is positive termwise, yet equals `yᵀ(A x) = 0`
  have hpos : 0 < Matrix.vecMul y A ⬝ᵥ x :=
    Finset.sum_pos' (fun i _ => mul_nonneg (hy i) (hx i).le)
      ⟨j, Finset.mem_univ j, mul_pos ((hy j).lt_of_ne' hj) (hx j)⟩
  rw [← Matrix.dotProduct_mulVec, hAx, dotProduct_zero] at hpos
  exact lt_irrefl _ hpos

/-- **C17, easy half of Stiemke's theorem (conservativity form).** If some `v` has `S v ≥ 0`
and `S v ≠ 0` then no strictly positive `m` satisfies `mᵀS = 0`. -/
theorem stiemke_easy_left {m n : ℕ} (S : Matrix (Fin m) (Fin n) ℚ)
    (h : ∃ v : Fin n → ℚ, (∀ i, 0 ≤ S.mulVec v i) ∧ S.mulVec v ≠ 0) :
    ¬ ∃ mv : Fin m → ℚ, (∀ i, 0 < mv i) ∧ Matrix.vecMul mv S = 0 := by
  have := stiemke_easy Sᵀ
  simp only [Matrix.vecMul_transpose, Matrix.mulVec_transpose] at this
  exact this h

/-- Non-vacuity of both halves on `∅ → A` (`S = (1)`): `v = y = (1)`. -/
example : ∃ v : Fin 1 → ℚ, (∀ i, 0 ≤ (!![(1 : ℚ)]).mulVec v i) ∧ (!![(1 : ℚ)]).mulVec v ≠ 0 := by
  have h1 : ∀ i, (!![(1 : ℚ)]).mulVec (fun _ => 1) i = 1 := fun i => by
    rw [Matrix.mulVec, dotProduct, Fin.sum_univ_one, mul_one, Fin.fin_one_eq_zero i]; rfl
  exact ⟨fun _ => 1, fun i => (h1 i).symm ▸ zero_le_one,
    fun h => one_ne_zero ((h1 0).symm.trans (congrFun h 0))⟩

/-- An accepted alternative certificate excludes every strictly positive kernel vector. -/
theorem checkAlternative_sound (m n : ℕ) (A : Ent) (y : QVec) (h : checkAlternative m n A y = true) :
    ¬ ∃ x : Fin n → ℚ, (∀ j, 0 < x j) ∧ (toMat m n A).mulVec x = 0 := by
  simp only [checkAlternative, Bool.and_eq_true, allTo_iff, anyTo_iff, decide_eq_true_eq] at h
  obtain ⟨hnn, j, hj, hne⟩ := h
  refine stiemke_easy _ ⟨toVec m y, fun j => ?_, fun h0 => hne ?_⟩
  · exact (hnn j j.2).trans_eq (toMat_vecMul m n A (vget y) j).symm
  · exact (toMat_vecMul m n A (vget y) ⟨j, hj⟩).symm.trans (congrFun h0 ⟨j, hj⟩)

/-- **C17, certified "conservative".** -/
theorem conservative_cert_sound (m n : ℕ) (S : Ent) (mv : QVec)
    (h : checkPositiveLeftKernel m n S mv = true) :
    ∃ w : Fin m → ℚ, (∀ i, 0 < w i) ∧ Matrix.vecMul w (toMat m n S) = 0 :=
  have ⟨h1, h2⟩ := checkPositive_sound n m (entT S) mv h
  ⟨toVec m mv, h1, (Matrix.mulVec_transpose _ _).symm.trans h2⟩

/-- **C17, certified "not conservative".** -/
theorem not_conservative_cert_sound (m n : ℕ) (S : Ent) (v : QVec)
    (h : checkNotConservative m n S v = true) :
    ¬ ∃ w : Fin m → ℚ, (∀ i, 0 < w i) ∧ Matrix.vecMul w (toMat m n S) = 0 :=
  fun ⟨w, hw, hk⟩ =>
    checkAlternative_sound n m (entT S) v h ⟨w, hw, (Matrix.mulVec_transpose _ w).trans hk⟩

/-- **C17, certified "consistent".** -/
theorem consistent_cert_sound (m n : ℕ) (S : Ent) (v : QVec)
    (h : checkPositiveRightKernel m n S v = true) :
    ∃ w : Fin n → ℚ, (∀ j, 0 < w j) ∧ (toMat m n S).mulVec w = 0 :=
  ⟨toVec n v, checkPositive_sound m n S v h⟩

/-- **C17, certified "not consistent".** -/
theorem not_consistent_cert_sound (m n : ℕ) (S : Ent) (y : QVec)
    (h : checkNotConsistent m n S y = true) :
    ¬ ∃ w : Fin n → ℚ, (∀ j, 0 < w j) ∧ (toMat m n S).mulVec w = 0 :=
  checkAlternative_sound m n S y h

/-- Non-vacuity: the reversible pair `A ⇌ B` is conservative `(1,1)` and consistent `(1,1)`;
`A → B` alone is conservative but not consistent (`y = (0,1)`), `∅ → A` is neither
(`v = (1)`, `y = (1)`). -/
example : checkPositiveLeftKernel 2 2 (entI [[-1, 1], [1, -1]]) [1, 1] = true ∧
    checkPositiveRightKernel 2 2 (entI [[-1, 1], [1, -1]]) [1, 1] = true ∧
    checkPositiveLeftKernel 2 1 (entI [[-1], [1]]) [1, 1] = true ∧
    checkNotConsistent 2 1 (entI [[-1], [1]]) [0, 1] = true ∧
    checkNotConservative 1 1 (entI [[1]]) [1] = true ∧
    checkNotConsistent 1 1 (entI [[1]]) [1] = true := by decide +kernel

/-- **C17, decision logic of `is_conservative`** (as written). `B` (`m × k`) is an exact basis
of the left kernel of `S` (`KerCols` + `SpansKer`) whose non-zero entries exceed the margin
`eps` in absolute value, and `lp` is a *correct* answer to the LP `min Σa, B a ≥ eps`. Then

1. a verdict `True` is always right;
2. a verdict `False` is right **except possibly when the LP stage was reached** (`k ≥ 2`, no
   sign-definite basis column) **and the LP is feasible** — which is exactly when the network is
   conservative (`infeasible_no_posKer`); this is the class `lp_stage` of finding F2, and
   `conservative_unbounded_witness` shows the exception is real;
3. the verdict is `None` only without SciPy.

So outside the LP stage `is_conservative = True ↔ conservative` (`conservative_logic_outside_lp`). -/
theorem conservative_logic (m n k : ℕ) (S B : Ent) (eps : ℚ) (scipy : Bool) (lp : LPOut)
    (hm : 0 < m) (hn : n ≠ 0) (heps : 0 < eps)
    (hK : KerCols n m k (entT S) B) (hS : SpansKer n m k (entT S) B)
    (hmargin : ∀ i, i < m → ∀ c, c < k → B i c = 0 ∨ eps < |B i c|)
    (hlp : LPCorrectLaw m k B eps lp) :
    (isConservativeQ m n k B eps scipy lp = some true → Conservative m n S) ∧
    (isConservativeQ m n k B eps scipy lp = some false →
      ¬ Conservative m n S ∨ (lpStage m k B eps scipy = true ∧ lp ≠ .infeasible)) ∧
    (isConservativeQ m n k B eps scipy lp = none → scipy = false ∧ 2 ≤ k) := by
  rw [isConservativeQ_eq m n k B eps scipy lp hn]
  refine Verdict.ite (fun h0 => .no (Or.inl ?_)) fun h0 => .ite (fun h1 => .bool ?_ ?_) fun h1 =>
    have hk2 : 2 ≤ k := by omega
    .ite (fun hf => .yes ?_) fun hf => .ite (fun hsc => .ite (fun hst => .yes ?_) fun _ => .no ?_)
      fun hsc => .unknown ⟨by simpa using hsc, hk2⟩
  · subst h0; exact no_posKer_of_k0 n m (entT S) B hm hS
  · subst h1; exact signDef_posKer n m 1 (entT S) B eps 0 Nat.one_pos heps.le hK
  · subst h1
    exact fun h => Or.inl fun hc => Bool.false_ne_true <| h.symm.trans <|
      k1_complete n m (entT S) B eps hS (fun j hj => hmargin j hj 0 Nat.one_pos) hc
  · obtain ⟨j, hj, hs⟩ := firstTrue_isSome k _ hf
    exact signDef_posKer n m k (entT S) B eps j hj heps.le hK hs
  · obtain ⟨a, rfl, ha⟩ := lpObsOf_strict m k B eps lp hst
    exact ⟨_, combo_posKer n m k (entT S) B a hK fun j hj => lt_trans heps (ha j hj)⟩
  · by_cases hinf : lp = .infeasible
    · subst hinf; exact Or.inl (infeasible_no_posKer n m k (entT S) B eps hS hlp)
    · refine Or.inr ⟨?_, hinf⟩
      simpa [lpStage, hsc] using ⟨hk2, Option.not_isSome_iff_eq_none.1 hf⟩

/-- Corollary: with SciPy and outside the LP stage the verdict is `True` exactly when a strictly
positive conservation law exists (Mathlib form). -/
theorem conservative_logic_outside_lp (m n k : ℕ) (S B : Ent) (eps : ℚ) (lp : LPOut)
    (hm : 0 < m) (hn : n ≠ 0) (heps : 0 < eps)
    (hK : KerCols n m k (entT S) B) (hS : SpansKer n m k (entT S) B)
    (hmargin : ∀ i, i < m → ∀ c, c < k → B i c = 0 ∨ eps < |B i c|)
    (hlp : LPCorrectLaw m k B eps lp) (hstage : lpStage m k B eps true = false) :
    isConservativeQ m n k B eps true lp = some true ↔
      ∃ w : Fin m → ℚ, (∀ i, 0 < w i) ∧ Matrix.vecMul w (toMat m n S) = 0 := by
  rw [← conservative_iff]
  exact Verdict.true_iff <| Verdict.mono (conservative_logic m n k S B eps true lp hm hn heps hK hS hmargin hlp) id
    (·.resolve_right fun h => by simp [hstage] at h) fun h => by simpa using h.1

/-- **C17 fails for `is_conservative` as written (finding F2).** The network `C + B → F + A`
(species order A, B, C, F) is conservative — `(1,1,1,1)` is a checked positive law — yet with the
exact left-kernel basis `(1,1,0,0), (0,0,1,1), (−1,0,−1,0)`, which has no sign-definite column,
the code goes to the LP `min a₁+a₂+a₃, B a ≥ eps`; that LP is feasible and unbounded
(`a = (eps, eps, −t)` is feasible for every `t ≥ 0` with objective `2·eps − t`), a correct solver
says so, and the verdict is `False`. -/
theorem conservative_unbounded_witness :
    let S := entI [[1], [-1], [-1], [1]]
    let B := entQ [[1, 0, -1], [1, 0, 0], [0, 1, -1], [0, 1, 0]]
    let eps : ℚ := 1 / 100000000
    checkPositiveLeftKernel 4 1 S [1, 1, 1, 1] = true ∧
    KerCols 1 4 3 (entT S) B ∧
    lpStage 4 3 B eps true = true ∧
    (∀ t : ℚ, 0 ≤ t → ∀ i, i < 4 → eps ≤ combo 3 B [eps, eps, -t] i) ∧
    LPCorrectLaw 4 3 B eps .unbounded ∧
    isConservativeQ 4 1 3 B eps true .unbounded = some false := by
  refine ⟨by decide +kernel, by unfold KerCols; decide +kernel, by decide +kernel, ?_,
    ⟨[1 / 100000000, 1 / 100000000, 0], by decide +kernel⟩, by decide +kernel⟩
  -- `(eps, eps, 0)` is feasible and `(0, 0, -1)` is a direction of recession
  exact combo_recession _ _ _ _ 4 (by decide +kernel) (by decide +kernel)

/-- **C17 fails for `is_conservative` on every conservative network that reaches the LP stage
(finding F2, exact-arithmetic form).** If the LP stage is reached (`k ≥ 2`, no sign-definite basis
column, SciPy present) and the solver's `optimal` answers are true optima of
`min Σa, B a ≥ eps`, the verdict is `False` whatever the LP answers: at an optimum some
constraint is tight (`lp_optimum_is_tight`), so the strict test `np.all(B a > eps)` fails. The
handful of `True` verdicts observed at this stage on the real code come from rounding in
`B @ a > eps`. -/
theorem conservative_lp_stage_never_true (m n k : ℕ) (B : Ent) (eps : ℚ) (lp : LPOut) (hn : n ≠ 0)
    (hstage : lpStage m k B eps true = true)
    (hopt : ∀ a, lp = .optimal a → LPOptimalLaw m k B eps a) :
    isConservativeQ m n k B eps true lp = some false := by
  simp only [lpStage, Bool.and_eq_true, decide_eq_true_eq, Option.isNone_iff_eq_none, and_true] at hstage
  obtain ⟨hk2, hf⟩ := hstage
  rw [isConservativeQ_eq m n k B eps true lp hn, if_neg (by omega), if_neg (by omega), hf,
    Option.isSome_none, if_neg Bool.false_ne_true, if_pos rfl]
  split
  · rename_i hst
    obtain ⟨a, rfl, ha⟩ := lpObsOf_strict m k B eps _ hst
    exact absurd ha (lp_optimum_is_tight m k B eps a (by omega) (hopt a rfl))
  · rfl

/-- Non-vacuity: for `C + B → F + A` with the basis `(1,1,0,0), (0,0,1,1), (1,0,1,0)` the LP is
bounded with optimum `a = (eps, eps, 0)`, every constraint is tight, and the verdict is `False`
although `(1,1,1,1)` is a positive law. -/
example : lpStage 4 3 (entQ [[1, 0, 1], [1, 0, 0], [0, 1, 1], [0, 1, 0]]) (1 / 100000000) true = true ∧
    isConservativeQ 4 1 3 (entQ [[1, 0, 1], [1, 0, 0], [0, 1, 1], [0, 1, 0]]) (1 / 100000000) true
      (.optimal [1 / 100000000, 1 / 100000000, 0]) = some false ∧
    checkPositiveLeftKernel 4 1 (entI [[1], [-1], [-1], [1]]) [1, 1, 1, 1] = true := by decide +kernel

/-- **C17, decision logic of `is_consistent`** (the code as repaired for finding F2b). `R` (`n × k`)
is an exact basis of the right kernel of `S`, `lp` a correct answer to `min Σv, S v = 0, v ≥ 1`,
`0 ≤ eps < 1`. Then a verdict `True` is right, a verdict `False` is right, and whenever the LP
gave an answer the verdict is not `None`: `is_consistent = True ↔ consistent`
(`consistent_logic_iff`). -/
theorem consistent_logic (m n k : ℕ) (S R : Ent) (eps tol : ℚ) (scipy : Bool) (lp : LPOut)
    (hn : 0 < n) (heps0 : 0 ≤ eps) (heps1 : eps < 1) (htol : 0 ≤ tol)
    (hK : KerCols m n k S R) (hS : SpansKer m n k S R) (hlp : LPCorrectFlux m n S lp) :
    (isConsistentQ m n k S R eps tol scipy lp = some true → Consistent m n S) ∧
    (isConsistentQ m n k S R eps tol scipy lp = some false → ¬ Consistent m n S) ∧
    (scipy = true → lp ≠ .failed → isConsistentQ m n k S R eps tol scipy lp ≠ none) := by
  have fb := fallback_verdict m n k S R eps hn heps0 hK hS
  suffices h : Verdict (isConsistentQ m n k S R eps tol scipy lp) (Consistent m n S) (¬ Consistent m n S)
      (scipy = false ∨ lp = .failed) from
    ⟨h.1, h.2.1, fun hs hl hv => (h.2.2 hv).elim (fun e => by simp [hs] at e) hl⟩
  unfold isConsistentQ isConsistentAbs
  rw [if_neg hn.ne']
  refine .ite (fun _ => ?_) fun hs => fb.mono id id fun _ => Or.inl (by simpa using hs)
  cases lp with
  | optimal v =>
    rw [lpObsCOf_optimal m n S eps tol v heps1 htol hlp]
    exact .yes ⟨vget v, fun j hj => one_pos.trans_le (hlp.2 j hj), hlp.1⟩
  | infeasible => exact .no (infeasible_not_consistent m n S hlp)
  | unbounded => exact absurd hlp id
  | failed => exact fb.mono id id fun _ => Or.inr rfl

/-- Corollary in Mathlib form. -/
theorem consistent_logic_iff (m n k : ℕ) (S R : Ent) (eps tol : ℚ) (lp : LPOut)
    (hn : 0 < n) (heps0 : 0 ≤ eps) (heps1 : eps < 1) (htol : 0 ≤ tol)
    (hK : KerCols m n k S R) (hS : SpansKer m n k S R) (hlp : LPCorrectFlux m n S lp)
    (hans : lp ≠ .failed) :
    isConsistentQ m n k S R eps tol true lp = some true ↔
      ∃ v : Fin n → ℚ, (∀ j, 0 < v j) ∧ (toMat m n S).mulVec v = 0 := by
  obtain ⟨h1, h2, h3⟩ := consistent_logic m n k S R eps tol true lp hn heps0 heps1 htol hK hS hlp
  rw [← consistent_iff]
  exact Verdict.true_iff ⟨h1, h2, h3 rfl hans⟩

/-- Non-vacuity of the logic theorems: on `A ⇌ B` with the kernel bases `(1,1)` the modelled
procedures answer `True` / `True`; on `A → B` the LP of `is_consistent` is infeasible and the
answer is `False`. -/
example : isConservativeQ 2 2 1 (entQ [[1], [1]]) (1 / 100000000) true .failed = some true ∧
    isConsistentQ 2 2 1 (entI [[-1, 1], [1, -1]]) (entQ [[1], [1]]) (1 / 100000000) (1 / 100000000) true
      (.optimal [1, 1]) = some true ∧
    isConsistentQ 2 1 0 (entI [[-1], [1]]) (entQ []) (1 / 100000000) (1 / 100000000) true .infeasible
      = some false := by decide +kernel

/-- Non-vacuity of the hypotheses of `conservative_logic` / `consistent_logic`: for `A ⇌ B`
the vector `(1,1)` is an exact basis of both kernels (columns in the kernel, spanning, margin),
any LP answer `failed` is vacuously correct, and the theorems then yield the positive law /
flux from the modelled verdict `True`. -/
example : Conservative 2 2 (entI [[-1, 1], [1, -1]]) ∧ Consistent 2 2 (entI [[-1, 1], [1, -1]]) := by
  -- a kernel vector of a matrix with first row `(-1, 1)` is a multiple of `(1, 1)`
  have span : ∀ A : Ent, A 0 0 = -1 → A 0 1 = 1 → SpansKer 2 2 1 A (entQ [[1], [1]]) := by
    intro A h00 h01 x hx
    have h0 := hx 0 Nat.two_pos
    simp only [sumTo, h00, h01, zero_add, neg_mul, one_mul] at h0
    refine ⟨fun _ => x 0, fun j hj => ?_⟩
    rcases (by omega : j = 0 ∨ j = 1) with rfl | rfl
    · exact (one_mul _).symm.trans (zero_add _).symm
    · exact (neg_add_eq_zero.1 h0).symm.trans ((one_mul _).symm.trans (zero_add _).symm)
  have hmargin : ∀ i, i < 2 → ∀ c, c < 1 →
      entQ [[1], [1]] i c = 0 ∨ (1 / 100000000 : ℚ) < |entQ [[1], [1]] i c| := by decide +kernel
  constructor
  · exact (conservative_logic 2 2 1 _ _ (1 / 100000000) true .failed Nat.two_pos two_ne_zero
      (by decide +kernel) (by unfold KerCols; decide +kernel)
      (span _ (by decide +kernel) (by decide +kernel)) hmargin trivial).1 (by decide +kernel)
  · exact (consistent_logic 2 2 1 _ _ (1 / 100000000) (1 / 100000000) true .failed Nat.two_pos
      (by decide +kernel) (by decide +kernel) (by decide +kernel) (by unfold KerCols; decide +kernel)
      (span _ (by decide +kernel) (by decide +kernel)) trivial).1 (by decide +kernel)

/-- C17 at the strength the machine-checked side can carry: the matrix clauses for every
network, soundness of every certificate checker against Mathlib's notions, and correctness of the
modelled decision procedures given correct oracle answers — with the LP-stage exception of
`is_conservative` spelled out (it is a *failure* of the property, finding F2, exhibited by
`conservative_unbounded_witness`). The remaining link — that the numbers NumPy/SciPy report are
the certified ones — is discharged per run by the correspondence check. -/
def C17.FullStatement : Prop :=
  (∀ (N : Net) (res : SResult), buildS N = .ok res →
    (∀ e ∈ N.edges, e.reactants.keys.Nodup ∧ e.products.keys.Nodup) →
    res.species = speciesOrder N ∧ (speciesOrder N).Perm (speciesSet N) ∧
    (rxnOrder N).Perm N.edges ∧ (rxnOrder N).Perm (viewOrder N) ∧
    res.S.length = res.species.length ∧ (∀ row ∈ res.S, row.length = N.edges.length) ∧
    ∀ i j (hi : i < (speciesOrder N).length) (hj : j < (rxnOrder N).length),
      entryI res.S i j = coeff ((rxnOrder N)[j]).products ((speciesOrder N)[i])
        - coeff ((rxnOrder N)[j]).reactants ((speciesOrder N)[i]) ∧
      entryI res.S i j = (incidenceEdge ((rxnOrder N)[j])).getD ((speciesOrder N)[i]) 0) ∧
  (∀ m n S c, checkRank m n S c = true →
    (toMat m n S).rank = c.cols.length ∧
    Module.finrank ℚ (LinearMap.ker (toMat m n S).mulVecLin) = n - c.cols.length ∧
    Module.finrank ℚ (LinearMap.ker (toMat m n S)ᵀ.mulVecLin) = m - c.cols.length) ∧
  (∀ m n A r B L, checkKernelBasis m n A r B L = true →
    B.length + r = n ∧ (∀ a : Fin B.length, (toMat m n A).mulVec (toVec n (B.getD a [])) = 0) ∧
    LinearIndependent ℚ (fun a : Fin B.length => toVec n (B.getD a []))) ∧
  (∀ m n S mv, checkPositiveLeftKernel m n S mv = true →
    ∃ w : Fin m → ℚ, (∀ i, 0 < w i) ∧ Matrix.vecMul w (toMat m n S) = 0) ∧
  (∀ m n S v, checkNotConservative m n S v = true →
    ¬ ∃ w : Fin m → ℚ, (∀ i, 0 < w i) ∧ Matrix.vecMul w (toMat m n S) = 0) ∧
  (∀ m n S v, checkPositiveRightKernel m n S v = true →
    ∃ w : Fin n → ℚ, (∀ j, 0 < w j) ∧ (toMat m n S).mulVec w = 0) ∧
  (∀ m n S y, checkNotConsistent m n S y = true →
    ¬ ∃ w : Fin n → ℚ, (∀ j, 0 < w j) ∧ (toMat m n S).mulVec w = 0) ∧
  (∀ m n k S B eps lp, 0 < m → n ≠ 0 → 0 < eps → KerCols n m k (entT S) B → SpansKer n m k (entT S) B →
    (∀ i, i < m → ∀ c, c < k → B i c = 0 ∨ eps < |B i c|) → LPCorrectLaw m k B eps lp →
    (isConservativeQ m n k B eps true lp = some true →
      ∃ w : Fin m → ℚ, (∀ i, 0 < w i) ∧ Matrix.vecMul w (toMat m n S) = 0) ∧
    (lpStage m k B eps true = false →
      (isConservativeQ m n k B eps true lp = some true ↔
        ∃ w : Fin m → ℚ, (∀ i, 0 < w i) ∧ Matrix.vecMul w (toMat m n S) = 0))) ∧
  (∀ m n k S R eps tol lp, 0 < n → 0 ≤ eps → eps < 1 → 0 ≤ tol → KerCols m n k S R → SpansKer m n k S R →
    LPCorrectFlux m n S lp → lp ≠ .failed →
    (isConsistentQ m n k S R eps tol true lp = some true ↔
      ∃ v : Fin n → ℚ, (∀ j, 0 < v j) ∧ (toMat m n S).mulVec v = 0))

theorem C17.full : C17.FullStatement :=
  ⟨fun N res h wf =>
      have ⟨a1, a2, _, a4, a5, _⟩ := buildS_orders N res h
      have ⟨_, b2, b3, b4⟩ := buildS_shape N res h
      ⟨a1, a2, a4, a5, b3, fun row hr => (b4 row hr).trans b2, buildS_entry N res h wf⟩,
    fun m n S c h => ⟨checkRank_sound m n S c h, kernel_dims m n S c h⟩,
    checkKernelBasis_sound, conservative_cert_sound, not_conservative_cert_sound,
    consistent_cert_sound, not_consistent_cert_sound,
    fun m n k S B eps lp hm hn heps hK hS hmargin hlp =>
      ⟨fun h => (conservative_iff m n S).1
          ((conservative_logic m n k S B eps true lp hm hn heps hK hS hmargin hlp).1 h),
        conservative_logic_outside_lp m n k S B eps lp hm hn heps hK hS hmargin hlp⟩,
    consistent_logic_iff⟩

end SynKit.Stoich

/-! ## The graph entry path

C17 quantifies over every reaction network; the theorems above take the network as a `Net`. The
code also accepts a plain bipartite NetworkX graph. These theorems tie the model of that entry
path (`SynKitModel/BipGraph.lean`: `_as_bipartite`, `_split_species_reactions`,
`_species_and_reaction_order`, `build_S_minus_plus`) to the network-level model, so that every
statement about `buildS N` is a statement about `build_S(G)` for `N = netOfGraph G`. -/
namespace SynKit.BipGraph
open SynKit.Stoich

/-- **C17, clause "S has one row per species, one column per reaction, entry produced −
consumed", graph input, reaction labels possibly tied.** For a well-formed bipartite graph (node ids
distinct, species labels distinct, coefficients non-negative; arcs not joining a species node to a
reaction node, and roles other than `"reactant"` / `"product"`, are ignored on both sides), without
any hypothesis on reaction labels: rows are the species order of the described network
`netOfGraph g`; the graph's columns `cols` are a permutation of the network's column order carrying
the same sequence of rule labels (so the two orders differ at most inside groups of equally labelled
reactions); and `S⁻`, `S⁺` are the consumed / produced counts of the described network laid out over
those rows and columns. -/
theorem graphS_eq_buildS_upto_ties (g : BipGraph) (wf : WF g) :
    let N := netOfGraph g
    let cols := (reactionCols g).map (edgeOfNode g)
    rowLabels g = speciesOrder N ∧
    cols.Perm (rxnOrder N) ∧ cols.map (·.rule) = (rxnOrder N).map (·.rule) ∧
    colLabels g = (rxnOrder N).map (·.rule) ∧
    graphSMinus g = ((speciesOrder N).map fun x => cols.map fun e => sumCoeff e.reactants x) ∧
    graphSPlus g = ((speciesOrder N).map fun x => cols.map fun e => sumCoeff e.products x) :=
  ⟨(speciesOrder_netOfGraph g).symm, cols_perm_rxnOrder g, cols_rules_eq g,
    (colLabels_eq g).trans (cols_rules_eq g),
    graphMat_eq_sides g wf "reactant" (Or.inl rfl) (·.reactants) (fun _ => rfl),
    graphMat_eq_sides g wf "product" (Or.inr rfl) (·.products) (fun _ => rfl)⟩

/-- **C17, same clause, reaction labels pairwise distinct.** Then the columns of
`graphS_eq_buildS_upto_ties` are the network's column order, and the code's reading of the graph is
the network-level model applied to the described network `netOfGraph g`: `S⁻`, `S⁺`, `S = S⁺ − S⁻`
and the full result of `build_S` (species labels, reaction labels, matrix, or `ValueError`) coincide,
rows and columns in the same order. The only order hypothesis is `ReactionLabelsDistinct`: with tied
reaction labels the graph keeps tied columns in `G.nodes` order while the network model keeps them
in reaction-id order. -/
theorem graphS_eq_buildS (g : BipGraph) (wf : WF g) (hr : ReactionLabelsDistinct g) :
    graphSMinus g = buildSMinus (netOfGraph g) ∧ graphSPlus g = buildSPlus (netOfGraph g) ∧
    graphS g = matSub (buildSPlus (netOfGraph g)) (buildSMinus (netOfGraph g)) ∧
    graphBuildS g = buildS (netOfGraph g) := by
  obtain ⟨_, _, _, hl, hm, hp⟩ := graphS_eq_buildS_upto_ties g wf
  rw [← rxnOrder_netOfGraph g hr] at hm hp
  have hS : graphS g = matSub (buildSPlus (netOfGraph g)) (buildSMinus (netOfGraph g)) := by
    rw [graphS, hm, hp]
    rfl
  refine ⟨hm, hp, hS, ?_⟩
  unfold graphBuildS buildS
  rw [speciesSet_netOfGraph, hS, ← speciesOrder_netOfGraph, hl]
  simp [netOfGraph]

/-- **C17, graph input: direction of the arcs is irrelevant.** Reversing any subset of the arcs
of a directed graph (`DiGraph` / `MultiDiGraph`) changes nothing `build_S_minus_plus` / `build_S`
return. For a non-multi `DiGraph` the hypothesis `ArcsSimple` (before and after) says that no two
arcs occupy the same ordered pair, i.e. NetworkX overwrites nothing; it is necessary (second
example below). -/
theorem graphS_orientation_invariant (g g' : BipGraph) (hn : g'.nodes = g.nodes)
    (hd : g.directed = true) (hd' : g'.directed = true) (hm : g'.multi = g.multi)
    (ha : Reoriented g.arcs g'.arcs) (hs : g.multi = true ∨ (ArcsSimple g ∧ ArcsSimple g')) :
    graphSMinus g' = graphSMinus g ∧ graphSPlus g' = graphSPlus g ∧ graphS g' = graphS g ∧
    graphBuildS g' = graphBuildS g := by
  refine results_congr g g' hn fun role _ s _ r _ => ?_
  rw [asBipartite, asBipartite, if_pos hd, if_pos hd']
  exact (sameReading_orientation g g' hn hm ha hs).joined role s.id r.id

/-- **C17, graph input: undirected = directed (repaired F27 / F28 / F37).** An undirected graph
(`Graph` / `MultiGraph`) and the directed graph of the same class of multiplicity holding the same
edges, each written in an arbitrary direction, give the same `S⁻`, `S⁺`, `S`, `build_S` result:
`_as_bipartite` + `build_S_minus_plus` count every undirected edge exactly once, parallel edges of
a `MultiGraph` all count. -/
theorem graphS_undirected_eq_directed (g g' : BipGraph) (hid : IdsDistinct g) (hn : g'.nodes = g.nodes)
    (hd : g.directed = false) (hd' : g'.directed = true) (hm : g'.multi = g.multi)
    (ha : Reoriented g.arcs g'.arcs) (hs : g.multi = true ∨ ArcsSimple g) :
    graphSMinus g' = graphSMinus g ∧ graphSPlus g' = graphSPlus g ∧ graphS g' = graphS g ∧
    graphBuildS g' = graphBuildS g := by
  refine results_congr g g' hn fun role hrole s hs' r hr' => ?_
  rw [joined_asBipartite g hid s r hs' hr' role hrole, asBipartite, if_pos hd']
  exact (sameReading_undirected g g' hn hd hd' hm ha hs).joined role s.id r.id

/-- **C17, graph input: a missing `stoich` is 1.** Writing `stoich = 1` on every edge that has
none changes nothing `build_S_minus_plus` / `build_S` return. -/
theorem graphS_missing_stoich (g g' : BipGraph) (hn : g'.nodes = g.nodes) (hd : g'.directed = g.directed)
    (hm : g'.multi = g.multi) (ha : g'.arcs = g.arcs.map BArc.fillStoich)
    (hs : g.multi = true ∨ ArcsSimple g) :
    graphSMinus g' = graphSMinus g ∧ graphSPlus g' = graphSPlus g ∧ graphS g' = graphS g ∧
    graphBuildS g' = graphBuildS g := by
  refine results_congr g g' hn fun role _ s _ r _ => ?_
  rw [asBipartite_fill g g' hn hd hm ha hs, joined_map_fill]

/-! ### Non-vacuity: `2 B → A` with a catalyst `C` on both sides

Nodes are inserted reaction first, species not in label order; `b` is typed by the flag only, `c`
carries `kind = "species"` and a contradicting flag, `a` has no label. The edges of `B` and of the
catalyst (reactant side) are written without / with `stoich`, the product edge of `A` without. -/

def exNodes : List BNode :=
  [⟨"r", some "reaction", none, some "R"⟩, ⟨"c", some "species", some 1, some "C"⟩,
   ⟨"b", none, some 0, some "B"⟩, ⟨"a", some "species", none, none⟩]

/-- canonical orientation: reactant `species → reaction`, product `reaction → species` -/
def exArcs : List BArc :=
  [⟨"b", "r", some "reactant", some 2⟩, ⟨"r", "a", some "product", none⟩,
   ⟨"c", "r", some "reactant", none⟩, ⟨"r", "c", some "product", some 1⟩]

/-- the `B` edge and the product edge of the catalyst written the other way round -/
def exArcsFlipped : List BArc :=
  [⟨"r", "b", some "reactant", some 2⟩, ⟨"r", "a", some "product", none⟩,
   ⟨"c", "r", some "reactant", none⟩, ⟨"c", "r", some "product", some 1⟩]

def exDi : BipGraph := ⟨exNodes, exArcs, true, false⟩
def exMultiDi : BipGraph := ⟨exNodes, exArcs, true, true⟩
def exMultiDiFlipped : BipGraph := ⟨exNodes, exArcsFlipped, true, true⟩
def exMulti : BipGraph := ⟨exNodes, exArcsFlipped, false, true⟩
/-- `nx.Graph`: one edge per pair, so the network is written without the reactant edge of `C` -/
def exGraph : BipGraph := ⟨exNodes, exArcsFlipped.take 2 ++ [⟨"c", "r", some "product", none⟩], false, false⟩
def exDiOfGraph : BipGraph := ⟨exNodes, exArcs.take 2 ++ [⟨"r", "c", some "product", none⟩], true, false⟩

theorem exReoriented : Reoriented exArcs exArcsFlipped := .flip _ (.keep _ (.keep _ (.flip _ .nil)))

/-- `graphS_eq_buildS` on the `DiGraph`, the `MultiGraph` and the `Graph`: hypotheses hold, both sides
are the expected `Ok` value (the catalyst cancels in `S` and shows in `S⁻`, `S⁺`). -/
example : wfB exDi = true ∧ wfB exMulti = true ∧ wfB exGraph = true ∧
    graphBuildS exDi = .ok ⟨["B", "C", "a"], ["R"], [[-2], [0], [1]]⟩ ∧
    buildS (netOfGraph exDi) = .ok ⟨["B", "C", "a"], ["R"], [[-2], [0], [1]]⟩ ∧
    graphSMinus exDi = [[2], [1], [0]] ∧ graphSPlus exDi = [[0], [1], [1]] ∧
    graphBuildS exMulti = .ok ⟨["B", "C", "a"], ["R"], [[-2], [0], [1]]⟩ ∧
    graphSMinus exMulti = [[2], [1], [0]] ∧ buildSMinus (netOfGraph exMulti) = [[2], [1], [0]] ∧
    graphBuildS exGraph = .ok ⟨["B", "C", "a"], ["R"], [[-2], [1], [1]]⟩ ∧
    buildS (netOfGraph exGraph) = .ok ⟨["B", "C", "a"], ["R"], [[-2], [1], [1]]⟩ := by decide +kernel

example : WF exMulti ∧ ReactionLabelsDistinct exMulti := wf_of_wfB _ (by decide +kernel)

/-- `graphS_orientation_invariant`: hypotheses satisfiable on a `MultiDiGraph`, and both readings are
the expected matrix. -/
example : exMultiDiFlipped.nodes = exMultiDi.nodes ∧ exMultiDi.multi = true ∧
    Reoriented exMultiDi.arcs exMultiDiFlipped.arcs ∧
    graphS exMultiDiFlipped = [[-2], [0], [1]] ∧ graphS exMultiDi = [[-2], [0], [1]] :=
  ⟨rfl, rfl, exReoriented, by decide +kernel⟩

/-- `graphS_orientation_invariant`: the side condition is necessary. On a non-multi `DiGraph` the
same reversal makes the product arc of the catalyst overwrite its reactant arc (`ArcsSimple` fails after the reversal) and
the matrix changes — NetworkX's behaviour, not the reader's. -/
example : ArcsSimple exDi ∧ ¬ ArcsSimple ⟨exNodes, exArcsFlipped, true, false⟩ ∧
    graphS exDi = [[-2], [0], [1]] ∧
    graphS ⟨exNodes, exArcsFlipped, true, false⟩ = [[-2], [1], [1]] := by decide +kernel

/-- `graphS_undirected_eq_directed`: `MultiGraph` vs `MultiDiGraph`, and `Graph` vs `DiGraph`, edges
written in different directions: hypotheses hold and the matrices are the expected ones. -/
example : IdsDistinct exMulti ∧ exMulti.directed = false ∧ exMultiDi.directed = true ∧
    Reoriented exMultiDi.arcs exMulti.arcs ∧
    graphSMinus exMulti = [[2], [1], [0]] ∧ graphSMinus exMultiDi = [[2], [1], [0]] ∧
    graphSPlus exMulti = [[0], [1], [1]] ∧ graphSPlus exMultiDi = [[0], [1], [1]] ∧
    IdsDistinct exGraph ∧ ArcsSimple exGraph ∧
    graphS exGraph = [[-2], [1], [1]] ∧ graphS exDiOfGraph = [[-2], [1], [1]] :=
  ⟨by decide +kernel, rfl, rfl, exReoriented, by decide +kernel⟩

/-- `graphS_missing_stoich`: two of the four edges have no `stoich`; spelling it out gives the same result. -/
example : exMulti.arcs.map BArc.fillStoich ≠ exMulti.arcs ∧
    graphBuildS ⟨exNodes, exMulti.arcs.map BArc.fillStoich, false, true⟩ = graphBuildS exMulti := by
  decide +kernel

/-- The `ValueError` branch agrees too: a graph without reaction nodes. -/
example : graphBuildS ⟨[⟨"a", some "species", none, none⟩], [], true, false⟩ = .error .valueError ∧
    buildS (netOfGraph ⟨[⟨"a", some "species", none, none⟩], [], true, false⟩) = .error .valueError := by
  decide +kernel

end SynKit.BipGraph
