import SynKitModel.CrnCanon
import SynKitProofs.CrnCanonLemmas
import SynKitProofs.CrnIRLemmas
import SynKitProofs.CrnViewLemmas
import SynKitProofs.CrnIRDepth
/-!
# C18 — network canonical form is a complete invariant; automorphism data are exact

Property theorems; the lemmas are in `SynKitProofs/CrnCanonLemmas.lean` (engine, `IsIsoF`, canonical forms),
`CrnOrbitLemmas.lean` (orbits), `CrnViewLemmas.lean` (the two views) and, for the search, `CrnIR*.lean`.  A theorem that
a lemma file needs restates the primed lemma of its name; the others carry their proofs here.

The property has five clauses.  On the model (`SynKitModel/CrnCanon.lean`: the two views as
directed attribute graphs, the specification `IsIsoF`/`IsIsoD` of a structure-preserving map with
the configured node / arc keys, the enumerator `allIsoD`, `canonBy`, `canonBruteD`, `orbitsD`):

1. *the canonical graph is isomorphic to the view it was computed from* — `canon_faithful`, for
   **every** node order, so the order found by the individualisation–refinement search (an
   external parameter, `canonical_perm`) need not be trusted;
2. *networks whose views are not isomorphic receive different canonical graphs* — `canon_kernel`
   (contrapositive: key-identical canonical graphs, whatever orders produced them, force
   isomorphic views);
3. *networks differing only by names receive identical canonical graphs* — proved in three
   steps: renaming species / reordering reactions / regenerating ids gives isomorphic views
   (`viewBip_iso_of_sameUpToNames`, `viewSpecies_iso_of_sameUpToNames`); isomorphic views have the
   same specification-level exact form (`canonBruteD_invariant` / `canonBruteD_complete`:
   isomorphic ⇔ equal form; network level: `canonBruteD_sameUpToNames_bip/_species`); and canonical
   graphs taken along *corresponding* orders are identical on the keys (`canon_equivariant`).
   `FullStatement` below states clause 3 for `canonBruteD`.  That the implementation's IR search
   itself returns corresponding orders (up to an automorphism) on isomorphic inputs is proved in
   the IR section of this file (`crn_ir_invariant`, `crn_ir_sameUpToNames_bip/_species`,
   `C18.IRStatement`) over the model `SynKitModel/CrnIR.lean` of `_search`;
4. *the automorphism count is the number of structure-preserving self-maps* — `mem_allIsoD`,
   `allIsoD_nodup`, `autcount_spec`;
5. *the orbits are exactly the classes of nodes exchangeable by automorphisms* —
   `orbits_partition_exact` (and `orbitsFast_eq` for the form the driver evaluates).
-/
namespace SynKit.CrnCanon
open SynKit.Core (orderKeys_iff)

/-- **C18, engine.** The back-tracking enumerator returns exactly the structure-preserving maps
of `P` onto `H` (directed arcs, self-loops included, node and arc attributes compared on the
configured keys with `.get` semantics): sound and complete. -/
theorem mem_allIsoD (sel : SelD) (H P : LGraph) (hP : P.ids.Nodup) (m : Mapping) :
    m ∈ allIsoD sel H P ↔ IsIsoD sel H P m := mem_allIsoD' sel H P hP m

/-- **C18, engine.** … and lists none of them twice. -/
theorem allIsoD_nodup (sel : SelD) (H P : LGraph) (hH : H.ids.Nodup) : (allIsoD sel H P).Nodup := by
  unfold allIsoD
  split
  · exact (extendG_nodup _ _ hH _ _).map List.reverse_injective
  · exact List.nodup_nil

/-- **C18, engine.** The isomorphism decision used by the kernel-agreement gate is exact. -/
theorem isoDecideD_iff (sel : SelD) (H P : LGraph) (hP : P.ids.Nodup) :
    isoDecideD sel H P = true ↔ ∃ f, IsIsoF sel H P f := by
  unfold isoDecideD
  rw [Bool.not_eq_true', List.isEmpty_eq_false_iff_exists_mem]
  exact ⟨fun ⟨m, hm⟩ => ⟨app m, ((mem_allIsoD' sel H P hP m).1 hm).2⟩,
    fun ⟨_, hf⟩ => ⟨_, (mem_allIsoD' sel H P hP _).2 (isIsoD_of_isIsoF hP hf)⟩⟩

/-- **C18, clause 1 (faithful).** For every order `perm` of the nodes the relabelled graph
`canonBy G perm` (ids `i + 1` along `perm`) is isomorphic to the view — under every choice of
keys, since all node attributes and all arcs with all their attributes are kept — and its node
ids are exactly `1..N`. -/
theorem canon_faithful (sel : SelD) (G : LGraph) (perm : List Nat) (hG : WFD G) (hperm : IsOrder G perm) :
    IsIsoF sel (canonBy G perm) G (posOf perm) ∧
    (canonBy G perm).ids.Perm (List.range' 1 G.ids.length) ∧
    (∀ v ∈ G.ids, (canonBy G perm).attrs (posOf perm v) = G.attrs v) ∧
    (∀ u ∈ G.ids, ∀ v ∈ G.ids, (canonBy G perm).arc? (posOf perm u) (posOf perm v) = G.arc? u v) :=
  canon_faithful' sel G perm hG hperm

/-- **C18, clause 2 (non-isomorphic views get different canonical graphs).** If two canonical
graphs — for whatever orders — are identical on the configured keys (the identity map is
structure preserving between them), the two views are isomorphic. -/
theorem canon_kernel (sel : SelD) (G G' : LGraph) (perm perm' : List Nat) (hG : WFD G) (hG' : WFD G')
    (hp : IsOrder G perm) (hp' : IsOrder G' perm')
    (hsame : IsIsoF sel (canonBy G perm) (canonBy G' perm') id) : ∃ f, IsIsoF sel G G' f := by
  obtain ⟨f1, -, -, -⟩ := canon_faithful' sel G' perm' hG' hp'
  obtain ⟨f2, -, -, -⟩ := canon_faithful' sel G perm hG hp
  exact ⟨_, isIsoF_trans hG'.1 (isIsoF_trans hG'.1 f1 hsame) (isIsoF_symm f2 hG.1)⟩

/-- Both views of a well-formed network are well-formed directed graphs (the hypotheses of the
graph-level theorems hold for every network). -/
theorem views_wfd (stoich : Bool) (N : Net) (hN : N.WF) : WFD (viewBip stoich N) ∧ WFD (viewSpecies N) :=
  ⟨viewBip_wfd' stoich N hN, viewSpecies_wfd' N hN⟩

/-- **C18, clause 3, step "renaming" (bipartite view).** Networks that differ only by species
names, reaction order, order inside the sides and reaction ids have isomorphic bipartite views,
with or without stoichiometry, for every choice of arc keys and node keys among `kind`,
`bipartite` (a species' `label` is its name and does change). -/
theorem viewBip_iso_of_sameUpToNames (sel : SelD) (stoich : Bool) (N N' : Net)
    (hsel : ∀ k ∈ sel.nodeKeys, k = "kind" ∨ k = "bipartite")
    (hN : N.WF) (hN' : N'.WF) (h : SameUpToNames N N') :
    ∃ f, IsIsoF sel (viewBip stoich N') (viewBip stoich N) f :=
  viewBip_iso_of_sameUpToNames' sel stoich N N' hsel hN hN' h

set_option linter.unusedVariables false in
/-- **… (species view)**, for node key `kind` and every choice of arc keys that does not mention
reaction ids: the defaults `role`, `stoich` (absent in this view: arcs compared as present /
absent) and the aggregated coefficients `stoich_r`, `stoich_p` (minima over the reactions that
contain the pair).  `via`, `rules`, `stoich_*_map` are excluded: `via` and the maps are keyed by
reaction ids, which renaming regenerates, and `rules` is listed in reaction order.  (`hN'` is not used.) -/
theorem viewSpecies_iso_of_sameUpToNames (sel : SelD) (N N' : Net)
    (hselN : ∀ k ∈ sel.nodeKeys, k = "kind")
    (hselE : ∀ k ∈ sel.edgeKeys, k ∉ ["via", "rules", "stoich_r_map", "stoich_p_map"])
    (hN : N.WF) (hN' : N'.WF) (h : SameUpToNames N N') :
    ∃ f, IsIsoF sel (viewSpecies N') (viewSpecies N) f :=
  viewSpecies_iso_of_sameUpToNames_stoich' sel N N' hselN hselE hN h

set_option linter.unusedVariables false in
/-- **C18, clause 3 on the exact canonical form (invariance).** Isomorphic views have the same
brute-force canonical form (least serialisation over all node orders).  (`hH` is not used.) -/
theorem canonBruteD_invariant (sel : SelD) (H P : LGraph) (hH : H.ids.Nodup) (hP : P.ids.Nodup)
    (h : ∃ f, IsIsoF sel H P f) : canonBruteD sel H = canonBruteD sel P := by
  obtain ⟨f, hf⟩ := h
  refine minList_congr _ _ fun x => ?_
  simp only [List.mem_map, mem_perms]
  exact orderKeys_iff (hf.iso hP).perm (serD sel H) (serD sel P)
    (fun o ho => congrArg codeVal (formD_map hf hP o fun _ hv => ho.subset hv)) x

/-- **C18, clause 3 on the exact canonical form (completeness).** Equal forms only for
isomorphic views. -/
theorem canonBruteD_complete (sel : SelD) (H P : LGraph) (hH : H.ids.Nodup) (hP : P.ids.Nodup)
    (h : canonBruteD sel H = canonBruteD sel P) : ∃ f, IsIsoF sel H P f := by
  obtain ⟨πH, hpH, eH⟩ := exists_serD_eq_canon sel H
  obtain ⟨πP, hpP, eP⟩ := exists_serD_eq_canon sel P
  have hform : formD sel H πH = formD sel P πP :=
    codeVal_injective _ _ (by unfold serD at eH eP; rw [eH, eP, h])
  exact ⟨posMap πP πH, isIsoF_of_iso (.of_form_eq (S := dirS sel H) (T := dirS sel P) hpH hpP (formD_inj hform)
    fun i hi hi' => Canon.unpos_pos_getElem πH πP (hpP.nodup_iff.2 hP) i hi hi') hH⟩

/-- **C18, clause 3 at network level (bipartite view).** Renamed networks have the same exact
canonical form. -/
theorem canonBruteD_sameUpToNames_bip (sel : SelD) (stoich : Bool) (N N' : Net)
    (hsel : ∀ k ∈ sel.nodeKeys, k = "kind" ∨ k = "bipartite")
    (hN : N.WF) (hN' : N'.WF) (h : SameUpToNames N N') :
    canonBruteD sel (viewBip stoich N') = canonBruteD sel (viewBip stoich N) :=
  canonBruteD_invariant sel _ _ (bip_ids_nodup stoich N') (bip_ids_nodup stoich N)
    (viewBip_iso_of_sameUpToNames' sel stoich N N' hsel hN hN' h)

/-- **… (species view).** -/
theorem canonBruteD_sameUpToNames_species (sel : SelD) (N N' : Net)
    (hselN : ∀ k ∈ sel.nodeKeys, k = "kind")
    (hselE : ∀ k ∈ sel.edgeKeys, k ∉ ["via", "rules", "stoich_r_map", "stoich_p_map"])
    (hN : N.WF) (hN' : N'.WF) (h : SameUpToNames N N') :
    canonBruteD sel (viewSpecies N') = canonBruteD sel (viewSpecies N) :=
  canonBruteD_invariant sel _ _ (sp_ids_nodup N') (sp_ids_nodup N)
    (viewSpecies_iso_of_sameUpToNames sel N N' hselN hselE hN hN' h)

/-- **C18, clause 3, step "corresponding orders".** If `f` maps the view `G` onto the view `G'`
structure-preservingly and `perm` is an order of `G`, the canonical graph of `G'` along the
transported order and the canonical graph of `G` along `perm` are identical on the configured
keys.  (So a search that returns corresponding orders — up to an automorphism — on isomorphic
inputs yields identical canonical graphs; that the IR search does so is `crn_ir_invariant` below.) -/
theorem canon_equivariant (sel : SelD) (G G' : LGraph) (f : Nat → Nat) (perm : List Nat)
    (hG : WFD G) (hG' : WFD G') (hf : IsIsoF sel G' G f) (hperm : IsOrder G perm) :
    IsOrder G' (perm.map f) ∧ IsIsoF sel (canonBy G' (perm.map f)) (canonBy G perm) id :=
  canon_equivariant' sel G G' f perm hG hG' hf hperm

/-- **C18, clause 4 (count).** `automorphism_count` of the model is the length of a
duplicate-free list whose members are exactly the structure-preserving self-maps of the view,
i.e. their number. -/
theorem autcount_spec (sel : SelD) (G : LGraph) (hG : G.ids.Nodup) :
    autCountD sel G = (autsD sel G).length ∧ (autsD sel G).Nodup ∧ ∀ m, m ∈ autsD sel G ↔ IsIsoD sel G G m :=
  ⟨rfl, allIsoD_nodup sel G G hG, fun m => mem_allIsoD' sel G G hG m⟩

/-- **C18, clause 5 (orbits).** The orbit list is a partition of the node set (no empty class,
classes inside the node set, every node covered, distinct entries disjoint) and two nodes share a
class exactly when some structure-preserving self-map sends one to the other. -/
theorem orbits_partition_exact (sel : SelD) (G : LGraph) (hG : G.ids.Nodup) :
    IsPartition (orbitsD sel G) G.ids ∧
    ∀ u ∈ G.ids, ∀ v ∈ G.ids, (SameClass (orbitsD sel G) u v ↔ ∃ σ ∈ autsD sel G, app σ u = v) := by
  obtain ⟨h1, h2⟩ := dedupL_orbits (mapGroup_isoF sel G hG) (orbitOf sel G)
    (fun a ha => mem_orbitOf_iff_orb sel G hG ha) fun a ha b hb => orbitOf_congr sel G hG ha hb
  exact ⟨h1, fun u hu v _ => (h2 u v).trans (orb_iff sel G hG hu v)⟩

/-- **C18, clause 5 for the code's own procedure (union–find).** Both analysers do not take images
of a node under all automorphisms; they *merge*: `_orbits_from_perms` merges position-wise, the VF2
analyser calls `union(src, dst)` for every pair of every mapping consumed.  For any node list and
any list of mappings over it, that merging yields a partition whose classes are exactly the
equivalence closure of the generator pairs … -/
theorem orbitsUF_spec (ids : List Nat) (maps : List Mapping) (hids : ids.Nodup)
    (hmaps : ∀ m ∈ maps, ∀ sd ∈ m, sd.1 ∈ ids ∧ sd.2 ∈ ids) :
    IsPartition (orbitsUF ids maps) ids ∧
    ∀ u ∈ ids, ∀ v ∈ ids, (SameClass (orbitsUF ids maps) u v ↔ Relation.EqvGen (GenRel maps) u v) :=
  orbitsUF_spec' ids maps hids hmaps

/-- … and, fed with all structure-preserving self-maps (which are closed under composition and
inverse: `isIsoF_trans`, `isIsoF_symm`), exactly the orbit partition. -/
theorem orbitsUF_auts (sel : SelD) (G : LGraph) (hG : G.ids.Nodup) :
    IsPartition (orbitsUF G.ids (autsD sel G)) G.ids ∧
    ∀ u ∈ G.ids, ∀ v ∈ G.ids, (SameClass (orbitsUF G.ids (autsD sel G)) u v ↔ ∃ σ ∈ autsD sel G, app σ u = v) := by
  -- a listed pair of an enumerated automorphism lies in an orbit, and every pair of an orbit is listed
  have hgen : ∀ a b, GenRel (autsD sel G) a b → Core.Orb G.ids (IsIsoF sel G G) a b := by
    rintro a b ⟨σ, h, hab⟩
    obtain ⟨h1, h2⟩ := (mem_allIsoD' sel G G hG σ).1 h
    exact ⟨h1 ▸ List.mem_map_of_mem (f := (·.1)) hab, _, h2, app_of_mem σ (h1 ▸ hG) a b hab⟩
  have hcov : ∀ u v, Core.Orb G.ids (IsIsoF sel G G) u v → Relation.EqvGen (GenRel (autsD sel G)) u v := by
    intro u v huv
    obtain ⟨σ, h, e⟩ := (orb_iff sel G hG huv.1 v).1 huv
    exact .rel _ _ ⟨σ, h, e ▸ mem_of_app σ u (((mem_allIsoD' sel G G hG σ).1 h).1 ▸ huv.1)⟩
  obtain ⟨hp, hS⟩ := orbitsUF_orbits (mapGroup_isoF sel G hG) (fun _ => Iff.rfl) hG (autsD sel G) hgen hcov
  exact ⟨hp, fun u hu v hv => (hS u hu v hv).trans (orb_iff sel G hG hu v)⟩

/-- The driver evaluates `orbitsFast` (automorphisms computed once); it is `orbitsD`. -/
theorem orbitsFast_eq (sel : SelD) (G : LGraph) : orbitsFast sel G = orbitsD sel G := rfl

/-- **C18 at full strength over the model.**  Both views of every well-formed network are
well-formed directed graphs; renamed networks have equal exact canonical forms (bipartite view:
any arc keys, stoichiometry on or off; species view: any arc keys that do not mention reaction
ids); and for every choice of keys and every well-formed directed attribute graph `G` (in particular both views of every network):
clauses 1, 2, 3 (on the exact form), 4 and 5. -/
def C18.FullStatement : Prop :=
  (∀ (stoich : Bool) (N : Net), N.WF → WFD (viewBip stoich N) ∧ WFD (viewSpecies N)) ∧
  (∀ (sel : SelD) (stoich : Bool) (N N' : Net), (∀ k ∈ sel.nodeKeys, k = "kind" ∨ k = "bipartite") →
    N.WF → N'.WF → SameUpToNames N N' →
    canonBruteD sel (viewBip stoich N') = canonBruteD sel (viewBip stoich N)) ∧
  (∀ (sel : SelD) (N N' : Net), (∀ k ∈ sel.nodeKeys, k = "kind") →
    (∀ k ∈ sel.edgeKeys, k ∉ ["via", "rules", "stoich_r_map", "stoich_p_map"]) →
    N.WF → N'.WF → SameUpToNames N N' →
    canonBruteD sel (viewSpecies N') = canonBruteD sel (viewSpecies N)) ∧
  ∀ (sel : SelD) (G : LGraph), WFD G →
    (∀ perm, IsOrder G perm →
      IsIsoF sel (canonBy G perm) G (posOf perm) ∧ (canonBy G perm).ids.Perm (List.range' 1 G.ids.length)) ∧
    (∀ G' perm perm', WFD G' → IsOrder G perm → IsOrder G' perm' →
      IsIsoF sel (canonBy G perm) (canonBy G' perm') id → ∃ f, IsIsoF sel G G' f) ∧
    (∀ G', G'.ids.Nodup → ((∃ f, IsIsoF sel G G' f) ↔ canonBruteD sel G = canonBruteD sel G')) ∧
    ((autsD sel G).Nodup ∧ (∀ m, m ∈ autsD sel G ↔ IsIsoD sel G G m) ∧ autCountD sel G = (autsD sel G).length) ∧
    (IsPartition (orbitsD sel G) G.ids ∧
      ∀ u ∈ G.ids, ∀ v ∈ G.ids, (SameClass (orbitsD sel G) u v ↔ ∃ σ ∈ autsD sel G, app σ u = v))

theorem C18.full : C18.FullStatement := by
  refine ⟨fun st N hN => views_wfd st N hN, fun sel st N N' hs hN hN' h => canonBruteD_sameUpToNames_bip sel st N N' hs hN hN' h,
    fun sel N N' h1 h2 hN hN' h => canonBruteD_sameUpToNames_species sel N N' h1 h2 hN hN' h, ?_⟩
  intro sel G hG
  refine ⟨fun perm hp => ?_, fun G' perm perm' hG' hp hp' h => ?_, fun G' hG' => ?_, ?_, ?_⟩
  · obtain ⟨h1, h2, -, -⟩ := canon_faithful sel G perm hG hp
    exact ⟨h1, h2⟩
  · exact canon_kernel sel G G' perm perm' hG hG' hp hp' h
  · exact ⟨canonBruteD_invariant sel G G' hG.1 hG', canonBruteD_complete sel G G' hG.1 hG'⟩
  · obtain ⟨h1, h2, h3⟩ := autcount_spec sel G hG.1
    exact ⟨h2, h3, h1⟩
  · exact orbits_partition_exact sel G hG.1

/-- `A + B ⇌ C`. -/
def exRev : Net :=
  { labels := ["A", "B", "C"]
    rxns := [⟨"r_1", "r", [(0, 1), (1, 1)], [(2, 1)]⟩, ⟨"r_2", "r", [(2, 1)], [(0, 1), (1, 1)]⟩] }
/-- `2A + B → C`: stoichiometry separates `A` from `B`. -/
def exStoich : Net := { labels := ["A", "B", "C"], rxns := [⟨"r_1", "r", [(0, 2), (1, 1)], [(2, 1)]⟩] }
/-- `exRev` with the species renamed (`A ↦ 2, B ↦ 0, C ↦ 1`), the reactions swapped and new ids. -/
def exRevRenamed : Net :=
  { labels := ["X", "Y", "Z"]
    rxns := [⟨"k_7", "r", [(1, 1)], [(0, 1), (2, 1)]⟩, ⟨"k_9", "r", [(0, 1), (2, 1)], [(1, 1)]⟩] }
def selDefault : SelD := ⟨["kind"], ["role", "stoich"]⟩

example : exRev.WF ∧ WFD (viewBip true exRev) ∧ WFD (viewSpecies exRev) := by decide +kernel
/-- the hypotheses of every theorem above hold on a view with a non-trivial automorphism … -/
example : autCountD selDefault (viewBip true exRev) = 2 ∧
    orbitsD selDefault (viewBip true exRev) = [[0, 1], [2], [3], [4]] := by decide +kernel
/-- … stoichiometry on / off changes the answer (finding F14 is about exactly this) … -/
example : autCountD selDefault (viewBip true exStoich) = 1 ∧ autCountD selDefault (viewBip false exStoich) = 2 := by decide +kernel
/-- … the union–find merging of the analysers gives the same partition … -/
example : orbitsUF (viewBip true exRev).ids (autsD selDefault (viewBip true exRev)) = orbitsD selDefault (viewBip true exRev) := by
  decide +kernel
/-- … an order that is a permutation of the nodes, and the ids `1..N` of its canonical graph … -/
example : IsOrder (viewBip true exRev) [4, 3, 2, 0, 1] ∧
    (canonBy (viewBip true exRev) [4, 3, 2, 0, 1]).ids = [4, 5, 3, 2, 1] := by decide +kernel
/-- … a renamed copy is isomorphic and a near miss is not (both views). -/
example : isoDecideD selDefault (viewBip true exRev) (viewBip true exRevRenamed) = true ∧
    isoDecideD selDefault (viewSpecies exRev) (viewSpecies exRevRenamed) = true ∧
    isoDecideD selDefault (viewBip true exStoich) (viewBip false exStoich) = false := by decide +kernel

/-! ## Negation witnesses for the code as it was before the repairs (DESIGN §6 F13, F14) -/

/-- `{v: i + 1 for i, v in enumerate(perm)}` when `perm` repeats nodes: the last position wins. -/
def posOfLast (perm : List Nat) (v : Nat) : Nat := perm.length - perm.reverse.idxOf v

/-- **F13 (before fix 0009).** For `A + B ⇌ C` the search returned `prefix ++ partition =
[A, B, r_2, r_1, A, B, C]`; that list is not an order of the view and the relabelled graph has
the ids 3..7 instead of 1..5 (so `canon_faithful`'s hypothesis fails on it, and ids are not 1..N). -/
example : ¬ IsOrder (viewBip true exRev) [0, 1, 4, 3, 0, 1, 2] ∧
    ((viewBip true exRev).relabel (posOfLast [0, 1, 4, 3, 0, 1, 2])).ids = [5, 6, 7, 4, 3] := by decide +kernel

/-- **F14 (before fix 0010).** The VF2 analyser compared no arc attributes (`edgeKeys = []`): on the
view of `2A + B → C` it counts the exchange of `A` and `B`, the specification with the configured
keys `role`, `stoich` does not. -/
example : autCountD ⟨["kind"], []⟩ (viewBip true exStoich) = 2 ∧
    autCountD selDefault (viewBip true exStoich) = 1 ∧
    orbitsD ⟨["kind"], []⟩ (viewBip true exStoich) ≠ orbitsD selDefault (viewBip true exStoich) := by decide +kernel

/-- `SameUpToNames` is satisfiable non-trivially: `exRevRenamed` is `exRev` with
`σ = (0 ↦ 2, 1 ↦ 0, 2 ↦ 1)`, the reactions swapped and the sides reordered. -/
example : SameUpToNames exRev exRevRenamed := by
  refine ⟨by decide, fun i => if i = 0 then 2 else if i = 1 then 0 else 1, by decide, by decide,
    [⟨"k_9", "r", [(0, 1), (2, 1)], [(1, 1)]⟩, ⟨"k_7", "r", [(1, 1)], [(0, 1), (2, 1)]⟩], ?_, by decide, ?_⟩
  · exact List.Perm.swap _ _ _
  · intro rr hrr
    simp only [exRev, List.zip_cons_cons, List.zip_nil_right, List.mem_cons, List.not_mem_nil, or_false] at hrr
    rcases hrr with rfl | rfl
    · exact ⟨rfl, List.Perm.swap _ _ _, List.Perm.refl _⟩
    · exact ⟨rfl, List.Perm.refl _, List.Perm.swap _ _ _⟩

/-! ## The search the implementation runs: individualisation–refinement (`CRNCanonicalizer._search`)

Model `SynKitModel/CrnIR.lean` (mirror of `_init_part`, `_sig`, `_refine`, `_label`, `_search`,
`_orbits_from_perms`, `_canon` of `synkit/CRN/Topo/canon.py`; no pruning, `max_depth = timeout_sec =
None`); lemma files `SynKitProofs/CrnIR{Search,Equiv,Tie,Lemmas,Depth}.lean`.  This section
closes the gap named at clause 3 above: *"two networks that differ only by renaming species,
reordering reactions or regenerating reaction ids receive identical canonical graphs"* is proved for
the canonical graph **the search itself produces** (`canonIRD`, `crnIrOrder`), not only for the
specification-level `canonBruteD`.

Python compares rendered label *strings*; the model keeps labels structured (`CrnLabel`) and every
theorem holds for **every** strict total order on them (`…_anyOrder`); `CrnLabel.lt` is the
instance the driver runs.  Hypotheses: node ids distinct and arcs between nodes (`WFD`: what a
NetworkX `DiGraph` guarantees; self-loops allowed), and `CrnAttrOK`: no selected attribute is `None`
or `""` (`_label` reads an absent attribute as `""`, `_sig` as `None`) and `order` is not tuple
valued — true of both views of every network (`views_attrOK`).  No non-emptiness hypothesis: since
repair F39 `_init_part` returns no cell for the empty graph, whose search tree is the single leaf
with the empty order (`crn_ir_empty_no_keys`). -/

open SynKit.Canon (StrictTotal PartRel PartSub IRPartOK)

/-- **C18, IR search, step 1 (refinement is equivariant).** For a node map `g : H → G` preserving
the look-ups of the selected node and arc attributes on every ordered pair (`CrnIso`), the initial
partitions correspond cell by cell and `_refine` maps corresponding partitions to corresponding
partitions. -/
theorem crn_refine_equivariant (sel : SelD) (G H : LGraph) (g : Nat → Nat) (hG : G.ids.Nodup) (h : CrnIso sel G H g) :
    PartRel g (crnInitPart sel H) (crnInitPart sel G) ∧
    ∀ P' P, PartRel g P' P → PartSub H.ids P' → PartRel g (crnRefine sel H P') (crnRefine sel G P) :=
  ⟨crnInitPart_rel h, fun _ _ hP hs => crnRefine_rel hG h hP hs⟩

/-- **C18, IR search, step 2 (the search trees correspond).** The leaves of `G`'s search tree are
exactly the images under `g` of the leaves of `H`'s, and corresponding leaves carry the same
label. -/
theorem crn_ir_leaves_equivariant (sel : SelD) (G H : LGraph) (g : Nat → Nat) (hG : G.ids.Nodup) (h : CrnIso sel G H g) :
    (∀ l, l ∈ crnRootLeaves sel G ↔ ∃ l' ∈ crnRootLeaves sel H, l = (l'.1.map g, l'.2.map g)) ∧
    (∀ l' ∈ crnRootLeaves sel H, crnLeafLabel sel G (l'.1.map g, l'.2.map g) = crnLeafLabel sel H l') :=
  ⟨crnRootLeaves_rel hG h, fun _ hl' => crnLeafLabel_rel h (h.nodup hG) hl'⟩

/-- **C18, IR search, step 3 (what `_search` returns).** The search is the fold of its leaf case
over the leaves of the search tree; on a graph with distinct ids it returns a leaf with the least
label, whose permutation lists every node exactly once (the point of repair F13), `perms` are the
permutations of *all* leaves with that label, and `perms[0]` is `canonical_perm`. -/
theorem crn_ir_result_spec (lt : CrnLabel → CrnLabel → Bool) (hlt : StrictTotal lt) (sel : SelD) (G : LGraph)
    (hG : G.ids.Nodup) :
    ∃ m ∈ crnRootLeaves sel G,
      crnIrWith lt sel G = some ⟨crnLeafLabel sel G m, m.2, crnWithLabel sel G (crnLeafLabel sel G m) (crnRootLeaves sel G)⟩ ∧
      IsOrder G m.2 ∧ (∀ l ∈ crnRootLeaves sel G, lt (crnLeafLabel sel G l) (crnLeafLabel sel G m) = false) ∧
      (crnPermsOf (crnIrWith lt sel G)).head? = some m.2 := by
  obtain ⟨m, hm, e, hp, hl, hhead⟩ := crnIrWith_spec lt hlt sel G hG
  refine ⟨m, hm, e, isOrder_of_perm hG hp, hl, ?_⟩
  simp only [e, crnPermsOf]
  exact hhead

/-- **C18, IR search, step 4 (fuel).** The model recurses on fuel where the code has a `while
changed` loop and an unbounded recursion.  With the model's fuel neither runs out: `_refine`
stops because its last pass split nothing (`changed = False`), more fuel gives the same refined
partition, the same search tree and the same result. -/
theorem crn_ir_fuel_adequate (lt : CrnLabel → CrnLabel → Bool) (sel : SelD) (G : LGraph) (hG : G.ids.Nodup) :
    (∀ P, IRPartOK G.ids P → ∃ Q, IRPartOK G.ids Q ∧ crnRefine sel G P = crnRefineStep sel G Q ∧
      (crnRefineStep sel G Q).length = Q.length) ∧
    (∀ P d, IRPartOK G.ids P → crnRefineLoop sel G (G.nodes.length + 1 + d) P = crnRefine sel G P) ∧
    (∀ d, crnLeaves sel G (G.nodes.length + 1 + d) (crnInitPart sel G) [] = crnRootLeaves sel G) ∧
    (∀ d, crnSearch lt sel G (G.nodes.length + 1 + d) (crnInitPart sel G) [] none = crnIrWith lt sel G) :=
  ⟨fun P hP => crnRefine_last_pass sel G P hP, fun P d hP => crnRefine_fuel sel G P hP d,
    fun d => crnLeaves_root_fuel sel G hG d, fun d => crnIrWith_fuel lt sel G hG d⟩

/-- **C18, IR search, step 5 (ties).** Two leaves of one search tree with the same label differ by
a structure-preserving self-map of the graph: position `i` of the first ↦ position `i` of the
second.  `_label` skips the diagonal, so self-loops (a catalyst gives `A → A` in the species view)
are not in the label; they are recovered from the refinement signature, which all leaves share
position by position. -/
theorem crn_ir_tie (sel : SelD) (G : LGraph) (hG : G.ids.Nodup) (hok : CrnAttrOK sel G)
    (l l' : List Nat × List Nat) (hl : l ∈ crnRootLeaves sel G) (hl' : l' ∈ crnRootLeaves sel G)
    (hlab : crnLeafLabel sel G l = crnLeafLabel sel G l') :
    IsIsoF sel G G (posMap l.2 l'.2) ∧ l.2.map (posMap l.2 l'.2) = l'.2 := by
  obtain ⟨h1, h2⟩ := crnIso_of_leaves sel G hG hok l l' hl hl' hlab
  exact ⟨isIsoF_of_crnIso hG h1, h2⟩

/-- **C18, clause 3 for the implementation's search, every label order.** For every strict total
order on labels — in particular Python's comparison of the rendered strings whenever rendering is
injective on the labels that occur — two views that are isomorphic on the configured keys get the
same minimum label, and their canonical graphs are identical on the configured keys (the identity
map is structure preserving between them: same ids `1..N`, same selected node attributes, same
arcs with the same selected attributes, self-loops included). -/
theorem crn_ir_invariant_anyOrder (lt : CrnLabel → CrnLabel → Bool) (hlt : StrictTotal lt) (sel : SelD) (G H : LGraph)
    (hG : WFD G) (hH : WFD H) (aG : CrnAttrOK sel G) (aH : CrnAttrOK sel H) (h : ∃ f, IsIsoF sel G H f) :
    (crnIrWith lt sel G).map (·.label) = (crnIrWith lt sel H).map (·.label) ∧
    IsIsoF sel (canonBy G (crnOrderOf (crnIrWith lt sel G))) (canonBy H (crnOrderOf (crnIrWith lt sel H))) id := by
  obtain ⟨f, hf⟩ := h
  exact crnIrWith_invariant lt hlt sel G H hG hH aG aH f hf

/-- **C18, clause 3 for the implementation's search (`crn_ir_invariant`).** Isomorphic views get
the same minimum label and key-identical canonical graphs from the individualisation–refinement
search as the driver runs it. -/
theorem crn_ir_invariant (sel : SelD) (G H : LGraph) (hG : WFD G) (hH : WFD H)
    (aG : CrnAttrOK sel G) (aH : CrnAttrOK sel H) (h : ∃ f, IsIsoF sel G H f) :
    crnIrLabel sel G = crnIrLabel sel H ∧ IsIsoF sel (canonIRD sel G) (canonIRD sel H) id :=
  crn_ir_invariant_anyOrder CrnLabel.lt CrnLabel.lt_strictTotal sel G H hG hH aG aH h

/-- **C18, clause 1 for the implementation's search (`crn_ir_faithful`).** `canonical_perm` lists
every node exactly once, so the canonical graph is isomorphic to the view it was computed from
(every key choice; all attributes kept) and its ids are `1..N`. -/
theorem crn_ir_faithful (sel sel' : SelD) (G : LGraph) (hG : WFD G) :
    IsOrder G (crnIrOrder sel G) ∧
    IsIsoF sel' (canonIRD sel G) G (posOf (crnIrOrder sel G)) ∧
    (canonIRD sel G).ids.Perm (List.range' 1 G.ids.length) ∧
    (∀ v ∈ G.ids, (canonIRD sel G).attrs (posOf (crnIrOrder sel G) v) = G.attrs v) ∧
    (∀ u ∈ G.ids, ∀ v ∈ G.ids,
      (canonIRD sel G).arc? (posOf (crnIrOrder sel G) u) (posOf (crnIrOrder sel G) v) = G.arc? u v) := by
  have ho : IsOrder G (crnIrOrder sel G) := crnOrderOf_isOrder CrnLabel.lt CrnLabel.lt_strictTotal sel G hG.1
  exact ⟨ho, canon_faithful sel' G _ hG ho⟩

/-- **C18, clauses 2 + 3 for the implementation's search: a complete invariant.** The canonical
graphs of two views are identical on the configured keys exactly when the views are isomorphic on
them. -/
theorem crn_ir_complete (sel : SelD) (G H : LGraph) (hG : WFD G) (hH : WFD H)
    (aG : CrnAttrOK sel G) (aH : CrnAttrOK sel H) :
    IsIsoF sel (canonIRD sel G) (canonIRD sel H) id ↔ ∃ f, IsIsoF sel G H f :=
  ⟨fun h => canon_kernel sel G H _ _ hG hH
      (crnOrderOf_isOrder CrnLabel.lt CrnLabel.lt_strictTotal sel G hG.1)
      (crnOrderOf_isOrder CrnLabel.lt CrnLabel.lt_strictTotal sel H hH.1) h,
    fun h => (crn_ir_invariant sel G H hG hH aG aH h).2⟩

/-- Both views of every network satisfy the attribute hypothesis (bipartite: node keys among
`kind`, `bipartite`; species: node key `kind`; every choice of arc keys). -/
theorem views_attrOK (sel : SelD) (stoich : Bool) (N : Net) :
    ((∀ k ∈ sel.nodeKeys, k = "kind" ∨ k = "bipartite") → CrnAttrOK sel (viewBip stoich N)) ∧
    ((∀ k ∈ sel.nodeKeys, k = "kind") → CrnAttrOK sel (viewSpecies N)) :=
  ⟨crnAttrOK_viewBip sel stoich N, crnAttrOK_viewSpecies sel N⟩

/-- **C18, clause 3 at network level, implementation's search (bipartite view).** Networks that
differ only by species names, reaction order, order inside the sides and reaction ids receive the
same minimum label and identical canonical graphs. -/
theorem crn_ir_sameUpToNames_bip (sel : SelD) (stoich : Bool) (N N' : Net)
    (hsel : ∀ k ∈ sel.nodeKeys, k = "kind" ∨ k = "bipartite")
    (hN : N.WF) (hN' : N'.WF) (h : SameUpToNames N N') :
    crnIrLabel sel (viewBip stoich N') = crnIrLabel sel (viewBip stoich N) ∧
    IsIsoF sel (canonIRD sel (viewBip stoich N')) (canonIRD sel (viewBip stoich N)) id :=
  crn_ir_invariant sel _ _ (viewBip_wfd' stoich N' hN') (viewBip_wfd' stoich N hN)
    (crnAttrOK_viewBip sel stoich N' hsel) (crnAttrOK_viewBip sel stoich N hsel)
    (viewBip_iso_of_sameUpToNames sel stoich N N' hsel hN hN' h)

/-- **… (species view)**, arc keys that do not mention reaction ids (cf.
`viewSpecies_iso_of_sameUpToNames`); catalysts (self-loops) included. -/
theorem crn_ir_sameUpToNames_species (sel : SelD) (N N' : Net)
    (hselN : ∀ k ∈ sel.nodeKeys, k = "kind")
    (hselE : ∀ k ∈ sel.edgeKeys, k ∉ ["via", "rules", "stoich_r_map", "stoich_p_map"])
    (hN : N.WF) (hN' : N'.WF) (h : SameUpToNames N N') :
    crnIrLabel sel (viewSpecies N') = crnIrLabel sel (viewSpecies N) ∧
    IsIsoF sel (canonIRD sel (viewSpecies N')) (canonIRD sel (viewSpecies N)) id :=
  crn_ir_invariant sel _ _ (viewSpecies_wfd' N' hN') (viewSpecies_wfd' N hN)
    (crnAttrOK_viewSpecies sel N' hselN) (crnAttrOK_viewSpecies sel N hselN)
    (viewSpecies_iso_of_sameUpToNames sel N N' hselN hselE hN hN' h)

/-- **C18, clause 5 for the canonicaliser's own procedure.** `_orbits_from_perms` applied to the
permutations of the least-label leaves yields a partition of the node set whose classes are
exactly the orbits of the structure-preserving self-maps: every listed permutation differs from
the first by such a map (`crn_ir_tie`) and, since nothing is pruned, every such map carries the
first onto a listed one.  For every label order. -/
theorem crn_ir_orbits_anyOrder (lt : CrnLabel → CrnLabel → Bool) (hlt : StrictTotal lt) (sel : SelD) (G : LGraph)
    (hG : G.ids.Nodup) (hok : CrnAttrOK sel G) :
    IsPartition (crnOrbitsFromPerms (crnPermsOf (crnIrWith lt sel G))) G.ids ∧
    ∀ u ∈ G.ids, ∀ v ∈ G.ids,
      (SameClass (crnOrbitsFromPerms (crnPermsOf (crnIrWith lt sel G))) u v ↔ ∃ σ ∈ autsD sel G, app σ u = v) :=
  crnOrbits_exact lt hlt sel G hG hok

/-- **… as the driver runs it**: the classes of `orbits` (`crnIrOrbits`) are the classes of the
specification's orbit partition `orbitsD` (clause 5 above). -/
theorem crn_ir_orbits (sel : SelD) (G : LGraph) (hG : G.ids.Nodup) (hok : CrnAttrOK sel G) :
    IsPartition (crnIrOrbits sel G) G.ids ∧
    ∀ u ∈ G.ids, ∀ v ∈ G.ids, (SameClass (crnIrOrbits sel G) u v ↔ SameClass (orbitsD sel G) u v) := by
  obtain ⟨h1, h2⟩ := crnOrbits_exact CrnLabel.lt CrnLabel.lt_strictTotal sel G hG hok
  refine ⟨h1, fun u hu v hv => ?_⟩
  rw [(orbits_partition_exact sel G hG).2 u hu v hv]
  exact h2 u hu v hv

/-- **C18 for the implementation's search, bundled.** For every well-formed pair of networks that
differ only by names: same minimum label and identical canonical graphs in both views; and for
every well-formed directed attribute graph with good attributes: the canonical graph is faithful,
a complete invariant, and the orbits are exact. -/
def C18.IRStatement : Prop :=
  (∀ (sel : SelD) (stoich : Bool) (N N' : Net), (∀ k ∈ sel.nodeKeys, k = "kind" ∨ k = "bipartite") →
    N.WF → N'.WF → SameUpToNames N N' →
    crnIrLabel sel (viewBip stoich N') = crnIrLabel sel (viewBip stoich N) ∧
    IsIsoF sel (canonIRD sel (viewBip stoich N')) (canonIRD sel (viewBip stoich N)) id) ∧
  (∀ (sel : SelD) (N N' : Net), (∀ k ∈ sel.nodeKeys, k = "kind") →
    (∀ k ∈ sel.edgeKeys, k ∉ ["via", "rules", "stoich_r_map", "stoich_p_map"]) →
    N.WF → N'.WF → SameUpToNames N N' →
    crnIrLabel sel (viewSpecies N') = crnIrLabel sel (viewSpecies N) ∧
    IsIsoF sel (canonIRD sel (viewSpecies N')) (canonIRD sel (viewSpecies N)) id) ∧
  ∀ (sel : SelD) (G : LGraph), WFD G → CrnAttrOK sel G →
    (IsOrder G (crnIrOrder sel G) ∧ IsIsoF sel (canonIRD sel G) G (posOf (crnIrOrder sel G)) ∧
      (canonIRD sel G).ids.Perm (List.range' 1 G.ids.length)) ∧
    (∀ H, WFD H → CrnAttrOK sel H →
      (IsIsoF sel (canonIRD sel G) (canonIRD sel H) id ↔ ∃ f, IsIsoF sel G H f)) ∧
    (IsPartition (crnIrOrbits sel G) G.ids ∧
      ∀ u ∈ G.ids, ∀ v ∈ G.ids, (SameClass (crnIrOrbits sel G) u v ↔ ∃ σ ∈ autsD sel G, app σ u = v))

theorem C18.ir_full : C18.IRStatement := by
  refine ⟨fun sel st N N' hs hN hN' h => crn_ir_sameUpToNames_bip sel st N N' hs hN hN' h,
    fun sel N N' h1 h2 hN hN' h => crn_ir_sameUpToNames_species sel N N' h1 h2 hN hN' h, ?_⟩
  intro sel G hG aG
  refine ⟨?_, fun H hH aH => crn_ir_complete sel G H hG hH aG aH,
    crn_ir_orbits_anyOrder CrnLabel.lt CrnLabel.lt_strictTotal sel G hG.1 aG⟩
  obtain ⟨h1, h2, h3, _, _⟩ := crn_ir_faithful sel sel G hG
  exact ⟨h1, h2, h3⟩

/-- **C18, IR search on the empty graph without node keys (repair F39).** `_init_part` returns no
cell (`[sorted(G.nodes())] if len(G) else []`), so `_refine` has nothing to do, the empty partition
is discrete and the root of the search tree is its only leaf: `canonical_perm = []`, the label of
the empty permutation, `sample_permutations = [[]]` (`automorphism_count = 1`: the empty map),
`orbits = []` and the canonical graph is the empty graph.  Both views of the network without species
and reactions are this graph.  Every choice of arc keys.  (Before the repair the initial partition
was `[[]]`, not discrete with no cell to individualise: `StopIteration`.) -/
theorem crn_ir_empty_no_keys (ek : List String) :
    crnInitPart ⟨[], ek⟩ {} = [] ∧
    crnRootLeaves ⟨[], ek⟩ {} = [([], [])] ∧
    crnIr ⟨[], ek⟩ {} = some ⟨⟨[], []⟩, [], [[]]⟩ ∧
    crnIrOrder ⟨[], ek⟩ {} = [] ∧
    crnIrLabel ⟨[], ek⟩ {} = some ⟨[], []⟩ ∧
    crnIrPerms ⟨[], ek⟩ {} = [[]] ∧ (crnIrPerms ⟨[], ek⟩ {}).length = 1 ∧
    crnIrOrbits ⟨[], ek⟩ {} = [] ∧
    canonIRD ⟨[], ek⟩ {} = {} ∧
    (∀ stoich, viewBip stoich ⟨[], []⟩ = {}) ∧ viewSpecies ⟨[], []⟩ = {} := by
  have hl : crnRootLeaves ⟨[], ek⟩ {} = [([], [])] := rfl
  have hir : crnIr ⟨[], ek⟩ {} = some ⟨⟨[], []⟩, [], [[]]⟩ := by
    rw [crnIr, crnIrWith_eq_fold, hl]
    rfl
  unfold canonIRD crnIrOrbits crnIrPerms crnIrLabel crnIrOrder
  rw [hir]
  exact ⟨rfl, hl, rfl, rfl, rfl, rfl, rfl, rfl, rfl, fun _ => rfl, rfl⟩

/-! ### The search with a depth cap (`summary(max_depth=d)`, `timeout_sec=None`)

`crnSearchCapped` mirrors `_search` with its `depth` counter, the test `depth > max_depth` at the entry of every
call, the returned flag that ends every enclosing loop, and `(best, perms)` as they stand at that moment;
`crnCanonCapped` adds `_canon`'s `RuntimeError` when no leaf was reached.  There is no pruning, so the capped
search is exactly the uncapped one cut off before the first leaf that lies deeper than the cap
(`crn_irCapped_exact`); (a), (b), (c) follow.  (a), (b) and the exact form hold for EVERY label comparison
`lt`, (c) for every strict total one — in particular for Python's comparison of the rendered strings. -/

/-- `crnDepth sel G`: no leaf of the search tree lies deeper, and it is at most the number of nodes. -/
theorem crnDepth_spec (sel : SelD) (G : LGraph) :
    (∀ l ∈ crnRootLeaves sel G, l.1.length ≤ crnDepth sel G) ∧ crnDepth sel G ≤ G.nodes.length :=
  ⟨(crnDepth_le_iff sel G _).1 (Nat.le_refl _), crnDepth_le_nodes sel G⟩

/-- **C18, IR search with `max_depth`, exact form.** On a graph with distinct ids, `_search` under the cap `d`
is the fold of its leaf case over the leaves of the search tree that come, in visiting order, before the
first leaf deeper than `d`; the returned flag (`early_stop`) says whether there is such a leaf. -/
theorem crn_irCapped_exact (lt : CrnLabel → CrnLabel → Bool) (sel : SelD) (G : LGraph) (hG : G.ids.Nodup) (d : Nat) :
    crnIrCappedWith lt sel G d =
      (crnFoldLeaves lt sel G (crnVisited d (crnRootLeaves sel G)) none, crnAnyDeeper d (crnRootLeaves sel G)) ∧
    ((crnIrCappedWith lt sel G d).2 = true ↔ ∃ l ∈ crnRootLeaves sel G, d < l.1.length) := by
  have e := crnIrCappedWith_eq lt sel G hG d
  refine ⟨e, ?_⟩
  rw [e]
  exact crnAnyDeeper_eq_true_iff d _

/-- **C18, IR search with `max_depth` (a): a cap at or above the deepest leaf is never reached.** If `d` is at
least the depth of the deepest leaf — in particular if `d` is at least the number of nodes of the view — the
capped search returns exactly `(best, perms)` of the uncapped search and `early_stop = False`:
`summary(max_depth=d)` is `summary()`. -/
theorem crn_irCapped_full (lt : CrnLabel → CrnLabel → Bool) (sel : SelD) (G : LGraph) (hG : G.ids.Nodup) (d : Nat) :
    (crnDepth sel G ≤ d → crnIrCappedWith lt sel G d = (crnIrWith lt sel G, false)) ∧
    (G.nodes.length ≤ d → crnIrCappedWith lt sel G d = (crnIrWith lt sel G, false)) ∧
    (crnDepth sel G ≤ d → ∃ b, crnIr sel G = some b ∧ crnCanonCapped sel G d = .ok (b, false)) := by
  refine ⟨fun h => crnIrCappedWith_full lt sel G hG d h,
    fun h => crnIrCappedWith_full lt sel G hG d (Nat.le_trans (crnDepth_le_nodes sel G) h), ?_⟩
  intro h
  obtain ⟨m, _, e, _⟩ := crnIrWith_spec CrnLabel.lt CrnLabel.lt_strictTotal sel G hG
  exact ⟨_, e, (crnCanonCapped_ok_iff ..).2 ((crnIrCappedWith_full CrnLabel.lt sel G hG d h).trans (by rw [e]))⟩

/-- **C18, IR search with `max_depth` (b): an answer with `early_stop = False` is the full answer.** Whatever the
cap, when the capped search returns without the flag its `(best, perms)` are those of the uncapped search: a
`summary(max_depth=d)` that reports `early_stop = False` reports the canonical permutation, the minimal-label
permutations, and hence count, orbits and canonical graph of `summary()`.  No hypothesis on the graph. -/
theorem crn_irCapped_flag_sound (lt : CrnLabel → CrnLabel → Bool) (sel : SelD) (G : LGraph) (d : Nat) :
    (∀ r, crnIrCappedWith lt sel G d = (r, false) → r = crnIrWith lt sel G) ∧
    (∀ b, crnCanonCapped sel G d = .ok (b, false) → crnIr sel G = some b) :=
  ⟨crnIrCappedWith_flag_sound lt sel G d, fun _ h =>
    (crnIrCappedWith_flag_sound CrnLabel.lt sel G d _ ((crnCanonCapped_ok_iff ..).1 h)).symm⟩

/-- **C18, IR search with `max_depth` (c): what a capped search returns is a leaf; when it raises.** On a graph
with distinct ids, for every strict total label order: every `(best, perms)` a capped search ends with —
flagged or not — comes from genuine leaves of the search tree at depth `≤ d`: `best` is the label and the
permutation of the first least-label leaf among the leaves visited before the stop, `perms` are the
permutations of all visited leaves carrying that label; the permutation lists every node exactly once, so
(`canon_faithful`) the canonical graph built from it is still isomorphic to the view, with ids `1..N`.  The
`RuntimeError` arises exactly when the FIRST leaf in visiting order lies deeper than `d` (the first call beyond
the cap ends the whole search), the flag is then up; in particular when no leaf has depth `≤ d`.  (The
converse of the last statement fails: `exCubic` below.) -/
theorem crn_irCapped_partial_is_leaf (lt : CrnLabel → CrnLabel → Bool) (hlt : StrictTotal lt) (sel sel' : SelD)
    (G : LGraph) (hG : WFD G) (d : Nat) :
    (∀ b e, crnIrCappedWith lt sel G d = (some b, e) →
      ∃ m ∈ crnRootLeaves sel G, m.1.length ≤ d ∧
        b = ⟨crnLeafLabel sel G m, m.2, crnWithLabel sel G (crnLeafLabel sel G m) (crnVisited d (crnRootLeaves sel G))⟩ ∧
        (∀ l ∈ crnVisited d (crnRootLeaves sel G), lt (crnLeafLabel sel G l) (crnLeafLabel sel G m) = false) ∧
        (∀ p ∈ b.perms, ∃ l ∈ crnRootLeaves sel G, l.1.length ≤ d ∧ l.2 = p ∧ crnLeafLabel sel G l = b.label) ∧
        IsOrder G b.perm ∧ IsIsoF sel' (canonBy G b.perm) G (posOf b.perm) ∧
        (canonBy G b.perm).ids.Perm (List.range' 1 G.ids.length)) ∧
    ((crnIrCappedWith lt sel G d).1 = none ↔ ∃ l rest, crnRootLeaves sel G = l :: rest ∧ d < l.1.length) ∧
    ((crnIrCappedWith lt sel G d).1 = none → crnIrCappedWith lt sel G d = (none, true)) ∧
    ((∀ l ∈ crnRootLeaves sel G, d < l.1.length) → crnIrCappedWith lt sel G d = (none, true)) := by
  obtain ⟨hnone, hflag⟩ := crnIrCappedWith_none_iff lt sel G hG.1 d
  refine ⟨fun b e h => ?_, hnone, hflag, fun h => hflag (hnone.2 ?_)⟩
  · obtain ⟨m, hm, hd, rfl, hleast, hperms⟩ := crnIrCappedWith_some lt hlt sel G hG.1 d h
    have ho : IsOrder G m.2 := isOrder_of_perm hG.1 (crnRootLeaves_perm sel G hG.1 m hm)
    have hf := canon_faithful sel' G m.2 hG ho
    exact ⟨m, hm, hd, rfl, hleast, hperms, ho, hf.1, hf.2.1⟩
  · cases hL : crnRootLeaves sel G with
    | nil => exact absurd hL (crnRootLeaves_ne_nil sel G hG.1)
    | cons l rest => exact ⟨l, rest, rfl, h l (hL ▸ List.mem_cons_self)⟩

/-- `A + B → A + C`: the catalyst `A` carries a self-loop in the species view. -/
def exCat : Net := { labels := ["A", "B", "C"], rxns := [⟨"r_1", "r", [(0, 1), (1, 1)], [(0, 1), (2, 1)]⟩] }
/-- `exCat` renamed (`A ↦ 2, B ↦ 1, C ↦ 0`). -/
def exCatRenamed : Net := { labels := ["P", "Q", "R"], rxns := [⟨"z", "r", [(1, 1), (2, 1)], [(0, 1), (2, 1)]⟩] }

/-- the hypotheses hold on concrete views (one with a non-trivial automorphism, one with a self-loop) … -/
example : WFD (viewBip true exRev) ∧ CrnAttrOK selDefault (viewBip true exRev) ∧
    WFD (viewSpecies exCat) ∧ CrnAttrOK selDefault (viewSpecies exCat) ∧
    (viewSpecies exCat).arc? 0 0 ≠ none := by decide +kernel
/-- The search trees of the example views, each evaluated once.  The examples below rewrite the search into the
fold over these leaves (`crnIrWith_eq_fold`, `crnIrCappedWith_eq`): the kernel compares the labels of six literal
permutations far faster than it runs `crnSearch`, whose state carries every label as an unevaluated refinement. -/
theorem exRev_rootLeaves : crnRootLeaves selDefault (viewBip true exRev) =
    [([0, 1], [4, 3, 0, 1, 2]), ([0, 2], [4, 3, 0, 2, 1]), ([1, 0], [4, 3, 1, 0, 2]), ([1, 2], [4, 3, 1, 2, 0]),
      ([2, 0], [4, 3, 2, 0, 1]), ([2, 1], [4, 3, 2, 1, 0])] := by decide +kernel

theorem exRevRenamed_rootLeaves : crnRootLeaves selDefault (viewBip true exRevRenamed) =
    [([0, 1], [3, 4, 0, 1, 2]), ([0, 2], [3, 4, 0, 2, 1]), ([1, 0], [3, 4, 1, 0, 2]), ([1, 2], [3, 4, 1, 2, 0]),
      ([2, 0], [3, 4, 2, 0, 1]), ([2, 1], [3, 4, 2, 1, 0])] := by decide +kernel

/-- One refinement makes the species views and the view with stoichiometry discrete; without stoichiometry `A` and
`B` of `2A + B → C` share a cell. -/
theorem exCat_rootLeaves : crnRootLeaves selDefault (viewSpecies exCat) = [([], [1, 2, 0])] ∧
    crnRootLeaves selDefault (viewSpecies exCatRenamed) = [([], [1, 0, 2])] ∧
    crnRootLeaves selDefault (viewBip true exStoich) = [([], [3, 1, 0, 2])] ∧
    crnRootLeaves selDefault (viewBip false exStoich) = [([0], [3, 0, 1, 2]), ([1], [3, 1, 0, 2])] := by decide +kernel

/-- … the search returns the order the implementation returns (`canonical_perm` of `A + B ⇌ C`:
`r_2, r_1, C, A, B`), two least-label leaves, the orbit `{A, B}` … -/
example : crnIrOrder selDefault (viewBip true exRev) = [4, 3, 2, 0, 1] ∧
    crnIrPerms selDefault (viewBip true exRev) = [[4, 3, 2, 0, 1], [4, 3, 2, 1, 0]] ∧
    crnIrOrbits selDefault (viewBip true exRev) = [[0, 1], [4], [3], [2]] := by
  unfold crnIrOrbits crnIrPerms crnIrOrder crnIr
  rw [crnIrWith_eq_fold, exRev_rootLeaves]
  decide +kernel
/-- … a renamed copy gets a different order but the same label and a key-identical canonical graph … -/
example : crnIrOrder selDefault (viewBip true exRevRenamed) = [3, 4, 1, 0, 2] ∧
    crnIrLabel selDefault (viewBip true exRev) = crnIrLabel selDefault (viewBip true exRevRenamed) ∧
    isIsoFBool selDefault (canonIRD selDefault (viewBip true exRev)) (canonIRD selDefault (viewBip true exRevRenamed)) id = true := by
  unfold canonIRD crnIrLabel crnIrOrder crnIr
  rw [crnIrWith_eq_fold, crnIrWith_eq_fold, exRev_rootLeaves, exRevRenamed_rootLeaves]
  decide +kernel
/-- … also in the species view with a catalyst; and a near miss gets a different label. -/
example : crnIrLabel selDefault (viewSpecies exCat) = crnIrLabel selDefault (viewSpecies exCatRenamed) ∧
    isIsoFBool selDefault (canonIRD selDefault (viewSpecies exCat)) (canonIRD selDefault (viewSpecies exCatRenamed)) id = true ∧
    crnIrLabel selDefault (viewBip true exStoich) ≠ crnIrLabel selDefault (viewBip false exStoich) := by
  obtain ⟨h1, h2, h3, h4⟩ := exCat_rootLeaves
  unfold canonIRD crnIrLabel crnIrOrder crnIr
  rw [crnIrWith_eq_fold, crnIrWith_eq_fold, crnIrWith_eq_fold, crnIrWith_eq_fold, h1, h2, h3, h4]
  decide +kernel

/-- A directed graph without attributes: the cubic graph on 8 nodes of `Props/C08.lean` (`irX`) with every edge
in both directions.  One refinement cell, several orbits: leaves at depths 1 and 2; the first leaf is a deep one. -/
def exCubic : LGraph :=
  { nodes := [(1, []), (2, []), (3, []), (4, []), (5, []), (6, []), (7, []), (8, [])]
    edges := [(1, 4, []), (1, 5, []), (1, 8, []), (2, 3, []), (2, 4, []), (2, 7, []), (3, 5, []), (3, 6, []),
      (4, 7, []), (5, 8, []), (6, 7, []), (6, 8, []),
      (4, 1, []), (5, 1, []), (8, 1, []), (3, 2, []), (4, 2, []), (7, 2, []), (5, 3, []), (6, 3, []),
      (7, 4, []), (8, 5, []), (7, 6, []), (8, 6, [])] }
/-- The same with the names 1 and 2 exchanged: the first leaf is a shallow one. -/
def exCubic' : LGraph :=
  { nodes := exCubic.nodes
    edges := [(2, 4, []), (2, 5, []), (2, 8, []), (1, 3, []), (1, 4, []), (1, 7, []), (3, 5, []), (3, 6, []),
      (4, 7, []), (5, 8, []), (6, 7, []), (6, 8, []),
      (4, 2, []), (5, 2, []), (8, 2, []), (3, 1, []), (4, 1, []), (7, 1, []), (5, 3, []), (6, 3, []),
      (7, 4, []), (8, 5, []), (7, 6, []), (8, 6, [])] }
def selNone : SelD := ⟨[], []⟩

example : WFD exCubic ∧ WFD exCubic' := by decide +kernel

/-- Every node of the cubic graphs has the same partition-independent signature; `cubNb`, `cubNb'` list the neighbours
in `exCubic`, `exCubic'` (the search trees are evaluated through `tabSys`: `crnSig` scans all arcs at every look-up). -/
private def cubInv (_ : Nat) : CrnSig := { attrs := [], inDeg := 3, outDeg := 3, counts := [], edges := [[], [], []] }
private def cubNb (v : Nat) : List Nat :=
  [[], [4, 5, 8], [3, 4, 7], [2, 5, 6], [1, 2, 7], [1, 3, 8], [3, 7, 8], [2, 4, 6], [1, 5, 6]].getD v []
private def cubNb' (v : Nat) : List Nat :=
  [[], [3, 4, 7], [4, 5, 8], [1, 5, 6], [1, 2, 7], [2, 3, 8], [3, 7, 8], [1, 4, 6], [2, 5, 6]].getD v []

theorem exCubic_rootLeaves : crnRootLeaves selNone exCubic =
    [([1, 2], [1, 2, 7, 6, 3, 5, 8, 4]), ([1, 7], [1, 7, 2, 3, 6, 8, 5, 4]), ([2], [2, 6, 5, 1, 8, 4, 7, 3]),
      ([3, 7], [3, 7, 8, 1, 4, 5, 2, 6]), ([3, 8], [3, 8, 7, 4, 1, 2, 5, 6]), ([4, 5], [4, 5, 8, 6, 3, 2, 7, 1]),
      ([4, 8], [4, 8, 5, 3, 6, 7, 2, 1]), ([5], [5, 6, 2, 4, 7, 1, 8, 3]), ([6, 2], [6, 2, 5, 1, 4, 8, 7, 3]),
      ([6, 5], [6, 5, 2, 4, 1, 7, 8, 3]), ([7], [7, 3, 8, 1, 5, 4, 2, 6]), ([8], [8, 3, 7, 4, 2, 1, 5, 6])] := by
  rw [crnRootLeaves_eq_tab selNone exCubic cubInv cubNb (by decide +kernel)]
  decide +kernel

theorem exCubic'_rootLeaves : crnRootLeaves selNone exCubic' =
    [([1], [1, 6, 5, 2, 8, 4, 7, 3]), ([2, 1], [2, 1, 7, 6, 3, 5, 8, 4]), ([2, 7], [2, 7, 1, 3, 6, 8, 5, 4]),
      ([3, 7], [3, 7, 8, 2, 4, 5, 1, 6]), ([3, 8], [3, 8, 7, 4, 2, 1, 5, 6]), ([4, 5], [4, 5, 8, 6, 3, 1, 7, 2]),
      ([4, 8], [4, 8, 5, 3, 6, 7, 1, 2]), ([5], [5, 6, 1, 4, 7, 2, 8, 3]), ([6, 1], [6, 1, 5, 2, 4, 8, 7, 3]),
      ([6, 5], [6, 5, 1, 4, 2, 7, 8, 3]), ([7], [7, 3, 8, 2, 5, 4, 1, 6]), ([8], [8, 3, 7, 4, 1, 2, 5, 6])] := by
  rw [crnRootLeaves_eq_tab selNone exCubic' cubInv cubNb' (by decide +kernel)]
  decide +kernel

/-- (a) `A + B ⇌ C`: the three species share a refinement cell, all six leaves at depth 2; `max_depth=2` is the full
search, `max_depth=1` (and 0) reaches no leaf -/
example : crnDepth selDefault (viewBip true exRev) = 2 ∧
    crnIrCapped selDefault (viewBip true exRev) 2 = (crnIr selDefault (viewBip true exRev), false) ∧
    crnIrCapped selDefault (viewBip true exRev) 1 = (none, true) ∧
    crnCanonCapped selDefault (viewBip true exRev) 0 = .error .notFound := by
  have hn : (viewBip true exRev).ids.Nodup := by decide
  have hd : crnDepth selDefault (viewBip true exRev) = 2 := by
    unfold crnDepth
    rw [exRev_rootLeaves]
    decide
  refine ⟨hd, crnIrCappedWith_full _ _ _ hn 2 (Nat.le_of_eq hd), ?_, ?_⟩
  · unfold crnIrCapped
    rw [crnIrCappedWith_eq _ _ _ hn, exRev_rootLeaves]
    decide
  · rw [crnCanonCapped_error_iff, crnIrCapped, crnIrCappedWith_eq _ _ _ hn, exRev_rootLeaves]
    decide
/-- leaves at different depths, the first one deep: `max_depth=1` raises although leaves of depth 1 exist (c) -/
example : (crnRootLeaves selNone exCubic).map (·.1.length) = [2, 2, 1, 2, 2, 2, 2, 1, 2, 2, 1, 1] ∧
    crnIrCapped selNone exCubic 1 = (none, true) := by
  unfold crnIrCapped
  rw [crnIrCappedWith_eq _ _ _ (by decide), exCubic_rootLeaves]
  decide
/-- an early stop WITH an answer (b), (c): on `exCubic'` `max_depth=1` visits the shallow first leaf and stops at
the first call of depth 2 — one permutation, flagged; the full search finds more; `max_depth=2` is the full search -/
example : (crnIrCapped selNone exCubic' 1).2 = true ∧
    crnPermsOf (crnIrCapped selNone exCubic' 1).1 = [[1, 6, 5, 2, 8, 4, 7, 3]] ∧
    ([1], [1, 6, 5, 2, 8, 4, 7, 3]) ∈ crnRootLeaves selNone exCubic' ∧
    crnIrCapped selNone exCubic' 2 = (crnIr selNone exCubic', false) := by
  have hn : exCubic'.ids.Nodup := by decide
  have hd : crnDepth selNone exCubic' ≤ 2 := by
    unfold crnDepth
    rw [exCubic'_rootLeaves]
    decide
  rw [crnIrCapped, crnIrCappedWith_eq _ _ _ hn 1, exCubic'_rootLeaves]
  exact ⟨by decide, by decide, by decide, crnIrCappedWith_full _ _ _ hn 2 hd⟩

end SynKit.CrnCanon
