import SynKitModel.Mcs
import SynKitProofs.McsLemmas
/-!
# C12 — maximum common subgraph results are valid and of maximum size

`find cfg mcs G₁ G₂` models `MCSMatcher(...).find_common_subgraph(G₁, G₂, mcs=…)` (main and MTG variant, with
or without automorphism pruning); `used cfg G` is the graph the search really runs on (`G` itself unless
wildcard pruning `prune_wc` is switched on).  `g1ToG2` lists (node of `G₁`, node of `G₂`) pairs, `mappings`
(pattern node, host node) pairs.
-/
namespace SynKit.Mcs
open SynKit.Match

/-- The specification spelled out: `IsCommonInduced` says injective both ways, nodes exist, the
selected node labels agree (the Python node closure), and for every two mapped atoms a bond of the
first graph has a bond between the images with matching order (the Python edge closure) while a
non-bond has a non-bond (presence and order, both directions). -/
theorem isCommonInduced_spelled (cfg : Cfg) (G₁ G₂ : LGraph) (m : Mapping) :
    IsCommonInduced cfg G₁ G₂ m ↔
      (m.map (·.1)).Nodup ∧ (∀ p ∈ m.map (·.1), p ∈ G₁.ids) ∧
      (m.map (·.2)).Nodup ∧ (∀ h ∈ m.map (·.2), h ∈ G₂.ids) ∧
      (∀ ph ∈ m, nodeMatchPy cfg.nodeKeys cfg.nodeDefaults (G₂.attrs ph.2) (G₁.attrs ph.1) = true) ∧
      (∀ ph ∈ m, ∀ qh ∈ m,
        (∀ a, G₁.edge? ph.1 qh.1 = some a → ∃ b, G₂.edge? ph.2 qh.2 = some b ∧ edgeMatch cfg b a = true) ∧
        (G₁.edge? ph.1 qh.1 = none → G₂.edge? ph.2 qh.2 = none) ∧
        (∀ b, G₂.edge? ph.2 qh.2 = some b → ∃ a, G₁.edge? ph.1 qh.1 = some a ∧ edgeMatch cfg a b = true) ∧
        (G₂.edge? ph.2 qh.2 = none → G₁.edge? ph.1 qh.1 = none)) := by
  unfold IsCommonInduced
  refine and_congr_right fun _ => and_congr_right fun _ => and_congr_right fun _ => and_congr_right fun _ =>
    and_congr Iff.rfl ?_
  refine forall₂_congr fun ph _ => forall₂_congr fun qh _ => ?_
  cases h1 : G₁.edge? ph.1 qh.1 <;> cases h2 : G₂.edge? ph.2 qh.2 <;> simp [EdgeAgree, edgeMatch_symm]

/-- **C12, the closures.** The engine's `.get`-equality closures on the normalised labels are exactly the
Python closures (`generic_node_match` with defaults; `_edge_match` of the variant). -/
theorem closures_normalised (cfg : Cfg) :
    (∀ a b, nodeOk theSel (normNodeAttrs cfg a) (normNodeAttrs cfg b) = nodeMatch cfg a b) ∧
    (∀ b a, edgeOk theSel (normEdgeAttrs cfg true b) (normEdgeAttrs cfg false a) = edgeMatch cfg b a) ∧
    (∀ a b, nodeMatch cfg a b = nodeMatch cfg b a) ∧ (∀ a b, edgeMatch cfg a b = edgeMatch cfg b a) :=
  ⟨nodeOk_norm cfg, edgeOk_norm cfg, nodeMatch_symm cfg, edgeMatch_symm cfg⟩

/-- **C12, validity (every mode, both variants, every direction).** Each mapping returned by
`get_mappings("G1_to_G2")` is a common induced sub-graph of the two graphs (injective, labels,
presence and order of every bond between mapped atoms both ways); `get_mappings("G2_to_G1")` the same
with the roles swapped; and the cached pattern→host list in the orientation the flag reports. -/
theorem mcs_valid (cfg : Cfg) (mcs : Bool) (G₁ G₂ : LGraph) (h₁ : G₁.WF) (h₂ : G₂.WF) :
    (∀ m ∈ (find cfg mcs G₁ G₂).g1ToG2, IsCommonInduced cfg (used cfg G₁) (used cfg G₂) m) ∧
    (∀ m ∈ (find cfg mcs G₁ G₂).g2ToG1, IsCommonInduced cfg (used cfg G₂) (used cfg G₁) m) ∧
    (∀ m ∈ (find cfg mcs G₁ G₂).mappings,
      ((find cfg mcs G₁ G₂).patternIsG1 = some true → IsCommonInduced cfg (used cfg G₁) (used cfg G₂) m) ∧
      ((find cfg mcs G₁ G₂).patternIsG1 = some false → IsCommonInduced cfg (used cfg G₂) (used cfg G₁) m)) := by
  obtain ⟨b, P, H, w, hp, hs, _, e1, e2, hc, _⟩ := find_oriented cfg mcs G₁ G₂ h₁ h₂
  have hv : ∀ m ∈ (search cfg mcs P H).1, IsCommonInduced cfg (used cfg G₁) (used cfg G₂) (dir b m) :=
    fun m hm => (hc m).2 (search_valid cfg mcs P H w m hm).2
  rw [e1, e2, hs, hp]
  refine ⟨List.forall_mem_map.2 hv, List.forall_mem_map.2 fun m hm => ?_, fun m hm => ⟨?_, ?_⟩⟩
  · rw [dir_not]; exact isCommonInduced_inverse _ _ _ _ (hv m hm)
  · rintro ⟨⟩; exact hv m hm
  · rintro ⟨⟩; exact (isCommonInduced_inverse_iff cfg _ _ m).2 (hv m hm)

/-- **C12, equal sizes.** In maximum mode every returned mapping (in each direction) has exactly
`last_size` pairs. -/
theorem mcs_same_size (cfg : Cfg) (G₁ G₂ : LGraph) (h₁ : G₁.WF) (h₂ : G₂.WF) :
    (∀ m ∈ (find cfg true G₁ G₂).mappings, m.length = (find cfg true G₁ G₂).lastSize) ∧
    (∀ m ∈ (find cfg true G₁ G₂).g1ToG2, m.length = (find cfg true G₁ G₂).lastSize) ∧
    (∀ m ∈ (find cfg true G₁ G₂).g2ToG1, m.length = (find cfg true G₁ G₂).lastSize) := by
  obtain ⟨b, P, H, _, _, hs, hl, e1, e2, _⟩ := find_oriented cfg true G₁ G₂ h₁ h₂
  have hsz := search_same_size cfg P H
  rw [e1, e2, hs, hl]
  exact ⟨hsz, List.forall_mem_map.2 fun m hm => (dir_length b m).trans (hsz m hm),
    List.forall_mem_map.2 fun m hm => (dir_length _ m).trans (hsz m hm)⟩

/-- **C12, maximality.** In maximum mode no common induced sub-graph of the two graphs has more nodes
than `last_size` (in particular, when nothing is returned — `last_size = 0` — not even a single pair
of atoms matches).  Holds with and without automorphism pruning, for both variants and whichever graph
served as the pattern. -/
theorem mcs_maximal (cfg : Cfg) (G₁ G₂ : LGraph) (h₁ : G₁.WF) (h₂ : G₂.WF) :
    ¬ ∃ m, IsCommonInduced cfg (used cfg G₁) (used cfg G₂) m ∧ m.length > (find cfg true G₁ G₂).lastSize := by
  rintro ⟨m, hm, hl⟩
  obtain ⟨b, P, H, w, _, _, e, _, _, _, hc⟩ := find_oriented cfg true G₁ G₂ h₁ h₂
  have := search_maximal cfg P H w (dir b m) ((hc m).1 hm)
  rw [dir_length] at this
  omega

/-- **C12, completeness at the maximum size (no automorphism pruning).** The returned list has no
duplicates and contains, up to the order in which the pairs are written, every non-empty common
induced sub-graph with `last_size` nodes — together with `mcs_valid`, `mcs_same_size` and
`mcs_maximal`: as a set it is exactly the set of maximum common induced sub-graphs. -/
theorem mcs_all_of_max_size (cfg : Cfg) (G₁ G₂ : LGraph) (h₁ : G₁.WF) (h₂ : G₂.WF)
    (hpr : cfg.pruneAut = false) :
    (find cfg true G₁ G₂).mappings.Nodup ∧ (find cfg true G₁ G₂).g1ToG2.Nodup ∧
    ∀ m, IsCommonInduced cfg (used cfg G₁) (used cfg G₂) m → m.length = (find cfg true G₁ G₂).lastSize →
      m ≠ [] → ∃ m' ∈ (find cfg true G₁ G₂).g1ToG2, m'.Perm m := by
  obtain ⟨b, P, H, w, _, hs, hl, e1, _, _, hc⟩ := find_oriented cfg true G₁ G₂ h₁ h₂
  obtain ⟨hn, hall⟩ := search_all cfg P H w hpr
  rw [e1, hs, hl]
  refine ⟨hn, hn.map_on fun x _ y _ hxy => ?_, fun m hm hlen hne => ?_⟩
  · rw [← dir_dir b x, hxy, dir_dir]
  · -- the search holds `dir b m` up to the order of its pairs; `dir b` takes that mapping back to `m`
    obtain ⟨m', hmem, hperm⟩ := hall _ ((hc m).1 hm) (by rw [dir_length, hlen]) fun h => hne <| by
      rw [← dir_dir b m, h]; cases b <;> rfl
    have := dir_perm b hperm
    rw [dir_dir] at this
    exact ⟨_, List.mem_map_of_mem hmem, this⟩

/-- **C12, automorphism pruning (main variant, maximum mode).** As the code is written, the pruned
result has the same `last_size` and orientation as the unpruned one, is a sub-set of it, keeps for
every mapping of the unpruned result a mapping with the same set of host nodes, and never keeps two
mappings with the same set of host nodes: exactly one survivor per distinct host node set.
(Which of the mappings sharing a host node set survives depends on the enumeration order and is not
fixed by the property.) -/
theorem mcs_pruned_one_per_hostset (cfg : Cfg) (G₁ G₂ : LGraph) (h₁ : G₁.WF) (h₂ : G₂.WF)
    (hpr : cfg.pruneAut = true) :
    (find cfg true G₁ G₂).lastSize = (find { cfg with prune := false } true G₁ G₂).lastSize ∧
    (find cfg true G₁ G₂).patternIsG1 = (find { cfg with prune := false } true G₁ G₂).patternIsG1 ∧
    (∀ m ∈ (find cfg true G₁ G₂).mappings, m ∈ (find { cfg with prune := false } true G₁ G₂).mappings) ∧
    (∀ m ∈ (find { cfg with prune := false } true G₁ G₂).mappings, ∃ m' ∈ (find cfg true G₁ G₂).mappings,
      ∀ x, x ∈ m.map (·.2) ↔ x ∈ m'.map (·.2)) ∧
    (find cfg true G₁ G₂).mappings.Pairwise (fun a b => ¬ ∀ x, x ∈ a.map (·.2) ↔ x ∈ b.map (·.2)) := by
  rw [find_eq cfg, find_eq { cfg with prune := false },
    show orient { cfg with prune := false } G₁ G₂ = orient cfg G₁ G₂ from rfl]
  -- the projections of the two records are reduced first: left to `exact` the unifier unfolds `search`
  dsimp only
  obtain ⟨a, b⟩ := search_pruned cfg _ _ (wf_orient cfg G₁ G₂ h₁ h₂) hpr
  exact ⟨a, rfl, b⟩

/-- **C12, the two directions are mutually inverse.** After a search, `get_mappings("G2_to_G1")` is
the list of pairwise inverses of `get_mappings("G1_to_G2")` and vice versa (position by position);
inverting twice is the identity; a common induced sub-graph read backwards is a common induced
sub-graph of the swapped pair; `pattern_to_host` is the direction the orientation flag names; any
other direction string is a `ValueError`. -/
theorem directions_inverse (cfg : Cfg) (mcs : Bool) (G₁ G₂ : LGraph) (h₁ : G₁.WF) (h₂ : G₂.WF) :
    let r := find cfg mcs G₁ G₂
    r.getMappings "G1_to_G2" = .ok r.g1ToG2 ∧ r.getMappings "G2_to_G1" = .ok r.g2ToG1 ∧
    r.g2ToG1 = r.g1ToG2.map Mapping.inverse ∧ r.g1ToG2 = r.g2ToG1.map Mapping.inverse ∧
    (∀ m : Mapping, Mapping.inverse (Mapping.inverse m) = m) ∧
    (∀ m, IsCommonInduced cfg (used cfg G₁) (used cfg G₂) m ↔
      IsCommonInduced cfg (used cfg G₂) (used cfg G₁) (Mapping.inverse m)) ∧
    r.getMappings "pattern_to_host" = .ok r.mappings ∧
    ((r.patternIsG1 = some true ∧ r.mappings = r.g1ToG2) ∨ (r.patternIsG1 = some false ∧ r.mappings = r.g2ToG1)) ∧
    (∀ d, d ≠ "pattern_to_host" → d ≠ "G1_to_G2" → d ≠ "G2_to_G1" → r.getMappings d = .error .valueError) := by
  obtain ⟨b, P, H, _, hp, hs, _, e1, e2, _⟩ := find_oriented cfg mcs G₁ G₂ h₁ h₂
  have h21 : ∀ l : List Mapping, l.map (dir (!b)) = (l.map (dir b)).map Mapping.inverse := fun l => by
    rw [List.map_map]; exact List.map_congr_left fun m _ => dir_not b m
  have h12 : ∀ l : List Mapping, l.map (dir b) = (l.map (dir (!b))).map Mapping.inverse := fun l => by
    rw [List.map_map]; exact List.map_congr_left fun m _ => by rw [Function.comp, dir_not, inverse_inverse]
  refine ⟨getMappings_g1 _, getMappings_g2 _, by rw [e1, e2]; exact h21 _, by rw [e1, e2]; exact h12 _,
    inverse_inverse, isCommonInduced_inverse_iff cfg _ _, dirs_pattern _, ?_, fun d => dirs_other _ b hp d⟩
  rw [hp, e1, e2, hs]
  cases b
  · exact Or.inr ⟨rfl, (List.map_id _).symm⟩
  · exact Or.inl ⟨rfl, (List.map_id _).symm⟩

/-- **C12, orientation swap.** When the first graph has more nodes than the second (main variant) the
second graph is used as the pattern; what is returned for the direction G1→G2 is nevertheless valid
for the pair (G₁, G₂) and, in maximum mode, of maximum size for that pair. -/
theorem orientation_swap_sound (cfg : Cfg) (mcs : Bool) (G₁ G₂ : LGraph) (h₁ : G₁.WF) (h₂ : G₂.WF)
    (hv : cfg.variant = .main) (hgt : (used cfg G₁).nodes.length > (used cfg G₂).nodes.length) :
    (find cfg mcs G₁ G₂).patternIsG1 = some false ∧
    ((find cfg mcs G₁ G₂).mappings, (find cfg mcs G₁ G₂).lastSize) = search cfg mcs (used cfg G₂) (used cfg G₁) ∧
    (∀ m ∈ (find cfg mcs G₁ G₂).g1ToG2, IsCommonInduced cfg (used cfg G₁) (used cfg G₂) m) ∧
    (mcs = true → (∀ m ∈ (find cfg mcs G₁ G₂).g1ToG2, m.length = (find cfg mcs G₁ G₂).lastSize) ∧
      ¬ ∃ m, IsCommonInduced cfg (used cfg G₁) (used cfg G₂) m ∧ m.length > (find cfg mcs G₁ G₂).lastSize) := by
  have hp : (find cfg mcs G₁ G₂).patternIsG1 = some false ∧
      ((find cfg mcs G₁ G₂).mappings, (find cfg mcs G₁ G₂).lastSize) = search cfg mcs (used cfg G₂) (used cfg G₁) := by
    rw [find_eq, orient, if_neg (by rw [hv]; simp; omega)]
    exact ⟨rfl, rfl⟩
  refine ⟨hp.1, hp.2, (mcs_valid cfg mcs G₁ G₂ h₁ h₂).1, ?_⟩
  rintro rfl
  exact ⟨(mcs_same_size cfg G₁ G₂ h₁ h₂).2.1, mcs_maximal cfg G₁ G₂ h₁ h₂⟩

/-- **Soundness of the brute-force check used by `spec.mcs`.** `existsOfSize … k` decides whether a
common induced sub-graph with exactly `k` nodes exists, and a larger one exists iff one with `k+1`
nodes does. -/
theorem existsOfSize_iff (cfg : Cfg) (G₁ G₂ : LGraph) (h₁ : G₁.WF) (k : Nat) :
    (existsOfSize cfg G₁ G₂ k = true ↔ ∃ m, IsCommonInduced cfg G₁ G₂ m ∧ m.length = k) ∧
    (existsOfSize cfg G₁ G₂ (k + 1) = true ↔ ∃ m, IsCommonInduced cfg G₁ G₂ m ∧ m.length > k) := by
  have base := existsOfSize_eq_true_iff cfg G₁ G₂ h₁
  refine ⟨base k, (base (k + 1)).trans ⟨fun ⟨m, hm, hl⟩ => ⟨m, hm, by omega⟩, ?_⟩⟩
  rintro ⟨m, hm, hl⟩
  exact ⟨m.take (k + 1), isCommonInduced_subperm cfg G₁ G₂ (List.take_sublist _ _).subperm hm, by
    rw [List.length_take]; omega⟩

/-- The whole property over the model: for every configuration (either variant, any attribute
selection, with or without automorphism / wildcard pruning) and every pair of well-formed graphs,
(1) in every mode each mapping returned for the direction G1→G2 is a common induced sub-graph
(injective, selected node labels preserved, presence and order of every bond between mapped atoms
preserved both ways) and the two directions are position-wise mutually inverse;
(2) in maximum mode all returned mappings have `last_size` pairs and no common induced sub-graph has
more nodes. -/
def C12.FullStatement : Prop :=
  ∀ (cfg : Cfg) (G₁ G₂ : LGraph), G₁.WF → G₂.WF →
    (∀ mcs : Bool,
      (∀ m ∈ (find cfg mcs G₁ G₂).g1ToG2, IsCommonInduced cfg (used cfg G₁) (used cfg G₂) m) ∧
      (find cfg mcs G₁ G₂).g2ToG1 = (find cfg mcs G₁ G₂).g1ToG2.map Mapping.inverse ∧
      (find cfg mcs G₁ G₂).g1ToG2 = (find cfg mcs G₁ G₂).g2ToG1.map Mapping.inverse) ∧
    (∀ m ∈ (find cfg true G₁ G₂).g1ToG2, m.length = (find cfg true G₁ G₂).lastSize) ∧
    (¬ ∃ m, IsCommonInduced cfg (used cfg G₁) (used cfg G₂) m ∧ m.length > (find cfg true G₁ G₂).lastSize)

/-- **C12.** The full statement holds. -/
theorem C12.full : C12.FullStatement := by
  intro cfg G₁ G₂ h₁ h₂
  refine ⟨fun mcs => ⟨(mcs_valid cfg mcs G₁ G₂ h₁ h₂).1, ?_, ?_⟩, (mcs_same_size cfg G₁ G₂ h₁ h₂).2.1,
    mcs_maximal cfg G₁ G₂ h₁ h₂⟩
  · exact (directions_inverse cfg mcs G₁ G₂ h₁ h₂).2.2.1
  · exact (directions_inverse cfg mcs G₁ G₂ h₁ h₂).2.2.2.1

example : exA.WF ∧ exB.WF ∧ exRing.WF ∧ exBare.WF ∧ exStar.WF := by decide +kernel

/-- `mcs_valid` / `mcs_same_size` / `mcs_maximal` on C–C–O vs C–O–C=C: three maximum mappings with two
atoms each (a C–O bond), written in pattern order although the host was inserted in another order. -/
example : (find {} true exA exB).g1ToG2 = [[(1, 13), (3, 11)], [(2, 10), (3, 11)], [(2, 12), (3, 11)]] ∧
    (find {} true exA exB).lastSize = 2 ∧ (find {} true exA exB).patternIsG1 = some true := by decide +kernel

/-- The specification discriminates: a C–O bond pair is common induced, C–C onto the non-bonded pair
10,12 is not (presence), C–C onto the double bond 12=13 is not (order), two atoms on one is not
(injectivity), C onto O is not (label). -/
example : IsCommonInduced {} exA exB [(2, 10), (3, 11)] ∧ ¬ IsCommonInduced {} exA exB [(1, 10), (2, 12)] ∧
    ¬ IsCommonInduced {} exA exB [(1, 12), (2, 13)] ∧ ¬ IsCommonInduced {} exA exB [(1, 10), (2, 10)] ∧
    ¬ IsCommonInduced {} exA exB [(1, 11)] := by decide +kernel

/-- Non-maximum mode returns all sizes (and, as coded, `last_size` is then the *smallest* level that
produced a mapping). -/
example : ((find {} false exA exB).g1ToG2.map List.length) = [2, 2, 2, 1, 1, 1, 1, 1, 1, 1] ∧
    (find {} false exA exB).lastSize = 1 := by decide +kernel

/-- `orientation_swap_sound` / `directions_inverse`: with the larger graph first the second graph is
the pattern, and the two directions are inverse to each other. -/
example : (find {} true exB exA).patternIsG1 = some false ∧
    (find {} true exB exA).mappings = [[(1, 13), (3, 11)], [(2, 10), (3, 11)], [(2, 12), (3, 11)]] ∧
    (find {} true exB exA).g1ToG2 = [[(13, 1), (11, 3)], [(10, 2), (11, 3)], [(12, 2), (11, 3)]] ∧
    (find {} true exB exA).g2ToG1 = (find {} true exB exA).mappings ∧
    (find {} true exB exA).getMappings "host_to_pattern" = .error .valueError ∧
    ({} : Result).getMappings "host_to_pattern" = .ok [] := by decide +kernel

/-- `mcs_all_of_max_size` / `mcs_pruned_one_per_hostset`: a carbon three-ring onto itself has six maximum
mappings, all with the same host node set; automorphism pruning keeps exactly one. -/
example : (find {} true exRing exRing).mappings.length = 6 ∧
    (find { prune := true } true exRing exRing).mappings.length = 1 ∧
    (find { prune := true } true exRing exRing).lastSize = 3 := by decide +kernel

/-- `closures_normalised` in action: an absent element reads as the default `"*"` and so matches an explicit
`"*"`; an absent order matches an explicit `None` in the main variant (both-`None` rule) but nothing in
the MTG variant, where the two bond-less atoms still match one at a time. -/
example : (find {} true exBare exStar).lastSize = 2 ∧
    (find { variant := .mtg } true exBare exStar).lastSize = 1 ∧
    (find { variant := .mtg } true exBare exStar).g1ToG2 = [[(1, 8)], [(2, 7)]] := by decide +kernel

end SynKit.Mcs
