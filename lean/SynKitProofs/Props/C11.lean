import SynKitProofs.AutomorphismOrbits
import SynKitProofs.AutomorphismWL
import SynKitProofs.ReactorLink
import SynKitProofs.Props.C05
import SynKitProofs.ReactorPartialLemmas
/-!
# C11 — automorphism groups and orbits are exact; the orbit estimate never separates an orbit;
de-duplication returns a sub-list

Reading of "label-preserving automorphism": a bijection of the node set that keeps the selected
node attributes, maps bonds onto bonds with equal selected bond attributes and non-bonds onto
non-bonds — `Match.IsIso sel G G m` with the hydrogen rule off (`Cfg.sel`).  The exact analyser reads
attributes through the defaults of `categorical_*_match` (`normalize`), the estimate through `.get`;
on graphs that carry every selected attribute the two readings coincide (`est_coarser_than_exact`).

The last clause of C11 ("the symmetry pruning used during rule application never changes the set of
distinct reactions") is a statement about `SynReactor` and is not provable from
`deduplicate_matches_with_anchor` alone: its signature merges matches that are not related by any
automorphism of the pattern (`dedup_merges_non_automorphic`, DESIGN §6 F11).  For the modelled reactor with
the repaired pruning (`pruneByAut`) the clause is proved: `C11.pruning_clause_model`, hence `C11.full_model`;
for match lists that hold partial matches (`SynReactor(partial=True)`) and for the `max_group` fall-back, on
the routine followed literally (`prunePartial`, `pruneWithCap`): section `PartialPruning`.
-/
namespace SynKit.Aut
open SynKit.Match

/-- **C11, count, connected case** (the code's branch `len(comps) <= 1`; `components_spec`
ties that test to reachability).  The reported number of automorphisms is the length of a duplicate-free
list that contains exactly the label-preserving self-isomorphisms of the graph. -/
theorem aut_count_exact (c : Cfg) (G : LGraph) (hwf : G.WF) (hconn : (components G).length ≤ 1) :
    (analyze c G).nAut = (auts c.sel (normalize c G)).length ∧
    (auts c.sel (normalize c G)).Nodup ∧
    ∀ m, m ∈ auts c.sel (normalize c G) ↔ IsIso c.sel (normalize c G) (normalize c G) m := by
  have hn := normalize_wf c hwf
  exact ⟨(analyze_connected c hwf hconn).2.1, allInduced_nodup _ _ _ hn.1, mem_auts_iff hn⟩

/-- **C11, orbits, connected case.**  Two nodes lie in one reported orbit exactly when some
label-preserving automorphism sends the first to the second; no anchor is reported. -/
theorem orbits_exact (c : Cfg) (G : LGraph) (hwf : G.WF) (hconn : (components G).length ≤ 1) (u v : Nat) :
    (SameClass (analyze c G).orbits u v ↔
      ∃ m, IsIso c.sel (normalize c G) (normalize c G) m ∧ m.get? u = some v) ∧
    (analyze c G).anchor = none := by
  obtain ⟨horb, _, hanc⟩ := analyze_connected c hwf hconn
  exact ⟨(horb u v).trans (iso_iff_autFn (normalize_wf c hwf)).symm, hanc⟩

/-- **C11, count, disconnected graphs**: the product over the components of the exact number of
automorphisms of each component (component swaps deliberately excluded); each factor is the length of
the duplicate-free list of exactly the self-isomorphisms of that component. -/
theorem aut_count_components (c : Cfg) (G : LGraph) (hwf : G.WF) (hdis : 1 < (components G).length) :
    (analyze c G).nAut =
      ((components G).map fun comp => (auts c.sel (induce (normalize c G) comp)).length).foldl (· * ·) 1 ∧
    ∀ comp ∈ components G,
      (auts c.sel (induce (normalize c G) comp)).Nodup ∧
      ∀ m, m ∈ auts c.sel (induce (normalize c G) comp) ↔
        IsIso c.sel (induce (normalize c G) comp) (induce (normalize c G) comp) m := by
  refine ⟨(analyze_disconnected c hwf hdis).2.1, fun comp _ => ?_⟩
  have hw := LGraph.wf_induce (normalize_wf c hwf) comp
  exact ⟨allInduced_nodup _ _ _ hw.1, mem_auts_iff hw⟩

/-- **C11, orbits, disconnected graphs**: two nodes share a reported orbit exactly when they are
exchanged by an automorphism of (the sub-graph induced on) one component; the anchor is what
`_choose_anchor` makes of the component list (`chooseAnchor`: the first component of maximal size, or none
when `anchor_largest_component` is off) — no separate specification of it is proved. -/
theorem orbits_exact_components (c : Cfg) (G : LGraph) (hwf : G.WF) (hdis : 1 < (components G).length) (u v : Nat) :
    (SameClass (analyze c G).orbits u v ↔
      ∃ comp ∈ components G, ∃ m,
        IsIso c.sel (induce (normalize c G) comp) (induce (normalize c G) comp) m ∧ m.get? u = some v) ∧
    (analyze c G).anchor = chooseAnchor c (components G) := by
  obtain ⟨horb, _, hanc⟩ := analyze_disconnected c hwf hdis
  exact ⟨(horb u v).trans (exists_congr fun comp => and_congr_right fun _ =>
    (iso_iff_autFn (LGraph.wf_induce (normalize_wf c hwf) comp)).symm), hanc⟩

/-- **C11, the label-preserving automorphisms form a group** (identity, inverses, composition), so
"exchangeable by an automorphism" is an equivalence relation and the orbits are its classes. -/
theorem aut_group (sel : Sel) (hh : sel.hcountRule = false) (G : LGraph) (hwf : G.WF) :
    (∃ m, IsIso sel G G m ∧ ∀ v ∈ G.ids, m.get? v = some v) ∧
    (∀ m, IsIso sel G G m → ∃ m', IsIso sel G G m' ∧ ∀ u v, m.get? u = some v → m'.get? v = some u) ∧
    (∀ m₁ m₂, IsIso sel G G m₁ → IsIso sel G G m₂ →
      ∃ m₃, IsIso sel G G m₃ ∧ ∀ u v w, m₁.get? u = some v → m₂.get? v = some w → m₃.get? u = some w) := by
  refine ⟨⟨_, (IsIsoFn.id sel hwf).isIso hwf, fun v hv => ofFn_get? hv⟩, fun m hm => ?_, fun m₁ m₂ h1 h2 => ?_⟩
  · obtain ⟨g, hg, hgf⟩ := IsAutFn.inv hh hwf hm.isoFn
    refine ⟨_, hg.isIso hwf, fun u v huv => ?_⟩
    obtain ⟨hu, hf, rfl⟩ := autFn_of_isIso hm huv
    rw [ofFn_get? (hf.node u hu).1, hgf u hu]
  · refine ⟨_, (h2.isoFn.comp h1.isoFn).isIso hwf, fun u v w huv hvw => ?_⟩
    obtain ⟨hu, _, rfl⟩ := autFn_of_isIso h1 huv
    obtain ⟨_, _, rfl⟩ := autFn_of_isIso h2 hvw
    exact ofFn_get? hu

/-- **C11, every node lies in a reported orbit** (connected or not), so together with `aut_group`
the reported orbits are exactly the classes of the relation "exchangeable by an automorphism (of the
node's component)". -/
theorem orbits_cover (c : Cfg) (G : LGraph) (hwf : G.WF) (v : Nat) (hv : v ∈ G.ids) :
    ∃ O ∈ (analyze c G).orbits, v ∈ O := by
  have hn := normalize_wf c hwf
  have hvn : v ∈ (normalize c G).ids := (normalize_ids c G).symm ▸ hv
  suffices h : SameClass (analyze c G).orbits v v from let ⟨O, hO, hvO, _⟩ := h; ⟨O, hO, hvO⟩
  by_cases hconn : (components G).length ≤ 1
  · exact ((analyze_connected c hwf hconn).1 v v).2 ((mapGroup_autFn rfl hn).refl hvn)
  · obtain ⟨comp, hcomp, hvc⟩ := components_cover hv
    exact ((analyze_disconnected c hwf (by omega)).1 v v).2 ⟨comp, hcomp,
      (mapGroup_autFn rfl (LGraph.wf_induce hn comp)).refl (LGraph.mem_ids_induce.2 ⟨hvn, hvc⟩)⟩

/-- **C11, what "connected" and "component" mean in the theorems above**: the code's test
`len(comps) <= 1` holds exactly for graphs whose nodes are mutually reachable along bonds, every node
lies in a component, and every component is the set of nodes reachable from one of its nodes. -/
theorem components_spec (G : LGraph) (hwf : G.WF) :
    ((components G).length ≤ 1 ↔ Connected G) ∧
    (∀ v ∈ G.ids, ∃ comp ∈ components G, v ∈ comp) ∧
    (∀ comp ∈ components G, ∃ w ∈ G.ids, ∀ x, x ∈ comp ↔ Reach G w x) := by
  refine ⟨components_connected_iff hwf, fun v hv => components_cover hv, ?_⟩
  intro comp hcomp
  obtain ⟨w, hw, rfl⟩ := mem_components hcomp
  exact ⟨w, hw, mem_compOf_iff hwf hw⟩

/-- **C11, colour refinement is invariant under automorphisms at every round**: an automorphism
`σ` (given as the mapping `m`, `σ u = v`) keeps the colour of round `k`, for every `k`. -/
theorem wl_coarsens (c : EstCfg) (G : LGraph) (hwf : G.WF) (m : Mapping) (hm : IsIso c.sel G G m)
    (u v : Nat) (huv : m.get? u = some v) (k : Nat) :
    colorOf (colorsAt c G k) v = colorOf (colorsAt c G k) u := by
  obtain ⟨hu, hf, rfl⟩ := autFn_of_isIso hm huv
  exact colorsAt_inv c hwf hf k u hu

/-- **C11, the orbit estimate never separates two nodes of one true orbit** (for whichever number
of sweeps `max_iter` allows, early stop included). -/
theorem est_never_separates (c : EstCfg) (G : LGraph) (hwf : G.WF) (m : Mapping) (hm : IsIso c.sel G G m)
    (u v : Nat) (huv : m.get? u = some v) : SameClass (estOrbits c G) u v := by
  obtain ⟨hu, hf, rfl⟩ := autFn_of_isIso hm huv
  exact estOrbits_inv c hwf hf hu

/-- **C11, the estimate is coarser than the exact analysis** on graphs that carry every selected
attribute (where reading attributes through the matcher's defaults and through `.get` coincide):
two nodes the exact analysis puts into one orbit — connected graph or, for a disconnected graph, one
component's automorphism — are never separated by the estimate, whatever `max_iter`. -/
theorem est_coarser_than_exact (c : Cfg) (G : LGraph) (hwf : G.WF)
    (hc : AttrComplete c.nodeKeys c.edgeKeys G) (maxIter : Nat) (u v : Nat)
    (h : SameClass (analyze c G).orbits u v) :
    SameClass (estOrbits { nodeKeys := c.nodeKeys, edgeKeys := c.edgeKeys, maxIter := maxIter } G) u v := by
  obtain ⟨hu, f, hf, rfl⟩ := orbits_sound c hwf h
  exact estOrbits_inv { nodeKeys := c.nodeKeys, edgeKeys := c.edgeKeys, maxIter := maxIter } hwf
    (autFn_of_normalize c hwf hc hf) hu

/-- **C11, de-duplication returns a sub-list of its input in the original order.** -/
theorem dedup_sublist (a : DedupArgs) (ms r : List Mapping) (h : dedup a ms = .ok r) : List.Sublist r ms := by
  unfold dedup at h
  split at h
  · cases h; exact List.Sublist.refl _
  · exact (dedupLoop_spec _ _ _ _ h).1

/-- **C11, de-duplication keeps no two matches with the same signature.** -/
theorem dedup_nodup_sig (a : DedupArgs) (ms r : List Mapping)
    (horb : ¬ (a.patternOrbits.isNone && a.hostOrbits.isNone) = true) (h : dedup a ms = .ok r) :
    r.Pairwise (fun m₁ m₂ => signature a m₁ ≠ signature a m₂) ∧ ∀ m ∈ r, ∃ s, signature a m = .ok s := by
  unfold dedup at h
  rw [if_neg horb] at h
  obtain ⟨_, h1, h2, _⟩ := dedupLoop_spec _ _ _ _ h
  exact ⟨h2, fun m hm => let ⟨s, hs, _⟩ := h1 m hm; ⟨s, hs⟩⟩

/-- **C11, de-duplication loses no signature class**: every input match has a kept match with the
same signature (so exactly one match per signature, by `dedup_nodup_sig`). -/
theorem dedup_complete (a : DedupArgs) (ms r : List Mapping)
    (horb : ¬ (a.patternOrbits.isNone && a.hostOrbits.isNone) = true) (h : dedup a ms = .ok r) :
    ∀ m ∈ ms, ∃ m' ∈ r, signature a m' = signature a m := by
  unfold dedup at h
  rw [if_neg horb] at h
  intro m hm
  obtain ⟨s, hs, hcase⟩ := (dedupLoop_spec _ _ _ _ h).2.2.2 m hm
  rcases hcase with hc | ⟨m', hm', hs'⟩
  · cases hc
  · exact ⟨m', hm', by rw [hs, hs']⟩

/-- **C11, without orbit information nothing is removed.** -/
theorem dedup_id (pa : Option (List Nat)) (ms : List Mapping) :
    dedup ⟨none, pa, none⟩ ms = .ok ms := rfl

def ex_el (e : String) : Attrs := [("element", .str e), ("charge", .num 0)]
def ex_bond : Attrs := [("order", .num 2)]
def exGraph : LGraph :=
  { nodes := [(5, ex_el "C"), (1, ex_el "C"), (3, ex_el "C"), (2, ex_el "N"), (8, ex_el "N")]
    edges := [(5, 1, ex_bond), (3, 1, ex_bond), (8, 2, ex_bond)] }
def exPath : LGraph :=
  { nodes := [(5, ex_el "C"), (1, ex_el "C"), (3, ex_el "C")], edges := [(5, 1, ex_bond), (3, 1, ex_bond)] }
def exCfg : Cfg := { nodeKeys := ["element", "charge"], edgeKeys := ["order"] }
def exEst : EstCfg := { nodeKeys := ["element", "charge"], edgeKeys := ["order"] }

/-- connected case is non-vacuous: the path has 2 automorphisms and orbits {1}, {3,5} -/
example : exPath.WF ∧ (components exPath).length ≤ 1 ∧ (analyze exCfg exPath).nAut = 2 ∧
    SameClass (analyze exCfg exPath).orbits 5 3 ∧ ¬ SameClass (analyze exCfg exPath).orbits 5 1 := by decide +kernel

/-- disconnected case is non-vacuous: 2 · 2 automorphisms, anchor = the path -/
example : exGraph.WF ∧ 1 < (components exGraph).length ∧ (analyze exCfg exGraph).nAut = 4 ∧
    (analyze exCfg exGraph).anchor = some [1, 3, 5] ∧ SameClass (analyze exCfg exGraph).orbits 2 8 := by decide +kernel

/-- `est_coarser_than_exact` is non-vacuous: the example graph carries every selected attribute -/
example : AttrComplete exCfg.nodeKeys exCfg.edgeKeys exGraph ∧ Connected exPath := by
  refine ⟨by unfold AttrComplete; decide +kernel, (components_connected_iff (by decide +kernel)).1 (by decide +kernel)⟩

/-- the estimate on the same graph: classes {1}, {3,5}, {2,8} -/
example : SameClass (estOrbits exEst exGraph) 5 3 ∧ SameClass (estOrbits exEst exGraph) 2 8 ∧
    ¬ SameClass (estOrbits exEst exGraph) 5 1 ∧ estAnchor exGraph = [1, 3, 5] := by decide +kernel

/-- two 3-rings: the estimate can be strictly coarser — one colour class for all six nodes, where the exact
analysis (per component, component swaps excluded) lists the orbits {0,1,2} and {3,4,5} -/
example :
    let g : LGraph := { nodes := [(0, []), (1, []), (2, []), (3, []), (4, []), (5, [])]
                        edges := [(0, 1, []), (1, 2, []), (2, 0, []), (3, 4, []), (4, 5, []), (5, 3, [])] }
    (estOrbits { nodeKeys := [], edgeKeys := [] } g).length = 1 := by decide +kernel

/-- de-duplication is non-vacuous: orbits {0,2},{1} of a path pattern merge the two orientations -/
example : dedup ⟨some [[0, 2], [1]], none, none⟩ [[(0, 7), (1, 8), (2, 9)], [(0, 9), (1, 8), (2, 7)], [(0, 7), (1, 8), (2, 6)]]
    = .ok [[(0, 7), (1, 8), (2, 9)], [(0, 7), (1, 8), (2, 6)]] := by decide +kernel

/-- a host node outside the given host orbits is an error, as in the code -/
example : dedup ⟨none, none, some [[7, 8]]⟩ [[(0, 7)], [(0, 9)]] = .error .valueError := by decide +kernel

/-- **Witness for the pruning clause (DESIGN §6 F11).**  Pattern `c–a–b–d` (path, orbits `{a,b}`,
`{c,d}`; its only non-trivial automorphism swaps `a↔b` and `c↔d` simultaneously).  The two matches
below differ by the transposition `a↔b` alone, which is NOT an automorphism of the pattern, yet they
have the same signature and the second is dropped. -/
theorem dedup_merges_non_automorphic :
    let pat : LGraph := { nodes := [(0, []), (1, []), (2, []), (3, [])], edges := [(2, 0, []), (0, 1, []), (1, 3, [])] }
    let sel : Sel := { nodeKeys := [], edgeKeys := [], hcountRule := false }
    let m₁ : Mapping := [(0, 10), (1, 11), (2, 12), (3, 13)]
    let m₂ : Mapping := [(0, 11), (1, 10), (2, 12), (3, 13)]
    (analyze { nodeKeys := [], edgeKeys := [] } pat).orbits = [[0, 1], [2, 3]] ∧
    dedup ⟨some [[2, 3], [0, 1]], none, none⟩ [m₁, m₂] = .ok [m₁] ∧
    [(0, 1), (1, 0), (2, 2), (3, 3)] ∉ auts sel pat := by decide +kernel

/-- **C11 at full strength.**  `ReactorClause` stands for the last clause ("the symmetry pruning
used during rule application never changes the set of distinct reactions obtained compared with
applying the rule at every match"), a statement about `SynReactor` whose model belongs to the reactor
properties (C03–C05). -/
def C11.FullStatement (ReactorClause : Prop) : Prop :=
  (∀ (c : Cfg) (G : LGraph), G.WF →
    -- connected graphs: exact count and exact orbits
    (Connected G →
      ((analyze c G).nAut = (auts c.sel (normalize c G)).length ∧ (auts c.sel (normalize c G)).Nodup ∧
        ∀ m, m ∈ auts c.sel (normalize c G) ↔ IsIso c.sel (normalize c G) (normalize c G) m) ∧
      ∀ u v, SameClass (analyze c G).orbits u v ↔
        ∃ m, IsIso c.sel (normalize c G) (normalize c G) m ∧ m.get? u = some v) ∧
    -- disconnected graphs: the same per component, component swaps excluded
    (¬ Connected G →
      (analyze c G).nAut =
        ((components G).map fun comp => (auts c.sel (induce (normalize c G) comp)).length).foldl (· * ·) 1 ∧
      ∀ u v, SameClass (analyze c G).orbits u v ↔
        ∃ comp ∈ components G, ∃ m,
          IsIso c.sel (induce (normalize c G) comp) (induce (normalize c G) comp) m ∧ m.get? u = some v) ∧
    (∀ v ∈ G.ids, ∃ O ∈ (analyze c G).orbits, v ∈ O)) ∧
  -- the estimate never separates a true orbit, at any round
  (∀ (c : EstCfg) (G : LGraph), G.WF → ∀ m, IsIso c.sel G G m → ∀ u v, m.get? u = some v →
    (∀ k, colorOf (colorsAt c G k) v = colorOf (colorsAt c G k) u) ∧ SameClass (estOrbits c G) u v) ∧
  -- de-duplication returns a sub-list in the original order
  (∀ (a : DedupArgs) (ms r : List Mapping), dedup a ms = .ok r → List.Sublist r ms) ∧
  ReactorClause

/-- **C11 without the reactor clause** (`_partial`: the reactor clause is a hypothesis here; it is
decided with the reactor model, see DESIGN §6 F11 — on the pinned tree it is violated). -/
theorem C11.full_partial (ReactorClause : Prop) (hR : ReactorClause) : C11.FullStatement ReactorClause := by
  refine ⟨?_, ?_, fun a ms r h => dedup_sublist a ms r h, hR⟩
  · intro c G hwf
    refine ⟨?_, ?_, fun v hv => orbits_cover c G hwf v hv⟩
    · intro hc
      have hconn := (components_connected_iff hwf).2 hc
      exact ⟨aut_count_exact c G hwf hconn, fun u v => (orbits_exact c G hwf hconn u v).1⟩
    · intro hc
      have hdis := Nat.lt_of_not_le (mt (components_connected_iff hwf).1 hc)
      exact ⟨(aut_count_components c G hwf hdis).1, fun u v => (orbits_exact_components c G hwf hdis u v).1⟩
  · intro c G hwf m hm u v huv
    exact ⟨fun k => wl_coarsens c G hwf m hm u v huv k, est_never_separates c G hwf m hm u v huv⟩

/-- **C11, reactor clause, for the modelled reactor with the repaired pruning** (`pruneByAut`, draft
fix 0015): pruning the matches by the automorphisms of the rule never changes the set of reactions
obtained, compared with gluing at every match (`ReactorLink.PruningClauseModel`; proof:
`ReactorLink.glue_aut_iso` — matches that differ by a rule automorphism glue to isomorphic ITS
graphs — and `prune_preserves_results_on`).  For the pruning as coded on the pinned tree the clause
is false (`dedup_merges_non_automorphic`, DESIGN §6 F11). -/
theorem C11.pruning_clause_model : SynKit.ReactorLink.PruningClauseModel :=
  fun maxGroup host T ms hH hT hms =>
    SynKit.ReactorInv.C05.prune_preserves_implicitResults maxGroup host T ms hH hT hms

/-- **C11 at full strength for the model**: every clause, the reactor clause being that of the
modelled reactor with the repaired pruning. -/
theorem C11.full_model : C11.FullStatement SynKit.ReactorLink.PruningClauseModel :=
  C11.full_partial _ C11.pruning_clause_model

/-- Non-vacuity of the reactor clause: a well-formed substrate and rule with two exchangeable atoms;
the exhaustive search finds two matches (each an `IsMono`, by `mem_allMonos`), the rule has two
automorphisms, the pruning keeps one match. -/
example : SynKit.Reactor.WFHost SynKit.ReactorLink.exSymHost ∧ SynKit.Reactor.WFTemplate SynKit.ReactorLink.exSymRule ∧
    (allMonos SynKit.Reactor.monoSel SynKit.ReactorLink.exSymHost (SynKit.Reactor.left SynKit.ReactorLink.exSymRule)).length = 2 ∧
    (auts SynKit.ReactorLink.itsSel SynKit.ReactorLink.exSymRule).length = 2 ∧
    (SynKit.ReactorInv.pruneByAut 5040 (SynKit.Reactor.left SynKit.ReactorLink.exSymRule).ids
      (auts SynKit.ReactorLink.itsSel SynKit.ReactorLink.exSymRule)
      (allMonos SynKit.Reactor.monoSel SynKit.ReactorLink.exSymHost (SynKit.Reactor.left SynKit.ReactorLink.exSymRule))).length = 1 := by
  decide +kernel

example : ∀ m ∈ allMonos SynKit.Reactor.monoSel SynKit.ReactorLink.exSymHost (SynKit.Reactor.left SynKit.ReactorLink.exSymRule),
    IsMono SynKit.Reactor.monoSel SynKit.ReactorLink.exSymHost (SynKit.Reactor.left SynKit.ReactorLink.exSymRule) m :=
  fun m hm => (mem_allMonos _ _ _ (SynKit.Reactor.left_wf _ (by decide +kernel)) m).1 hm

/-! ### The reactor clause for match lists with PARTIAL matches and for the `max_group` fall-back

`SynReactor(partial=True)` hands the pruning the matches of `PartialMatcher`: dicts that may lack
pattern nodes.  `prunePartial` / `pruneWithCap` (`SynKitModel/ReactorInv.lean`) follow
`_prune_by_rule_automorphisms` literally on such lists.  What the code does with a match that lacks a
pattern node: it builds NO key for it and passes it through (`if any(p not in m for p in keep):
unique.append(m); continue`), so partial matches are never merged — neither with each other nor with
total ones — and the pruning acts on the matches that cover the pattern only.  The theorems below say
so, and that this never changes the set of reactions. -/
section PartialPruning
open SynKit.ReactorInv

/-- **C11, reactor clause (partial matches), the kept matches are a sub-list of the raw matches in the
original order** — nothing is invented, reordered or duplicated, partial matches included. -/
theorem C11.prunePartial_sublist (keep : List Nat) (group ms r : List Mapping)
    (h : prunePartial keep group ms = .ok r) : r.Sublist ms :=
  (covers_prunePartial keep group ms r h).1

/-- **C11, reactor clause (partial matches), what is dropped is covered.**  Every raw match is kept, or
a kept match `m'` is related to it by rule automorphisms as a partial map: `m ∘ σ₁ = m' ∘ σ₂` on the
pattern nodes for listed `σ₁, σ₂` — undefined at the same pattern nodes (`domOn`: the two composites
have the same domain, the pre-image of the domain of `m` under `σ₁`).  With the code as it is, a match
is only ever dropped in favour of a match that covers the pattern, and covers it itself. -/
theorem C11.prunePartial_covers (keep : List Nat) (group ms r : List Mapping)
    (h : prunePartial keep group ms = .ok r) :
    ∀ m ∈ ms, m ∈ r ∨ ∃ m' ∈ r, coversB keep m = true ∧ coversB keep m' = true ∧
      ∃ σ₁ ∈ group, ∃ σ₂ ∈ group, (∀ p ∈ keep, pcomp m σ₁ p = pcomp m' σ₂ p) ∧ domOn keep m σ₁ = domOn keep m' σ₂ := by
  intro m hm
  refine ((covers_prunePartial keep group ms r h).2 m hm).imp id fun ⟨m', hm', c, c', hr⟩ => ?_
  obtain ⟨σ₁, h₁, σ₂, h₂, hpt⟩ := related_relatedP keep group m m' hr
  exact ⟨m', hm', c, c', σ₁, h₁, σ₂, h₂, hpt, domOn_congr keep m σ₁ m' σ₂ hpt⟩

/-- **C11, reactor clause (partial matches), a match that lacks a pattern node is never pruned**: the
matches that do not cover the pattern come back exactly — the same ones, as often, in the same order. -/
theorem C11.prunePartial_keeps_lacking (keep : List Nat) (group ms r : List Mapping)
    (h : prunePartial keep group ms = .ok r) :
    r.filter (fun m => !coversB keep m) = ms.filter (fun m => !coversB keep m) ∧
    ∀ m ∈ ms, coversB keep m = false → m ∈ r := by
  obtain ⟨-, rfl⟩ := (prunePartial_eq_ok keep group ms r).1 h
  have hk : ∀ m, coversB keep m = false → (keyP keep group m).key? = none := fun m hc => by
    rw [(keyP_lacking_iff keep group m).2 hc]
    rfl
  exact ⟨dedupKey_filter _ _ [] ms fun m _ hm => hk m (by simpa using hm),
    fun m hm hc => dedupKey_none _ [] ms m hm (hk m hc)⟩

/-- **C11, reactor clause (partial matches), on total matches the relation is the one of the total-map
theorems.**  For a match that covers the pattern nodes and automorphisms that map pattern nodes to
pattern nodes, "common partial image" (`RelatedP`) is "common image" (`Related`, the relation of
`PruneSpec` / `pruneSpec_preserves_results`). -/
theorem C11.prunePartial_total (keep : List Nat) (group : List Mapping)
    (hg : ∀ σ ∈ group, ∀ p ∈ keep, ∃ q ∈ keep, Mapping.get? σ p = some q)
    (m m' : Mapping) (hm : coversB keep m = true) :
    RelatedP keep group m m' ↔ Related keep group m m' :=
  ⟨relatedP_related keep group hg m m' hm, related_relatedP keep group m m'⟩

/-- **C11, reactor clause (partial matches), the routine meets the specification the total-map
theorems use** (`PruneSpec`: sub-list; every raw match kept or `Related` to a kept one) — on ANY list,
partial matches included: those are kept. -/
theorem C11.prunePartial_spec (keep : List Nat) (group ms r : List Mapping)
    (h : prunePartial keep group ms = .ok r) : PruneSpec keep group ms r :=
  (covers_prunePartial keep group ms r h).pruneSpec

/-- **C11, reactor clause (partial matches): pruning never changes the set of distinct reactions.**
Under the gluing hypothesis of the total-map theorem (`GlueAutInvariant`: composing a match with a
listed rule automorphism does not change what it glues to), the reactions obtained from the kept
matches and from all raw matches are the same set — for lists that hold partial matches too, and
whatever a partial match glues to. -/
theorem C11.prunePartial_reaction_set {R : Type} {E : R → R → Prop} (hE : Equivalence E) (glue : Mapping → List R)
    (keep : List Nat) (group : List Mapping) (hinv : GlueAutInvariant E glue keep group)
    (ms r : List Mapping) (h : prunePartial keep group ms = .ok r) :
    SetEqMod E (resultsOf glue r) (resultsOf glue ms) :=
  (covers_prunePartial keep group ms r h).results hE glue fun σ hσ m _ _ => hinv σ hσ m

/-- The same with the gluing hypothesis demanded only of the raw matches that cover the pattern (the
form the concrete reactor provides: `concrete_glue_aut` speaks about matches of the prepared pattern). -/
theorem C11.prunePartial_reaction_set_on {R : Type} {E : R → R → Prop} (hE : Equivalence E) (glue : Mapping → List R)
    (keep : List Nat) (group : List Mapping) (ms r : List Mapping)
    (hinv : ∀ σ ∈ group, ∀ m ∈ ms, coversB keep m = true → ∀ k, composeOn keep m σ = some k → SetEqMod E (glue k) (glue m))
    (h : prunePartial keep group ms = .ok r) :
    SetEqMod E (resultsOf glue r) (resultsOf glue ms) :=
  (covers_prunePartial keep group ms r h).results hE glue hinv

/-- **C11, reactor clause, the `max_group` fall-back.**  With more listed automorphisms than `cap` the
matches come back unchanged; otherwise the bound plays no role (`prunePartial`); in both cases the
kept matches are a sub-list of the raw ones and — under `GlueAutInvariant` — give the same set of
reactions. -/
theorem C11.pruneWithCap_spec {R : Type} {E : R → R → Prop} (hE : Equivalence E) (glue : Mapping → List R)
    (cap : Nat) (keep : List Nat) (group ms : List Mapping) :
    (group.length > cap → pruneWithCap cap keep group ms = .ok ms) ∧
    (¬ group.length > cap → pruneWithCap cap keep group ms = prunePartial keep group ms) ∧
    (GlueAutInvariant E glue keep group → ∀ r, pruneWithCap cap keep group ms = .ok r →
      r.Sublist ms ∧ SetEqMod E (resultsOf glue r) (resultsOf glue ms)) := by
  refine ⟨fun hc => by rw [pruneWithCap_eq, if_pos hc], fun hc => by rw [pruneWithCap_eq, if_neg hc], fun hinv r hr => ?_⟩
  have h := covers_pruneWithCap cap keep group ms r hr
  exact ⟨h.1, h.results hE glue fun σ hσ m _ _ => hinv σ hσ m⟩

/-- **C11, reactor clause, no exception inside the pruning.**  When every listed automorphism maps
pattern nodes to pattern nodes and the list is not empty (a group: it holds the identity), the routine
returns a list — the `KeyError` / `ValueError` outcomes of the model are not reachable — whatever the
matches, partial ones included, and whatever the bound. -/
theorem C11.prunePartial_no_error (keep : List Nat) (group : List Mapping)
    (hg : ∀ σ ∈ group, ∀ p ∈ keep, ∃ q ∈ keep, Mapping.get? σ p = some q) (hne : group ≠ [])
    (cap : Nat) (ms : List Mapping) :
    (∃ r, prunePartial keep group ms = .ok r) ∧ ∃ r, pruneWithCap cap keep group ms = .ok r := by
  refine ⟨prunePartial_ok keep group hg hne ms, ?_⟩
  rw [pruneWithCap_eq]
  split
  · exact ⟨ms, rfl⟩
  · exact prunePartial_ok keep group hg hne ms

/-- **C11, reactor clause for the modelled reactor, partial matches.**  For the modelled implicit path
(`ReactorLink.concrete`), in either direction: pruning a list of matches with the routine followed
literally — over the automorphisms of the oriented rule — never changes the set of reactions obtained
(up to isomorphism of ITS graphs).  Only the matches that cover the prepared pattern have to be matches
of it; the partial ones are arbitrary (they are kept, so nothing is asked of what they glue to). -/
theorem C11.pruning_clause_partial_model (maxGroup : Nat) (comp : LGraph → LGraph → List Mapping)
    (dir : Bool) (host T : LGraph) (ms r : List Mapping)
    (hms : ∀ m ∈ ms, coversB (SynKit.Reactor.left (SynKit.ReactorLink.orient dir T)).ids m = true →
      SynKit.Reactor.WFHost host → SynKit.Reactor.WFTemplate (SynKit.ReactorLink.orient dir T) →
      IsMono SynKit.Reactor.monoSel host (SynKit.Reactor.left (SynKit.ReactorLink.orient dir T)) m)
    (h : prunePartial (SynKit.Reactor.left (SynKit.ReactorLink.orient dir T)).ids
      (auts SynKit.ReactorLink.itsSel (SynKit.ReactorLink.orient dir T)) ms = .ok r) :
    SetEqMod SynKit.ReactorLink.ItsEquiv
      (resultsOf ((SynKit.ReactorLink.concrete maxGroup comp).glue dir host T) r)
      (resultsOf ((SynKit.ReactorLink.concrete maxGroup comp).glue dir host T) ms) :=
  C11.prunePartial_reaction_set_on SynKit.ReactorLink.itsEquiv_equivalence _ _ _ ms r
    (fun σ hσ m hm hc k hk => SynKit.ReactorLink.concrete_glue_aut maxGroup comp dir host T m σ k (hms m hm hc) hσ hk) h

/-! #### non-vacuity: the C–H / C–H coupling centre

`[C:1][H:2].[C:3][H:4]>>[C:1][C:3].[H:2][H:4]` with the hydrogens implicit: pattern nodes 1 and 3 (two
one-atom components, so the partial matcher also returns the matches of ONE of them), rule
automorphisms on the pattern: the identity and the swap 1 ↔ 3. -/

def exKeep : List Nat := [1, 3]
def exGroup : List Mapping := [[(1, 1), (3, 3)], [(1, 3), (3, 1)]]
/-- two partial matches related by the swap, two total matches related by the swap, one more partial match -/
def exMatches : List Mapping := [[(1, 10)], [(3, 10)], [(1, 10), (3, 11)], [(1, 11), (3, 10)], [(1, 12)]]

/-- The routine on that list: the second total match is dropped, every partial match is kept — also
`{3: 10}`, which the swap relates to `{1: 10}` as a partial map (`RelatedP`). -/
example : prunePartial exKeep exGroup exMatches = .ok [[(1, 10)], [(3, 10)], [(1, 10), (3, 11)], [(1, 12)]] ∧
    RelatedP exKeep exGroup [(1, 10)] [(3, 10)] ∧ domOn exKeep [(1, 10)] [(1, 3), (3, 1)] = [3] ∧
    Related exKeep exGroup [(1, 10), (3, 11)] [(1, 11), (3, 10)] ∧
    ¬ RelatedP exKeep exGroup [(1, 10)] [(1, 12)] := by
  unfold RelatedP Related
  decide +kernel

/-- The hypotheses of `C11.prunePartial_total` / `C11.prunePartial_no_error` hold for that group. -/
example : (∀ σ ∈ exGroup, ∀ p ∈ exKeep, ∃ q ∈ exKeep, Mapping.get? σ p = some q) ∧ exGroup ≠ [] := by decide +kernel

/-- The fall-back: two automorphisms against a bound of one — everything comes back; at a bound of two
the routine prunes. -/
example : pruneWithCap 1 exKeep exGroup exMatches = .ok exMatches ∧
    pruneWithCap 2 exKeep exGroup exMatches = .ok [[(1, 10)], [(3, 10)], [(1, 10), (3, 11)], [(1, 12)]] := by decide +kernel

/-- The keys are compared as `repr` strings: under `"10" < "9"` the least image of `{1: 9, 3: 10}` is the
swapped one; a second match in the same class is dropped all the same. -/
example : keyP exKeep exGroup [(1, 9), (3, 10)] = .key [(1, 10), (3, 9)] ∧
    prunePartial exKeep exGroup [[(1, 9), (3, 10)], [(3, 9), (1, 10)]] = .ok [[(1, 9), (3, 10)]] := by decide +kernel

/-- The two exceptions of the code are outcomes of the model: an "automorphism" that leaves the pattern
(`m[s[p]]`, `KeyError`) and an empty group (`min([])`, `ValueError`); neither below two matches, nor above the bound. -/
example : prunePartial exKeep [[(1, 1), (3, 4)]] [[(1, 10), (3, 11)], [(1, 11), (3, 10)]] = .keyError ∧
    prunePartial exKeep [] [[(1, 10), (3, 11)], [(1, 11), (3, 10)]] = .valueError ∧
    prunePartial exKeep [] [[(1, 10), (3, 11)]] = .ok [[(1, 10), (3, 11)]] ∧
    pruneWithCap 0 exKeep [[(1, 1), (3, 4)]] [[(1, 10), (3, 11)], [(1, 11), (3, 10)]] =
      .ok [[(1, 10), (3, 11)], [(1, 11), (3, 10)]] := by decide +kernel

/-- `C11.prunePartial_reaction_set` / `C11.pruneWithCap_spec` apply to that list (with a glue step that
renders every match to the same reaction, `GlueAutInvariant` holds). -/
example : SetEqMod (· = ·)
    (resultsOf (fun _ : Mapping => [0]) [[(1, 10)], [(3, 10)], [(1, 10), (3, 11)], [(1, 12)]])
    (resultsOf (fun _ : Mapping => [0]) exMatches) :=
  C11.prunePartial_reaction_set eq_equivalence _ exKeep exGroup
    (fun _ _ _ _ _ => SetEqMod.refl eq_equivalence _) exMatches _ (by decide +kernel)

/-- `C11.pruning_clause_partial_model` is non-vacuous: on the Br–Br substrate and the homolysis rule (two
automorphisms) the routine prunes the two matches of the exhaustive search to one and keeps a partial
match appended to them. -/
example :
    prunePartial (SynKit.Reactor.left SynKit.ReactorLink.exSymRule).ids
      (auts SynKit.ReactorLink.itsSel SynKit.ReactorLink.exSymRule)
      (allMonos SynKit.Reactor.monoSel SynKit.ReactorLink.exSymHost (SynKit.Reactor.left SynKit.ReactorLink.exSymRule) ++ [[(10, 1)]])
    = .ok [[(10, 1), (11, 2)], [(10, 1)]] := by
  decide +kernel

end PartialPruning

end SynKit.Aut
