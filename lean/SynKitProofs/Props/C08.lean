import SynKitModel.Canon
import SynKitProofs.CanonLemmas
import SynKitProofs.Match
import SynKitProofs.NautyIRLemmas
import SynKitProofs.NautyIRDepth
/-!
# C08 — graph canonicalisation is faithful and sound; the exact form is invariant

"Isomorphic on the attributes the signature covers" is the shared engine's `IsIso covSel (cov G) (cov H) m`
(`cov` keeps element, charge, aromatic, hcount on nodes and order, standard_order on edges, with the
code's defaults for absent keys).
-/
namespace SynKit.Canon
open SynKit.Match

/-- **C08, faithfulness.** For EVERY node order `o` that is a permutation of the node ids —
whatever back-end computed it — the canonical graph is the input relabelled by the bijection
`v ↦ position of v in o` onto `1..N`: well formed, node set `1..N`, every node attribute dict
and every edge attribute dict preserved, adjacency preserved in both directions. -/
theorem canonBy_faithful (o : List Nat) (G : LGraph) (hw : G.WF) (hp : o.Perm G.ids) :
    IsRelabelling G (canonBy o G) (G.ids.map fun v => (v, pos o v)) ∧
    (canonBy o G).ids = List.range' 1 G.nodes.length := by
  refine ⟨canonBy_isRelabelling o G hw hp, ?_⟩
  rw [canonBy_ids o G (hp.nodup_iff.2 hw.1)]
  rw [← LGraph.ids_length, hp.length_eq]

/-- The driver command `spec.isRelabelling`, which the harness evaluates on the implementation's
canonical graph and on the bijection it used, decides exactly the predicate of
`canonBy_faithful`. -/
theorem spec_isRelabelling_iff (G H : LGraph) (m : Mapping) :
    checkRelabelling G H m = "ok" ↔ IsRelabelling G H m := checkRelabelling_ok_iff G H m

/-- **C08, the serialisation determines the covered content.** Two well-formed graphs with the
same serialisation have the same node ids, the same covered node attributes and the same
adjacency with the same covered edge attributes. -/
theorem serialise_inj (G H : LGraph) (hG : G.WF) (hH : H.WF) (h : serialise G = serialise H) :
    G.ids.Perm H.ids ∧ (∀ v ∈ G.ids, nodeKey (G.attrs v) = nodeKey (H.attrs v)) ∧
    ∀ u v, (G.edge? u v).map edgeKey = (H.edge? u v).map edgeKey :=
  have hc := serialise_inj' G H hG hH h
  ⟨hc.ids, hc.node, hc.edge⟩

/-- **C08, soundness of signatures (every back-end).** If the canonical graphs of `G` and `H`
(for ANY two node orders) have the same serialisation, then `G` and `H` are isomorphic on the
covered attributes. -/
theorem signature_sound (G H : LGraph) (hG : G.WF) (hH : H.WF) (o₁ o₂ : List Nat)
    (hp₁ : o₁.Perm G.ids) (hp₂ : o₂.Perm H.ids)
    (h : serialise (canonBy o₁ G) = serialise (canonBy o₂ H)) :
    ∃ m, IsIso covSel (cov G) (cov H) m :=
  ⟨_, isIso_of_isoCov G H hG hH _ (isoCov_of_ser_eq G H hG hH o₁ o₂ hp₁ hp₂ h)⟩

/-- The same through the digest, under the hypothesis that the digest is injective (SHA-256). -/
theorem signature_sound_digest {D : Type} (digest : Ser → D) (hinj : Function.Injective digest)
    (G H : LGraph) (hG : G.WF) (hH : H.WF) (o₁ o₂ : List Nat)
    (hp₁ : o₁.Perm G.ids) (hp₂ : o₂.Perm H.ids)
    (h : signature digest o₁ G = signature digest o₂ H) :
    isoDecide covSel (cov G) (cov H) = true := by
  have hcovH : (cov H).WF := cov_wf H hH
  rw [isoDecide_iff covSel (cov G) (cov H) hcovH]
  exact signature_sound G H hG hH o₁ o₂ hp₁ hp₂ (hinj h)

/-- **C08, specification-level exact form is faithful.** `canonBrute G` is `G` relabelled by a
bijection onto `1..N` with all attributes and adjacency preserved (it is `canonBy` for the node
order with the least serialisation). -/
theorem canonBrute_faithful (G : LGraph) (hw : G.WF) :
    IsRelabelling G (canonBrute G) (G.ids.map fun v => (v, pos (bruteOrder G) v)) ∧
    (canonBrute G).ids = List.range' 1 G.nodes.length :=
  canonBy_faithful (bruteOrder G) G hw (bruteOrder_perm G)

/-- **C08, exact form: equal signatures ⇒ isomorphic.** -/
theorem canonBrute_sound (G H : LGraph) (hG : G.WF) (hH : H.WF) (h : sigBrute G = sigBrute H) :
    ∃ m, IsIso covSel (cov G) (cov H) m :=
  signature_sound G H hG hH _ _ (bruteOrder_perm G) (bruteOrder_perm H) h

/-- **C08, exact form is invariant.** Any two graphs that are isomorphic on the covered
attributes — however their nodes are numbered, and in whatever order nodes and edges were
inserted — have the same exact signature. -/
theorem canonBrute_invariant (G H : LGraph) (hG : G.WF) (hH : H.WF)
    (h : ∃ m, IsIso covSel (cov G) (cov H) m) : sigBrute G = sigBrute H := by
  obtain ⟨m, hm⟩ := h
  exact sigBrute_invariant G H hG hH (mapFn m) (isoCov_of_isIso G H hH m hm)

/-- … and the same canonical graph on the covered attributes (same node ids `1..N`, same node
keys, same adjacency with the same edge keys). -/
theorem canonBrute_covEq (G H : LGraph) (hG : G.WF) (hH : H.WF)
    (h : ∃ m, IsIso covSel (cov G) (cov H) m) :
    (canonBrute G).ids = (canonBrute H).ids ∧
    (∀ v ∈ (canonBrute G).ids, nodeKey ((canonBrute G).attrs v) = nodeKey ((canonBrute H).attrs v)) ∧
    ∀ u v, ((canonBrute G).edge? u v).map edgeKey = ((canonBrute H).edge? u v).map edgeKey := by
  obtain ⟨h1, hc⟩ := canonBy_covEqP G H hG hH _ _ (bruteOrder_perm G) (bruteOrder_perm H)
    (canonBrute_invariant G H hG hH h)
  exact ⟨h1, hc.node, hc.edge⟩

private theorem synGraphEq_iff {D : Type} [DecidableEq D] (digest : Ser → D) (o₁ o₂ : List Nat) (G H : LGraph) :
    synGraphEq digest o₁ o₂ G H = true ↔ digest (serialise (canonBy o₁ G)) = digest (serialise (canonBy o₂ H)) := by
  unfold synGraphEq; exact decide_eq_true_iff

private theorem canonicalGraphEq_iff {D : Type} [DecidableEq D] (digest : Ser → D) (o₁ o₁' o₂ o₂' : List Nat) (G H : LGraph) :
    canonicalGraphEq digest o₁ o₁' o₂ o₂' G H = true ↔
      digest (serialise (canonBy o₁' (canonBy o₁ G))) = digest (serialise (canonBy o₂' (canonBy o₂ H))) := by
  unfold canonicalGraphEq; exact decide_eq_true_iff

private theorem synRuleEq_iff' {D : Type} [DecidableEq D] (digest : Ser → D) (ol₁ or₁ ol₂ or₂ : List Nat) (L₁ R₁ L₂ R₂ : LGraph) :
    synRuleEq digest ol₁ or₁ ol₂ or₂ L₁ R₁ L₂ R₂ = true ↔
      (synGraphEq digest ol₁ ol₂ L₁ L₂ = true ∧ synGraphEq digest or₁ or₂ R₁ R₂ = true) := by
  rw [synGraphEq_iff, synGraphEq_iff]
  unfold synRuleEq
  rw [decide_eq_true_iff, Prod.mk.injEq]
  rfl

/-- **C08, value objects (`SynGraph`).** Wrapper equality is equality of the signatures, i.e.
(SHA-256 taken as injective) of the serialisations of the canonical graphs; and it implies that
the wrapped graphs are isomorphic on the covered attributes — for every back-end. -/
theorem valueobject_eq_iff {D : Type} [DecidableEq D] (digest : Ser → D) (hinj : Function.Injective digest)
    (G H : LGraph) (hG : G.WF) (hH : H.WF) (o₁ o₂ : List Nat) (hp₁ : o₁.Perm G.ids) (hp₂ : o₂.Perm H.ids) :
    (synGraphEq digest o₁ o₂ G H = true ↔ serialise (canonBy o₁ G) = serialise (canonBy o₂ H)) ∧
    (synGraphEq digest o₁ o₂ G H = true → isoDecide covSel (cov G) (cov H) = true) := by
  have h1 := synGraphEq_iff digest o₁ o₂ G H
  exact ⟨h1.trans hinj.eq_iff, fun h => signature_sound_digest digest hinj G H hG hH o₁ o₂ hp₁ hp₂ (h1.1 h)⟩

/-- C08 for a canonicaliser on a class `C` of graphs (the exact back-end is only defined — does
not raise — on graphs carrying the covered attributes). -/
def FullStatementOn (C : LGraph → Prop) (canon : LGraph → LGraph) : Prop :=
  ∀ G : LGraph, G.WF → C G →
    (∃ m, IsRelabelling G (canon G) m) ∧
    (∀ H : LGraph, H.WF → serialise (canon G) = serialise (canon H) → ∃ m, IsIso covSel (cov G) (cov H) m) ∧
    (∀ H : LGraph, H.WF → C H → (∃ m, IsIso covSel (cov G) (cov H) m) →
      serialise (canon G) = serialise (canon H) ∧ covEq (canon G) (canon H) = true)

/-- Everything C08 asks of an exact back-end of the form `canonBy (ord G) G` follows from two facts: `ord` returns a
permutation of the node ids, and on the class `C` the signature is invariant under isomorphism of the covered
attributes.  The specification-level form (`bruteOrder`, every graph) and the search (`irCanonOrder`, `IRCovered`) are
the two instances. -/
theorem exact_backend (C : LGraph → Prop) (ord : LGraph → List Nat)
    (hperm : ∀ G, G.WF → (ord G).Perm G.ids)
    (hinv : ∀ G H, G.WF → H.WF → C G → C H → (∃ m, IsIso covSel (cov G) (cov H) m) →
      serialise (canonBy (ord G) G) = serialise (canonBy (ord H) H)) :
    FullStatementOn C (fun G => canonBy (ord G) G) ∧
    ∀ {D : Type} [DecidableEq D] (digest : Ser → D), Function.Injective digest →
      ∀ G H : LGraph, G.WF → H.WF → C G → C H →
        (synGraphEq digest (ord G) (ord H) G H = true ↔ isoDecide covSel (cov G) (cov H) = true) := by
  refine ⟨fun G hG cG => ⟨⟨_, (canonBy_faithful _ G hG (hperm G hG)).1⟩,
      fun H hH h => signature_sound G H hG hH _ _ (hperm G hG) (hperm H hH) h, fun H hH cH hiso => ?_⟩, ?_⟩
  · have hs := hinv G H hG hH cG cH hiso
    obtain ⟨h1, hc⟩ := canonBy_covEqP G H hG hH _ _ (hperm G hG) (hperm H hH) hs
    exact ⟨hs, covEq_of_covEqP h1 hc⟩
  · intro D _ digest hinj G H hG hH cG cH
    obtain ⟨hv, hs⟩ := valueobject_eq_iff digest hinj G H hG hH _ _ (hperm G hG) (hperm H hH)
    exact ⟨hs, fun h => hv.2 (hinv G H hG hH cG cH ((isoDecide_iff covSel (cov G) (cov H) (cov_wf H hH)).1 h))⟩

/-- **C08, value objects on an exact signature.** With the exact form as back-end, wrappers
compare equal exactly for isomorphic content. -/
theorem valueobject_exact_iff {D : Type} [DecidableEq D] (digest : Ser → D) (hinj : Function.Injective digest)
    (G H : LGraph) (hG : G.WF) (hH : H.WF) :
    synGraphEq digest (bruteOrder G) (bruteOrder H) G H = true ↔ isoDecide covSel (cov G) (cov H) = true :=
  (exact_backend (fun _ => True) bruteOrder (fun G _ => bruteOrder_perm G)
    fun G H hG hH _ _ h => canonBrute_invariant G H hG hH h).2 digest hinj G H hG hH trivial trivial

/-- **C08, value objects (`SynRule`)**, in the reading fixed in DESIGN §5a: rules compare equal
iff their left fragments have equal signatures and their right fragments have; with an exact
signature, iff the left fragments are isomorphic and the right fragments are. -/
theorem synRule_eq_iff {D : Type} [DecidableEq D] (digest : Ser → D) (hinj : Function.Injective digest)
    (L₁ R₁ L₂ R₂ : LGraph) (hL₁ : L₁.WF) (hR₁ : R₁.WF) (hL₂ : L₂.WF) (hR₂ : R₂.WF) :
    (∀ ol₁ or₁ ol₂ or₂, synRuleEq digest ol₁ or₁ ol₂ or₂ L₁ R₁ L₂ R₂ = true ↔
      (synGraphEq digest ol₁ ol₂ L₁ L₂ = true ∧ synGraphEq digest or₁ or₂ R₁ R₂ = true)) ∧
    (synRuleEq digest (bruteOrder L₁) (bruteOrder R₁) (bruteOrder L₂) (bruteOrder R₂) L₁ R₁ L₂ R₂ = true ↔
      (isoDecide covSel (cov L₁) (cov L₂) = true ∧ isoDecide covSel (cov R₁) (cov R₂) = true)) := by
  refine ⟨fun ol₁ or₁ ol₂ or₂ => synRuleEq_iff' digest ol₁ or₁ ol₂ or₂ L₁ R₁ L₂ R₂, ?_⟩
  rw [synRuleEq_iff', valueobject_exact_iff digest hinj L₁ L₂ hL₁ hL₂, valueobject_exact_iff digest hinj R₁ R₂ hR₁ hR₂]

/-- **C08, value objects (`CanonicalGraph`).** The hash of a `CanonicalGraph` is the signature
of its canonical graph (the back-end runs a second time, with some order `o'` on the canonical
graph).  Equal wrappers still wrap graphs that are isomorphic on the covered attributes, for
every back-end and all four orders involved. -/
theorem canonicalGraph_eq_sound {D : Type} [DecidableEq D] (digest : Ser → D) (hinj : Function.Injective digest)
    (G H : LGraph) (hG : G.WF) (hH : H.WF) (o₁ o₁' o₂ o₂' : List Nat)
    (hp₁ : o₁.Perm G.ids) (hp₂ : o₂.Perm H.ids)
    (hp₁' : o₁'.Perm (canonBy o₁ G).ids) (hp₂' : o₂'.Perm (canonBy o₂ H).ids)
    (h : canonicalGraphEq digest o₁ o₁' o₂ o₂' G H = true) :
    isoDecide covSel (cov G) (cov H) = true := by
  rw [isoDecide_iff covSel (cov G) (cov H) (cov_wf H hH)]
  rw [canonicalGraphEq_iff] at h
  have hs := hinj h
  have hmid := isoCov_of_ser_eq _ _ (canonBy_wf o₁ G hG hp₁) (canonBy_wf o₂ H hH hp₂) o₁' o₂' hp₁' hp₂' hs
  have hall := ((isoCov_canonBy_right o₁ G hG hp₁).trans hmid).trans (isoCov_canonBy_left o₂ H hH hp₂)
  exact ⟨_, isIso_of_isoCov G H hG hH _ hall⟩

/-- C08 for a canonicaliser `canon` (canonical graph) with pre-digest signature
`sig G = serialise (canon G)`: faithful; sound; and, when `exact`, invariant (same signature and
same canonical graph on the covered attributes for isomorphic inputs). -/
def FullStatement (canon : LGraph → LGraph) (exact : Bool) : Prop :=
  ∀ G : LGraph, G.WF →
    (∃ m, IsRelabelling G (canon G) m) ∧
    (∀ H : LGraph, H.WF → serialise (canon G) = serialise (canon H) → ∃ m, IsIso covSel (cov G) (cov H) m) ∧
    (exact = true → ∀ H : LGraph, H.WF → (∃ m, IsIso covSel (cov G) (cov H) m) →
      serialise (canon G) = serialise (canon H) ∧ covEq (canon G) (canon H) = true)

/-- The model satisfies the full statement: every back-end of the form `canonBy (order G) G`
with `order G` a permutation of the node ids (generic, WL, Morgan, and the exact
search all have this form) satisfies the faithful and sound parts; the specification-level
exact form `canonBrute` satisfies all three.  That the *implementation's* exact back-end agrees
with `canonBrute` up to the choice of total order — i.e. that its signatures induce the same
kernel — is the correspondence obligation (kernel agreement against `isoDecide` / `sigBrute`). -/
theorem fullStatement_model :
    (∀ order : LGraph → List Nat, (∀ G, G.WF → (order G).Perm G.ids) →
      FullStatement (fun G => canonBy (order G) G) false) ∧
    FullStatement canonBrute true := by
  constructor
  · intro order hord G hG
    refine ⟨⟨_, (canonBy_faithful _ G hG (hord G hG)).1⟩, ?_, by simp⟩
    intro H hH h
    exact signature_sound G H hG hH _ _ (hord G hG) (hord H hH) h
  · intro G hG
    have h := (exact_backend (fun _ => True) bruteOrder (fun G _ => bruteOrder_perm G)
      fun G H hG hH _ _ h => canonBrute_invariant G H hG hH h).1 G hG trivial
    exact ⟨h.1, h.2.1, fun _ H hH hiso => h.2.2 H hH trivial hiso⟩

/-! ## Non-vacuity -/

private def ex_c (e : String) : Attrs := [("element", .str e), ("atom_map", .num 14)]
/-- C–O–C on ids 7, 3, 5 (insertion order 7, 3, 5). -/
private def exG : LGraph :=
  { nodes := [(7, ex_c "C"), (3, ex_c "O"), (5, ex_c "C")]
    edges := [(7, 3, [("order", .num 2)]), (5, 3, [("order", .num 2)])] }
/-- The same molecule numbered and inserted differently. -/
private def exH : LGraph :=
  { nodes := [(2, ex_c "O"), (9, ex_c "C"), (4, ex_c "C")]
    edges := [(2, 4, [("order", .num 2)]), (9, 2, [("order", .num 2)])] }

example : exG.WF ∧ [3, 7, 5].Perm exG.ids ∧ (canonBy [3, 7, 5] exG).ids = [1, 2, 3] := by decide +kernel
example : checkRelabelling exG (canonBy [3, 7, 5] exG) [(7, 2), (3, 1), (5, 3)] = "ok" := by decide +kernel
example : serialise (canonBy [7, 5, 3] exG) = serialise (canonBy [4, 9, 2] exH) := by decide +kernel
example : serialise (canonBy [3, 7, 5] exG) ≠ serialise (canonBy [4, 9, 2] exH) := by decide +kernel
example : isoDecide covSel (cov exG) (cov exH) = true := by decide +kernel
example : sigBrute exG = sigBrute exH ∧ bruteOrder exG = [7, 5, 3] := by decide +kernel

/-! ## The exact back-end as implemented: the individualisation–refinement search

Model `SynKitModel/NautyIR.lean` (mirror of `synkit/Graph/Canon/nauty.py`); lemma files
`SynKitProofs/NautyIR{Search,Equiv,Lemmas,Depth}.lean` on `SynKitProofs/IRTree.lean`, `IRSearch.lean`.
Clause of C08: "With the exact back-end the converse also holds: any two isomorphic graphs, however their nodes are numbered or
ordered, receive the same canonical graph and the same signature" — here for the search the
implementation runs (`irCanon`, `irCanonOrder`, `canonIR`), not for the specification-level
`canonBrute`.  Hypotheses: both graphs well formed, and `IRCovered`: every node carries element,
aromatic, charge, hcount and every edge carries order, standard_order (otherwise the real code
raises or separates absent from default: finding C08-N2). -/

/-- **C08, exact back-end, equivariance of refinement** (the chain the invariance rests on).
For graphs related by a node map `g : H → G` that preserves the covered attribute look-ups and
adjacency: the initial partitions correspond cell by cell; node signatures w.r.t. corresponding
partitions are equal; and `_refine` of corresponding partitions gives corresponding partitions
(cells correspond up to their order, which is the sorted order on each side). -/
theorem refine_equivariant (G H : LGraph) (hG : G.WF) (hH : H.WF) (g : Nat → Nat) (h : IRIso G H g) :
    PartRel g (irInitialPartition H) (irInitialPartition G) ∧
    (∀ P' P, PartRel g P' P → PartSub H.ids P' → ∀ p ∈ H.ids, irSig G P (g p) = irSig H P' p) ∧
    (∀ P' P, PartRel g P' P → PartSub H.ids P' → PartRel g (irRefine H P') (irRefine G P)) :=
  ⟨irInitialPartition_rel h, fun _ _ hP hs _ hp => irSig_rel hG hH h hP hs hp, fun _ _ hP hs => by
    rw [irRefine_eq, irRefine_eq]
    exact IRSys.refine_rel (irSys_lawful H) (irSys_lawful G) (irSys_hom hG hH h) hP hs⟩

/-- **C08, exact back-end, the search trees correspond.** Under the same hypotheses the leaves
`(prefix, order)` of the search tree of `G` are exactly the images under `g` of the leaves of the
search tree of `H`, and corresponding leaves carry the same label. -/
theorem ir_leaves_equivariant (G H : LGraph) (hG : G.WF) (hH : H.WF) (g : Nat → Nat) (h : IRIso G H g) :
    (∀ l, l ∈ irRootLeaves G ↔ ∃ l' ∈ irRootLeaves H, l = (l'.1.map g, l'.2.map g)) ∧
    (∀ l' ∈ irRootLeaves H, irLeafLabel G (l'.1.map g, l'.2.map g) = irLeafLabel H l') :=
  irRootLeaves_rel hG hH h

/-- **C08, exact back-end, the partial label is a lower bound.** Every leaf below a node of the
search tree with prefix `cp` has a label whose node segment starts with the node segment of `cp`;
therefore, when the pruning test `partial_label(cp) > best` fires, every such leaf has a label
strictly greater than `best` — pruning discards no leaf that could replace or tie the best one.
(For the concrete order; `irSearch_prune_eq_noprune` holds for every order with a sound test.) -/
theorem ir_label_lower_bound (G : LGraph) (fuel : Nat) (P : List (List Nat)) (cp : List Nat) :
    (∀ l ∈ irLeaves G fuel P cp, irNodeSeg G cp <+: (irLeafLabel G l).nodes) ∧
    (∀ best : IRLabel, irPartialGt (irNodeSeg G cp) best = true →
      ∀ l ∈ irLeaves G fuel P cp, IRLabel.lt best (irLeafLabel G l) = true) :=
  ⟨irLeafLabel_nodeSeg_prefix G fuel P cp,
    fun _ hb l hl => irPartialGt_sound _ _ _ (irLeafLabel_nodeSeg_prefix G fuel P cp l hl) hb⟩

/-- **C08, exact back-end, pruning is sound.** The search with the pruning test returns exactly
what the search without it returns (same label, same order), from every state, for every strict
total label order and every pruning test that is a lower-bound test; and that is the first leaf,
in visiting order, with the least label. -/
theorem ir_prune_sound (lt : IRLabel → IRLabel → Bool) (pgt : List (List Val) → IRLabel → Bool)
    (hlt : StrictTotal lt) (hp : IRPruneSound lt pgt) (G : LGraph) :
    (∀ fuel P pfx best, irSearch lt pgt true G fuel P pfx best = irSearch lt pgt false G fuel P pfx best) ∧
    (∀ prune, irCanonWith lt pgt prune G = irFoldLeaves lt G (irRootLeaves G) none) ∧
    IRPruneSound IRLabel.lt irPartialGt ∧ irCanon G = irCanonWith IRLabel.lt irPartialGt false G :=
  ⟨fun fuel P pfx best => irSearch_prune_eq_noprune lt pgt hlt hp G fuel P pfx best,
    fun prune => irCanonWith_eq_fold lt pgt hlt hp prune G, irPartialGt_sound, irCanon_eq_noprune G⟩

/-- **C08, exact back-end, the result is a leaf with the least label and a permutation.** On a
well-formed graph the search returns (it never ends with `perm = None`): the order is a
permutation of the node ids, it is the order of a leaf of the search tree, the label is the label
of that leaf, and no leaf has a smaller label. -/
theorem ir_result_spec (G : LGraph) (hG : G.WF) :
    ∃ pfx, irCanon G = some (irBuildLabel G (pfx ++ irCanonOrder G), irCanonOrder G) ∧
      (irCanonOrder G).Perm G.ids ∧ (pfx, irCanonOrder G) ∈ irRootLeaves G ∧
      ∀ l ∈ irRootLeaves G, IRLabel.lt (irLeafLabel G l) (irBuildLabel G (pfx ++ irCanonOrder G)) = false :=
  irCanon_spec G hG

/-- **C08, exact back-end, the model's fuel is adequate** (the model is total by fuel where the
code loops / recurses without bound): on a well-formed graph `_refine` ends in a partition that a
further pass leaves unchanged (the `while changed` loop has terminated), and any larger fuel
gives the same search tree and the same result — no branch of the model's search is cut. -/
theorem ir_fuel_adequate (G : LGraph) (hG : G.WF) :
    (∀ P, IRPartOK G.ids P → irRefineStep G (irRefine G P) = irRefine G P) ∧
    (∀ d, irLeaves G (G.nodes.length + 1 + d) (irInitialPartition G) [] = irRootLeaves G) ∧
    (∀ d prune, irSearch IRLabel.lt irPartialGt prune G (G.nodes.length + 1 + d) (irInitialPartition G) [] none = irCanon G) := by
  refine ⟨fun P hP => irRefine_stable G P hP, fun d => irLeaves_root_fuel G hG.1 d, ?_⟩
  intro d prune
  rw [irCanonWith_fuel IRLabel.lt irPartialGt IRLabel.lt_strictTotal irPartialGt_sound prune G hG.1 d]
  cases prune
  · exact (irCanon_eq_noprune G).symm
  · rfl

/-- **C08, exact back-end is faithful** (instance of `canonBy_faithful` for the order the search
computes). -/
theorem canonIR_faithful (G : LGraph) (hw : G.WF) :
    IsRelabelling G (canonIR G) (G.ids.map fun v => (v, pos (irCanonOrder G) v)) ∧
    (canonIR G).ids = List.range' 1 G.nodes.length :=
  canonBy_faithful (irCanonOrder G) G hw (irCanonOrder_perm G hw)

/-- **C08, exact back-end: equal signatures ⇒ isomorphic.** -/
theorem canonIR_sound (G H : LGraph) (hG : G.WF) (hH : H.WF) (h : serialise (canonIR G) = serialise (canonIR H)) :
    ∃ m, IsIso covSel (cov G) (cov H) m :=
  signature_sound G H hG hH _ _ (irCanonOrder_perm G hG) (irCanonOrder_perm H hH) h

/-- **C08, exact back-end is invariant — search without pruning.** Two well-formed graphs
carrying the covered attributes that are isomorphic on them get the same minimum label and
canonical graphs with the same serialisation from the pruning-free search. -/
theorem ir_invariant_noprune (G H : LGraph) (hG : G.WF) (hH : H.WF) (cG : IRCovered G) (cH : IRCovered H)
    (h : ∃ m, IsIso covSel (cov G) (cov H) m) :
    ∃ L o o', irCanonWith IRLabel.lt irPartialGt false G = some (L, o) ∧
      irCanonWith IRLabel.lt irPartialGt false H = some (L, o') ∧
      serialise (canonBy o G) = serialise (canonBy o' H) := by
  obtain ⟨m, hm⟩ := h
  obtain ⟨L, o, o', e1, e2, _, _, hs⟩ := irCanonWith_invariant IRLabel.lt irPartialGt IRLabel.lt_strictTotal
    irPartialGt_sound false false G H hG hH cG cH (mapFn m) (isoCov_of_isIso G H hH m hm)
  exact ⟨L, o, o', e1, e2, hs⟩

/-- **C08, exact back-end is invariant** (the search as the code runs it, with pruning): any two
graphs that are isomorphic on the covered attributes — however their nodes are numbered, and in
whatever order nodes and edges were inserted — receive the same minimum label and the same
signature (pre-digest serialisation of the canonical graph). -/
theorem ir_invariant (G H : LGraph) (hG : G.WF) (hH : H.WF) (cG : IRCovered G) (cH : IRCovered H)
    (h : ∃ m, IsIso covSel (cov G) (cov H) m) :
    irCanonLabel G = irCanonLabel H ∧ serialise (canonIR G) = serialise (canonIR H) := by
  obtain ⟨m, hm⟩ := h
  exact irCanon_invariant G H hG hH cG cH (mapFn m) (isoCov_of_isIso G H hH m hm)

/-- **C08, exact back-end is invariant for every label order.** The same for every strict total
order on labels and every lower-bound pruning test, with or without pruning on either side — in
particular for the order Python's string comparison induces on the structured labels whenever
rendering a label to its string is injective. -/
theorem ir_invariant_anyOrder (lt : IRLabel → IRLabel → Bool) (pgt : List (List Val) → IRLabel → Bool)
    (hlt : StrictTotal lt) (hp : IRPruneSound lt pgt) (prune prune' : Bool)
    (G H : LGraph) (hG : G.WF) (hH : H.WF) (cG : IRCovered G) (cH : IRCovered H)
    (h : ∃ m, IsIso covSel (cov G) (cov H) m) :
    ∃ L o o', irCanonWith lt pgt prune G = some (L, o) ∧ irCanonWith lt pgt prune' H = some (L, o') ∧
      o.Perm G.ids ∧ o'.Perm H.ids ∧ serialise (canonBy o G) = serialise (canonBy o' H) := by
  obtain ⟨m, hm⟩ := h
  exact irCanonWith_invariant lt pgt hlt hp prune prune' G H hG hH cG cH (mapFn m) (isoCov_of_isIso G H hH m hm)

/-- **C08 at full strength for the model of the implemented exact back-end**: faithful, sound and
invariant on the well-formed graphs that carry the covered attributes. -/
theorem fullStatement_ir : FullStatementOn IRCovered canonIR :=
  (exact_backend IRCovered irCanonOrder irCanonOrder_perm
    fun G H hG hH cG cH h => (ir_invariant G H hG hH cG cH h).2).1

/-- … and the same canonical graph on the covered attributes (same node ids `1..N`, same node
keys, same adjacency with the same edge keys). -/
theorem canonIR_covEq (G H : LGraph) (hG : G.WF) (hH : H.WF) (cG : IRCovered G) (cH : IRCovered H)
    (h : ∃ m, IsIso covSel (cov G) (cov H) m) : covEq (canonIR G) (canonIR H) = true :=
  ((fullStatement_ir G hG cG).2.2 H hH cH h).2

/-- **C08, value objects on the exact back-end.** With the search's order as back-end, wrappers
of graphs carrying the covered attributes compare equal exactly for isomorphic content. -/
theorem valueobject_ir_iff {D : Type} [DecidableEq D] (digest : Ser → D) (hinj : Function.Injective digest)
    (G H : LGraph) (hG : G.WF) (hH : H.WF) (cG : IRCovered G) (cH : IRCovered H) :
    synGraphEq digest (irCanonOrder G) (irCanonOrder H) G H = true ↔ isoDecide covSel (cov G) (cov H) = true :=
  (exact_backend IRCovered irCanonOrder irCanonOrder_perm
    fun G H hG hH cG cH h => (ir_invariant G H hG hH cG cH h).2).2 digest hinj G H hG hH cG cH

/-! ### The exact back-end with a depth cap (`canonical_form(…, max_depth=d)`)

`irSearchCapped` mirrors `_search` with its `depth` counter, the test `depth > max_depth` at the entry of
every call, the returned flag that ends every enclosing loop, and `best` as it stands at that moment;
`irCanonicalFormCappedWith` adds `canonical_form`'s `RuntimeError` when no leaf was reached.  The three
theorems hold for EVERY label comparison `lt` and EVERY pruning test `pgt` (no hypothesis on either), in
particular for Python's comparison of the rendered label strings, with or without pruning. -/

/-- `irDepth G` is the depth (number of individualisations = length of the prefix) of the deepest leaf of
the unpruned, uncapped search tree: no leaf is deeper, one leaf is that deep, and it is at most the number
of nodes. -/
theorem irDepth_spec (G : LGraph) (hG : G.WF) :
    (∀ l ∈ irRootLeaves G, l.1.length ≤ irDepth G) ∧ (∃ l ∈ irRootLeaves G, l.1.length = irDepth G) ∧
    irDepth G ≤ G.nodes.length :=
  ⟨(irDepth_le_iff G _).1 (Nat.le_refl _), irMaxDepth_attained _ (irRootLeaves_ne_nil G hG.1), irDepth_le_nodes G⟩

/-- **C08, exact back-end, `max_depth` (a): a cap at or above the deepest leaf is never reached.** If
`d` is at least the depth of the deepest leaf of the search tree — in particular if `d` is at least the
number of nodes — the capped search returns exactly what the uncapped search returns and
`early_stop = False`: `canonical_form(G, max_depth=d)` is `canonical_form(G)`. -/
theorem irCapped_full (lt : IRLabel → IRLabel → Bool) (pgt : List (List Val) → IRLabel → Bool) (prune : Bool)
    (G : LGraph) (hG : G.WF) (d : Nat) :
    (irDepth G ≤ d → irCanonCappedWith lt pgt prune G d = (irCanonWith lt pgt prune G, false)) ∧
    (G.nodes.length ≤ d → irCanonCappedWith lt pgt prune G d = (irCanonWith lt pgt prune G, false)) ∧
    (irDepth G ≤ d → irCanonicalFormCapped G d = .ok (canonIR G, irCanonOrder G, false)) := by
  refine ⟨fun h => irCanonCappedWith_full lt pgt prune G hG.1 d h,
    fun h => irCanonCappedWith_full lt pgt prune G hG.1 d (Nat.le_trans (irDepth_le_nodes G) h), ?_⟩
  intro h
  obtain ⟨pfx, e, _⟩ := irCanon_spec G hG
  refine (irCanonicalFormCappedWith_ok_iff _ _ _ G d _ _ _).2 ⟨⟨irBuildLabel G (pfx ++ irCanonOrder G), ?_⟩, rfl⟩
  rw [irCanonCappedWith_full IRLabel.lt irPartialGt true G hG.1 d h]
  exact congrArg (·, false) e

/-- **C08, exact back-end, `max_depth` (b): an answer with `early_stop = False` is the full answer.**
Whatever the cap, when the capped search returns without the flag, its `best` is the `best` of the uncapped
search; hence a `canonical_form(G, max_depth=d)` that reports `early_stop = False` has returned the
canonical graph and the permutation of `canonical_form(G)`.  No hypothesis on the graph. -/
theorem irCapped_flag_sound (lt : IRLabel → IRLabel → Bool) (pgt : List (List Val) → IRLabel → Bool) (prune : Bool)
    (G : LGraph) (d : Nat) :
    (∀ r, irCanonCappedWith lt pgt prune G d = (r, false) → r = irCanonWith lt pgt prune G) ∧
    (∀ cg o, irCanonicalFormCappedWith lt pgt prune G d = .ok (cg, o, false) →
      (∃ L, irCanonWith lt pgt prune G = some (L, o)) ∧ cg = canonBy o G) ∧
    (∀ cg o, irCanonicalFormCapped G d = .ok (cg, o, false) → o = irCanonOrder G ∧ cg = canonIR G) := by
  refine ⟨irCanonCappedWith_flag_sound lt pgt prune G d, irCanonicalFormCappedWith_flag_sound lt pgt prune G d,
    fun cg o h => ?_⟩
  obtain ⟨⟨L, e⟩, rfl⟩ := irCanonicalFormCappedWith_flag_sound IRLabel.lt irPartialGt true G d cg o h
  exact ⟨(irCanonOrder_of_eq e).symm, by rw [canonIR, irCanonOrder_of_eq e]⟩

/-- **C08, exact back-end, `max_depth` (c): what a capped search returns is a leaf; when it raises.**
On a well-formed graph every answer of `canonical_form(G, max_depth=d)` — flagged `early_stop` or not — is
built from a genuine leaf of the search tree that lies at depth `≤ d`: `best` is that leaf's label and
order, the order is a permutation of the node ids, and therefore (`canonBy_faithful`) the returned graph is
still the input relabelled by a bijection onto `1..N` with every attribute preserved.  The `RuntimeError`
("canonical form not found") arises exactly when the FIRST leaf of the tree in visiting order lies deeper
than `d` — the descent to the first leaf is never pruned and the first call beyond the cap ends the whole
search —, the flag is then up; in particular it arises when no leaf has depth `≤ d`.  (The converse of the
last statement fails: see the example `irX` below, where a leaf of depth 1 exists and `max_depth=1` raises.) -/
theorem irCapped_partial_is_leaf (lt : IRLabel → IRLabel → Bool) (pgt : List (List Val) → IRLabel → Bool) (prune : Bool)
    (G : LGraph) (hG : G.WF) (d : Nat) :
    (∀ cg o e, irCanonicalFormCappedWith lt pgt prune G d = .ok (cg, o, e) →
      (∃ l ∈ irRootLeaves G, l.1.length ≤ d ∧ o = l.2 ∧
        irCanonCappedWith lt pgt prune G d = (some (irLeafLabel G l, o), e)) ∧
      o.Perm G.ids ∧ cg = canonBy o G ∧
      IsRelabelling G cg (G.ids.map fun v => (v, pos o v)) ∧ cg.ids = List.range' 1 G.nodes.length) ∧
    (irCanonicalFormCappedWith lt pgt prune G d = .error .notFound ↔
      ∃ l rest, irRootLeaves G = l :: rest ∧ d < l.1.length) ∧
    (irCanonicalFormCappedWith lt pgt prune G d = .error .notFound →
      irCanonCappedWith lt pgt prune G d = (none, true)) ∧
    ((∀ l ∈ irRootLeaves G, d < l.1.length) → irCanonicalFormCappedWith lt pgt prune G d = .error .notFound) := by
  obtain ⟨hiff, hflag⟩ := irCanonCappedWith_none_iff lt pgt prune G hG.1 d
  have herr := irCanonicalFormCappedWith_error_iff lt pgt prune G d
  refine ⟨fun cg o e h => ?_, herr.trans hiff, fun h => hflag (herr.1 h), fun hall => (herr.trans hiff).2 ?_⟩
  · obtain ⟨⟨L, hc⟩, rfl⟩ := (irCanonicalFormCappedWith_ok_iff lt pgt prune G d cg o e).1 h
    obtain ⟨l, hl, hd, rfl, rfl⟩ := irCanonCappedWith_leaf lt pgt prune G d L o (by rw [hc])
    have hp := irRootLeaves_perm G hG.1 l hl
    obtain ⟨hr, hids⟩ := canonBy_faithful l.2 G hG hp
    exact ⟨⟨l, hl, hd, rfl, hc⟩, hp, rfl, hr, hids⟩
  · cases hL : irRootLeaves G with
    | nil => exact absurd hL (irRootLeaves_ne_nil G hG.1)
    | cons l rest => exact ⟨l, rest, rfl, hall l (by rw [hL]; exact List.mem_cons_self)⟩

/-! ### Non-vacuity (exact back-end) -/

private def ir_a (e : String) (h : Int) : Attrs :=
  [("element", .str e), ("aromatic", .bool false), ("charge", .num 0), ("hcount", .num h)]
private def ir_e (o : Int) : Attrs := [("order", .num o), ("standard_order", .num 0)]
/-- A four-ring C–C–C–N with one double bond, ids 7, 3, 5, 9. -/
private def irG : LGraph :=
  { nodes := [(7, ir_a "C" 4), (3, ir_a "C" 4), (5, ir_a "C" 2), (9, ir_a "N" 2)]
    edges := [(7, 3, ir_e 2), (3, 5, ir_e 2), (5, 9, ir_e 4), (9, 7, ir_e 2)] }
/-- The same ring numbered and inserted differently (7↦2, 3↦8, 5↦4, 9↦1). -/
private def irH : LGraph :=
  { nodes := [(1, ir_a "N" 2), (4, ir_a "C" 2), (8, ir_a "C" 4), (2, ir_a "C" 4)]
    edges := [(4, 1, ir_e 4), (2, 1, ir_e 2), (8, 4, ir_e 2), (8, 2, ir_e 2)] }
/-- A symmetric graph: the 4-cycle of identical atoms (8 leaves in the search tree). -/
private def irC4 : LGraph :=
  { nodes := [(1, ir_a "C" 4), (2, ir_a "C" 4), (3, ir_a "C" 4), (4, ir_a "C" 4)]
    edges := [(1, 2, ir_e 2), (2, 3, ir_e 2), (3, 4, ir_e 2), (4, 1, ir_e 2)] }
/-- A path of four identical atoms (two leaves, one per end). -/
private def irP : LGraph :=
  { nodes := [(1, ir_a "C" 0), (2, ir_a "C" 0), (3, ir_a "C" 0), (4, ir_a "C" 0)]
    edges := [(1, 2, ir_e 2), (2, 3, ir_e 2), (3, 4, ir_e 2)] }

example : irG.WF ∧ irH.WF ∧ IRCovered irG ∧ IRCovered irH := by decide +kernel
example : isoDecide covSel (cov irG) (cov irH) = true := by decide +kernel
example : irInitialPartition irG = [[5], [3, 7], [9]] ∧ irRefine irG (irInitialPartition irG) = [[5], [7], [3], [9]] := by
  decide +kernel
example : irCanonOrder irG = [5, 7, 3, 9] ∧ irCanonOrder irH = [4, 2, 8, 1] := by decide +kernel
example : irCanonLabel irG = irCanonLabel irH ∧ serialise (canonIR irG) = serialise (canonIR irH) := by decide +kernel
example : (irRootLeaves irC4).length = 8 ∧ irCanonOrder irC4 = [1, 3, 2, 4] := by decide +kernel
example : irRootLeaves irP = [([1], [1, 4, 3, 2]), ([4], [4, 1, 2, 3])] ∧ irCanonOrder irP = [1, 4, 3, 2] := by decide +kernel
/-- the pruning test can fire: a prefix starting at the nitrogen against the best label of `irG` -/
example : irPartialGt (irNodeSeg irG [9]) (irBuildLabel irG [5, 7, 3, 9]) = true := by decide +kernel

/-! ### Non-vacuity (`max_depth`) -/

/-- A cubic graph on 8 identical atoms whose refined partition is one cell holding several orbits: the
leaves of its search tree lie at depths 1 and 2, and the first leaf (prefix `[1, 2]`) is a deep one. -/
private def irX : LGraph :=
  { nodes := [(1, ir_a "C" 0), (2, ir_a "C" 0), (3, ir_a "C" 0), (4, ir_a "C" 0), (5, ir_a "C" 0), (6, ir_a "C" 0),
      (7, ir_a "C" 0), (8, ir_a "C" 0)]
    edges := [(1, 4, ir_e 2), (1, 5, ir_e 2), (1, 8, ir_e 2), (2, 3, ir_e 2), (2, 4, ir_e 2), (2, 7, ir_e 2),
      (3, 5, ir_e 2), (3, 6, ir_e 2), (4, 7, ir_e 2), (5, 8, ir_e 2), (6, 7, ir_e 2), (6, 8, ir_e 2)] }
/-- The same graph with the names 1 and 2 exchanged: now the first leaf (prefix `[1]`) is a shallow one. -/
private def irY : LGraph :=
  { nodes := irX.nodes
    edges := [(2, 4, ir_e 2), (2, 5, ir_e 2), (2, 8, ir_e 2), (1, 3, ir_e 2), (1, 4, ir_e 2), (1, 7, ir_e 2),
      (3, 5, ir_e 2), (3, 6, ir_e 2), (4, 7, ir_e 2), (5, 8, ir_e 2), (6, 7, ir_e 2), (6, 8, ir_e 2)] }

private theorem irXY_wf : irX.WF ∧ irY.WF ∧ IRCovered irX ∧ IRCovered irY := by decide +kernel
example : irX.WF ∧ irY.WF ∧ IRCovered irX ∧ IRCovered irY := irXY_wf
private theorem irY_iso : IRIso irY irX fun v => if v = 1 then 2 else if v = 2 then 1 else v :=
  ⟨by decide +kernel, by decide +kernel, by decide +kernel⟩
/-- (a) the 4-cycle: every leaf at depth 2; `max_depth=2` is the full search, `max_depth=1` reaches no leaf -/
example : irDepth irC4 = 2 ∧ irCanonCapped irC4 2 = (irCanon irC4, false) ∧ irCanonCapped irC4 1 = (none, true) ∧
    irCanonicalFormCapped irC4 1 = .error .notFound := by decide +kernel
private theorem irX_leaves :
    irRootLeaves irX =
      [([1, 2], [1, 2, 7, 6, 3, 5, 8, 4]), ([1, 7], [1, 7, 2, 3, 6, 8, 5, 4]), ([2], [2, 6, 5, 1, 8, 4, 7, 3]),
       ([3, 7], [3, 7, 8, 1, 4, 5, 2, 6]), ([3, 8], [3, 8, 7, 4, 1, 2, 5, 6]), ([4, 5], [4, 5, 8, 6, 3, 2, 7, 1]),
       ([4, 8], [4, 8, 5, 3, 6, 7, 2, 1]), ([5], [5, 6, 2, 4, 7, 1, 8, 3]), ([6, 2], [6, 2, 5, 1, 4, 8, 7, 3]),
       ([6, 5], [6, 5, 2, 4, 1, 7, 8, 3]), ([7], [7, 3, 8, 1, 5, 4, 2, 6]), ([8], [8, 3, 7, 4, 2, 1, 5, 6])] := by
  decide +kernel

private theorem irX_shallow : ([2], [2, 6, 5, 1, 8, 4, 7, 3]) ∈ irRootLeaves irX := by
  rw [irX_leaves]
  decide

/-- leaves at different depths; the first one is deep -/
example : (irRootLeaves irX).map (·.1) = [[1, 2], [1, 7], [2], [3, 7], [3, 8], [4, 5], [4, 8], [5], [6, 2], [6, 5], [7], [8]] ∧
    irDepth irX = 2 := by
  constructor
  · rw [irX_leaves]
    rfl
  · show irMaxDepth (irRootLeaves irX) = 2
    rw [irX_leaves]
    rfl
/-- (c) the error case is decided by the FIRST leaf: `max_depth=1` raises on `irX` although leaves of depth 1 exist -/
example : irCanonicalFormCapped irX 1 = .error .notFound ∧ irCanonCapped irX 1 = (none, true) ∧
    (∃ l ∈ irRootLeaves irX, l.1.length ≤ 1) := by
  obtain ⟨_, herr, hflag, _⟩ := irCapped_partial_is_leaf IRLabel.lt irPartialGt true irX irXY_wf.1 1
  have he := herr.2 ⟨_, _, irX_leaves, Nat.lt_succ_self 1⟩
  exact ⟨he, hflag he, _, irX_shallow, Nat.le_refl 1⟩
/-- (b), (c) an early stop WITH an answer: on `irY` `max_depth=1` visits the shallow first leaf, then stops at the
first call of depth 2; the answer is that leaf and is flagged; `max_depth=0` raises; `max_depth=2` is the full search -/
example : irCanonCapped irY 1 = (some (irLeafLabel irY ([1], [1, 6, 5, 2, 8, 4, 7, 3]), [1, 6, 5, 2, 8, 4, 7, 3]), true) ∧
    ([1], [1, 6, 5, 2, 8, 4, 7, 3]) ∈ irRootLeaves irY ∧
    irCanonCapped irY 0 = (none, true) ∧ irCanonCapped irY 2 = (irCanon irY, false) := by
  -- only the search capped at 1 is run; the leaves of `irY` and their depths are those of `irX` under the exchange
  obtain ⟨hleaf, _⟩ := ir_leaves_equivariant irY irX irXY_wf.2.1 irXY_wf.1 _ irY_iso
  have hX : ∀ l ∈ irRootLeaves irX, 0 < l.1.length ∧ l.1.length ≤ 2 := by
    rw [irX_leaves]
    decide
  have hY : ∀ l ∈ irRootLeaves irY, 0 < l.1.length ∧ l.1.length ≤ 2 := fun l hl => by
    obtain ⟨l', hl', rfl⟩ := (hleaf l).1 hl
    rw [List.length_map]
    exact hX l' hl'
  obtain ⟨_, _, hflag, hall⟩ := irCapped_partial_is_leaf IRLabel.lt irPartialGt true irY irXY_wf.2.1 0
  exact ⟨by decide +kernel, (hleaf _).2 ⟨_, irX_shallow, rfl⟩, hflag (hall fun l hl => (hY l hl).1),
    (irCapped_full IRLabel.lt irPartialGt true irY irXY_wf.2.1 2).1 ((irDepth_le_iff irY 2).2 fun l hl => (hY l hl).2)⟩

end SynKit.Canon
