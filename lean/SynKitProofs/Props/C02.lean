import SynKitModel.ITS
import SynKitProofs.ITSRcLemmas
import SynKitProofs.ITSFreeLemmas
/-!
# C02 — the reaction centre is exactly the set of changed bonds; the context grows monotonically

About `get_rc` with its default options (`getRc {}`: `disconnected=False`, `keep_mtg=False`, keys `rcKeys`;
only `getRc_relabel` covers the other settings), `extract_k` for radii ≥ 0 (`extractK`) and `-1`
(`extractFreeAdj`), `find_unequal_order_edges`.  `WFits I`: an ITS graph as `ITSConstruction.construct`
builds it (simple graph, `typesGH` on every atom, `order` pair and `standard_order` = difference).
-/
namespace SynKit.ITS

/-- **C02, "contains a bond iff its order differs (H–H bonds always kept)"**, as the code decides it:
the centre has an edge on `{u, v}` exactly when the ITS has one whose `standard_order` is a
non-zero number or whose two ends are hydrogens.  Needs only a simple graph; covers ITS edges
without (or with a non-numeric) `standard_order` — the `isinstance` guard: they are *not* changed. -/
theorem mem_rc_edge_iff_std (I : LGraph) (hI : I.WF) (u v : Nat) :
    (getRc {} I).hasEdge u v = true ↔
      ∃ a, I.edge? u v = some a ∧ (stdNonzero (a.get "standard_order") = true ∨ isHH I u v = true) := by
  rw [getRc_hasEdge {} rfl, exists_edge_iff hI]
  exact exists_congr fun e => and_congr_right fun _ => and_comm.trans (and_congr_right sel_default_iff)

/-- **C02, first clause at full strength** on a well-formed ITS: `e ∈ rc.edges ↔ e ∈ I.edges ∧
(o₁ ≠ o₂ ∨ both ends hydrogen)`. -/
theorem mem_rc_edge_iff (I : LGraph) (hI : WFits I) (u v : Nat) :
    (getRc {} I).hasEdge u v = true ↔
      ∃ a, I.edge? u v = some a ∧ (changed a ∨ isHH I u v = true) := by
  rw [mem_rc_edge_iff_std I hI.1]
  refine exists_congr fun a => and_congr_right fun ha => or_congr_left ?_
  obtain ⟨e, he, rfl, _⟩ := LGraph.edge?_some_mem ha
  obtain ⟨x, y, ho, hs⟩ := hI.2.2 e he
  exact stdNonzero_iff_changed ho hs

/-- **C02, bonds of the centre keep their ITS labels**: `order` pair and `standard_order` of a centre
bond are those of the ITS bond on the same atoms. -/
theorem rc_edge_labels (I : LGraph) (hI : I.WF) (u v : Nat) (a' : Attrs)
    (h : (getRc {} I).edge? u v = some a') :
    ∃ a, I.edge? u v = some a ∧ a'.get "order" = a.get "order" ∧
      a'.get "standard_order" = a.get "standard_order" := getRc_edge_labels hI u v a' h

/-- **C02, "contains exactly the atoms incident to those bonds"** (any input graph). -/
theorem rc_nodes_eq_endpoints (I : LGraph) (n : Nat) :
    n ∈ (getRc {} I).ids ↔ ∃ v, (getRc {} I).hasEdge n v = true := getRc_ids_iff_endpoints {} rfl I n

/-- **C02, "… with their ITS labels"**: every centre atom carries the ITS atom's `element`, `charge`,
`typesGH`, `atom_map` (DESIGN §5a reading of "ITS labels"). -/
theorem rc_labels (I : LGraph) (hI : WFits I) (n : Nat) (hn : n ∈ (getRc {} I).ids)
    (k : String) (hk : k ∈ rcKeys) : ((getRc {} I).attrs n).get k = (I.attrs n).get k :=
  getRc_label {} rfl I n hn k hk (Or.inr (hI.2.1 n (getRc_ids_sub hI.1 {} rfl n hn)))

/-- **C02, "the radius-k context is exactly the set of atoms within k bonds"**, for the expansion
routine: `k` rounds of neighbour union reach exactly the nodes at walk distance ≤ `k` from a seed. -/
theorem expand_iff_dist (I : LGraph) (S : List Nat) (k n : Nat) :
    n ∈ expand I S k ↔ ∃ s ∈ S, DistLE I s k n := mem_expand_iff I S k n

/-- **C02, "centre = context(0)"**. -/
theorem extractK_zero (I : LGraph) : extractK I 0 = getRc {} I := rfl

/-- **C02, context = distance ball**, for `extract_k` itself (radius ≥ 1; radius 0 is `extractK_zero`). -/
theorem mem_extractK_iff_dist (I : LGraph) (hI : I.WF) (k n : Nat) :
    n ∈ (extractK I (k + 1)).ids ↔ ∃ s ∈ (getRc {} I).ids, DistLE I s (k + 1) n :=
  (mem_ids_induced_expand hI (getRc_ids_sub hI {} rfl) (k + 1) n).trans (mem_expand_iff I _ _ n)

/-- **C02, monotone chain** `centre = K₀ ⊑ K₁ ⊑ K₂ ⊑ … ⊑ ITS` as sub-graphs (`Sub`: atoms, bonds,
centre labels, bond orders), for every radius. -/
theorem context_chain (I : LGraph) (hI : WFits I) (k : Nat) :
    Sub (extractK I 0) (extractK I (k + 1)) ∧ Sub (extractK I (k + 1)) (extractK I (k + 2)) ∧
      Sub (extractK I (k + 1)) I := by
  refine ⟨?_, ?_, ?_⟩
  · show Sub (getRc {} I) (induced I (expand I (getRc {} I).ids (k + 1)))
    exact getRc_sub_induced hI _ fun n hn => mem_expand_of_mem I (k + 1) hn
  · show Sub (induced I (expand I (getRc {} I).ids (k + 1))) (induced I (expand I (getRc {} I).ids (k + 2)))
    exact induced_sub_induced I _ _ (fun n hn => expand_mono I _ (k + 1) n hn)
  · exact induced_sub I _

/-- **C02, "extracting the centre of a centre changes nothing"**: `RcEq` = same atoms with the same
centre labels, same bonds with the same `order` / `standard_order` (list order aside). -/
theorem getRc_idem (I : LGraph) (hI : WFits I) : RcEq (getRc {} (getRc {} I)) (getRc {} I) := by
  have hids : ∀ n, n ∈ (getRc {} (getRc {} I)).ids ↔ n ∈ (getRc {} I).ids := by
    intro n
    rw [getRc_ids_iff_endpoints {} rfl, getRc_ids_iff_endpoints {} rfl]
    simp only [getRc_getRc_hasEdge]
  refine ⟨hids, ?_, getRc_getRc_hasEdge I, ?_⟩
  · intro n hn k hk
    exact getRc_label {} rfl (getRc {} I) n hn k hk (Or.inr (getRc_has_typesGH hI n ((hids n).1 hn)))
  · intro u v a b ha hb
    -- the bond of the centre's centre carries the labels of the centre's bond on `{u, v}`, which is `b`
    obtain ⟨b', hb', ho, hs⟩ := getRc_edge_labels (getRc_wf I hI.1) u v a ha
    cases hb.symm.trans hb'
    exact ⟨ho, hs⟩

/-- **C02, "renumbering the atom maps yields an isomorphic centre"**: `get_rc` commutes with every
injective renumbering `π` of the atoms — literally, for every option setting — so the centre of the
renumbered ITS is the `π`-image of the centre (hence isomorphic to it via `π`). -/
theorem getRc_relabel (o : RcOpts) (I : LGraph) (π : Nat → Nat) (hπ : Function.Injective π) :
    getRc o (I.relabel π) = (getRc o I).relabel π := by
  unfold getRc
  simp only
  have h : addHH o (I.relabel π) (addChanged o (I.relabel π) {}) = (addHH o I (addChanged o I {})).relabel π :=
    (congrArg _ (addChanged_relabel hπ o I {})).trans (addHH_relabel hπ o I _)
  rw [h]
  split
  · rw [addChargeNodes_relabel hπ, reconnect_relabel hπ]
  · rfl

/-- **C02, the context stops growing**: on a simple graph every radius `k ≥ |V|` gives the very same
context as radius `|V|`, and its atoms are exactly the atoms connected to a centre atom (a walk of any
length `d`, in the sense of `mem_extractK_iff_dist`). -/
theorem extractK_stabilises (I : LGraph) (hI : I.WF) (k : Nat) (hk : I.nodes.length ≤ k) :
    extractK I k = extractK I I.nodes.length ∧
    ∀ n, n ∈ (extractK I I.nodes.length).ids ↔ ∃ s ∈ (getRc {} I).ids, ∃ d, DistLE I s d n :=
  ⟨extractK_eq_of_ge hI hk, mem_extractK_card_iff hI⟩

/-- **Free-radius mode, as coded** (any graph, any NetworkX adjacency order `adj`): `extract_k(its, -1)`
is the radius-`r` context for `r` = the number of atoms of the path `longest_radius_extension` returns;
`r = 0` exactly when the centre is empty (then the result is the empty graph), otherwise `1 ≤ r ≤ |V|`;
the result contains every centre atom. -/
theorem extractFree_radius (I : LGraph) (hI : I.WF) (adj : Nat → List Nat) :
    extractFreeAdj adj I = extractK I (freeRadiusAdj adj I) ∧
    ((getRc {} I).ids = [] → freeRadiusAdj adj I = 0 ∧ extractFreeAdj adj I = {}) ∧
    ((getRc {} I).ids ≠ [] → 1 ≤ freeRadiusAdj adj I) ∧
    freeRadiusAdj adj I ≤ I.nodes.length ∧
    (∀ n ∈ (getRc {} I).ids, n ∈ (extractFreeAdj adj I).ids) := by
  refine ⟨extractFreeAdj_eq_extractK adj I, fun h => ⟨freeRadius_zero adj I h, extractFreeAdj_of_nil adj h⟩,
    freeRadius_pos adj I, freeRadius_le hI adj, ?_⟩
  intro n hn
  exact (mem_ids_induced_expand hI (getRc_ids_sub hI {} rfl) _ n).2 (mem_expand_of_mem I _ hn)

/-- **Free-radius mode = the connected component(s) of the centre.**  On a simple graph in which every
bond is either changed (`standard_order` a non-zero number) or crossable by the search
(`standard_order == 0`) — `StdTotal`, in particular on every well-formed ITS — and for every adjacency
order `adj` that lists all neighbours: the radius the code picks exceeds the distance of every atom
connected to the centre, so `extract_k(its, -1)` is the stabilised context of `extractK_stabilises`
(the same graph, whatever the tie-breaks of the search), whose atoms are exactly the atoms connected to
a centre atom.  Without `StdTotal` this fails (example `C02Example.J` below). -/
theorem extractFree_spec (I : LGraph) (hI : I.WF) (hz : StdTotal I) (adj : Nat → List Nat)
    (hadj : ∀ u v, I.hasEdge u v = true → v ∈ adj u) :
    extractFreeAdj adj I = extractK I I.nodes.length ∧
    (∀ n, n ∈ (extractFreeAdj adj I).ids ↔ ∃ s ∈ (getRc {} I).ids, ∃ d, DistLE I s d n) ∧
    (∀ s ∈ (getRc {} I).ids, ∀ d n, DistLE I s d n → ∃ s' ∈ (getRc {} I).ids, DistLE I s' (freeRadiusAdj adj I - 1) n) := by
  have h1 := extractFreeAdj_eq_card hI hz hadj
  refine ⟨h1, fun n => ?_, ?_⟩
  · rw [h1]; exact (extractK_stabilises I hI _ (Nat.le_refl _)).2 n
  · intro s hs d n hd
    exact Reach.near_of_le ⟨s, hs, d, hd⟩ fun _ hd' => Nat.le_sub_one_of_lt (freeRadius_gt_lvl hI hz hadj hd')

/-- `extractFree_spec` for a well-formed ITS and the adjacency order of the edge list; the centre is a
sub-graph of the result (atoms, bonds, labels). -/
theorem extractFree_spec_wfits (I : LGraph) (hI : WFits I) :
    extractFree I = extractK I I.nodes.length ∧
    (∀ n, n ∈ (extractFree I).ids ↔ ∃ s ∈ (getRc {} I).ids, ∃ d, DistLE I s d n) ∧
    Sub (getRc {} I) (extractFree I) := by
  obtain ⟨h1, h2, _⟩ := extractFree_spec I hI.1 (StdTotal_of_WFits hI) I.neighbors (fun _ _ => LGraph.mem_neighbors_iff.2)
  exact ⟨h1, h2, getRc_sub_induced hI _ fun n hn => mem_expand_of_mem I _ hn⟩

/-- **Free-radius mode, centre = whole graph**: the result is the ITS itself (any adjacency order). -/
theorem extractFree_whole (I : LGraph) (hI : I.WF) (adj : Nat → List Nat)
    (hall : ∀ n ∈ I.ids, n ∈ (getRc {} I).ids) : extractFreeAdj adj I = I := extractFreeAdj_whole hI adj hall

/-- **The recursion bound of the model is not a restriction**: with `|V|` units of fuel the search
`dfs` of `longest_radius_extension` returns what it returns with any larger bound.  `hv` (the code only starts
a search at an unvisited atom) is not needed by the proof. -/
theorem dfsLongest_enough_fuel (I : LGraph) (hI : I.WF) (adj : Nat → List Nat) (c : Nat) (vis : List Nat)
    (hc : c ∈ I.ids) (hv : c ∉ vis) (k : Nat) :
    dfsLongest (freeSteps I adj) (I.nodes.length + k) c vis [c] =
      dfsLongest (freeSteps I adj) I.nodes.length c vis [c] := by
  have _ := hv
  exact dfsLongest_fuel_stable hI adj c vis hc k

/-- **`find_unequal_order_edges`**: (1) as coded, on any graph: the end points of the bonds that pass the
code's test (`order` a tuple whose two entries differ and `standard_order != 0`); (2) on a well-formed
ITS (`standard_order` = difference of the order pair): exactly the atoms of the bonds whose two orders
differ; (3) the atoms of the centre `get_rc` are these atoms plus the hydrogens of the H–H bonds. -/
theorem unequalOrderEdges_spec (I : LGraph) :
    (∀ n, n ∈ unequalOrderEdges I ↔ ∃ e ∈ I.edges, unequalEdge e.2.2 = true ∧ (n = e.1 ∨ n = e.2.1)) ∧
    (WFits I → ∀ n, n ∈ unequalOrderEdges I ↔ ∃ v a, I.edge? n v = some a ∧ changed a) ∧
    (WFits I → ∀ n, n ∈ (getRc {} I).ids ↔
        n ∈ unequalOrderEdges I ∨ ∃ v, I.hasEdge n v = true ∧ isHH I n v = true) :=
  ⟨mem_unequalOrderEdges_iff I, fun h => unequalOrderEdges_iff_changed h, fun h => getRc_ids_iff_unequal h⟩

/-- The property at full strength over the model (Appendix A of DESIGN.md), assembled. -/
def C02.FullStatement : Prop :=
  ∀ I : LGraph, WFits I →
    let R := getRc {} I
    (∀ u v, R.hasEdge u v = true ↔ ∃ a, I.edge? u v = some a ∧ (changed a ∨ isHH I u v = true)) ∧
    (∀ u v a', R.edge? u v = some a' → ∃ a, I.edge? u v = some a ∧ a'.get "order" = a.get "order" ∧
        a'.get "standard_order" = a.get "standard_order") ∧
    (∀ n, n ∈ R.ids ↔ ∃ v, R.hasEdge n v = true) ∧
    (∀ n ∈ R.ids, ∀ k ∈ rcKeys, (R.attrs n).get k = (I.attrs n).get k) ∧
    RcEq (getRc {} R) R ∧
    (∀ π : Nat → Nat, Function.Injective π → getRc {} (I.relabel π) = R.relabel π) ∧
    (∀ k n, n ∈ (extractK I (k + 1)).ids ↔ ∃ s ∈ R.ids, DistLE I s (k + 1) n) ∧
    extractK I 0 = R ∧
    (∀ k, Sub R (extractK I (k + 1)) ∧ Sub (extractK I (k + 1)) (extractK I (k + 2)) ∧ Sub (extractK I (k + 1)) I)

theorem C02.fullStatement_holds : C02.FullStatement := fun I hI =>
  ⟨mem_rc_edge_iff I hI, rc_edge_labels I hI.1, rc_nodes_eq_endpoints I, rc_labels I hI, getRc_idem I hI,
    fun π hπ => getRc_relabel {} I π hπ, mem_extractK_iff_dist I hI.1, rfl, context_chain I hI⟩

/-! ## Non-vacuity: an esterification-like ITS
`C1(=O2)(O3 H) + O4(H6)–C5  →  C1(=O2)–O4–C5 + O3 H2`: bond 1–3 broken, 1–4 formed, explicit H6
moves from O4 to O3; 7 is a spectator carbon on C5, 8–9 an unchanged H–H bond. -/
namespace C02Example

def nd (el : String) (n : Nat) : Nat × Attrs :=
  (n, [("element", .str el), ("charge", .num 0), ("atom_map", .num (2 * (n : Int))),
       ("typesGH", .tup [.tup [.str el, .bool false, .num 0, .num 0, .tup []],
                         .tup [.str el, .bool false, .num 0, .num 0, .tup []]])])

def ed (u v : Nat) (a b : Int) : Nat × Nat × Attrs :=
  (u, v, [("order", .tup [.num a, .num b]), ("standard_order", .num (a - b))])

def I : LGraph :=
  { nodes := [nd "C" 1, nd "O" 2, nd "O" 3, nd "O" 4, nd "C" 5, nd "H" 6, nd "C" 7, nd "H" 8, nd "H" 9]
    edges := [ed 1 2 4 4, ed 1 3 2 0, ed 1 4 0 2, ed 4 5 2 2, ed 4 6 2 0, ed 3 6 0 2, ed 5 7 2 2, ed 8 9 2 2] }

theorem wfits_I : WFits I :=
  ⟨by decide +kernel, by decide +kernel, fun e he => by
    simp only [I, List.mem_cons, List.not_mem_nil, or_false] at he
    rcases he with rfl | rfl | rfl | rfl | rfl | rfl | rfl | rfl
    all_goals exact ⟨_, _, rfl, rfl⟩⟩

example : I.WF := wfits_I.1

example : WFits I := wfits_I

example : (getRc {} I).edges.map (fun e => (e.1, e.2.1)) = [(1, 3), (1, 4), (4, 6), (3, 6), (8, 9)] := by decide +kernel
/-- The centre of `I`, evaluated once; the radius examples below start from it. -/
theorem rcI_ids : (getRc {} I).ids = [1, 3, 4, 6, 8, 9] := by decide +kernel

example : (getRc {} I).ids = [1, 3, 4, 6, 8, 9] := rcI_ids
example : (getRc {} (getRc {} I)).ids = [1, 3, 4, 6, 8, 9] := by decide +kernel
example : (extractK I 1).ids = [1, 2, 3, 4, 5, 6, 8, 9] := by
  rw [extractK_eq_induced fun _ => Nat.one_pos, rcI_ids]; decide +kernel
example : (extractK I 2).ids = [1, 2, 3, 4, 5, 6, 7, 8, 9] := by
  rw [extractK_eq_induced fun _ => Nat.two_pos, rcI_ids]; decide +kernel
example : (extractK I 1).edges.length = 7 := by
  rw [extractK_eq_induced fun _ => Nat.one_pos, rcI_ids]; decide +kernel
/-- An edge without `standard_order` is not a changed bond (the `isinstance` guard). -/
example : (getRc {} { nodes := [nd "C" 1, nd "O" 2], edges := [(1, 2, [("order", .tup [.num 2, .num 0])])] }).edges = [] := by
  decide +kernel
example : getRc {} (I.relabel (· * 3 + 1)) = (getRc {} I).relabel (· * 3 + 1) :=
  getRc_relabel {} I _ fun a b (h : a * 3 + 1 = b * 3 + 1) => by omega

/-- Free-radius mode: the code picks radius 3 (the three atoms of the path 4–5–7). -/
example : StdTotal I := StdTotal_of_WFits wfits_I
example : freeRadius I = 3 := by decide +kernel
example : (extractFree I).ids = [1, 2, 3, 4, 5, 6, 7, 8, 9] := by decide +kernel
example : extractFree I = extractK I I.nodes.length := (extractFree_spec_wfits I wfits_I).1
example : unequalOrderEdges I = [1, 3, 4, 6] := by decide +kernel
example : unequalDefined I = true := by decide +kernel

/-- `StdTotal` is needed in `extractFree_spec`: bond 2–3 carries no `standard_order`, the search cannot
cross it, the code picks radius 1 and returns atoms 1–3 although 4 and 5 are connected to the centre. -/
def J : LGraph :=
  { nodes := [nd "C" 1, nd "O" 2, nd "C" 3, nd "C" 4, nd "C" 5]
    edges := [ed 1 2 2 0, (2, 3, [("order", .tup [.num 2, .num 2])]), ed 3 4 2 2, ed 4 5 2 2] }

example : J.WF ∧ ¬ StdTotal J := by decide +kernel
example : freeRadius J = 1 ∧ (extractFree J).ids = [1, 2, 3] ∧ (extractK J J.nodes.length).ids = [1, 2, 3, 4, 5] := by decide +kernel

/-- The radius depends on the adjacency order (ties of the search feed `visited_overall`): 6 with the
edge-list order, 5 with the reversed one — the returned context is the same (`extractFree_spec`). -/
def T : LGraph :=
  { nodes := [nd "C" 1, nd "C" 2, nd "C" 3, nd "C" 4, nd "C" 5, nd "C" 6, nd "C" 7, nd "C" 8, nd "C" 9, nd "C" 10, nd "C" 11]
    edges := [ed 1 2 2 0, ed 1 3 2 2, ed 3 4 2 2, ed 4 5 2 2, ed 5 6 2 2, ed 1 9 2 2, ed 9 8 2 2, ed 8 7 2 2, ed 7 2 2 2,
              ed 9 10 2 2, ed 10 11 2 2] }

example : freeRadius T = 6 ∧ freeRadiusAdj (fun v => (T.neighbors v).reverse) T = 5 := by decide +kernel
example : (extractFreeAdj (fun v => (T.neighbors v).reverse) T).ids = (extractFree T).ids ∧ (extractFree T).ids = T.ids := by decide +kernel
/-- Empty centre; centre on every atom. -/
example : extractFree { nodes := [nd "C" 1, nd "O" 2], edges := [ed 1 2 2 2] } = {} := by decide +kernel
example : extractFree { nodes := [nd "C" 1, nd "O" 2], edges := [ed 1 2 2 0] } =
    { nodes := [nd "C" 1, nd "O" 2], edges := [ed 1 2 2 0] } := by decide +kernel

end C02Example

end SynKit.ITS
