import SynKitProofs.ReactorInvLemmas
import SynKitProofs.Props.C05
import SynKitProofs.ReactorLink
import SynKitProofs.ReactorITSLink
import SynKitProofs.Props.C03
/-!
C04 — applying a reaction's own template regenerates it.  Three steps: (1) the inclusion of the prepared
pattern in the reactant graph is a match, the exhaustive search enumerates it, also after renumbering
(`id_isMono`, `id_mem_allMonos`, C05); (2) pruning keeps an equivalent match (`PruneSound`, C05); (3) gluing
along it rebuilds the reaction (`GlueRebuilds`).  Abstract reactor first, then `ReactorLink.concrete` (step 3
under `RcComplete`), then the graphs of the ITS family, backwards, the other strategies, `ItsCoreEquiv`.
-/
namespace SynKit.ReactorInv
open SynKit.Match

variable {R : Type}

/-- `SubPattern` is evaluated through `subPatternB` by the driver (`rinv.subpattern`, `rinv.id_in_monos`) on the
graphs the implementation really builds (`harness/props/c04.py`). -/
theorem subPatternB_iff (sel : Sel) (H P : LGraph) : subPatternB sel H P = true ↔ SubPattern sel H P := by
  simp only [subPatternB, SubPattern, Bool.and_eq_true, List.all_eq_true, List.contains_iff_mem]
  refine and_congr_right' (forall₂_congr fun e _ => ?_)
  cases H.edge? e.1 e.2.1 <;> simp

/-- The inclusion of a sub-pattern is enumerated by the exhaustive search (read off the characterisation of the
enumerator's output, `Match.mem_extend_nil`, which asks nothing of the graphs; only `P.ids.Nodup` is needed of `P`). -/
theorem id_mem_allMonos (sel : Sel) (H P : LGraph) (hP : P.ids.Nodup) (h : SubPattern sel H P) :
    idMap P ∈ allMonos sel H P := by
  refine (mem_extend_nil sel false H P _).2 ⟨by simp [idMap, Function.comp_def], ?_, ?_⟩
  · refine List.pairwise_map.2 (hP.pairwise_of_forall_ne fun u _ v _ huv => ⟨huv, ?_⟩)
    cases hpe : P.edge? u v with
    | none => exact (pairOk_of_nonedge hpe).2 nofun
    | some pa =>
      obtain ⟨e, he, rfl, hor⟩ := LGraph.edge?_some_mem hpe
      obtain ⟨ea, hea, hok⟩ := h.2 e he
      exact (pairOk_of_edge hpe).2 ⟨ea, (LGraph.edge?_of_joins hor).symm.trans hea, hok⟩
  · intro x hx
    obtain ⟨v, hv, rfl⟩ := List.mem_map.1 hx
    exact ⟨(h.1 v hv).1, (h.1 v hv).2, fun hi => by cases hi⟩

/-- **C04, first step.** The inclusion of a sub-pattern is a label-preserving monomorphism. -/
theorem id_isMono (sel : Sel) (H P : LGraph) (hP : P.WF) (h : SubPattern sel H P) :
    IsMono sel H P (idMap P) :=
  isMono_idMap hP h

/-- **Constructive form of the C04 premise.** A pattern obtained from `G` by keeping a subset of the
nodes, a subset of the edges between kept nodes, and lowering hydrogen counts is a sub-pattern of
`G` — for every selection of compared attributes that does not compare `hcount` exactly. -/
theorem subPattern_of_subPatternOf (sel : Sel) (G : LGraph) (hG : G.WF) (hk : "hcount" ∉ sel.nodeKeys)
    (keep : Nat → Bool) (keepE : Nat → Nat → Bool) (capH : Nat → Int) :
    SubPattern sel G (subPatternOf G keep keepE capH) := by
  constructor
  · intro v hv
    obtain ⟨hvG, hkv⟩ := List.mem_filter.1 (subPatternOf_ids G keep keepE capH ▸ hv)
    rw [subPatternOf_attrs G keep keepE capH hvG hkv]
    exact ⟨hvG, nodeOk_set_hcount sel _ _ hk (Int.min_le_left _ _)⟩
  · intro e he
    exact ⟨e.2.2, LGraph.edge?_of_mem hG (List.mem_filter.1 he).1 (.inl ⟨rfl, rfl⟩), edgeOk_refl sel _⟩

/-- … so the own match is enumerated whenever the pattern arises from the substrate graph in that way. -/
theorem id_mem_allMonos_subPatternOf (sel : Sel) (G : LGraph) (hG : G.WF) (hk : "hcount" ∉ sel.nodeKeys)
    (keep : Nat → Bool) (keepE : Nat → Nat → Bool) (capH : Nat → Int) :
    idMap (subPatternOf G keep keepE capH) ∈ allMonos sel G (subPatternOf G keep keepE capH) :=
  id_mem_allMonos sel G _ (subPatternOf_ids G keep keepE capH ▸ hG.1.filter _)
    (subPattern_of_subPatternOf sel G hG hk keep keepE capH)

/-- Named hypothesis (step 3): gluing the host (the own reactant graph, renumbered by `f`) with its own
template along the (renumbered) identity match yields the reaction `target`.  For the concrete glue step:
`C04.glueRebuilds_concrete_partial`, under `RcComplete`. -/
def GlueRebuilds (X : Reactor R) (dir : Bool) (G T : LGraph) (f : Nat → Nat) (target : R) : Prop :=
  ∃ r ∈ X.glue dir (G.relabel f) T (relabelHost f (idMap (X.pattern dir T))), X.equiv r target

theorem result_of_raw_match (X : Reactor R) (hE : Equivalence X.equiv) (s : Strategy) (dir : Bool)
    (host T : LGraph) (m : Mapping) (target : R)
    (hraw : m ∈ X.search s host (X.pattern dir T))
    (hglue : ∃ r ∈ X.glue dir host T m, X.equiv r target)
    (hprune : SetEqMod X.equiv (X.results s dir host T) (X.resultsUnpruned s dir host T)) :
    ∃ r ∈ X.results s dir host T, X.equiv r target := by
  obtain ⟨r, hr, hrt⟩ := hglue
  obtain ⟨r', hr', e⟩ := hprune.2 r (List.mem_flatMap.2 ⟨m, hraw, hr⟩)
  exact ⟨r', hr', hE.trans (hE.symm e) hrt⟩

/-- **C04, proved part (one direction, any strategy that is complete on the own match).**
If the prepared pattern of the own template is a sub-pattern of the substrate-side graph `G`,
then for every renumbering `f` of the substrate the reaction is among the results — provided the
search returns every match of the exhaustive enumerator on this substrate (`hsearch`; trivial for
the exhaustive strategy, see `own_template_regenerates_all_partial`; for the fallback strategy it
holds whenever the component-aware search is empty or itself contains the own match; for the
component-aware strategy it fails by design when the substrate has more components than the
pattern — the documented `strict_cc_count` guard), pruning is sound and the glue step rebuilds the reaction
along the identity match.  Missing for the unconditional statement: `GlueRebuilds` (C03, needs
`RcComplete`; false for F10 inputs) and completeness of the explicit-hydrogen re-match (false for
F20 inputs). -/
theorem own_template_regenerates_partial (X : Reactor R) (hE : Equivalence X.equiv)
    (s : Strategy) (dir : Bool) (G T : LGraph) (f : Nat → Nat) (hf : Function.Injective f) (target : R)
    (hP : (X.pattern dir T).WF)
    (hsub : SubPattern X.sel G (X.pattern dir T))
    (hsearch : ∀ m, m ∈ allMonos X.sel (G.relabel f) (X.pattern dir T) → m ∈ X.search s (G.relabel f) (X.pattern dir T))
    (hprune : PruneSound X)
    (hglue : GlueRebuilds X dir G T f target) :
    ∃ r ∈ X.results s dir (G.relabel f) T, X.equiv r target := by
  have hid : idMap (X.pattern dir T) ∈ allMonos X.sel G (X.pattern dir T) := id_mem_allMonos _ _ _ hP.1 hsub
  exact result_of_raw_match X hE s dir (G.relabel f) T _ target
    (hsearch _ ((allMonos_relabel_host X.sel G _ f hf _).2 ⟨_, hid, rfl⟩)) hglue (hprune dir (G.relabel f) T _)

/-- **C04, exhaustive strategy:** no search hypothesis is needed. -/
theorem own_template_regenerates_all_partial (X : Reactor R) (hE : Equivalence X.equiv)
    (hall : ∀ H P, X.search .all H P = allMonos X.sel H P)
    (dir : Bool) (G T : LGraph) (f : Nat → Nat) (hf : Function.Injective f) (target : R)
    (hP : (X.pattern dir T).WF) (hsub : SubPattern X.sel G (X.pattern dir T))
    (hprune : PruneSound X) (hglue : GlueRebuilds X dir G T f target) :
    ∃ r ∈ X.results .all dir (G.relabel f) T, X.equiv r target :=
  own_template_regenerates_partial X hE .all dir G T f hf target hP hsub (fun m hm => by rw [hall]; exact hm) hprune hglue

/-- **C04 backwards.** Backward application is forward application of the inverted template to the
product graph: the same theorem at `dir = true`, stated with both directions side by side. -/
theorem own_template_backward_partial (X : Reactor R) (hE : Equivalence X.equiv)
    (hall : ∀ H P, X.search .all H P = allMonos X.sel H P)
    (G H T : LGraph) (f g : Nat → Nat) (hf : Function.Injective f) (hg : Function.Injective g) (target : R)
    (hPf : (X.pattern false T).WF) (hPb : (X.pattern true T).WF)
    (hsubf : SubPattern X.sel G (X.pattern false T)) (hsubb : SubPattern X.sel H (X.pattern true T))
    (hprune : PruneSound X)
    (hgf : GlueRebuilds X false G T f target) (hgb : GlueRebuilds X true H T g target) :
    (∃ r ∈ X.results .all false (G.relabel f) T, X.equiv r target) ∧
    (∃ r ∈ X.results .all true (H.relabel g) T, X.equiv r target) :=
  ⟨own_template_regenerates_all_partial X hE hall false G T f hf target hPf hsubf hprune hgf,
   own_template_regenerates_all_partial X hE hall true H T g hg target hPb hsubb hprune hgb⟩

/-- **C04 at full strength** (Appendix A of DESIGN.md).  Property text: *for every balanced mapped reaction
whose hydrogens are written consistently, the template extracted from it (full ITS or reaction centre)
applied to its unmapped reactants yields the reaction among the results, and the same template applied
backwards to its unmapped products yields it as well; for every atom-map renumbering and every SMILES
rewriting of the reaction.*  The template is drawn on the node ids of the mapped reaction; the substrate is
the reactant graph with its map numbers forgotten, i.e. renumbered by some injective `f` (any SMILES
rewriting is such an `f`).  Stated over the abstract reactor and the abstract ITS construction: `construct G H` the full ITS, `getRc` its centre, `unmap` forgetting map numbers
and making hydrogens implicit, `HConsistent` the precondition on how hydrogens are written,
`target G H` the reaction itself as a result.  For the real stages this statement is FALSE on the
pinned tree (findings F10 and F20: a centre template cannot carry a charge / hydrogen change on an
atom without a changed bond; a pattern atom with both an explicit hydrogen and a positive count
defeats the explicit re-match), which the implementation-level check reports as KNOWN findings. -/
def C04.FullStatement (X : Reactor R) (construct : LGraph → LGraph → LGraph) (getRc : LGraph → LGraph)
    (unmap : LGraph → LGraph) (HConsistent : LGraph → LGraph → Prop) (target : LGraph → LGraph → R) : Prop :=
  ∀ (G H : LGraph), G.WF → H.WF → G.ids.Perm H.ids → HConsistent G H →
    ∀ T ∈ [construct G H, getRc (construct G H)], ∀ (s : Strategy) (f : Nat → Nat), Function.Injective f →
      (∃ r ∈ X.results s false ((unmap G).relabel f) T, X.equiv r (target G H)) ∧
      (∃ r ∈ X.results s true ((unmap H).relabel f) T, X.equiv r (target G H))

private def ethanol : LGraph :=
  { nodes := [(1, [("element", .str "C"), ("hcount", .num 6)]), (2, [("element", .str "C"), ("hcount", .num 4)]),
              (3, [("element", .str "O"), ("hcount", .num 2)])],
    edges := [(1, 2, [("order", .num 2)]), (2, 3, [("order", .num 2)])] }

/-- the C–O part of ethanol with lowered hydrogen counts (what a centre template keeps) -/
private def centreCO : LGraph :=
  { nodes := [(2, [("element", .str "C"), ("hcount", .num 0)]), (3, [("element", .str "O"), ("hcount", .num 2)])],
    edges := [(2, 3, [("order", .num 2)])] }

private def selEO' : Sel := { nodeKeys := ["element"], edgeKeys := ["order"] }

example : centreCO.WF := by decide +kernel
/-- the centre pattern above is literally a restriction of ethanol (nodes 2,3; hydrogen count of C capped at 0) -/
example : subPatternOf ethanol (fun v => v == 2 || v == 3) (fun _ _ => true) (fun v => if v == 2 then 0 else 2) = centreCO := by decide +kernel
example : subPatternB selEO' ethanol centreCO = true := by decide +kernel
example : SubPattern selEO' ethanol centreCO := (subPatternB_iff _ _ _).1 (by decide +kernel)
example : idMap centreCO ∈ allMonos selEO' ethanol centreCO := by decide +kernel
/-- a pattern that asks for more hydrogens than the host has is not a sub-pattern -/
example : subPatternB selEO' centreCO ethanol = false := by decide +kernel

/-- A concrete reactor on which every hypothesis of `own_template_regenerates_partial` holds. -/
private def toyY : Reactor (List (Nat × Nat)) where
  sel := selEO'
  pattern := fun _ _ => centreCO
  search := fun _ H P => allMonos selEO' H P
  prune := fun _ _ ms => ms
  glue := fun _ _ _ m => [m]
  equiv := fun a b => a = b

example : ∃ r ∈ toyY.results .all false (ethanol.relabel (· + 5)) centreCO, r = [(2, 7), (3, 8)] := by
  have hEq : Equivalence toyY.equiv := eq_equivalence
  refine own_template_regenerates_partial toyY hEq .all false ethanol centreCO (· + 5)
    (fun a b h => Nat.add_right_cancel h) [(2, 7), (3, 8)] (by decide +kernel) ((subPatternB_iff _ _ _).1 (by decide +kernel))
    (fun m hm => hm) (fun _ _ _ ms => SetEqMod.refl hEq _) ?_
  exact ⟨[(2, 7), (3, 8)], by decide +kernel, rfl⟩

section Concrete
open SynKit.Reactor SynKit.ReactorLink

theorem idMap_concrete_pattern (maxGroup : Nat) (comp : LGraph → LGraph → List Mapping) (T : LGraph)
    (hT : WFTemplate T) : idMap ((concrete maxGroup comp).pattern false T) = idMap T :=
  congrArg (List.map fun v => (v, v)) ((noMap_ids (left T)).trans (left_ids T hT))

/-- Gluing along the identity match rebuilds the reaction up to `ItsEquiv`. -/
theorem C04.glue_identity_match (G I T : LGraph) (h : OwnTemplate G I T) (hrc : RcComplete I T) :
    (glue G T (idMap T)).WF ∧ ItsEquiv (glue G T (idMap T)) I := by
  have A := assign_of_mono G T (idMap T) h.hT h.hid
  have hW := glue_wf G T _ h.hG.1 h.hT.1 A.inj A.img
  exact ⟨hW, Or.inr ⟨hW, h.hI, _, glue_own_template_partial G I T h hrc⟩⟩

/-- **C04 step 3 for the concrete reactor (`_partial`)**: `GlueRebuilds` holds — gluing the renumbered
reactant graph with the reaction's own template along the renumbered identity match renders a
reaction isomorphic to `I` — given `OwnTemplate G I T` and `RcComplete I T`.  (Gap: see
`ReactorLink.glue_own_template_partial`.) -/
theorem C04.glueRebuilds_concrete_partial (maxGroup : Nat) (comp : LGraph → LGraph → List Mapping)
    (G I T : LGraph) (f : Nat → Nat) (hf : Function.Injective f)
    (h : OwnTemplate G I T) (hrc : RcComplete I T) :
    GlueRebuilds (concrete maxGroup comp) false G T f I := by
  obtain ⟨hW, hI⟩ := C04.glue_identity_match G I T h hrc
  have hglue := concrete_glue_relabel maxGroup comp hf (π := fun v => v) (fun _ _ h => h) false G T (idMap T)
  rw [LGraph.relabel_id, relabelPat_id, concrete_glue_of_mono maxGroup comp false G T _ h.hG h.hT h.hid] at hglue
  refine ⟨(glue G T (idMap T)).relabel f, ?_, itsEquiv_equivalence.trans (itsEquiv_relabel _ hW f hf) hI⟩
  rw [idMap_concrete_pattern maxGroup comp T h.hT, hglue]
  exact List.mem_singleton.2 rfl

/-- The three steps for the concrete reactor and a strategy whose search is equivariant, returns exhaustive matches
only, and returns the identity match on the substrate as the reaction numbers it. -/
theorem C04.result_of_identity_match (maxGroup : Nat) (comp : LGraph → LGraph → List Mapping) (s : Strategy)
    (G I T : LGraph) (f : Nat → Nat) (hf : Function.Injective f) (h : OwnTemplate G I T) (hrc : RcComplete I T)
    (heq : SearchEquivariant ((concrete maxGroup comp).search s))
    (hsub : ∀ H P m, m ∈ (concrete maxGroup comp).search s H P → m ∈ allMonos monoSel H P)
    (hid : idMap T ∈ (concrete maxGroup comp).search s G ((concrete maxGroup comp).pattern false T)) :
    ∃ r ∈ (concrete maxGroup comp).results s false (G.relabel f) T, ItsEquiv r I := by
  obtain ⟨r, hr, hrt⟩ := C04.glueRebuilds_concrete_partial maxGroup comp G I T f hf h hrc
  rw [idMap_concrete_pattern maxGroup comp T h.hT] at hr
  have hraw := (heq G _ f (fun v => v) hf (fun _ _ e => e) _).2 ⟨idMap T, hid, rfl⟩
  rw [LGraph.relabel_id, relabelPat_id] at hraw
  exact result_of_raw_match _ itsEquiv_equivalence s false _ T _ I hraw ⟨r, hr, hrt⟩
    (concrete_results_unpruned maxGroup comp s false _ T fun m => hsub _ _ m)

/-- The identity match is returned by the exhaustive strategy. -/
theorem C04.id_mem_search_all (maxGroup : Nat) (comp : LGraph → LGraph → List Mapping) (G I T : LGraph)
    (h : OwnTemplate G I T) :
    idMap T ∈ (concrete maxGroup comp).search .all G ((concrete maxGroup comp).pattern false T) := by
  rw [concrete_search_all]
  exact (mem_allMonos monoSel G (left T) (left_wf T h.hT) _).2 h.hid

/-- **C04, concrete, exhaustive strategy (`_partial`).** For the modelled implicit path with the
repaired pruning: if `T` is a template of the reaction `I` of the reactant graph `G`
(`OwnTemplate`) and covers every atom whose hydrogen count or charge changes (`RcComplete`), then
for every renumbering `f` of the reactants the reaction is among the results of applying `T` to
them, up to isomorphism of ITS graphs.  All three steps are discharged for the concrete stages: the
identity match is enumerated and renumbers (`C05`), pruning keeps an equivalent match
(`C05.prune_preserves_results_concrete`), the glue step rebuilds the reaction
(`C04.glueRebuilds_concrete_partial`).  Not in this theorem, supplied further down for the graphs of the ITS family: that `ITS.construct` / `ITS.getRc`
satisfy `OwnTemplate` (`C04.ownTemplate_full_its`, `C04.ownTemplate_centre`; its clause `lab` — no change of
aromatic flag — is avoided in the `_core` versions), the backward direction through `invert`
(`C04.own_template_regenerates_both_directions`), the other strategies (`C04.own_template_regenerates_comp_bt`;
the component-aware one fails by design when the substrate has more components than the pattern).
Missing for the full statement of C04: the composition with `SynRule` and the explicit-hydrogen path. -/
theorem C04.own_template_regenerates_concrete_partial (maxGroup : Nat) (comp : LGraph → LGraph → List Mapping)
    (G I T : LGraph) (f : Nat → Nat) (hf : Function.Injective f)
    (h : OwnTemplate G I T) (hrc : RcComplete I T) :
    ∃ r ∈ (concrete maxGroup comp).results .all false (G.relabel f) T, ItsEquiv r I :=
  C04.result_of_identity_match maxGroup comp .all G I T f hf h hrc (allMonos_searchEquivariant monoSel)
    (fun _ _ _ hm => hm) (C04.id_mem_search_all maxGroup comp G I T h)

/-- Reactants `C–Br . N . O` (atoms 1, 2, 3 and the spectator 4). -/
private def oG : LGraph :=
  { nodes := [(1, [("element", .str "C"), ("hcount", .num 6), ("charge", .num 0)]),
              (2, [("element", .str "Br"), ("hcount", .num 0), ("charge", .num 0)]),
              (3, [("element", .str "N"), ("hcount", .num 4), ("charge", .num 0)]),
              (4, [("element", .str "O"), ("hcount", .num 4), ("charge", .num 0)])]
    edges := [(1, 2, [("order", .num 2)])] }

private def lbl (e : String) (h : Int) : Val := .tup [.str e, .bool false, .num h, .num 0, .tup []]

/-- The reaction: N–H + C–Br → N–C + H–Br; water looks on. -/
private def oI : LGraph :=
  { nodes := [(1, [("typesGH", .tup [lbl "C" 6, lbl "C" 6])]), (2, [("typesGH", .tup [lbl "Br" 0, lbl "Br" 2])]),
              (3, [("typesGH", .tup [lbl "N" 4, lbl "N" 2])]), (4, [("typesGH", .tup [lbl "O" 4, lbl "O" 4])])]
    edges := [(1, 2, [("order", .tup [.num 2, .num 0])]), (3, 1, [("order", .tup [.num 0, .num 2])])] }

/-- Its centre template, drawn on the reaction's atoms, hydrogen counts reduced to those that take part. -/
private def oT : LGraph :=
  { nodes := [(3, [("typesGH", .tup [lbl "N" 2, lbl "N" 0])]), (1, [("typesGH", .tup [lbl "C" 0, lbl "C" 0])]),
              (2, [("typesGH", .tup [lbl "Br" 0, lbl "Br" 2])])]
    edges := [(3, 1, [("order", .tup [.num 0, .num 2]), ("standard_order", .num (-2))]),
              (1, 2, [("order", .tup [.num 2, .num 0]), ("standard_order", .num 2)])] }

private theorem oOwn : OwnTemplate oG oI oT where
  hG := by decide +kernel
  hT := by decide +kernel
  hI := by decide +kernel
  hid := (isMonoB_iff _ _ _ _).1 (by decide +kernel)
  ids := fun _ => Iff.rfl
  len := by decide +kernel
  hnum := by decide +kernel
  lab := by
    refine fun v hv => ⟨hR (oI.attrs v), .num 0, ?_⟩
    revert v
    decide +kernel
  tpl := by decide +kernel
  gEdge := by decide +kernel
  iEdge := by decide +kernel
  tEdge := by decide +kernel

/-- The hypotheses of `C04.own_template_regenerates_concrete_partial` are satisfiable on a
non-trivial input (two changed bonds, a hydrogen migration, an atom outside the template) … -/
example : OwnTemplate oG oI oT ∧ RcComplete oI oT := ⟨oOwn, by unfold RcComplete; decide⟩

/-- … and its conclusion is what evaluation of the model gives: after renumbering the reactants
(+7) the one result is the renumbered reaction, label for label and bond for bond. -/
example : ((concrete 5040 (allMonos monoSel)).results .all false (oG.relabel (· + 7)) oT).map
      (fun r => (r.nodes.map fun p => (p.1, Attrs.get p.2 "typesGH"), r.edges.map fun e => (e.1, e.2.1, Attrs.get e.2.2 "order"))) =
    [((oI.relabel (· + 7)).nodes.map fun p => (p.1, Attrs.get p.2 "typesGH"),
      [(8, 9, .tup [.num 2, .num 0]), (10, 8, .tup [.num 0, .num 2])])] := by decide +kernel

/-- `RcComplete` cannot be dropped: with the spectator's charge changing in the reaction (an atom
outside the template whose label differs between the sides — the shape of finding F10) the glued
graph keeps the reactant label there, so it is not the reaction. -/
example :
    let I' : LGraph := { oI with nodes := oI.nodes.map fun p =>
      if p.1 = 4 then (4, [("typesGH", Val.tup [lbl "O" 4, Val.tup [.str "O", .bool false, .num 2, .num (-2), .tup []]])]) else p }
    ¬ RcComplete I' oT ∧
      Attrs.get ((glue oG oT (idMap oT)).attrs 4) "typesGH" ≠ Attrs.get (I'.attrs 4) "typesGH" := by
  refine ⟨by unfold RcComplete; decide, by decide +kernel⟩

end Concrete

/-! For a balanced pair `(G, H)` (`ReactorLink.RxnPair`) the reaction is `I := ITS.construct o G H` and the template
`T := I` or `T := ITS.getRc {} I`.  Backwards the substrate is `H`, the glued template `invert T`, the reaction
`ITS.construct o H G`. -/
section ITSLink
open SynKit.Reactor SynKit.ReactorLink

variable {G H : LGraph}

/-- Every template cut out of the full ITS of a balanced pair is a template of that reaction. -/
theorem C04.ownTemplate_of_subITS (o : ITS.Opts) (hp : RxnPair G H) (T : LGraph)
    (hS : SubITS T (ITS.construct o G H)) : OwnTemplate G (ITS.construct o G H) T :=
  ownTemplate_of_sub _ _ _ (reactionOf_construct o hp.toRxnPairW) (strongLab_construct o hp) hS

/-- **The full ITS of a balanced pair is a template of its own reaction.** -/
theorem C04.ownTemplate_full_its (o : ITS.Opts) (hp : RxnPair G H) :
    OwnTemplate G (ITS.construct o G H) (ITS.construct o G H) :=
  C04.ownTemplate_of_subITS o hp _ (subITS_self _ (wfTemplate_construct o hp.toRxnPairW))

/-- **The reaction centre (`get_rc`) of the full ITS of a balanced pair is a template of that
reaction** (`ignore_aromaticity=False`, so that a changed bond is one whose two orders differ). -/
theorem C04.ownTemplate_centre (o : ITS.Opts) (ho : o.ignoreArom = false) (hp : RxnPair G H) :
    OwnTemplate G (ITS.construct o G H) (ITS.getRc {} (ITS.construct o G H)) :=
  C04.ownTemplate_of_subITS o hp _
    (subITS_getRc _ (wfits_construct o ho hp.toRxnPairW) (wfTemplate_construct o hp.toRxnPairW))

/-- **`RcComplete` holds trivially for the full ITS** (no atom lies outside the template). -/
theorem C04.rcComplete_full_its (I : LGraph) : RcComplete I I := rcComplete_self I

/-- **`RcComplete` for the centre template**, from the condition on `(G, H)` that every atom all of
whose bonds keep their order keeps its hydrogen count and charge (`CentreCovers`; false for F10 inputs). -/
theorem C04.rcComplete_centre (o : ITS.Opts) (ho : o.ignoreArom = false) (hp : RxnPair G H) (hc : CentreCovers G H) :
    RcComplete (ITS.construct o G H) (ITS.getRc {} (ITS.construct o G H)) :=
  rcComplete_getRc o ho hp.toRxnPairW hc

/-- From `OwnTemplate` to a match of the exhaustive enumeration that glues to the reaction. -/
theorem C04.exists_match_of_ownTemplate (G I T : LGraph) (h : OwnTemplate G I T) (hrc : RcComplete I T) :
    ∃ m ∈ allMonos monoSel G (left T), ItsEquiv (glue G T m) I :=
  ⟨idMap T, (mem_allMonos monoSel G (left T) (left_wf T h.hT) _).2 h.hid, (C04.glue_identity_match G I T h hrc).2⟩

/-- **C04, full ITS, graph level (hypotheses on `(G, H)` only).** For a balanced pair `(G, H)`, the
exhaustive search finds a match of the full ITS `construct G H` in the reactant graph `G` along which
`_glue_graph` rebuilds `construct G H`, up to isomorphism of ITS graphs.  `RxnPair` contains gap (i)
(no atom changes its aromatic flag or `neighbors` entry); `C04.own_template_regenerates_full_its_core`
below removes it at the price of comparing product-side labels on element, hydrogen count and charge only. -/
theorem C04.own_template_regenerates_full_its (o : ITS.Opts) (hp : RxnPair G H) :
    ∃ m ∈ allMonos monoSel G (left (ITS.construct o G H)),
      ItsEquiv (glue G (ITS.construct o G H) m) (ITS.construct o G H) :=
  C04.exists_match_of_ownTemplate _ _ _ (C04.ownTemplate_full_its o hp) (C04.rcComplete_full_its _)

/-- **C04, centre template, graph level (hypotheses on `(G, H)` only).** -/
theorem C04.own_template_regenerates_centre (o : ITS.Opts) (ho : o.ignoreArom = false) (hp : RxnPair G H)
    (hc : CentreCovers G H) :
    ∃ m ∈ allMonos monoSel G (left (ITS.getRc {} (ITS.construct o G H))),
      ItsEquiv (glue G (ITS.getRc {} (ITS.construct o G H)) m) (ITS.construct o G H) :=
  C04.exists_match_of_ownTemplate _ _ _ (C04.ownTemplate_centre o ho hp) (C04.rcComplete_centre o ho hp hc)

/-- Backward application is forward application of the inverted template (`orient`), stage by stage. -/
theorem concrete_results_backward (maxGroup : Nat) (comp : LGraph → LGraph → List Mapping) (s : Strategy)
    (host T : LGraph) :
    (concrete maxGroup comp).results s true host T = (concrete maxGroup comp).results s false host (invert T) := rfl

/-- **C04, concrete, any strategy (`_partial` only through `OwnTemplate`).** If the search of strategy
`s` returns the identity match on the un-renumbered substrate, the reaction is among the results on
every renumbering of the substrate: the searches are equivariant (C05/C06), pruning keeps an equivalent
match, the glue step rebuilds the reaction. -/
theorem C04.own_template_regenerates_concrete_strategy (maxGroup : Nat) (comp : LGraph → LGraph → List Mapping)
    (hcompSub : ∀ H P m, m ∈ comp H P → m ∈ allMonos monoSel H P) (hcompEq : SearchEquivariant comp)
    (s : Strategy) (G I T : LGraph) (f : Nat → Nat) (hf : Function.Injective f)
    (h : OwnTemplate G I T) (hrc : RcComplete I T)
    (hs : idMap T ∈ (concrete maxGroup comp).search s G ((concrete maxGroup comp).pattern false T)) :
    ∃ r ∈ (concrete maxGroup comp).results s false (G.relabel f) T, ItsEquiv r I :=
  C04.result_of_identity_match maxGroup comp s G I T f hf h hrc (concrete_searchEquivariant maxGroup comp hcompEq s)
    (concrete_search_sub maxGroup comp hcompSub s) hs

/-- **Backward `OwnTemplate`.** For a template `T` cut out of the full ITS of `(G, H)` (the full ITS
itself, its centre), the inverted template `_invert_template T` is a template of the reversed reaction
`construct o H G` of the product graph `H`.  (`invert_swaps_sides`, C03: its prepared pattern is the
product side of `T`.) -/
theorem C04.ownTemplate_backward (o : ITS.Opts) (hp : RxnPair G H) (T : LGraph)
    (hS : SubITS T (ITS.construct o G H)) : OwnTemplate H (ITS.construct o H G) (invert T) :=
  C04.ownTemplate_of_subITS o hp.symm _ (subITS_invert o hp.toRxnPairW T hS)

/-- The prepared pattern of the backward application is the product side of the template, and
inverting twice gives back the forward pattern (C03). -/
theorem C04.backward_pattern (T : LGraph) (hT : NumericOrders T) :
    left (invert T) = right T ∧ left (invert (invert T)) = left T :=
  ⟨(invert_swaps_sides T hT).1, (invert_involutive T hT).1⟩

/-- **C04, both directions, exhaustive strategy, for a template cut out of the full ITS.** Forwards the
reaction `construct o G H` is among the results of applying `T` to the renumbered reactants; backwards
the reversed reaction `construct o H G` is among the results of applying `T` backwards to the
renumbered products. -/
theorem C04.own_template_regenerates_both_directions (maxGroup : Nat) (comp : LGraph → LGraph → List Mapping)
    (o : ITS.Opts) (hp : RxnPair G H) (T : LGraph) (hS : SubITS T (ITS.construct o G H))
    (hrc : RcComplete (ITS.construct o G H) T)
    (f g : Nat → Nat) (hf : Function.Injective f) (hg : Function.Injective g) :
    (∃ r ∈ (concrete maxGroup comp).results .all false (G.relabel f) T, ItsEquiv r (ITS.construct o G H)) ∧
    (∃ r ∈ (concrete maxGroup comp).results .all true (H.relabel g) T, ItsEquiv r (ITS.construct o H G)) := by
  constructor
  · exact C04.own_template_regenerates_concrete_partial maxGroup comp G _ T f hf
      (C04.ownTemplate_of_subITS o hp T hS) hrc
  · rw [concrete_results_backward]
    exact C04.own_template_regenerates_concrete_partial maxGroup comp H _ (invert T) g hg
      (C04.ownTemplate_backward o hp T hS) (rcComplete_invert o hp.toRxnPairW T hS.hT hrc)

/-- **C04 for the full ITS template, both directions, exhaustive strategy — hypotheses on `(G, H)` only.** -/
theorem C04.own_template_regenerates_full_its_results (maxGroup : Nat) (comp : LGraph → LGraph → List Mapping)
    (o : ITS.Opts) (hp : RxnPair G H) (f g : Nat → Nat) (hf : Function.Injective f) (hg : Function.Injective g) :
    (∃ r ∈ (concrete maxGroup comp).results .all false (G.relabel f) (ITS.construct o G H),
        ItsEquiv r (ITS.construct o G H)) ∧
    (∃ r ∈ (concrete maxGroup comp).results .all true (H.relabel g) (ITS.construct o G H),
        ItsEquiv r (ITS.construct o H G)) :=
  C04.own_template_regenerates_both_directions maxGroup comp o hp _
    (subITS_self _ (wfTemplate_construct o hp.toRxnPairW)) (rcComplete_self _) f g hf hg

/-- **C04 for the centre template, both directions, exhaustive strategy — hypotheses on `(G, H)` only**
(`CentreCovers`: every atom all of whose bonds keep their order keeps hydrogen count and charge). -/
theorem C04.own_template_regenerates_centre_results (maxGroup : Nat) (comp : LGraph → LGraph → List Mapping)
    (o : ITS.Opts) (ho : o.ignoreArom = false) (hp : RxnPair G H) (hc : CentreCovers G H)
    (f g : Nat → Nat) (hf : Function.Injective f) (hg : Function.Injective g) :
    (∃ r ∈ (concrete maxGroup comp).results .all false (G.relabel f) (ITS.getRc {} (ITS.construct o G H)),
        ItsEquiv r (ITS.construct o G H)) ∧
    (∃ r ∈ (concrete maxGroup comp).results .all true (H.relabel g) (ITS.getRc {} (ITS.construct o G H)),
        ItsEquiv r (ITS.construct o H G)) :=
  C04.own_template_regenerates_both_directions maxGroup comp o hp _
    (subITS_getRc _ (wfits_construct o ho hp.toRxnPairW) (wfTemplate_construct o hp.toRxnPairW))
    (rcComplete_getRc o ho hp.toRxnPairW hc) f g hf hg

/-- **When the component-aware strategy returns the identity match** (`findComp` of the C06 model as
the reactor calls it, any `strict_cc_count` / threshold): the identity sends different components of the
prepared pattern into different components of the substrate (`DistinctComponents` — each pattern
component then lies in a component of its own), the substrate has at least as many components as the
pattern — exactly as many under `strict_cc_count` — and no threshold fires. -/
theorem C04.id_mem_search_comp (maxGroup : Nat) (strict : Bool) (thr : Nat) (G I T : LGraph) (h : OwnTemplate G I T)
    (hd : SubgraphSearch.DistinctComponents G (left T) (idMap T))
    (hle : (SubgraphSearch.comps (left T)).length ≤ (SubgraphSearch.comps G).length)
    (hstrict : strict = true → (SubgraphSearch.comps G).length ≤ (SubgraphSearch.comps (left T)).length)
    (hthr : ∀ maps ∈ SubgraphSearch.perCc monoSel G (left T), maps.length ≤ thr)
    (hlen : (SubgraphSearch.compEnum monoSel G (left T)).length ≤ thr) :
    idMap T ∈ (concrete maxGroup (compSearch strict thr)).search .comp G
      ((concrete maxGroup (compSearch strict thr)).pattern false T) := by
  rw [concrete_search_comp]
  show idMap T ∈ compSearch strict thr G (left T)
  unfold compSearch
  rw [if_pos ⟨h.hG.1, left_wf T h.hT⟩]
  exact mem_findComp_of_mono monoSel G (left T) h.hG.1 (left_wf T h.hT) _ h.hid hd strict thr hle hstrict hthr hlen

/-- **The fallback strategy returns the identity match** as soon as the component-aware one does, or
returns nothing at all (then the exhaustive enumeration is used). -/
theorem C04.id_mem_search_bt (maxGroup : Nat) (comp : LGraph → LGraph → List Mapping) (G I T : LGraph)
    (h : OwnTemplate G I T)
    (hc : idMap T ∈ (concrete maxGroup comp).search .comp G ((concrete maxGroup comp).pattern false T) ∨
      (concrete maxGroup comp).search .comp G ((concrete maxGroup comp).pattern false T) = []) :
    idMap T ∈ (concrete maxGroup comp).search .bt G ((concrete maxGroup comp).pattern false T) := by
  show idMap T ∈ searchBt ((concrete maxGroup comp).search .comp G ((concrete maxGroup comp).pattern false T))
    ((concrete maxGroup comp).search .all G ((concrete maxGroup comp).pattern false T))
  rw [searchBt_eq]
  rcases hc with hc | hc
  · rw [if_neg (List.ne_nil_of_mem hc)]; exact hc
  · rw [if_pos hc]; exact C04.id_mem_search_all maxGroup comp G I T h

/-- **C04, component-aware and fallback strategies, any own template.** Under the conditions of
`C04.id_mem_search_comp` the reaction is among the results of both strategies, on every renumbering of
the substrate.  (By design the component-aware strategy with `strict_cc_count` fails when the substrate
has more components than the pattern, and without it when two pattern components lie in one substrate
component — e.g. an intramolecular reaction applied through its centre template; the fallback strategy
then still succeeds when the component-aware search returns nothing.) -/
theorem C04.own_template_regenerates_comp_bt (maxGroup : Nat) (strict : Bool) (thr : Nat) (G I T : LGraph)
    (f : Nat → Nat) (hf : Function.Injective f) (h : OwnTemplate G I T) (hrc : RcComplete I T)
    (hd : SubgraphSearch.DistinctComponents G (left T) (idMap T))
    (hle : (SubgraphSearch.comps (left T)).length ≤ (SubgraphSearch.comps G).length)
    (hstrict : strict = true → (SubgraphSearch.comps G).length ≤ (SubgraphSearch.comps (left T)).length)
    (hthr : ∀ maps ∈ SubgraphSearch.perCc monoSel G (left T), maps.length ≤ thr)
    (hlen : (SubgraphSearch.compEnum monoSel G (left T)).length ≤ thr) :
    (∃ r ∈ (concrete maxGroup (compSearch strict thr)).results .comp false (G.relabel f) T, ItsEquiv r I) ∧
    (∃ r ∈ (concrete maxGroup (compSearch strict thr)).results .bt false (G.relabel f) T, ItsEquiv r I) := by
  have hc := C04.id_mem_search_comp maxGroup strict thr G I T h hd hle hstrict hthr hlen
  exact ⟨C04.own_template_regenerates_concrete_strategy maxGroup _ (compSearch_sub strict thr)
      (compSearch_equivariant strict thr) .comp G I T f hf h hrc hc,
    C04.own_template_regenerates_concrete_strategy maxGroup _ (compSearch_sub strict thr)
      (compSearch_equivariant strict thr) .bt G I T f hf h hrc
      (C04.id_mem_search_bt maxGroup _ G I T h (Or.inl hc))⟩

/-- **C04 for the full ITS template under the component-aware and fallback strategies — hypotheses on
`(G, H)` only** (plus "no threshold fires"): the prepared pattern of the full ITS has literally the
connected components of the reactant graph (`comps_left_construct`), so the component counts agree,
`strict_cc_count` is immaterial and the identity match separates the components. -/
theorem C04.own_template_regenerates_full_its_comp_bt (maxGroup : Nat) (strict : Bool) (thr : Nat)
    (o : ITS.Opts) (hp : RxnPair G H) (f : Nat → Nat) (hf : Function.Injective f)
    (hthr : ∀ maps ∈ SubgraphSearch.perCc monoSel G (left (ITS.construct o G H)), maps.length ≤ thr)
    (hlen : (SubgraphSearch.compEnum monoSel G (left (ITS.construct o G H))).length ≤ thr) :
    (∃ r ∈ (concrete maxGroup (compSearch strict thr)).results .comp false (G.relabel f) (ITS.construct o G H),
        ItsEquiv r (ITS.construct o G H)) ∧
    (∃ r ∈ (concrete maxGroup (compSearch strict thr)).results .bt false (G.relabel f) (ITS.construct o G H),
        ItsEquiv r (ITS.construct o G H)) :=
  C04.own_template_regenerates_comp_bt maxGroup strict thr G _ _ f hf (C04.ownTemplate_full_its o hp)
    (rcComplete_self _) (distinctComponents_full_its o hp.toRxnPairW)
    (by rw [comps_left_construct o hp.toRxnPairW]) (fun _ => by rw [comps_left_construct o hp.toRxnPairW])
    hthr hlen

/-!
`_node_glue` copies the product side's aromatic flag and `neighbors` entry from the substrate, so a
reaction that changes one of them is rebuilt with the substrate's values there.  Comparing reactions
up to these two product-side entries (`ItsCoreEquiv`: `ItsEquiv` after `coreProj`; element, hydrogen
count, charge of the product side and the whole reactant side are still compared, as are all order
pairs) the statements hold for every balanced pair (`RxnPairW`). -/

/-- **C04, concrete, exhaustive strategy, gap (i) closed.** For any reaction `I` of `G` and any template
`T` cut out of it that covers the atoms whose hydrogen count or charge changes, the reaction is among
the results up to `ItsCoreEquiv`. -/
theorem C04.own_template_regenerates_core (maxGroup : Nat) (comp : LGraph → LGraph → List Mapping)
    (G I T : LGraph) (f : Nat → Nat) (hf : Function.Injective f)
    (hR : ReactionOf G I) (hS : SubITS T I) (hrc : RcComplete I T) :
    ∃ r ∈ (concrete maxGroup comp).results .all false (G.relabel f) T, ItsCoreEquiv r I := by
  obtain ⟨r, hr, he⟩ := C04.own_template_regenerates_concrete_partial maxGroup comp G (fixI G I) T f hf
    (ownTemplate_fix G I T hR hS) (rcComplete_fix hrc)
  exact ⟨r, hr, itsCoreEquiv_of_fix he⟩

/-- **C04, graph level, gap (i) closed**: a match of the exhaustive enumeration glues to the reaction
up to `ItsCoreEquiv`. -/
theorem C04.exists_match_core (G I T : LGraph) (hR : ReactionOf G I) (hS : SubITS T I) (hrc : RcComplete I T) :
    ∃ m ∈ allMonos monoSel G (left T), ItsCoreEquiv (glue G T m) I := by
  obtain ⟨m, hm, he⟩ := C04.exists_match_of_ownTemplate G (fixI G I) T (ownTemplate_fix G I T hR hS) (rcComplete_fix hrc)
  exact ⟨m, hm, itsCoreEquiv_of_fix he⟩

/-- **C04, both directions, exhaustive strategy, gap (i) closed**, for a template cut out of the full ITS
of any balanced pair. -/
theorem C04.own_template_regenerates_both_directions_core (maxGroup : Nat) (comp : LGraph → LGraph → List Mapping)
    (o : ITS.Opts) (hp : RxnPairW G H) (T : LGraph) (hS : SubITS T (ITS.construct o G H))
    (hrc : RcComplete (ITS.construct o G H) T)
    (f g : Nat → Nat) (hf : Function.Injective f) (hg : Function.Injective g) :
    (∃ r ∈ (concrete maxGroup comp).results .all false (G.relabel f) T, ItsCoreEquiv r (ITS.construct o G H)) ∧
    (∃ r ∈ (concrete maxGroup comp).results .all true (H.relabel g) T, ItsCoreEquiv r (ITS.construct o H G)) := by
  constructor
  · exact C04.own_template_regenerates_core maxGroup comp G _ T f hf (reactionOf_construct o hp) hS hrc
  · rw [concrete_results_backward]
    exact C04.own_template_regenerates_core maxGroup comp H _ (invert T) g hg (reactionOf_construct o hp.symm)
      (subITS_invert o hp T hS) (rcComplete_invert o hp T hS.hT hrc)

/-- **C04 for the full ITS template, graph level, hypotheses on `(G, H)` only, gap (i) closed.** -/
theorem C04.own_template_regenerates_full_its_core (o : ITS.Opts) (hp : RxnPairW G H) :
    ∃ m ∈ allMonos monoSel G (left (ITS.construct o G H)),
      ItsCoreEquiv (glue G (ITS.construct o G H) m) (ITS.construct o G H) :=
  C04.exists_match_core G _ _ (reactionOf_construct o hp) (subITS_self _ (wfTemplate_construct o hp)) (rcComplete_self _)

/-- **C04 for the full ITS template, both directions, hypotheses on `(G, H)` only, gap (i) closed.** -/
theorem C04.own_template_regenerates_full_its_results_core (maxGroup : Nat) (comp : LGraph → LGraph → List Mapping)
    (o : ITS.Opts) (hp : RxnPairW G H) (f g : Nat → Nat) (hf : Function.Injective f) (hg : Function.Injective g) :
    (∃ r ∈ (concrete maxGroup comp).results .all false (G.relabel f) (ITS.construct o G H),
        ItsCoreEquiv r (ITS.construct o G H)) ∧
    (∃ r ∈ (concrete maxGroup comp).results .all true (H.relabel g) (ITS.construct o G H),
        ItsCoreEquiv r (ITS.construct o H G)) :=
  C04.own_template_regenerates_both_directions_core maxGroup comp o hp _
    (subITS_self _ (wfTemplate_construct o hp)) (rcComplete_self _) f g hf hg

/-- **C04 for the centre template, both directions, hypotheses on `(G, H)` only, gap (i) closed.** -/
theorem C04.own_template_regenerates_centre_results_core (maxGroup : Nat) (comp : LGraph → LGraph → List Mapping)
    (o : ITS.Opts) (ho : o.ignoreArom = false) (hp : RxnPairW G H) (hc : CentreCovers G H)
    (f g : Nat → Nat) (hf : Function.Injective f) (hg : Function.Injective g) :
    (∃ r ∈ (concrete maxGroup comp).results .all false (G.relabel f) (ITS.getRc {} (ITS.construct o G H)),
        ItsCoreEquiv r (ITS.construct o G H)) ∧
    (∃ r ∈ (concrete maxGroup comp).results .all true (H.relabel g) (ITS.getRc {} (ITS.construct o G H)),
        ItsCoreEquiv r (ITS.construct o H G)) :=
  C04.own_template_regenerates_both_directions_core maxGroup comp o hp _
    (subITS_getRc _ (wfits_construct o ho hp) (wfTemplate_construct o hp))
    (rcComplete_getRc o ho hp hc) f g hf hg

-- the instances that decide `ITS.MolWF` of a concrete graph
open scoped SynKit.ITS.C01Example

private def mAtom (el : String) (n : Nat) (h : Int) : Nat × Attrs :=
  (n, [("element", .str el), ("aromatic", .bool false), ("hcount", .num h), ("charge", .num 0),
       ("atom_map", .num (2 * (n : Int))), ("neighbors", .tup [])])

/-- Reactants `[CH3:1][Br:2].[NH3:3].[OH2:4]` … -/
private def pG : LGraph :=
  { nodes := [mAtom "C" 1 6, mAtom "Br" 2 0, mAtom "N" 3 6, mAtom "O" 4 4], edges := [(1, 2, [("order", .num 2)])] }
/-- … and products `[CH3:1][NH2:3].[BrH:2].[OH2:4]` on the same atoms. -/
private def pH : LGraph :=
  { nodes := [mAtom "C" 1 6, mAtom "Br" 2 2, mAtom "N" 3 4, mAtom "O" 4 4], edges := [(3, 1, [("order", .num 2)])] }

private theorem pPair : RxnPair pG pH where
  toRxnPairW := RxnPairW.of_atoms (by decide +kernel) (by decide +kernel)
    (fun _ => Iff.rfl) (by decide +kernel) (by decide +kernel) (fun v => ["C", "Br", "N", "O"].getD (v - 1) "")
    (fun v => [6, 0, 6, 4].getD (v - 1) 0) (fun v => [6, 2, 4, 4].getD (v - 1) 0) (by decide +kernel)
  arom := by decide +kernel
  nbrs := by decide +kernel

/-- Both changed bonds end in atom 1, so the bonds to atom 1 are the only ones that need comparing. -/
private theorem pCovers : CentreCovers pG pH := by
  intro v hv hu
  replace hu := hu 1
  revert v
  decide +kernel

/-- The hypotheses of the `(G, H)`-level theorems are satisfiable on a non-trivial reaction (two changed
bonds, a hydrogen migration, a spectator molecule): -/
example : RxnPair pG pH ∧ CentreCovers pG pH := ⟨pPair, pCovers⟩

/-- the centre template has three atoms and two bonds, the spectator water is outside it; -/
example : (ITS.getRc {} (ITS.construct {} pG pH)).ids = [1, 2, 3] ∧
    (ITS.getRc {} (ITS.construct {} pG pH)).edges.map (fun e => (e.1, e.2.1, Attrs.get e.2.2 "order")) =
      [(1, 2, .tup [.num 2, .num 0]), (3, 1, .tup [.num 0, .num 2])] := by decide +kernel

/-- forwards, on renumbered reactants (+7), full ITS and centre template give the renumbered reaction,
label for label and bond for bond, under every strategy; -/
example :
    let I := ITS.construct {} pG pH
    let view := fun (r : LGraph) => (r.nodes.map fun p => (p.1, Attrs.get p.2 "typesGH"),
      r.edges.map fun e => (e.1, e.2.1, Attrs.get e.2.2 "order"))
    ∀ T ∈ [I, ITS.getRc {} I], ∀ s ∈ [Strategy.all, Strategy.comp, Strategy.bt],
      ((concrete 5040 (compSearch false 5000)).results s false (pG.relabel (· + 7)) T).map view =
        [view (I.relabel (· + 7))] := by decide +kernel

/-- backwards, on renumbered products (+7), they give the renumbered reversed reaction (same label
pairs; the bonds 10–8 formed→broken and 8–9 broken→formed). -/
example :
    let I := ITS.construct {} pG pH
    ∀ T ∈ [I, ITS.getRc {} I],
      ((concrete 5040 (compSearch false 5000)).results .all true (pH.relabel (· + 7)) T).map
          (fun r => (r.nodes.map fun p => (p.1, Attrs.get p.2 "typesGH"),
            r.edges.map fun e => (e.1, e.2.1, Attrs.get e.2.2 "order"))) =
        [(((ITS.construct {} pH pG).relabel (· + 7)).nodes.map fun p => (p.1, Attrs.get p.2 "typesGH"),
          [(10, 8, .tup [.num 2, .num 0]), (8, 9, .tup [.num 0, .num 2])])] := by decide +kernel

private def nAtom (el : String) (n : Nat) (h : Int) (nb : List String) : Nat × Attrs :=
  (n, [("element", .str el), ("aromatic", .bool false), ("hcount", .num h), ("charge", .num 0),
       ("atom_map", .num (2 * (n : Int))), ("neighbors", .tup (nb.map Val.str))])

private def qG : LGraph :=
  { nodes := [nAtom "C" 1 6 ["Br"], nAtom "Br" 2 0 ["C"], nAtom "N" 3 6 [], nAtom "O" 4 4 []],
    edges := [(1, 2, [("order", .num 2)])] }
private def qH : LGraph :=
  { nodes := [nAtom "C" 1 6 ["N"], nAtom "Br" 2 2 [], nAtom "N" 3 4 ["C"], nAtom "O" 4 4 []],
    edges := [(3, 1, [("order", .num 2)])] }

private theorem qPair : RxnPairW qG qH :=
  RxnPairW.of_atoms (by decide +kernel) (by decide +kernel)
    (fun _ => Iff.rfl) (by decide +kernel) (by decide +kernel) (fun v => ["C", "Br", "N", "O"].getD (v - 1) "")
    (fun v => [6, 0, 6, 4].getD (v - 1) 0) (fun v => [6, 2, 4, 4].getD (v - 1) 0) (by decide +kernel)

/-- The pair is balanced, but the carbon's `neighbors` entry changes (Br → N): `RxnPair.nbrs` fails, and
indeed the glued graph differs from the reaction in that entry of the product-side label … -/
example : RxnPairW qG qH ∧ Dict.get? (qH.attrs 1) "neighbors" ≠ Dict.get? (qG.attrs 1) "neighbors" ∧
    Attrs.get ((glue qG (ITS.construct {} qG qH) (idMap (ITS.construct {} qG qH))).attrs 1) "typesGH" ≠
      Attrs.get ((ITS.construct {} qG qH).attrs 1) "typesGH" := ⟨qPair, by decide +kernel, by decide +kernel⟩

/-- … and in nothing else: after `coreProj` the results, forwards on renumbered reactants and backwards on
renumbered products, are the renumbered reaction and the renumbered reversed reaction. -/
example :
    let I := ITS.construct {} qG qH
    let view := fun (r : LGraph) => ((coreProj r).nodes.map fun p => (p.1, Attrs.get p.2 "typesGH"),
      r.edges.map fun e => (e.1, e.2.1, Attrs.get e.2.2 "order"))
    ∀ T ∈ [I, ITS.getRc {} I],
      ((concrete 5040 (compSearch false 5000)).results .all false (qG.relabel (· + 7)) T).map view =
        [view (I.relabel (· + 7))] ∧
      ((concrete 5040 (compSearch false 5000)).results .all true (qH.relabel (· + 7)) T).map (fun r => (view r).1) =
        [(view ((ITS.construct {} qH qG).relabel (· + 7))).1] := by decide +kernel

end ITSLink

end SynKit.ReactorInv
