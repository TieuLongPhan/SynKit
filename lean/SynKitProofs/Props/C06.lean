import SynKitModel.SubgraphSearch
import SynKitProofs.SubgraphSearchLemmas
import SynKitProofs.SubgraphPrefilterLemmas
/-! C06 — subgraph search returns exactly the label-preserving monomorphisms.  `search` is the model of
`SubgraphSearchEngine.find_subgraph_mappings` (with the repair of DESIGN §6 F9).  The full statement is the
conjunction of the theorems below, including the completeness of the component-aware strategy (`comp_complete`). -/
namespace SynKit.SubgraphSearch
open SynKit.Match

/-- The exhaustive strategy after the final guard, for every setting of `max_results` (`k`, 0 =
unlimited) and `threshold`: the first `k` monomorphisms when `0 < k ≤ threshold`, otherwise the
whole list, or `[]` when that list is longer than the threshold. -/
theorem search_all_eq (cfg : Cfg) (sel : Sel) (H P : LGraph) (hs : cfg.strategy = .all) (hf : cfg.preFilter = false) :
    search cfg sel H P =
      if cfg.maxRes ≠ 0 ∧ cfg.maxRes ≤ cfg.thr then (allMonos sel H P).take cfg.maxRes
      else if (allMonos sel H P).length > cfg.thr then [] else allMonos sel H P := by
  rw [search_of_noPrefilter sel H P hf, dispatch, hs]
  exact (guard_collect cfg.maxRes cfg.thr _).trans (guard_take_stopLen ..)

/-- **C06, exhaustive strategy.** Without limits (`max_results` falsy, fewer matches than the
threshold, no pre-filter) the exhaustive strategy returns precisely the label-preserving
monomorphisms — injective, selected node attributes equal, host hydrogen count ≥ pattern's, every
pattern bond on a host bond with equal selected edge attributes (`IsMono`) — without duplicates. -/
theorem all_spec (cfg : Cfg) (sel : Sel) (H P : LGraph) (hH : H.ids.Nodup) (hP : P.WF)
    (hs : cfg.strategy = .all) (hk : cfg.maxRes = 0) (hf : cfg.preFilter = false)
    (ht : (allMonos sel H P).length ≤ cfg.thr) :
    (∀ m, m ∈ search cfg sel H P ↔ IsMono sel H P m) ∧ (search cfg sel H P).Nodup := by
  have : search cfg sel H P = allMonos sel H P := by
    rw [search_all_eq cfg sel H P hs hf, if_neg (by simp [hk]), if_neg (by omega)]
  rw [this]
  exact ⟨fun m => mem_allMonos sel H P hP m, allMonos_nodup sel H P hH⟩

/-- **C06, limits (exhaustive).** `max_results = k` with `0 < k ≤ threshold` only truncates: the
result is the length-`min k total` prefix of the unlimited list. -/
theorem limit_all (cfg : Cfg) (sel : Sel) (H P : LGraph) (hs : cfg.strategy = .all) (hf : cfg.preFilter = false)
    (hk : cfg.maxRes ≠ 0) (hkt : cfg.maxRes ≤ cfg.thr) :
    search cfg sel H P = (allMonos sel H P).take cfg.maxRes ∧
      (search cfg sel H P).length = min cfg.maxRes (allMonos sel H P).length := by
  rw [search_all_eq cfg sel H P hs hf, if_pos ⟨hk, hkt⟩]
  exact ⟨rfl, List.length_take⟩

/-- **C06, threshold (exhaustive).** Without `max_results` the threshold either leaves the list
alone or, when the list is longer than the threshold, empties it. -/
theorem threshold_spec (cfg : Cfg) (sel : Sel) (H P : LGraph) (hs : cfg.strategy = .all) (hf : cfg.preFilter = false)
    (hk : cfg.maxRes = 0) :
    search cfg sel H P = if (allMonos sel H P).length > cfg.thr then [] else allMonos sel H P := by
  rw [search_all_eq cfg sel H P hs hf, if_neg (by simp [hk])]

/-- **C06, component-aware strategy, soundness.** Whatever the limits, every mapping the
component-aware pass returns is a label-preserving monomorphism of the whole pattern into the whole
host, and — unless the host has fewer components than the pattern, where the pass is the
exhaustive one — it sends pattern nodes of different pattern components into different host
components. -/
theorem comp_sound (sel : Sel) (H P : LGraph) (hH : H.WF) (hP : P.WF) (k : Nat) (strict : Bool) (thr : Nat)
    (m : Mapping) (hm : m ∈ findComp sel H P k strict thr) :
    IsMono sel H P m ∧ ((comps H).length < (comps P).length ∨ DistinctComponents H P m) := by
  rcases mem_findComp sel H P k strict thr m hm with ⟨h0, rfl⟩ | ⟨hlt, hm⟩ | hm
  · refine ⟨isMono_nil_of_no_nodes sel H P hP (ids_nil_of_no_comps P hP h0), Or.inr ?_⟩
    intro p q hp hq h1
    cases h1
  · exact ⟨(mem_allMonos sel H P hP m).1 (mem_collect _ _ _ _ hm), Or.inl hlt⟩
  · exact ((mem_compEnum_iff sel H P hH hP m).1 hm).imp_right Or.inr

/-- **C06, component-aware ⊆ exhaustive.** -/
theorem comp_subset_all (sel : Sel) (H P : LGraph) (hH : H.WF) (hP : P.WF) (k : Nat) (strict : Bool) (thr : Nat)
    (m : Mapping) (hm : m ∈ findComp sel H P k strict thr) : m ∈ allMonos sel H P :=
  (mem_allMonos sel H P hP m).2 (comp_sound sel H P hH hP k strict thr m hm).1

/-- **C06, "all of them when the host has fewer components".** -/
theorem comp_eq_all_of_fewer (sel : Sel) (H P : LGraph) (k : Nat) (strict : Bool) (thr : Nat)
    (h : (comps H).length < (comps P).length) :
    findComp sel H P k strict thr = findAll sel H P k thr := by
  rw [findComp_eq, if_neg (by omega), if_pos h]

/-- **C06, fallback strategy** (as coded, for every setting of the limits): the component-aware
result if it is non-empty, the exhaustive result otherwise. -/
theorem bt_spec (sel : Sel) (H P : LGraph) (k : Nat) (strict : Bool) (thr : Nat) :
    findBt sel H P k strict thr =
      if (findComp sel H P k strict thr).isEmpty then findAll sel H P k thr else findComp sel H P k strict thr := rfl

/-- **C06, the documented `strict_cc_count` guard**: a host with more components than the
(non-empty) pattern yields no result under the component-aware strategy. -/
theorem strict_guard (sel : Sel) (H P : LGraph) (k thr : Nat)
    (h0 : (comps P).length ≠ 0) (h : (comps H).length > (comps P).length) :
    findComp sel H P k true thr = [] := by
  rw [findComp_eq, if_neg h0, if_neg (by omega), if_pos ⟨h, rfl⟩]

/-- **C06, limits and threshold (component-aware pass)**, in the regime where the back-tracking
runs (host has at least as many components, guard not firing, every pattern component embeds
somewhere, no per-component list longer than the threshold): after the final guard the result is
the length-`k` prefix of the unlimited list `compEnum` when `0 < k ≤ threshold`, otherwise that
list or, when it is longer than the threshold, `[]`.  (`max_results` is applied to combined
mappings only — the repair of F9.) -/
theorem limit_comp (cfg : Cfg) (sel : Sel) (H P : LGraph) (hs : cfg.strategy = .comp) (hf : cfg.preFilter = false)
    (h0 : (comps P).length ≠ 0) (h1 : ¬ (comps H).length < (comps P).length)
    (h2 : ¬ ((comps H).length > (comps P).length ∧ cfg.strict = true))
    (h3 : (perCc sel H P).any (fun maps => maps.isEmpty) = false)
    (h4 : (perCc sel H P).any (fun maps => decide (maps.length > cfg.thr)) = false) :
    search cfg sel H P =
      if cfg.maxRes ≠ 0 ∧ cfg.maxRes ≤ cfg.thr then (compEnum sel H P).take cfg.maxRes
      else if (compEnum sel H P).length > cfg.thr then [] else compEnum sel H P := by
  rw [search_of_noPrefilter sel H P hf, dispatch, hs]
  show guard cfg.thr (findComp sel H P cfg.maxRes cfg.strict cfg.thr) = _
  rw [findComp_eq, if_neg h0, if_neg h1, if_neg h2, h3, h4, if_neg Bool.false_ne_true, if_neg Bool.false_ne_true]
  exact guard_take_stopLen ..

/-- **Pre-filter**: with `pre_filter=True` the result is `[]` when `_quick_pre_filter` gives up and
otherwise exactly the result without the pre-filter. -/
theorem prefilter_spec (cfg : Cfg) (sel : Sel) (H P : LGraph) (hf : cfg.preFilter = true) :
    search cfg sel H P =
      if quickPreFilter sel H P cfg.thr then [] else search { cfg with preFilter := false } sel H P := by
  rw [search_eq, hf, Bool.true_and, search_of_noPrefilter sel H P rfl]
  rfl

/-- **C06, component-aware strategy, completeness** (statement): for `strict_cc_count = False`, no
limits, and a host with at least as many components as the pattern, every monomorphism that separates
the pattern components is returned.  Proved below (`comp_complete`); the harness additionally compares
the model's unlimited component-aware result with the brute-force filter of `allMonos` on every
generated case (driver field `comp_model_eq_spec`). -/
def CompCompleteStatement : Prop :=
  ∀ (sel : Sel) (H P : LGraph), H.WF → P.WF → (comps P).length ≠ 0 → (comps P).length ≤ (comps H).length →
    ∀ m, IsMono sel H P m → DistinctComponents H P m → ∀ thr, (∀ maps ∈ perCc sel H P, maps.length ≤ thr) →
      (compEnum sel H P).length ≤ thr → m ∈ findComp sel H P 0 false thr

/-- **C06, component-aware strategy, completeness.**  A monomorphism maps a (connected) pattern
component into one host component (`IsMonoFn.component_image`), its restriction to that component is a
monomorphism of the two sub-graphs (`IsMonoFn.sub`), hence one of the per-component embeddings
(`mem_level`); pattern components going to different host components (`family_of_monoFn`), the back-tracking
assembly picks exactly these restrictions and glues them back to `m` (`mem_compEnum_of_mono`). -/
theorem comp_complete : CompCompleteStatement :=
  fun sel H P hH hP _ hle m hm hd thr hthr hlen =>
    mem_findComp_of_mono sel H P hH hP m hm hd false thr hle (fun h => nomatch h) hthr hlen

/-! Non-vacuity.  Host: two components `C–C` (nodes 1, 2) and `C` (node 3); pattern: two isolated `C` (nodes 10, 11).
Six monomorphisms; the component-aware strategy keeps the four that separate the two pattern nodes;
`max_results = 1` returns one of them (the unrepaired code returned `[]` here). -/
def exSel : Sel := { nodeKeys := ["element"], edgeKeys := ["order"] }
def exH : LGraph :=
  { nodes := [(1, [("element", .str "C")]), (2, [("element", .str "C")]), (3, [("element", .str "C")])]
    edges := [(1, 2, [("order", .num 2)])] }
def exP : LGraph := { nodes := [(10, [("element", .str "C")]), (11, [("element", .str "C")])], edges := [] }

example : exH.WF ∧ exP.WF := by decide +kernel
example : (search { strategy := .all } exSel exH exP).length = 6 := by decide +kernel
example : search { strategy := .comp, strict := false } exSel exH exP =
    [[(10, 1), (11, 3)], [(10, 2), (11, 3)], [(10, 3), (11, 1)], [(10, 3), (11, 2)]] := by decide +kernel
example : search { strategy := .comp, strict := false, maxRes := 1 } exSel exH exP = [[(10, 1), (11, 3)]] := by decide +kernel
example : search { strategy := .comp, strict := true } exSel exH exP = [[(10, 1), (11, 3)], [(10, 2), (11, 3)], [(10, 3), (11, 1)], [(10, 3), (11, 2)]] := by decide +kernel
example : search { strategy := .all, threshold := some 5 } exSel exH exP = [] := by decide +kernel
/-- Non-vacuity of `comp_complete`: its hypotheses hold for `[(10, 1), (11, 3)]` (threshold 5000);
the decidable ones here, `IsMono` and `DistinctComponents` in the next example. -/
example : (comps exP).length ≠ 0 ∧ (comps exP).length ≤ (comps exH).length ∧
    (∀ maps ∈ perCc exSel exH exP, maps.length ≤ 5000) ∧ (compEnum exSel exH exP).length ≤ 5000 ∧
    [(10, 1), (11, 3)] ∈ allMonos exSel exH exP ∧ [(10, 1), (11, 3)] ∈ findComp exSel exH exP 0 false 5000 := by decide +kernel
example : IsMono exSel exH exP [(10, 1), (11, 3)] ∧ DistinctComponents exH exP [(10, 1), (11, 3)] := by
  have h := comp_sound exSel exH exP (by decide) (by decide) 0 false 5000 [(10, 1), (11, 3)] (by decide)
  exact ⟨h.1, h.2.resolve_left (by decide)⟩

/-- **C06, soundness of every strategy**: whatever the strategy, the limits and the pre-filter flag, every mapping
`find_subgraph_mappings` returns is a label-preserving monomorphism (the exhaustive pass returns members of the
enumeration, the component-aware pass is `comp_sound`, the fallback is one of the two, the guards only drop). -/
theorem search_sound (cfg : Cfg) (sel : Sel) (H P : LGraph) (hH : H.WF) (hP : P.WF) (m : Mapping)
    (hm : m ∈ search cfg sel H P) : IsMono sel H P m := by
  rcases mem_search hm with h | h
  · exact (mem_allMonos sel H P hP m).1 (mem_collect _ _ _ _ h)
  · exact (comp_sound sel H P hH hP _ _ _ m h).1

/-- **C06, soundness of every strategy on a pair without a match**: if no label-preserving
monomorphism exists, `find_subgraph_mappings` returns `[]` whatever the strategy, the limits and the
pre-filter flag. -/
theorem search_nil_of_no_mono (cfg : Cfg) (sel : Sel) (H P : LGraph) (hH : H.WF) (hP : P.WF)
    (h : ∀ m, ¬ IsMono sel H P m) : search cfg sel H P = [] :=
  List.eq_nil_iff_forall_not_mem.2 fun m hm => h m (search_sound cfg sel H P hH hP m hm)

/-! `_quick_pre_filter`, the `pre_filter=True` guard (`cands`, `candCount`, `estimate`:
`SynKitProofs/SubgraphPrefilterLemmas.lean`).  The Python comparison `estimate > threshold * 1e4`
(an `int` against a `float`; Python compares the two exactly, and `threshold * 1e4` is exact as long as
`threshold * 10⁴ < 2⁵³`) is the integer comparison `estimate > thr * 10000` of the model. -/

/-- **Pre-filter, zero branch is sound.**  If some pattern node `n = (p, pa)` has no candidate host
node — no host node whose selected attributes equal `pa`'s, whose hydrogen count is ≥ `pa`'s and whose
degree is ≥ the degree of `p` — then no label-preserving monomorphism exists and the enumeration is
empty: the branch `if count == 0: return True` never loses a match. -/
theorem prefilter_zero_sound (sel : Sel) (H P : LGraph) (hP : P.WF) (n : Nat × Attrs) (hn : n ∈ P.nodes)
    (h0 : ∀ ha ∈ H.nodes, ¬ (nodeOk sel ha.2 n.2 = true ∧ degree H ha.1 ≥ degree P n.1)) :
    (∀ m, ¬ IsMono sel H P m) ∧ allMonos sel H P = [] := by
  have hc : candCount sel H P n = 0 := (candCount_eq_zero_iff sel H P n).2 h0
  exact ⟨no_mono_of_zero sel H P hP n hn hc, allMonos_nil_of_zero sel H P hP n hn hc⟩

/-- **Pre-filter, zero branch changes nothing**: in that situation the search returns `[]` with or
without the pre-filter (for every strategy and every setting of the limits). -/
theorem prefilter_zero_lossless (cfg : Cfg) (sel : Sel) (H P : LGraph) (hH : H.WF) (hP : P.WF)
    (n : Nat × Attrs) (hn : n ∈ P.nodes) (h0 : candCount sel H P n = 0) :
    search cfg sel H P = [] ∧ search { cfg with preFilter := false } sel H P = [] :=
  ⟨search_nil_of_no_mono cfg sel H P hH hP (no_mono_of_zero sel H P hP n hn h0),
   search_nil_of_no_mono _ sel H P hH hP (no_mono_of_zero sel H P hP n hn h0)⟩

/-- **Pre-filter, the estimate over-approximates.**  The product over the pattern nodes of the
candidate counts is an upper bound on the number of label-preserving monomorphisms (each one picks a
candidate for every pattern node, and distinct monomorphisms pick differently).  So the threshold
branch `estimate > threshold * 1e4` can fire although the true number of matches is small — the
documented over-approximation — but never fires when even the estimate is within the bound. -/
theorem prefilter_estimate_upper (sel : Sel) (H P : LGraph) (hH : H.ids.Nodup) (hP : P.WF) :
    (allMonos sel H P).length ≤ estimate sel H P :=
  allMonos_length_le_estimate sel H P hH hP

/-- **Pre-filter, when it fires** (exact characterisation of the loop with its early exits):
`_quick_pre_filter` returns `True` iff some pattern node has no candidate host node or the product of
all candidate counts exceeds `threshold * 10⁴`.  (Side condition: for `threshold = 0` and a pattern
without nodes the loop body never runs.) -/
theorem prefilter_fires_iff (sel : Sel) (H P : LGraph) (thr : Nat) (hne : 0 < thr ∨ P.nodes ≠ []) :
    quickPreFilter sel H P thr = true ↔
      (∃ n ∈ P.nodes, candCount sel H P n = 0) ∨ estimate sel H P > thr * 10000 :=
  quickPreFilter_iff sel H P thr hne

/-- **Pre-filter: sound or large.**  With `pre_filter=True`:
* if `_quick_pre_filter` gives up, the result is `[]`, and either no label-preserving monomorphism
  exists at all (so nothing is lost) or the estimate — an upper bound on the number of matches by
  `prefilter_estimate_upper`, not the number itself — exceeds `threshold * 10⁴`;
* otherwise the result is exactly the result without the pre-filter, and the number of matches is
  at most `threshold * 10⁴`. -/
theorem prefilter_sound_or_large (cfg : Cfg) (sel : Sel) (H P : LGraph) (hH : H.ids.Nodup) (hP : P.WF)
    (hf : cfg.preFilter = true) :
    (quickPreFilter sel H P cfg.thr = true →
        search cfg sel H P = [] ∧
          ((∀ m, ¬ IsMono sel H P m) ∨ estimate sel H P > cfg.thr * 10000)) ∧
    (quickPreFilter sel H P cfg.thr = false →
        search cfg sel H P = search { cfg with preFilter := false } sel H P ∧
          ((P.nodes ≠ [] ∨ 0 < cfg.thr) → (allMonos sel H P).length ≤ cfg.thr * 10000)) := by
  constructor
  · intro hq
    refine ⟨by rw [prefilter_spec cfg sel H P hf, if_pos hq], ?_⟩
    exact (quickPreFilter_imp sel H P cfg.thr hq).imp_left fun ⟨n, hn, h0⟩ => no_mono_of_zero sel H P hP n hn h0
  · intro hq
    refine ⟨by rw [prefilter_spec cfg sel H P hf, hq]; rfl, ?_⟩
    intro hne
    have hnot : ¬ estimate sel H P > cfg.thr * 10000 := fun hc =>
      Bool.false_ne_true (hq.symm.trans ((quickPreFilter_iff sel H P cfg.thr hne.symm).2 (Or.inr hc)))
    exact Nat.le_trans (allMonos_length_le_estimate sel H P hH hP) (Nat.le_of_not_lt hnot)

/-! Non-vacuity of the pre-filter theorems:
* zero branch by attributes: pattern node `N` in the all-carbon host `exH`;
* zero branch by degree: pattern `C–C–C` (centre of degree 2) in the host `C–C  C`;
* threshold branch losing a match: a 12-ring of carbons with bond orders `1, 2, 3` on three consecutive
  bonds (single elsewhere) and the pattern path `C–C=C≡C`: exactly one monomorphism, every pattern
  node has 12 candidates, estimate `12⁴ = 20736 > 1 · 10⁴`, so with `threshold = 1` the pre-filter
  empties a result that the limits alone would have kept. -/
def exPN : LGraph := { nodes := [(10, [("element", .str "N")])], edges := [] }
def exP3 : LGraph :=
  { nodes := [(10, [("element", .str "C")]), (11, [("element", .str "C")]), (12, [("element", .str "C")])]
    edges := [(10, 11, [("order", .num 2)]), (11, 12, [("order", .num 2)])] }

example : exPN.WF ∧ candCount exSel exH exPN (10, [("element", .str "N")]) = 0 ∧
    quickPreFilter exSel exH exPN 5000 = true ∧ allMonos exSel exH exPN = [] := by decide +kernel
example : exP3.WF ∧ candCount exSel exH exP3 (11, [("element", .str "C")]) = 0 ∧
    candCount exSel exH exP3 (10, [("element", .str "C")]) = 2 ∧
    quickPreFilter exSel exH exP3 5000 = true ∧ allMonos exSel exH exP3 = [] := by decide +kernel
/-- Pre-filter not firing: estimate `3 · 3 = 9 ≥ 6 =` number of matches, result unchanged. -/
example : quickPreFilter exSel exH exP 5000 = false ∧ estimate exSel exH exP = 9 ∧
    (allMonos exSel exH exP).length = 6 ∧
    search { strategy := .all, preFilter := true } exSel exH exP = search { strategy := .all } exSel exH exP := by
  decide +kernel

def cAt : Attrs := [("element", .str "C")]
def exRing : LGraph :=
  { nodes := [(1, cAt), (2, cAt), (3, cAt), (4, cAt), (5, cAt), (6, cAt), (7, cAt), (8, cAt), (9, cAt),
      (10, cAt), (11, cAt), (12, cAt)]
    edges := [(1, 2, [("order", .num 2)]), (2, 3, [("order", .num 4)]), (3, 4, [("order", .num 6)]),
      (4, 5, [("order", .num 2)]), (5, 6, [("order", .num 2)]), (6, 7, [("order", .num 2)]),
      (7, 8, [("order", .num 2)]), (8, 9, [("order", .num 2)]), (9, 10, [("order", .num 2)]),
      (10, 11, [("order", .num 2)]), (11, 12, [("order", .num 2)]), (12, 1, [("order", .num 2)])] }
def exPath : LGraph :=
  { nodes := [(20, cAt), (21, cAt), (22, cAt), (23, cAt)]
    edges := [(20, 21, [("order", .num 2)]), (21, 22, [("order", .num 4)]), (22, 23, [("order", .num 6)])] }

example : exRing.WF ∧ exPath.WF := by decide +kernel
example : estimate exSel exRing exPath = 20736 ∧ quickPreFilter exSel exRing exPath 1 = true := by decide +kernel
example : search { strategy := .all, threshold := some 1 } exSel exRing exPath = [[(20, 1), (21, 2), (22, 3), (23, 4)]] := by
  decide +kernel
example : search { strategy := .all, threshold := some 1, preFilter := true } exSel exRing exPath = [] := by decide +kernel

end SynKit.SubgraphSearch
