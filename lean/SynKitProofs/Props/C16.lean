import SynKitModel.Views
import SynKitModel.ViewsClaim
import SynKitProofs.ViewsLemmas
import SynKitProofs.ViewsRawLemmas
import SynKitProofs.ViewsClaimSpecies
import SynKitProofs.ViewsClaimParse
/-!
# C16 — network views (bipartite graph, reaction strings, species graph) round-trip exactly

The hypotheses (`WfNet` = what every `CRNHyperGraph` satisfies, `WfStrNet`, `NoIdClash`, `StoichKept`, `TwoSided`)
are defined, with what they mean in SynKit, at the end of `SynKitModel/Views.lean`. The two graph views need no
hypothesis on the shape of labels; `WfStrNet` (labels `WfLabel`, rules without whitespace) is the reading of
"well-formed" fixed in DESIGN §5a, and `wf_counterexample*` show the guard is needed.
Sides are compared as lists where the code keeps the order, and up to `List.Perm` where it re-orders (Python dict
equality ignores order).
-/
namespace SynKit.Views

/-- **C16, digits.** `int(str(n)) = n` for the model's own digit printer / reader. -/
theorem digits_roundtrip (n : Nat) : digitsToNat (natToDigits n) = n := Str.digits_roundtrip' n

/-- **C16, one side.** For a side with well-formed labels (a dict with positive counts),
`RXNSide.from_str(repr(side))` returns the same species with the same coefficients; the dict is
rebuilt in the printed (sorted) order. -/
theorem side_roundtrip (m : Side) (hm : WfSide m) (hl : WfLabels m) :
    parseSide (fmtSide m) = .ok (sortSide m) := by
  simpa using Str.side_roundtrip_pad m hm hl [] [] (by simp) (by simp)

/-- The same as an equality of dicts up to order (what Python's `==` on dicts sees). -/
theorem side_roundtrip_perm (m : Side) (hm : WfSide m) (hl : WfLabels m) :
    ∃ m', parseSide (fmtSide m) = .ok m' ∧ m'.Perm m :=
  ⟨sortSide m, side_roundtrip m hm hl, sortSide_perm m⟩

/-- **The `WfLabel` guard is needed (1).** The label `2A` (leading digit) with coefficient 1 is
printed `2A` and read back as two `A`. -/
theorem wf_counterexample :
    WfLabel "2A" = false ∧ parseSide (fmtSide [("2A", 1)]) = .ok [("A", 2)] := ⟨by decide +kernel, by rfl⟩

/-- **The `WfLabel` guard is needed (2).** "First character is not a digit" is not enough: the
regex `^(\d+)([A-Za-z].*)$` only splits a glued coefficient off an ASCII letter, so `2 _A` is
printed `2_A` and read back as one species called `2_A`. -/
theorem wf_counterexample_nonletter :
    WfLabel "_A" = false ∧ parseSide (fmtSide [("_A", 2)]) = .ok [("2_A", 1)] := ⟨by decide +kernel, by rfl⟩

/-- **C16, reaction strings.** Printing a network as reaction strings with the rule suffix (with
or without the id suffix, sorted by id or in insertion order) and parsing the lines back succeeds
and yields, line by line, the same rule and the same two sides (in printed order); ids are
regenerated (`rule_k`). -/
theorem strings_roundtrip (f : StrFlags) (hf : f.includeRule = true) (N : Net) (h : WfStrNet N) :
    ∃ N', parseLines (fmtLines f N) = .ok N' ∧
      N'.rxns.map Rxn.content = (if f.sort then sortRxns N.rxns else N.rxns).map Rxn.sortedContent :=
  Str.strings_roundtrip' f hf N h

/-- … hence the same *multiset* of (rule, reactants, products). -/
theorem strings_roundtrip_multiset (f : StrFlags) (hf : f.includeRule = true) (N : Net) (h : WfStrNet N) :
    ∃ N', parseLines (fmtLines f N) = .ok N' ∧
      (N'.rxns.map Rxn.content).Perm (N.rxns.map Rxn.sortedContent) := by
  obtain ⟨N', h1, h2⟩ := Str.strings_roundtrip' f hf N h
  refine ⟨N', h1, ?_⟩
  rw [h2]
  exact (printed_perm f.sort N.rxns).map _

/-- With the default prefixes `S:` / `R:` species nodes and reaction nodes never clash. -/
theorem noIdClash_default (f : BipFlags) (N : Net)
    (hs : f.speciesPrefix = some "S:") (hr : f.reactionPrefix = some "R:") : NoIdClash f N := by
  right
  intro s _ e _ h
  rw [hs, hr] at h
  have h' := congrArg String.toList h
  have h1 : "S:".toList = ['S', ':'] := by decide
  have h2 : "R:".toList = ['R', ':'] := by decide
  simp only [withPrefix, String.toList_append, h1, h2] at h'
  simp at h'

/-- **C16, bipartite view, ids exported.** For every flag combination with
`include_edge_id_attr` that keeps the coefficients — string ids (any prefixes that do not clash)
or integer ids, with or without `role`, isolated species, `mol`, any bipartite markers —
`bipartite_to_hypergraph(hypergraph_to_bipartite(H))` succeeds and has exactly the same reactions:
same ids, rules, and sides (same coefficients, even the same dict order); its species are the
species of the reactions; the molecule label of each such species is reproduced when `include_mol`
(and there are none otherwise). -/
theorem bipartite_roundtrip (f : BipFlags) (N : Net) (genId : GenId)
    (hN : WfNet N) (hc : NoIdClash f N) (hs : StoichKept f N) (hid : f.includeEdgeIdAttr = true) :
    ∃ N', ofBipartite genId (toBipartite f N) = .ok N' ∧
      N'.rxns.Perm N.rxns ∧
      (∀ s, s ∈ N'.species ↔ s ∈ N.rxnSpecies) ∧
      (∀ s, N'.mol.get? s = if f.includeMol = true ∧ s ∈ N.rxnSpecies then N.mol.get? s else none) :=
by
  have hraw : ∀ e : Rxn, Bip.rawRxn genId
      (Bip.rawOf f (Bip.rid f (speciesIter f N).length (sortRxns N.rxns)) e) = e := by
    intro e; simp [Bip.rawRxn, Bip.rawId, Bip.rawOf, hid]
  obtain ⟨N', h1, h2, h3, h4⟩ := Bip.roundtrip_general f N genId hN hc hs
    (by simp only [Bip.rawId, Bip.rawOf, hid, if_true]; exact hN.idsNodup)
  refine ⟨N', h1, ?_, h3, h4⟩
  simpa only [hraw, List.map_id'] using h2

/-- **C16, bipartite view, ids not exported.** Without `include_edge_id_attr` the importer
synthesises ids from `hash(...)` (a parameter of the model); provided those do not collide,
everything but the ids is reproduced: the same multiset of (rule, reactants, products), species
and molecule labels as above. -/
theorem bipartite_roundtrip_noid (f : BipFlags) (N : Net) (genId : GenId)
    (hN : WfNet N) (hc : NoIdClash f N) (hs : StoichKept f N) (hid : f.includeEdgeIdAttr = false)
    (hgen : ∀ a b r p r' p' ru ru', genId a r p ru = genId b r' p' ru' → a = b) :
    ∃ N', ofBipartite genId (toBipartite f N) = .ok N' ∧
      (N'.rxns.map Rxn.content).Perm (N.rxns.map Rxn.content) ∧
      (∀ s, s ∈ N'.species ↔ s ∈ N.rxnSpecies) ∧
      (∀ s, N'.mol.get? s = if f.includeMol = true ∧ s ∈ N.rxnSpecies then N.mol.get? s else none) :=
by
  have I := Bip.ids_concrete f N hN hc
  have hp := sortRxns_perm N.rxns
  obtain ⟨N', h1, h2, h3, h4⟩ := Bip.roundtrip_general f N genId hN hc hs
    (by
      refine List.Nodup.map_on (fun a ha b hb hab => ?_) (List.Nodup.of_map _ hN.idsNodup)
      simp only [Bip.rawId, Bip.rawOf, hid, Bool.false_eq_true, if_false] at hab
      exact I.ridInj a (hp.mem_iff.2 ha) b (hp.mem_iff.2 hb) (hgen _ _ _ _ _ _ _ _ hab))
  refine ⟨N', h1, ?_, h3, h4⟩
  have := h2.map Rxn.content
  rwa [List.map_map] at this

/-- **C16, species graph.** For a network whose reactions all have reactants and products,
`species_graph_to_hypergraph(hypergraph_to_species_graph(H))` succeeds, has exactly the same
reaction ids, and every reaction has the same reactants and products with the same coefficients
(as dicts), also when several reactions share a species pair. Rules are not claimed: the code
takes an arbitrary element of the set of rules found on the reaction's arcs. -/
theorem species_roundtrip (includeMol : Bool) (N : Net) (genArc : GenArc)
    (hN : WfNet N) (h2 : TwoSided N) :
    ∃ N', ofSpeciesGraph genArc (toSpeciesGraph includeMol N) = .ok N' ∧
      N'.ids.Perm N.ids ∧
      ∀ e ∈ N.rxns, ∃ e' ∈ N'.rxns, e'.id = e.id ∧
        e'.reactants.Perm e.reactants ∧ e'.products.Perm e.products :=
by
  obtain ⟨N1, himp, hids, hrx, _⟩ := Raw.ofSpeciesGraphRaw_of_mspec hN h2 genArc "r" true _
    (Raw.mspec_toRaw includeMol N genArc hN)
  exact ⟨_, ofSpeciesGraphRaw_toRaw genArc _ ▸ himp, hids, hrx⟩

/-- Species set and molecule labels through the species graph. -/
theorem species_roundtrip_mol (includeMol : Bool) (N : Net) (genArc : GenArc)
    (hN : WfNet N) (h2 : TwoSided N) :
    ∃ N', ofSpeciesGraph genArc (toSpeciesGraph includeMol N) = .ok N' ∧
      (∀ s, N'.mol.get? s = if includeMol = true ∧ s ∈ N.rxnSpecies then N.mol.get? s else none) ∧
      (∀ s, s ∈ N'.species ↔ s ∈ N.rxnSpecies) :=
by
  obtain ⟨N1, himp, _, _, hmol, hsp⟩ := Raw.ofSpeciesGraphRaw_of_mspec hN h2 genArc "r" true _
    (Raw.mspec_toRaw includeMol N genArc hN)
  obtain ⟨_, hs1, hm1⟩ := foldl_molSet (fun s => if includeMol then N.mol.get? s else none) N.species
    hN.speciesNodup N1
  refine ⟨_, ofSpeciesGraphRaw_toRaw genArc _ ▸ himp, fun s => ?_, fun s => ?_⟩
  · rw [importMolSRaw_toRaw, Sp.importMolS_export includeMol N hN, hm1 s, hmol]
    have hsup := hN.speciesSup s
    show (_ : Option String).or (Dict.get? [] s) = _
    cases includeMol <;> by_cases hs : s ∈ N.rxnSpecies <;> simp [Dict.get?, hs, hsup, hsp s]
  · rw [importMolSRaw_toRaw, Sp.importMolS_export includeMol N hN, hs1]
    exact hsp s

/-- C16 as one statement: for every well-formed network, every bipartite flag combination that
keeps coefficients and ids and does not clash round-trips the reactions; the printed lines parse
back to the same multiset of reactions with rules (labels/rules well formed); two-sided networks
round-trip ids and stoichiometry through the species graph. -/
def C16.FullStatement : Prop :=
  ∀ N : Net, WfNet N →
    (∀ (f : BipFlags) (genId : GenId), NoIdClash f N → StoichKept f N → f.includeEdgeIdAttr = true →
      ∃ N', ofBipartite genId (toBipartite f N) = .ok N' ∧ N'.rxns.Perm N.rxns ∧
        (∀ s, N'.mol.get? s = if f.includeMol = true ∧ s ∈ N.rxnSpecies then N.mol.get? s else none)) ∧
    (WfStrNet N → ∀ f : StrFlags, f.includeRule = true →
      ∃ N', parseLines (fmtLines f N) = .ok N' ∧ (N'.rxns.map Rxn.content).Perm (N.rxns.map Rxn.sortedContent)) ∧
    (TwoSided N → ∀ (b : Bool) (genArc : GenArc),
      ∃ N', ofSpeciesGraph genArc (toSpeciesGraph b N) = .ok N' ∧ N'.ids.Perm N.ids ∧
        ∀ e ∈ N.rxns, ∃ e' ∈ N'.rxns, e'.id = e.id ∧ e'.reactants.Perm e.reactants ∧ e'.products.Perm e.products)

theorem C16.full : C16.FullStatement := by
  intro N hN
  refine ⟨?_, ?_, ?_⟩
  · intro f genId hc hs hid
    obtain ⟨N', h1, h2, _, h4⟩ := bipartite_roundtrip f N genId hN hc hs hid
    exact ⟨N', h1, h2, h4⟩
  · intro hS f hf
    exact strings_roundtrip_multiset f hf N hS
  · intro h2 b genArc
    exact species_roundtrip b N genArc hN h2

/-- A concrete network: three reactions sharing the species pair (A, B) with different
coefficients and rules, a catalyst, multi-digit coefficients, labels ending in digits. -/
def exampleNet : Net :=
  { species := ["A", "B", "Fe2", "H2O"]
    rxns := [⟨"r_1", "R1", [("A", 2), ("Fe2", 1)], [("B", 3), ("Fe2", 1)]⟩,
             ⟨"r_2", "R2", [("A", 1)], [("B", 12), ("H2O", 10)]⟩,
             ⟨"R1_7", "R1", [("B", 1), ("A", 5)], [("B", 2)]⟩]
    mol := [("A", "CCO"), ("H2O", "O")] }

example : WfNet exampleNet := (Raw.wfNetB_iff _).1 (by decide +kernel)

example : TwoSided exampleNet := (Raw.twoSidedB_iff _).1 (by decide +kernel)

example : WfStrNet exampleNet := (Raw.wfStrNetB_iff _).1 (by decide +kernel)

example : NoIdClash {} exampleNet := noIdClash_default _ _ rfl rfl
example : StoichKept {} exampleNet := Or.inl rfl

/-- The round trips really compute on it (integer ids, ids and mol exported). -/
example : (match ofBipartite (fun _ _ _ r => r) (toBipartite { integerIds := true, includeEdgeIdAttr := true, includeMol := true } exampleNet) with
    | .ok N' => N'.ids | .error _ => []) = ["R1_7", "r_1", "r_2"] := by decide +kernel

example : (fmtLines {} exampleNet).map String.ofList =
    ["5A + B >> 2B | rule=R1", "2A + Fe2 >> 3B + Fe2 | rule=R1", "A >> 12B + 10H2O | rule=R2"] := by decide +kernel

example : (match ofSpeciesGraph (fun a b => a ++ b) (toSpeciesGraph true exampleNet) with
    | .ok N' => N'.rxns.map (fun e => (e.id, e.reactants, e.products)) | .error _ => []) =
    [("r_1", [("A", 2), ("Fe2", 1)], [("B", 3), ("Fe2", 1)]), ("r_2", [("A", 1)], [("B", 12), ("H2O", 10)]),
     ("R1_7", [("A", 5), ("B", 1)], [("B", 2)])] := by decide +kernel

/-- A collision-free id generator exists, so the hypothesis `hgen` of
`bipartite_roundtrip_noid` is satisfiable: tag + node id. -/
def exampleGenId : GenId := fun n _ _ _ =>
  match n with
  | .str s => String.ofList ('s' :: s.toList)
  | .int k => String.ofList ('i' :: natToDigits k)

example : ∀ a b r p r' p' ru ru', exampleGenId a r p ru = exampleGenId b r' p' ru' → a = b := by
  intro a b r p r' p' ru ru' h
  have h' := congrArg String.toList h
  cases a <;> cases b <;> simp only [exampleGenId, String.toList_ofList, List.cons.injEq] at h'
  · rw [String.toList_inj.1 h'.2]
  · exact absurd h'.1 (by decide)
  · exact absurd h'.1 (by decide)
  · have := congrArg digitsToNat h'.2
    rw [digits_roundtrip, digits_roundtrip] at this
    rw [this]

/-! ## Degraded views

The importers on views the exporters do not produce (`SynKitModel/ViewsRaw.lean`). The conditions under which the raw
streams of the harness claim a round trip are the executable predicates of `SynKitModel/ViewsClaim.lean`
(`bipRawClaimWith`, `bipRawIdsKept`, `speciesRawClaim`, `itemsClaim`, decided by the driver on every case); each of
them implies the round trip, and `PrefixDisjoint`, `ArcsUniform`, `AllOnes` make the standard degradations meet them. -/

/-- **C16, bipartite importer, `kind` stripped.** Take a well-formed network whose string-id view
with the prefixes `sp` / `rp` keeps ids and coefficients and does not clash (the hypotheses of
`bipartite_roundtrip`), and assume `PrefixDisjoint sp rp N`: no reaction node id `rp ++ id` starts
with `sp`. Export, delete the `kind` attribute of ANY set `p` of nodes (all, only the species, only
the reactions, any subset; or overwrite it with a value `k` the importer does not know), and import
with the same prefixes (any `default_rule`): the result is the network, in the sense of
`bipartite_roundtrip`. -/
theorem ofBipartiteRaw_prefix_roundtrip (f : BipFlags) (N : Net) (genId : GenId) (sp rp d : String)
    (p : NodeId → Bool) (k : Option String) (hk1 : k ≠ some "species") (hk2 : k ≠ some "reaction")
    (hN : WfNet N) (hc : NoIdClash f N) (hs : StoichKept f N) (hid : f.includeEdgeIdAttr = true)
    (hstr : f.integerIds = false) (hsp : f.speciesPrefix = some sp) (hrp : f.reactionPrefix = some rp)
    (hd : PrefixDisjoint sp rp N) :
    ∃ N', ofBipartiteRaw genId { speciesPrefix := sp, reactionPrefix := rp, defaultRule := d }
        ((toBipartite f N).toRaw.setKind p k) = .ok N' ∧
      N'.rxns.Perm N.rxns ∧
      (∀ s, s ∈ N'.species ↔ s ∈ N.rxnSpecies) ∧
      (∀ s, N'.mol.get? s = if f.includeMol = true ∧ s ∈ N.rxnSpecies then N.mol.get? s else none) :=
by
  rw [Raw.ofBipartiteRaw_setKind genId _ rfl (toBipartite f N) (Bip.toBipartite_ids_nodup f N hN hc) p k
    (fun m hm _ => Raw.kindOK_prefix f N hN hc sp rp hstr hsp hrp hd _ rfl rfl k hk1 hk2 m hm)]
  exact bipartite_roundtrip f N genId hN hc hs hid

/-- `PrefixDisjoint` is what the prefix heuristic needs, node by node: it makes `kindOK` (the
per-node condition the driver decides) true for every exported node whose `kind` became unusable. -/
theorem kindOK_of_prefixDisjoint (f : BipFlags) (N : Net) (hN : WfNet N) (hc : NoIdClash f N) (sp rp : String)
    (hstr : f.integerIds = false) (hsp : f.speciesPrefix = some sp) (hrp : f.reactionPrefix = some rp)
    (hd : PrefixDisjoint sp rp N) (o : ImpOpts) (ho1 : o.speciesPrefix = sp) (ho2 : o.reactionPrefix = rp)
    (k : Option String) (hk1 : k ≠ some "species") (hk2 : k ≠ some "reaction") :
    ∀ n ∈ (toBipartite f N).toRaw.nodes, kindOK o n { n with kind := k } = true := by
  intro n hn
  rw [toRaw_nodes] at hn
  obtain ⟨m, hm, rfl⟩ := List.mem_map.1 hn
  exact Raw.kindOK_prefix f N hN hc sp rp hstr hsp hrp hd o ho1 ho2 k hk1 hk2 m hm

/-- The guard is needed: with `sp = "R"`, `rp = "R:"` the reaction node `R:r_1` starts with the
species prefix, and the importer rebuilds nothing from the stripped view. -/
theorem prefixDisjoint_counterexample :
    ¬ PrefixDisjoint "R" "R:" { species := ["A"], rxns := [⟨"r_1", "R1", [("A", 1)], []⟩], mol := [] } ∧
    (match ofBipartiteRaw (fun _ _ _ r => r) { speciesPrefix := "R", reactionPrefix := "R:" }
      ((toBipartite { speciesPrefix := some "R", reactionPrefix := some "R:", includeEdgeIdAttr := true }
        { species := ["A"], rxns := [⟨"r_1", "R1", [("A", 1)], []⟩], mol := [] }).toRaw.setKind (fun _ => true) none) with
      | .ok N' => N'.ids
      | .error _ => ["error"]) = [] := by
  constructor <;> decide +kernel

/-- **C16, bipartite importer, attribute names (congruence).** Renaming the label / edge-id / mol
attributes of the nodes by `ρ` and the stoichiometry attribute of the arcs by `σ` (injective
renamings; `kind` is not an argument of the importer and keeps its name), consistently in the graph
and in the keyword arguments `species_label_attr`, `reaction_label_attr`, `reaction_edge_id_attr`,
`stoich_attr`, `mol_attr`, does not change the result. -/
theorem ofBipartiteRaw_attr_names (genId : GenId) (sp rp d : String) (ρ σ : String → String)
    (hρ : ∀ a b, ρ a = ρ b → a = b) (hσ : ∀ a b, σ a = σ b → a = b) (hk : ρ "kind" = "kind")
    (a : AttrNames) (g : ABGraph) :
    (g.rename ρ σ).read (a.rename ρ σ) = g.read a ∧
    ofBipartiteAttr genId sp rp d (a.rename ρ σ) (g.rename ρ σ) = ofBipartiteAttr genId sp rp d a g :=
  ⟨Raw.read_rename ρ σ hρ hσ hk a g, Raw.ofBipartiteAttr_rename genId sp rp d ρ σ hρ hσ hk a g⟩

/-- … and `default_rule` is the rule of a reaction exactly when its node has no rule attribute. -/
theorem ofBipartiteRaw_default_rule (o : ImpOpts) (g : RBGraph) (sp : List NodeId) (r : NodeId) :
    (rawOfRNode o g sp r).rule =
      match (g.node? r).bind (·.rxLabel) with
      | some l => l
      | none => o.defaultRule := by
  unfold rawOfRNode
  simp only []
  cases (g.node? r).bind (·.rxLabel) <;> rfl

/-- **What the bipartite importer reads.** Two graphs with the same nodes and arcs (two readings
`φ`, `φ'` / `ψ`, `ψ'` of the same index lists) that are classified alike give the same network as
soon as they agree on: the label (attribute, else `str(id)`) and the molecule label of the nodes
classified as species; the rule (attribute, else `default_rule`) and the id (attribute, else
synthesised) of the nodes classified as reactions; the ends and the coefficient (attribute, else 1)
of every arc. Everything else — other attributes, the attribute names, the `kind` of a node that
the prefixes classify — is irrelevant. -/
theorem ofBipartiteRaw_reads_only {ι κ : Type} (gen gen' : GenId) (o o' : ImpOpts)
    (zs : List ι) (φ φ' : ι → RNode) (ws : List κ) (ψ ψ' : κ → BEdge)
    (hid : ∀ z ∈ zs, (φ' z).id = (φ z).id)
    (hcl : classify o' (Raw.mkG zs φ' ws ψ') = classify o (Raw.mkG zs φ ws ψ))
    (hsp : ∀ z ∈ zs, (φ z).id ∈ (classify o (Raw.mkG zs φ ws ψ)).1 →
      (φ' z).spLabel.getD (φ z).id.toStr = (φ z).spLabel.getD (φ z).id.toStr ∧
      effMol o' (φ' z) = effMol o (φ z))
    (hrx : ∀ z ∈ zs, (φ z).id ∈ (classify o (Raw.mkG zs φ ws ψ)).2 →
      (φ' z).rxLabel.getD o'.defaultRule = (φ z).rxLabel.getD o.defaultRule ∧
      ∀ r p ru, Raw.effId gen' (φ' z) r p ru = Raw.effId gen (φ z) r p ru)
    (hed : ∀ w ∈ ws, (ψ' w).src = (ψ w).src ∧ (ψ' w).dst = (ψ w).dst ∧
      (ψ' w).stoich.getD 1 = (ψ w).stoich.getD 1) :
    ofBipartiteRaw gen' o' (Raw.mkG zs φ' ws ψ') = ofBipartiteRaw gen o (Raw.mkG zs φ ws ψ) :=
  Raw.ofBipartiteRaw_congr gen gen' o o' zs φ φ' ws ψ ψ' hid hcl hsp hrx hed

/-- **C16, bipartite importer, claim condition ⇒ round trip (ids kept).** `bipRawClaimWith mol f o
N g'` is what `views.claim_bip_raw` decides for a degraded graph `g'` as the importer reads it
(kinds stripped where the prefixes decide, labels / rules / coefficients / molecule labels read
back through the defaults, attributes renamed, …). If moreover every reaction node still carries
its edge id, the importer returns the reactions of `N` with their ids; `mol` says whether the
molecule labels are expected back. -/
theorem bipRawClaim_roundtrip (mol : Bool) (f : BipFlags) (o : ImpOpts) (N : Net) (g' : RBGraph)
    (genId : GenId) (h : bipRawClaimWith mol f o N g' = true) (hk : bipRawIdsKept f N g' = true) :
    ∃ N', ofBipartiteRaw genId o g' = .ok N' ∧ N'.rxns.Perm N.rxns ∧
      (∀ s, s ∈ N'.species ↔ s ∈ N.rxnSpecies) ∧
      (∀ s, N'.mol.get? s =
        if (f.includeMol && mol) = true ∧ s ∈ N.rxnSpecies then N.mol.get? s else none) :=
by
  have hN := Raw.bipRawClaim_wf h
  obtain ⟨idOf, nodeOf, _, _, hkept, hmain⟩ := Raw.bipRawClaim_core mol f o N g' genId h
  have hid := hkept hk
  have e1 : N.rxns.map idOf = N.ids := List.map_congr_left hid
  have e2 : (N.rxns.map fun e => (⟨idOf e, e.rule, e.reactants, e.products⟩ : Rxn)) = N.rxns := by
    rw [List.map_congr_left (g := id) (fun e he => by rw [hid e he]; rfl), List.map_id]
  obtain ⟨N', h1, h2, h3, h4⟩ := hmain (by rw [e1]; exact hN.idsNodup)
  exact ⟨N', h1, e2 ▸ h2, h3, h4⟩

/-- **… ids missing on some or all reaction nodes.** The missing ids are synthesised from
`hash(...)` (the parameter `genId`); provided the synthesised ids collide neither with each other
nor with an id of the network, everything but the ids is reproduced. -/
theorem bipRawClaim_roundtrip_noid (mol : Bool) (f : BipFlags) (o : ImpOpts) (N : Net) (g' : RBGraph)
    (genId : GenId) (h : bipRawClaimWith mol f o N g' = true)
    (hgen : ∀ a b r p r' p' ru ru', genId a r p ru = genId b r' p' ru' → a = b)
    (hfresh : ∀ a r p ru, genId a r p ru ∉ N.ids) :
    ∃ N', ofBipartiteRaw genId o g' = .ok N' ∧
      (N'.rxns.map Rxn.content).Perm (N.rxns.map Rxn.content) ∧
      (∀ s, s ∈ N'.species ↔ s ∈ N.rxnSpecies) ∧
      (∀ s, N'.mol.get? s =
        if (f.includeMol && mol) = true ∧ s ∈ N.rxnSpecies then N.mol.get? s else none) :=
by
  have hN := Raw.bipRawClaim_wf h
  obtain ⟨idOf, nodeOf, hinj, hcase, _, hmain⟩ := Raw.bipRawClaim_core mol f o N g' genId h
  have hmemid : ∀ e ∈ N.rxns, e.id ∈ N.ids := fun e he => List.mem_map.2 ⟨e, he, rfl⟩
  have hnd : (N.rxns.map idOf).Nodup := by
    refine List.Nodup.map_on (fun a ha b hb hab => ?_) (List.Nodup.of_map _ hN.idsNodup)
    rcases hcase a ha with h1 | h1 <;> rcases hcase b hb with h2 | h2
    · exact List.inj_on_of_nodup_map hN.idsNodup ha hb (by rw [← h1, ← h2, hab])
    · exact absurd (hmemid a ha) (by rw [← h1, hab, h2]; exact hfresh _ _ _ _)
    · exact absurd (hmemid b hb) (by rw [← h2, ← hab, h1]; exact hfresh _ _ _ _)
    · exact hinj a ha b hb (hgen _ _ _ _ _ _ _ _ (by rw [← h1, ← h2, hab]))
  obtain ⟨N', h1, h2, h3, h4⟩ := hmain hnd
  refine ⟨N', h1, ?_, h3, h4⟩
  have := h2.map Rxn.content
  rwa [List.map_map] at this

/-- **C16, species-graph importer, claim condition ⇒ round trip.** `speciesRawClaim b N g'` is what
`views.claim_species_raw` decides for a degraded species graph `g'` as the importer reads it (nodes
relabelled, labels read back through `str(node)`, `via` in any form that still names the reactions,
per-reaction maps or legacy values or the default 1 giving the right coefficients). Then the
importer returns the reaction ids of `N`, each with the same reactants and products (as dicts), for
any `default_rule` / `mol_attr`. -/
theorem speciesRawClaim_roundtrip (b : Bool) (N : Net) (g' : RSGraph) (genArc : GenArc) (d : String)
    (molOn : Bool) (h : speciesRawClaim b N g' = true) :
    ∃ N', ofSpeciesGraphRaw genArc d molOn g' = .ok N' ∧ N'.ids.Perm N.ids ∧
      ∀ e ∈ N.rxns, ∃ e' ∈ N'.rxns, e'.id = e.id ∧
        e'.reactants.Perm e.reactants ∧ e'.products.Perm e.products :=
by
  obtain ⟨hN, h2, hall⟩ := (Raw.speciesRawClaim_iff b N g').1 h
  obtain ⟨N1, himp, hids, hrx, _⟩ := Raw.ofSpeciesGraphRaw_of_mspec hN h2 genArc d molOn g'
    (Raw.mspec_of_all2 N _ g' genArc genArc hall (Raw.mspec_toRaw b N genArc hN))
  exact ⟨_, himp, hids, hrx⟩

/-- **C16, species-graph importer, forms of `via`.** (1) A list, a tuple and a set are the same
`ViaAttr.seq` (in its iteration order) to the model; the id of a single reaction handed over bare
(`via="r_1"` instead of `{"r_1"}`) gives exactly the same network. (2) Arcs without `via` give one
synthetic reaction per arc, `label(u) -> label(v)` with the arc's coefficients (per-reaction map
under the synthetic id, else legacy value, else 1), the first of the arc's rules or `default_rule`,
and the id `genArc u v` — provided those ids are distinct and the coefficients positive. -/
theorem ofSpeciesGraphRaw_via_forms (genArc : GenArc) (d : String) (molOn : Bool) (g : RSGraph) :
    ((∀ a ∈ g.edges, a.via ≠ .seq [""]) →
      ofSpeciesGraphRaw genArc d molOn (g.mapEdges REdge.viaScalar) = ofSpeciesGraphRaw genArc d molOn g) ∧
    ((g.edges.map fun a => genArc a.src a.dst).Nodup →
      (∀ a ∈ g.edges, 0 < coeffFor a.rMap a.stoichR (genArc a.src a.dst) ∧
        0 < coeffFor a.pMap a.stoichP (genArc a.src a.dst)) →
      ∃ N', ofSpeciesGraphRaw genArc d molOn (g.mapEdges REdge.dropVia) = .ok N' ∧
        N'.rxns = g.edges.map fun a =>
          (⟨genArc a.src a.dst, normRule ((a.rules.toList.foldl setAdd []).head?.getD d),
            [(g.labelOf a.src, coeffFor a.rMap a.stoichR (genArc a.src a.dst))],
            [(g.labelOf a.dst, coeffFor a.pMap a.stoichP (genArc a.src a.dst))]⟩ : Rxn)) :=
  ⟨Raw.ofSpeciesGraphRaw_viaScalar genArc d molOn g, Raw.ofSpeciesGraphRaw_dropVia genArc d molOn g⟩

/-- **C16, species-graph importer, legacy coefficients.** For a well-formed two-sided network:
(1) without the per-reaction maps (`stoich_r_map` and / or `stoich_p_map` deleted) the legacy
per-arc values `stoich_r` / `stoich_p` reproduce ids and stoichiometry when `ArcsUniform N` — every
two reactions sharing an arc carry the same coefficients there; (2) the legacy values are never
needed while the maps are there; (3) with both absent every coefficient is read as 1, which
reproduces the network when `AllOnes N`. (`legacy_counterexample`: (1) fails without uniformity.) -/
theorem ofSpeciesGraphRaw_legacy_stoich (b : Bool) (N : Net) (genArc : GenArc) (d : String) (molOn : Bool)
    (hN : WfNet N) (h2 : TwoSided N) (φ : REdge → REdge)
    (hφ : (ArcsUniform N ∧ ∃ r p, φ = REdge.dropMaps r p) ∨ φ = REdge.dropLegacy ∨
      (AllOnes N ∧ ∃ r p, φ = fun a => (a.dropMaps r p).dropLegacy)) :
    ∃ N', ofSpeciesGraphRaw genArc d molOn ((toSpeciesGraph b N).toRaw.mapEdges φ) = .ok N' ∧
      N'.ids.Perm N.ids ∧
      ∀ e ∈ N.rxns, ∃ e' ∈ N'.rxns, e'.id = e.id ∧
        e'.reactants.Perm e.reactants ∧ e'.products.Perm e.products := by
  apply speciesRawClaim_roundtrip b N
  rcases hφ with ⟨hu, r, p, rfl⟩ | rfl | ⟨h1, r, p, rfl⟩
  · exact Raw.claim_dropMaps b N hN h2 hu r p
  · exact Raw.claim_dropLegacy b N hN h2
  · exact Raw.claim_dropBoth b N hN h2 h1 r p

/-- With both absent the coefficient is 1; without the map it is the legacy value. -/
theorem coeffFor_defaults (c : Nat) (eid : String) :
    coeffFor none none eid = 1 ∧ coeffFor none (some c) eid = c := ⟨rfl, rfl⟩

/-- Uniformity is needed: two reactions `A -> B` and `2A -> B` share the arc `(A, B)`; without the
maps the legacy `stoich_r = min(1, 2)` is wrong for the second one, and the claim condition fails. -/
theorem legacy_counterexample :
    ¬ ArcsUniform Raw.exNonUniform ∧
    speciesRawClaim false Raw.exNonUniform
      ((toSpeciesGraph false Raw.exNonUniform).toRaw.mapEdges (REdge.dropMaps true true)) = false :=
  ⟨by decide +kernel, by decide +kernel⟩

/-- **C16, `parse_rxns` input forms.** (1) A mapping `line -> rule`, a list of `(line, rule)` tuples
and `rules=` that denote the same pairs are the same call (`rules=` of another length, no explicit
rules at all: `parseRxnsInput_lines`). (2) Under the claim condition
`itemsClaim` — the lines are the lines the printer prints for `N`, and either they carry no suffix
and every rule is given explicitly, or they carry the rule suffix, suffix parsing is on and the
suffix wins (`prefer_suffix`, or no explicit rule) — parsing the items is literally parsing the
lines printed with the rule suffix, hence (`strings_roundtrip`) reproduces rule and sides of every
reaction. The precedence itself: an explicit rule wins unless `prefer_suffix`, `parse_rule_from_suffix`
and the line has a `| rule=` suffix (`parseItemsFrom`, by definition). -/
theorem parseItemsFrom_forms (f : StrFlags) (ps pf : Bool) (d : String) (N : Net)
    (items : List (List Char × Option String)) :
    (parseRxnsInput ps pf d (.mapping items) = parseRxnsInput ps pf d (.tuples items) ∧
     parseRxnsInput ps pf d (.lines (items.map (·.1)) (some (items.map (·.2)))) =
       parseRxnsInput ps pf d (.tuples items)) ∧
    (itemsClaim f ps pf N items = true →
      parseRxnsInput ps pf d (.tuples items) = parseLines (fmtLines { f with includeRule := true } N) ∧
      ∃ N', parseRxnsInput ps pf d (.tuples items) = .ok N' ∧
        N'.rxns.map Rxn.content = (printedRxns f N).map Rxn.sortedContent ∧
        (N'.rxns.map Rxn.content).Perm (N.rxns.map Rxn.sortedContent)) :=
  ⟨Raw.parseRxnsInput_forms ps pf d items, fun h =>
    ⟨Raw.itemsClaim_parse f ps pf d N items h, Raw.itemsClaim_roundtrip f ps pf d N items h⟩⟩

/-- `rules=` of another length: the documented `ValueError`; no rules: the plain parse. -/
theorem parseRxnsInput_lines (ps pf : Bool) (d : String) (ls : List (List Char)) :
    (∀ rs : List (Option String), ls.length ≠ rs.length →
      parseRxnsInput ps pf d (.lines ls (some rs)) = .error .valueError) ∧
    parseRxnsInput ps pf d (.lines ls none) =
      (match parseLinesFrom ps d {} ls with
        | .ok st => .ok st.net
        | .error e => .error e) :=
  ⟨fun rs h => Raw.parseRxnsInput_length_mismatch ps pf d ls rs h, Raw.parseRxnsInput_lines_none ps pf d ls⟩

example : PrefixDisjoint "S:" "R:" exampleNet := by decide +kernel
example : ¬ ArcsUniform exampleNet := by decide +kernel
example : ArcsUniform Raw.exShared ∧ WfNet Raw.exShared ∧ TwoSided Raw.exShared :=
  ⟨by decide +kernel, (Raw.wfNetB_iff _).1 (by decide +kernel), (Raw.twoSidedB_iff _).1 (by decide +kernel)⟩

/-- The claim condition holds on a concrete degraded graph (kinds stripped everywhere, coefficients
kept, ids kept), and the importer really returns the ids. -/
example : bipRawClaimWith true { includeEdgeIdAttr := true, includeMol := true } {} exampleNet
    ((toBipartite { includeEdgeIdAttr := true, includeMol := true } exampleNet).toRaw.setKind (fun _ => true) none) = true ∧
    bipRawIdsKept { includeEdgeIdAttr := true, includeMol := true } exampleNet
    ((toBipartite { includeEdgeIdAttr := true, includeMol := true } exampleNet).toRaw.setKind (fun _ => true) none) = true := by
  constructor <;> decide +kernel

example : (match ofBipartiteRaw (fun _ _ _ r => r) {}
    ((toBipartite { includeEdgeIdAttr := true } exampleNet).toRaw.setKind (fun _ => true) none) with
    | .ok N' => N'.ids | .error _ => []) = ["R1_7", "r_1", "r_2"] := by decide +kernel

example : speciesRawClaim true Raw.exShared
    ((toSpeciesGraph true Raw.exShared).toRaw.mapEdges (REdge.dropMaps true true)) = true := by decide +kernel

example : itemsClaim { includeRule := false } true false exampleNet
    [("5A + B >> 2B".toList, some "R1"), ("2A + Fe2 >> 3B + Fe2".toList, some "R1"),
     ("A >> 12B + 10H2O".toList, some "R2")] = true := by decide +kernel

end SynKit.Views
