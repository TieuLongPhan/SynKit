import SynKitModel.Deficiency
import SynKitProofs.NetGraphAlg
import SynKitProofs.DeficiencyLemmas
import SynKitProofs.DeficiencyRank
import SynKitProofs.BipGraphViewsLemmas
import Mathlib.LinearAlgebra.Matrix.Rank
/-!
C19 — complexes, linkage classes and deficiency follow their definitions. A complex is the coefficient
vector over the species order (`vecOf`); it is the multiset of the side when every label of the reaction
is a species (`Net.Wf`), which no theorem here assumes: a label that is not a species is dropped, as in
the code. Ranks are arguments of the model; the two inequalities are stated for the exact `Matrix.rank`
over `ℚ`.
-/
namespace SynKit.Deficiency
open SynKit.NetGraphAlg

/-- **C19, complexes.** The complexes are exactly the distinct reactant and product multisets of
the reactions: no duplicates, and a vector is listed iff it is the reactant or product vector of
some reaction.  The arcs of the complex graph are exactly the pairs (index of a reaction's
reactant complex, index of its product complex). -/
theorem complexes_spec (N : Net) :
    (complexes N).Nodup ∧
    (∀ v, v ∈ complexes N ↔ ∃ r ∈ N.reactions, v = vecOf N r.reactants ∨ v = vecOf N r.products) ∧
    (∀ a, a ∈ complexArcs N ↔ ∃ r ∈ N.reactions, (complexes N)[a.1]? = some (vecOf N r.reactants) ∧
        (complexes N)[a.2]? = some (vecOf N r.products)) :=
  complexes_inv N

/-- **C19, linkage classes.** The classes are the connected components of the graph joining each
reaction's reactant complex to its product complex: two complexes lie in a common class iff they
are related by the reflexive-symmetric-transitive closure of the arcs; the classes are non-empty,
cover all complexes, are pairwise disjoint and listed once (so their number is the number of
components). -/
theorem linkage_spec (N : Net) :
    (∀ i j, i < (complexes N).length → j < (complexes N).length →
        ((∃ c ∈ linkageClasses N, i ∈ c ∧ j ∈ c) ↔ Conn (complexArcs N) i j)) ∧
    (∀ i, i < (complexes N).length → ∃ c ∈ linkageClasses N, i ∈ c) ∧
    (∀ c ∈ linkageClasses N, c ≠ [] ∧ ∀ i ∈ c, i < (complexes N).length) ∧
    (∀ c ∈ linkageClasses N, ∀ d ∈ linkageClasses N, ∀ i, i ∈ c → i ∈ d → c = d) ∧
    (linkageClasses N).Nodup := by
  refine ⟨?_, ?_, ?_, ?_, components_nodup _ _⟩
  · intro i j hi hj
    exact components_spec _ _ i j (List.mem_range.2 hi) (List.mem_range.2 hj)
  · intro i hi
    exact (components_cover _ _).1 i (List.mem_range.2 hi)
  · intro c hc
    obtain ⟨h1, h2⟩ := (components_cover _ _).2 c hc
    exact ⟨h1, fun i hi => List.mem_range.1 (h2 i hi)⟩
  · intro c hc d hd i hic hid
    exact components_disjoint _ _ c d hc hd i hic hid

/-- **C19, weak reversibility.** The verdict is `True` exactly when every linkage class is strongly
connected: inside the class every complex reaches every complex along arcs. -/
theorem weakrev_spec (N : Net) :
    weaklyReversible N = true ↔
      ∀ C ∈ linkageClasses N, ∀ u ∈ C, ∀ v ∈ C, Reach (restrict (complexArcs N) C) u v := by
  simp only [weaklyReversible, List.all_eq_true, stronglyConnected_iff]

/-- **C19, deficiency formula.** The reported numbers are `n` = number of complexes, `ℓ` = number of
linkage classes, and `δ = n − ℓ − rank`. -/
theorem deficiency_formula (N : Net) (rank : Nat) (s : Summary) (h : computeSummary N rank = .ok s) :
    s.nComplexes = (complexes N).length ∧ s.nLinkage = (linkageClasses N).length ∧ s.rank = rank ∧
    s.deficiency = (s.nComplexes : Int) - (s.nLinkage : Int) - (rank : Int) ∧
    s.weaklyReversible = weaklyReversible N ∧ s.nSpecies = N.species.length ∧
    s.nReactions = N.reactions.length := by
  unfold computeSummary at h
  split at h
  · cases h
  · cases h; exact ⟨rfl, rfl, rfl, rfl, rfl, rfl, rfl⟩

/-- **C19, deficiency formula per linkage class.** `δ_ℓ = n_ℓ − 1 − s_ℓ`, with the class ranks `s_ℓ`
supplied in the order of `linkageClasses`. -/
theorem linkage_deficiency_formula (N : Net) (ranks : List Nat)
    (hl : ranks.length = (linkageClasses N).length) (k : Nat) (hk : k < (linkageClasses N).length) :
    (linkageDeficiencies N ranks)[k]? =
      some ((((linkageClasses N)[k]).length : Int) - 1 - ((ranks[k]'(hl ▸ hk) : Nat) : Int)) := by
  rw [linkageDeficiencies, List.getElem?_zipWith, List.getElem?_eq_getElem hk,
    List.getElem?_eq_getElem (hl ▸ hk)]

/-- The error branch: no species or no reactions is the `ValueError` of `_split_species_reactions`. -/
theorem summary_error_iff (N : Net) (rank : Nat) :
    computeSummary N rank = .error .valueError ↔ N.species = [] ∨ N.reactions = [] := by
  unfold computeSummary
  split
  · rename_i h; simpa using h
  · rename_i h; simp at h; simp [h]

/-- **C19 at full strength** (model level).  The first four clauses are `complexes_spec`,
`linkage_spec`, `weakrev_spec`, `deficiency_formula`.  The last two — `δ ≥ 0` and `Σ δ_ℓ ≤ δ` with
the exact ranks (`Matrix.rank` over ℚ of the matrices the model builds) — are
`deficiency_nonneg` and `linkage_deficiency_sum_le` below; they rest on `rank S ≤ n − ℓ` (every
column `y′ − y` of `S` lies in the span of the `n − ℓ` vectors `yᵢ − y_rep(i)`) and
`rank S ≤ Σ s_ℓ` (the column space of `S` lies in the join of the class spans), by the linear algebra of
`SynKitProofs/DeficiencyRank.lean`.  The whole statement is `full`.  The harness supplies the
exact rational ranks and checks the implementation's numbers against them. -/
def FullStatement : Prop :=
  ∀ N : Net, N.species ≠ [] → N.reactions ≠ [] →
    ((complexes N).Nodup ∧ ∀ v, v ∈ complexes N ↔ ∃ r ∈ N.reactions, v = vecOf N r.reactants ∨ v = vecOf N r.products) ∧
    (∀ i j, i < (complexes N).length → j < (complexes N).length →
        ((∃ c ∈ linkageClasses N, i ∈ c ∧ j ∈ c) ↔ Conn (complexArcs N) i j)) ∧
    (weaklyReversible N = true ↔
      ∀ C ∈ linkageClasses N, ∀ u ∈ C, ∀ v ∈ C, Reach (restrict (complexArcs N) C) u v) ∧
    (∃ s, computeSummary N (stoichMatrix N).rank = .ok s ∧
        s.deficiency = ((complexes N).length : Int) - ((linkageClasses N).length : Int) - ((stoichMatrix N).rank : Int) ∧
        0 ≤ s.deficiency ∧
        (linkageDeficiencies N ((linkageClasses N).map fun C => (classMatrix N C).rank)).sum ≤ s.deficiency)

/-- Everything of `FullStatement` except the two inequalities (`full` below proves all of it). -/
theorem fullStatement_partial (N : Net) (hs : N.species ≠ []) (hr : N.reactions ≠ []) :
    ((complexes N).Nodup ∧ ∀ v, v ∈ complexes N ↔ ∃ r ∈ N.reactions, v = vecOf N r.reactants ∨ v = vecOf N r.products) ∧
    (∀ i j, i < (complexes N).length → j < (complexes N).length →
        ((∃ c ∈ linkageClasses N, i ∈ c ∧ j ∈ c) ↔ Conn (complexArcs N) i j)) ∧
    (weaklyReversible N = true ↔
      ∀ C ∈ linkageClasses N, ∀ u ∈ C, ∀ v ∈ C, Reach (restrict (complexArcs N) C) u v) ∧
    (∃ s, computeSummary N (stoichMatrix N).rank = .ok s ∧
        s.deficiency = ((complexes N).length : Int) - ((linkageClasses N).length : Int) - ((stoichMatrix N).rank : Int)) := by
  have hok : ¬ (N.species.isEmpty || N.reactions.isEmpty) = true := by simpa using ⟨hs, hr⟩
  exact ⟨⟨(complexes_spec N).1, (complexes_spec N).2.1⟩, (linkage_spec N).1, weakrev_spec N, _,
    if_neg hok, rfl⟩

/-- **C19, rank bound behind `δ ≥ 0`.** The exact rank of the stoichiometric matrix is at most
`n − ℓ` (number of complexes minus number of linkage classes), and `ℓ ≤ n`. -/
theorem stoich_rank_le (N : Net) :
    (stoichMatrix N).rank ≤ (complexes N).length - (linkageClasses N).length ∧
    (linkageClasses N).length ≤ (complexes N).length :=
  ⟨rank_stoich_le N, linkage_le_complexes N⟩

/-- **C19, rank bound behind `Σ δ_ℓ ≤ δ`.** The exact rank of the stoichiometric matrix is at most
the sum over the linkage classes of the exact ranks of their difference vectors: the column space
of `S` lies in the join of the column spaces of the class matrices, and the dimension is
sub-additive over a join. -/
theorem stoich_rank_le_sum_class_ranks (N : Net) :
    (stoichMatrix N).rank ≤ ((linkageClasses N).map fun C => (classMatrix N C).rank).sum := by
  refine rank_le_sum_ranks (stoichMatrix N) (linkageClasses N) (classMatrix N) fun j => ?_
  obtain ⟨a, ha, hcol⟩ := stoich_col N j
  obtain ⟨h1, h2⟩ := complexArcs_lt N a ha
  obtain ⟨C, hC, h1C, h2C⟩ := (components_spec (List.range (complexes N).length) (complexArcs N) a.1 a.2
    (List.mem_range.2 h1) (List.mem_range.2 h2)).2 (.edge ha)
  exact ⟨C, hC, hcol ▸ arcDiff_mem_colSpan N C a ((mem_restrict _ _ _).2 ⟨ha, h1C, h2C⟩)⟩

/-- **C19, the deficiency is never negative**: whenever `compute_summary` returns (with the exact
rank of the stoichiometric matrix supplied), `δ = n − ℓ − rank S ≥ 0`. -/
theorem deficiency_nonneg (N : Net) (s : Summary)
    (h : computeSummary N (stoichMatrix N).rank = .ok s) : 0 ≤ s.deficiency := by
  obtain ⟨h1, h2, _, h4, _⟩ := deficiency_formula N _ s h
  obtain ⟨hr, hl⟩ := stoich_rank_le N
  rw [h4, h1, h2]
  omega

/-- **C19, the linkage-class deficiencies never sum to more than the network deficiency**: with the
exact class ranks `s_ℓ` and the exact rank of `S` supplied, `Σ (n_ℓ − 1 − s_ℓ) ≤ n − ℓ − rank S`. -/
theorem linkage_deficiency_sum_le (N : Net) (s : Summary)
    (h : computeSummary N (stoichMatrix N).rank = .ok s) :
    (linkageDeficiencies N ((linkageClasses N).map fun C => (classMatrix N C).rank)).sum ≤ s.deficiency := by
  obtain ⟨h1, h2, _, h4, _⟩ := deficiency_formula N _ s h
  have hsum := stoich_rank_le_sum_class_ranks N
  rw [h4, h1, h2, sum_linkageDeficiencies N (fun C => (classMatrix N C).rank)]
  have : ((stoichMatrix N).rank : Int) ≤
      ((((linkageClasses N).map fun C => (classMatrix N C).rank).sum : Nat) : Int) := by exact_mod_cast hsum
  omega

/-- **C19 at full strength**: every clause of `FullStatement`, for every network with at least one
species and one reaction (the others are the `ValueError` branch, `summary_error_iff`). -/
theorem full : FullStatement := by
  intro N hs hr
  obtain ⟨c1, c2, c3, s, hs1, hs2⟩ := fullStatement_partial N hs hr
  exact ⟨c1, c2, c3, s, hs1, hs2, deficiency_nonneg N s hs1, linkage_deficiency_sum_le N s hs1⟩

/-! ### non-vacuity and the defect witness (evaluations are in `SynKitModel/Deficiency.lean`) -/

/-- `A + B ⇌ C`: two complexes, one class, weakly reversible, δ = 2 − 1 − 1 = 0. -/
example : complexes exF16 = [[1, 1, 0], [0, 0, 1]] ∧ complexArcs exF16 = [(0, 1), (1, 0)] ∧
    linkageClasses exF16 = [[0, 1]] ∧ weaklyReversible exF16 = true ∧
    computeSummary exF16 1 = .ok ⟨3, 2, 2, 1, 1, 0, true⟩ := exF16_repaired

example : ∀ C ∈ linkageClasses exF16, ∀ u ∈ C, ∀ v ∈ C, Reach (restrict (complexArcs exF16) C) u v :=
  (weakrev_spec exF16).1 exF16_repaired.2.2.2.1

/-- The hypotheses of `deficiency_nonneg` / `linkage_deficiency_sum_le` / `full` are satisfiable:
`A + B ⇌ C` has species and reactions, so the summary exists; there `n − ℓ = 1`, so the theorems say
`rank S ≤ 1`, `0 ≤ δ` and `Σ δ_ℓ ≤ δ` for its one linkage class `[0, 1]`. -/
example : ∃ s, computeSummary exF16 (stoichMatrix exF16).rank = .ok s ∧ 0 ≤ s.deficiency ∧
    (linkageDeficiencies exF16 ((linkageClasses exF16).map fun C => (classMatrix exF16 C).rank)).sum ≤ s.deficiency := by
  obtain ⟨_, _, _, s, h1, _, h3, h4⟩ := full exF16 (by decide +kernel) (by decide +kernel)
  exact ⟨s, h1, h3, h4⟩

example : (stoichMatrix exF16).rank ≤ 1 := by
  have := (stoich_rank_le exF16).1
  rwa [show (complexes exF16).length - (linkageClasses exF16).length = 1 by decide +kernel] at this

/-- Negation witness against the code before the fix of finding F16: it lists the zero vector, which is neither
side of any reaction of `A + B ⇌ C`, so `complexes_spec` fails for it. -/
example : [0, 0, 0] ∈ (complexVectorsF16 exF16).1 ∧
    ¬ ∃ r ∈ exF16.reactions, [0, 0, 0] = vecOf exF16 r.reactants ∨ [0, 0, 0] = vecOf exF16 r.products := by
  refine ⟨by rw [exF16_unrepaired.1]; simp, ?_⟩
  rintro ⟨r, hr, h⟩
  simp only [exF16, List.mem_cons, List.not_mem_nil, or_false] at hr
  rcases hr with rfl | rfl <;> revert h <;> decide

end SynKit.Deficiency

/-! ## C19 on a bipartite NetworkX graph (the graph entry path of `_complex_vectors`)

Model: `SynKitModel/BipGraphViews.lean` (on top of `SynKitModel/BipGraph.lean`); lemmas:
`SynKitProofs/BipGraphViewsLemmas.lean`. `analysisNet g = viewNet (netOfGraph g)` is the network
the graph describes, in the order the analysis uses (species sorted by label, reactions in
`G.nodes` order). The hypothesis is `BipGraph.WF` (node ids distinct, species labels distinct,
coefficients non-negative) and nothing else: reaction labels play no role here, because
`_complex_vectors` visits the reaction nodes in `G.nodes` order and never sorts them. -/
namespace SynKit.BipGraph
open SynKit.Deficiency

/-- **C19, graph input: what `_complex_vectors` reads off the graph is what the model computes for
the described network.** For a well-formed bipartite graph `g` of any of the four NetworkX classes,
arcs written in either direction, parallel arcs, `stoich` possibly missing:
the complex list (the same vectors, as Python ints, in the same first-appearance order) and the
arcs of the complex graph read from `_as_bipartite(G)` are those of `Deficiency.complexVectors` on
`analysisNet g`; so is the reaction → (reactant complex, product complex) assignment, reaction by
reaction in node order; hence the linkage classes and the weak-reversibility verdict coincide. -/
theorem graphComplexes_eq (g : BipGraph) (wf : WF g) :
    graphComplexVectors g = liftVectors (complexVectors (analysisNet g)) ∧
    graphComplexes g = (complexes (analysisNet g)).map liftComplex ∧
    graphComplexArcs g = complexArcs (analysisNet g) ∧
    graphReactionComplexes g = (analysisNet g).reactions.map (fun rx =>
      (rx.id, liftComplex (vecOf (analysisNet g) rx.reactants),
        liftComplex (vecOf (analysisNet g) rx.products))) ∧
    graphLinkageClasses g = linkageClasses (analysisNet g) ∧
    graphWeaklyReversible g = weaklyReversible (analysisNet g) :=
  ⟨graphComplexVectors_eq g wf, by unfold graphComplexes; rw [graphComplexVectors_eq g wf]; rfl,
    graphComplexArcs_eq g wf, graphReactionComplexes_eq g wf, graphLinkageClasses_eq g wf,
    graphWeaklyReversible_eq g wf⟩

/-- **C19, graph input, the helper called on the graph as given.** `_complex_vectors(G)` with `G`
a `DiGraph` / `MultiDiGraph` (incident arcs `in_edges + out_edges`) or a `Graph` / `MultiGraph`
(its own `G.edges(r)` branch, never reached through `compute_summary`) returns the same complexes
and complex graph. -/
theorem graphComplexesRaw_eq (g : BipGraph) (wf : WF g) :
    graphComplexVectorsRaw g = liftVectors (complexVectors (analysisNet g)) ∧
    graphComplexVectorsRaw g = graphComplexVectors g :=
  ⟨(graphComplexVectorsRaw_eq_bipartite g wf.ids).trans (graphComplexVectors_eq g wf),
    graphComplexVectorsRaw_eq_bipartite g wf.ids⟩

/-- **C19, graph input: `compute_summary`.** With the stoichiometric rank supplied, the summary read
off the graph (numbers of species / reaction nodes, of complexes, of linkage classes, deficiency,
weak reversibility) is `computeSummary` of the described network, the `ValueError` branch (no
species node or no reaction node) included. So every theorem of this file about `computeSummary`
(`deficiency_formula`, `deficiency_nonneg`, `linkage_deficiency_sum_le`, `full`) speaks about
graph inputs. -/
theorem graphSummary_eq (g : BipGraph) (wf : WF g) (rank : Nat) :
    graphSummary g rank = computeSummary (analysisNet g) rank := by
  obtain ⟨h1, h2⟩ := analysisNet_counts g
  unfold graphSummary Deficiency.computeSummary
  rw [Core.isEmpty_of_length_eq h1, Core.isEmpty_of_length_eq h2, graphComplexes_length g wf,
    graphLinkageClasses_eq g wf, graphWeaklyReversible_eq g wf]
  simp only [Net.nSpecies, Net.nReactions, h1, h2]

/-- **C19, graph input: `complexes_spec` transferred.** The complexes read off a well-formed graph
are pairwise distinct and are exactly the reactant and product vectors of the reactions of the
described network. -/
theorem graphComplexes_spec (g : BipGraph) (wf : WF g) :
    (graphComplexes g).Nodup ∧
    ∀ v, v ∈ graphComplexes g ↔ ∃ rx ∈ (analysisNet g).reactions,
      v = liftComplex (vecOf (analysisNet g) rx.reactants) ∨
      v = liftComplex (vecOf (analysisNet g) rx.products) := by
  obtain ⟨hn, hm, _⟩ := complexes_spec (analysisNet g)
  rw [(graphComplexes_eq g wf).2.1]
  refine ⟨hn.map (fun a b h => liftComplex_inj h), fun v => ?_⟩
  rw [List.mem_map]
  constructor
  · rintro ⟨c, hc, rfl⟩
    obtain ⟨rx, hrx, h⟩ := (hm c).1 hc
    exact ⟨rx, hrx, h.imp (congrArg liftComplex) (congrArg liftComplex)⟩
  · rintro ⟨rx, hrx, h | h⟩
    · exact ⟨_, (hm _).2 ⟨rx, hrx, Or.inl rfl⟩, h.symm⟩
    · exact ⟨_, (hm _).2 ⟨rx, hrx, Or.inr rfl⟩, h.symm⟩

/-- **C19, graph input: direction of the arcs is irrelevant.** Reversing any subset of the arcs of
a directed graph changes nothing of what `_complex_vectors` / `compute_summary` produce. Hypotheses
as for `graphS_orientation_invariant` (C17), without the two on directedness, plus `IdsDistinct` (a
species node is not a reaction node): on a non-multi graph no two arcs may occupy the same stored
edge before or after. -/
theorem graphComplexes_orientation_invariant (g g' : BipGraph) (hid : IdsDistinct g)
    (hn : g'.nodes = g.nodes) (hm : g'.multi = g.multi) (ha : Reoriented g.arcs g'.arcs)
    (hs : g.multi = true ∨ (ArcsSimple g ∧ ArcsSimple g')) :
    graphComplexVectors g' = graphComplexVectors g ∧
    graphComplexVectorsRaw g' = graphComplexVectorsRaw g ∧
    graphReactionComplexes g' = graphReactionComplexes g ∧
    graphLinkageClasses g' = graphLinkageClasses g ∧
    graphWeaklyReversible g' = graphWeaklyReversible g ∧
    ∀ rank, graphSummary g' rank = graphSummary g rank :=
  complexes_congr g g' hid (sameReading_orientation g g' hn hm ha hs)

/-- **C19, graph input: undirected = directed.** An undirected graph (`Graph` / `MultiGraph`) and
the directed graph of the same multiplicity class holding the same edges, each written in an
arbitrary direction, give the same complexes, complex graph, classes, verdict and summary — and the
helper called on the undirected graph itself (`G.edges(r)` branch) agrees with both. -/
theorem graphComplexes_undirected_eq_directed (g g' : BipGraph) (hid : IdsDistinct g)
    (hn : g'.nodes = g.nodes) (hd : g.directed = false) (hd' : g'.directed = true)
    (hm : g'.multi = g.multi) (ha : Reoriented g.arcs g'.arcs) (hs : g.multi = true ∨ ArcsSimple g) :
    graphComplexVectors g' = graphComplexVectors g ∧
    graphComplexVectorsRaw g' = graphComplexVectorsRaw g ∧
    graphComplexVectorsRaw g = graphComplexVectors g ∧
    graphReactionComplexes g' = graphReactionComplexes g ∧
    graphLinkageClasses g' = graphLinkageClasses g ∧
    graphWeaklyReversible g' = graphWeaklyReversible g ∧
    ∀ rank, graphSummary g' rank = graphSummary g rank := by
  obtain ⟨h1, h2, h⟩ := complexes_congr g g' hid (sameReading_undirected g g' hn hd hd' hm ha hs)
  exact ⟨h1, h2, graphComplexVectorsRaw_eq_bipartite g hid, h⟩

/-- **C19, graph input: a missing `stoich` is 1.** -/
theorem graphComplexes_missing_stoich (g g' : BipGraph) (hid : IdsDistinct g)
    (hn : g'.nodes = g.nodes) (hd : g'.directed = g.directed) (hm : g'.multi = g.multi)
    (ha : g'.arcs = g.arcs.map BArc.fillStoich) (hs : g.multi = true ∨ ArcsSimple g) :
    graphComplexVectors g' = graphComplexVectors g ∧
    graphComplexVectorsRaw g' = graphComplexVectorsRaw g ∧
    graphReactionComplexes g' = graphReactionComplexes g ∧
    graphLinkageClasses g' = graphLinkageClasses g ∧
    graphWeaklyReversible g' = graphWeaklyReversible g ∧
    ∀ rank, graphSummary g' rank = graphSummary g rank :=
  complexes_congr g g' hid (sameReading_fill g g' hn hd hm ha hs)

/-! ### Non-vacuity: `a + 2 B ⇌ C` written as a graph

Reaction nodes are inserted backward reaction first (`r2` before `r1`), species not in label order;
`b` and `r1` are typed by the flag only, `c` carries `kind = "species"` and a contradicting flag,
`a` has no label (its label is its id). Two arcs have no `stoich`. -/

def c19Nodes : List BNode :=
  [⟨"r2", some "reaction", none, some "back"⟩, ⟨"c", some "species", some 1, some "C"⟩,
   ⟨"b", none, some 0, some "B"⟩, ⟨"r1", none, some 1, none⟩, ⟨"a", some "species", none, none⟩]

/-- canonical orientation -/
def c19Arcs : List BArc :=
  [⟨"a", "r1", some "reactant", none⟩, ⟨"b", "r1", some "reactant", some 2⟩, ⟨"r1", "c", some "product", some 1⟩,
   ⟨"c", "r2", some "reactant", none⟩, ⟨"r2", "a", some "product", some 1⟩, ⟨"r2", "b", some "product", some 2⟩]

/-- first, third and last arc written the other way round -/
def c19ArcsFlipped : List BArc :=
  [⟨"r1", "a", some "reactant", none⟩, ⟨"b", "r1", some "reactant", some 2⟩, ⟨"c", "r1", some "product", some 1⟩,
   ⟨"c", "r2", some "reactant", none⟩, ⟨"r2", "a", some "product", some 1⟩, ⟨"b", "r2", some "product", some 2⟩]

def c19Di : BipGraph := ⟨c19Nodes, c19Arcs, true, false⟩
def c19DiFlipped : BipGraph := ⟨c19Nodes, c19ArcsFlipped, true, false⟩
def c19Graph : BipGraph := ⟨c19Nodes, c19ArcsFlipped, false, false⟩
def c19Multi : BipGraph := ⟨c19Nodes, c19ArcsFlipped, false, true⟩

theorem c19Reoriented : Reoriented c19Arcs c19ArcsFlipped :=
  .flip _ (.keep _ (.flip _ (.keep _ (.keep _ (.flip _ .nil)))))

/-- `WF` holds on all four spellings. -/
example : WF c19Di ∧ WF c19DiFlipped ∧ WF c19Graph ∧ WF c19Multi :=
  ⟨wf_of_wfCoreB _ (by decide), wf_of_wfCoreB _ (by decide), wf_of_wfCoreB _ (by decide),
    wf_of_wfCoreB _ (by decide)⟩

/-- `graphComplexes_eq`, `graphSummary_eq`: both sides are the expected value — species order
`B, C, a`; reaction `r2` comes first, so `C` is complex 0 and `2 B + a` complex 1; one linkage class,
weakly reversible, δ = 2 − 1 − 1 = 0. -/
example : graphComplexVectors c19Graph = ([[0, 1, 0], [2, 0, 1]], [(0, 1), (1, 0)]) ∧
    liftVectors (complexVectors (analysisNet c19Graph)) = ([[0, 1, 0], [2, 0, 1]], [(0, 1), (1, 0)]) ∧
    graphComplexVectorsRaw c19Graph = ([[0, 1, 0], [2, 0, 1]], [(0, 1), (1, 0)]) ∧
    graphReactionComplexes c19Graph = [("r2", [0, 1, 0], [2, 0, 1]), ("r1", [2, 0, 1], [0, 1, 0])] ∧
    (analysisNet c19Graph).species = ["B", "C", "a"] ∧
    graphLinkageClasses c19Graph = [[0, 1]] ∧ graphWeaklyReversible c19Graph = true ∧
    graphSummary c19Graph 1 = .ok ⟨3, 2, 2, 1, 1, 0, true⟩ ∧
    computeSummary (analysisNet c19Graph) 1 = .ok ⟨3, 2, 2, 1, 1, 0, true⟩ := by decide +kernel

/-- The `ValueError` branch agrees too: a graph without reaction nodes. -/
example : graphSummary ⟨[⟨"a", some "species", none, none⟩], [], true, false⟩ 0 = .error .valueError ∧
    computeSummary (analysisNet ⟨[⟨"a", some "species", none, none⟩], [], true, false⟩) 0 = .error .valueError := by
  decide +kernel

/-- `graphComplexes_orientation_invariant`: hypotheses satisfiable on the `DiGraph`, both readings
are the expected one. -/
example : IdsDistinct c19Di ∧ c19DiFlipped.nodes = c19Di.nodes ∧ Reoriented c19Di.arcs c19DiFlipped.arcs ∧
    ArcsSimple c19Di ∧ ArcsSimple c19DiFlipped ∧
    graphComplexVectors c19DiFlipped = ([[0, 1, 0], [2, 0, 1]], [(0, 1), (1, 0)]) ∧
    graphComplexVectors c19Di = ([[0, 1, 0], [2, 0, 1]], [(0, 1), (1, 0)]) :=
  ⟨by decide +kernel, rfl, c19Reoriented, by decide +kernel, by decide +kernel, by decide +kernel, by decide +kernel⟩

/-- `graphComplexes_undirected_eq_directed`: `Graph` vs `DiGraph`, `MultiGraph`; hypotheses hold. -/
example : IdsDistinct c19Graph ∧ c19Graph.directed = false ∧ c19Di.directed = true ∧
    ArcsSimple c19Graph ∧ graphComplexVectors c19Multi = graphComplexVectors c19Di ∧
    graphComplexVectorsRaw c19Graph = graphComplexVectors c19Di := by decide +kernel

/-- `graphComplexes_missing_stoich`: two of the six arcs have none; spelling it out changes nothing. -/
example : c19Multi.arcs.map BArc.fillStoich ≠ c19Multi.arcs ∧
    graphComplexVectors ⟨c19Nodes, c19Multi.arcs.map BArc.fillStoich, false, true⟩ = graphComplexVectors c19Multi := by
  decide +kernel

end SynKit.BipGraph
