import SynKitProofs.RxnNormLemmas
/-!
# C09 — reaction normal forms preserve the reaction; equivalence checks are exact

What is external and how it enters: the canonical labelling of the reactant graph is the
back-end's output (C08) — a parameter `lab`, or an order key `key` for a key-sorting back-end;
RDKit's canonical SMILES is the opaque `canon`, its properties are hypotheses of
`standardize_idem` / `standardize_perm`.
-/
namespace SynKit.RxnNorm
open SynKit.Match

/-- "The order key is relabel-invariant": renumbering the reaction (node ids and `atom_map`
values) moves the key along. -/
def KeyInvariant (key : LGraph → Nat → Nat) : Prop :=
  ∀ (G : LGraph) (π : Nat → Nat), Function.Injective π → ∀ v ∈ G.ids, key (sync (G.relabel π)) (π v) = key G v

/-- "The order key is injective": no two reactant atoms share a key — what "all reactant atoms
distinguishable" means for a key-sorting canonicaliser. -/
def KeyInjectiveOn (key : LGraph → Nat → Nat) (G : LGraph) : Prop :=
  ∀ a ∈ G.ids, ∀ b ∈ G.ids, key G a = key G b → a = b

/-- **C09, product atoms without a reactant partner never collide (repair of F23, commit 270bb6f).**
For well-formed `G`, `H` — `H` may have atoms whose map number does not occur in `G`, and the
`atom_map` attributes are arbitrary — and a back-end labelling that is injective on the reactant
atoms, the repaired canonicaliser never answers `collision` (nor `KeyError`); it raises `ValueError`
exactly when the product graph has no atom; otherwise it succeeds, the reactant graph is relabelled
by `lab`, and the product graph is relabelled by a (globally) injective `ρ` which sends every product
atom that shares its map number with a reactant atom to that atom's canonical id and every other
product atom to an id above all canonical reactant ids. (Both then get their maps synced.) -/
theorem canonRxnWith_unpaired_no_collision (lab : Nat → Nat) (G H : LGraph) (hG : G.WF) (hH : H.WF)
    (hinj : ∀ a ∈ G.ids, ∀ b ∈ G.ids, lab a = lab b → a = b) :
    canonRxnWith lab G H ≠ .error .collision ∧ canonRxnWith lab G H ≠ .error .missing ∧
    (H.nodes = [] → canonRxnWith lab G H = .error .emptyMap) ∧
    (H.nodes ≠ [] → ∃ ρ : Nat → Nat, Function.Injective ρ ∧
      canonRxnWith lab G H = .ok (sync (G.relabel lab), sync (H.relabel ρ)) ∧
      (∀ g h, (g, h) ∈ aamPairs (G.relabel lab) H → ρ h = g) ∧
      (∀ h ∈ H.ids, (∀ g, (g, h) ∉ aamPairs (G.relabel lab) H) → ∀ a ∈ G.ids, lab a < ρ h)) := by
  have hGc := (LGraph.wf_relabel hG hinj).1
  obtain ⟨hE, hO⟩ := remapGraph_fullPairs (G.relabel lab) H hGc hH.1
  obtain ⟨hρ, hpair, hfresh⟩ := pairMap_fullPairs_spec (G.relabel lab) H hGc hH.1
  by_cases hn : H.nodes = []
  · have e : canonRxnWith lab G H = .error .emptyMap := by rw [canonRxnWith_def, hE hn]
    rw [e]
    exact ⟨(fun h => by cases h), (fun h => by cases h), fun _ => rfl, fun h => absurd hn h⟩
  · -- `ρ` is the pair list's relabelling, extended off the product atoms to a renumbering of all of `Nat`
    have e : canonRxnWith lab G H =
        .ok (sync (G.relabel lab), sync (H.relabel (LGraph.extOf (pairMap (fullPairs (G.relabel lab) H)) H.ids))) := by
      rw [canonRxnWith_def, hO hn, ← LGraph.relabel_extOf hH fun _ hv => hv]
    rw [e]
    refine ⟨(fun h => by cases h), (fun h => by cases h), fun h => absurd h hn,
      fun _ => ⟨_, LGraph.extOf_injective hρ, rfl, fun g h hm => ?_, fun h hh hun a ha => ?_⟩⟩
    · rw [LGraph.extOf_eq (aamPairs_mem_ids hm).2]
      exact hpair g h hm
    · rw [LGraph.extOf_eq hh]
      exact hfresh h hh hun _ (by rw [LGraph.ids_relabel]; exact List.mem_map_of_mem ha)

/-- **C09, equivalence with product atoms without a reactant partner (repair of F23).** With
`atom_map` = node id on both sides (positive on the reactant side) — the graphs `rsmi_to_graph`
builds — well-formed `G`, `H ≠ ∅` where `H` may have atoms that `G` does not have (and vice versa),
and a back-end labelling injective on the reactant atoms: the repaired canonicaliser succeeds, both
sides are relabelled by ONE injective `σ` that extends `lab` and sends the product-only atoms above
all canonical reactant ids, and the ITS graph of the output is isomorphic to that of the input. -/
theorem canonRxnWith_unpaired_equiv (lab : Nat → Nat) (G H : LGraph) (hG : G.WF) (hH : H.WF) (hne : H.nodes ≠ [])
    (hmG : ∀ p ∈ G.nodes, atomMapOf p.2 = 2 * (p.1 : Int)) (hmH : ∀ p ∈ H.nodes, atomMapOf p.2 = 2 * (p.1 : Int))
    (hpos : ∀ v ∈ G.ids, 0 < v) (hinj : ∀ a ∈ G.ids, ∀ b ∈ G.ids, lab a = lab b → a = b) :
    ∃ σ : Nat → Nat, Function.Injective σ ∧ (∀ v ∈ G.ids, σ v = lab v) ∧
      (∀ v ∈ H.ids, v ∉ G.ids → ∀ a ∈ G.ids, lab a < σ v) ∧
      canonRxnWith lab G H = .ok (sync (G.relabel σ), sync (H.relabel σ)) ∧
      ∃ m, IsIso itsSel (itsOf (sync (G.relabel σ)) (sync (H.relabel σ))) (itsOf G H) m := by
  obtain ⟨ρ, hρ, hres, hpair, hfresh⟩ := (canonRxnWith_unpaired_no_collision lab G H hG hH hinj).2.2.2 hne
  -- the pairs are the shared atoms: there `ρ` is `lab`, and on the product-only atoms it lies above `lab`'s values
  have hmem := mem_aamPairs_idMapped lab G H hG.1 hH.1 hmG hmH hpos
  have hfresh' : ∀ v ∈ H.ids, v ∉ G.ids → ∀ a ∈ G.ids, lab a < ρ v :=
    fun v hv hvG => hfresh v hv (fun g hm => hvG ((hmem g v).1 hm).1)
  obtain ⟨σ, hσ, hσG, hσH⟩ := LGraph.exists_injective_of_agree hinj (fun _ _ _ _ h => hρ h)
    (fun v hvG hv => hpair (lab v) v ((hmem (lab v) v).2 ⟨hvG, hv, rfl⟩))
    (fun a ha b hb hbG => Nat.ne_of_lt (hfresh' b hb hbG a ha))
  refine ⟨σ, hσ, hσG, fun v hv hvG a ha => ?_, ?_, ?_⟩
  · rw [hσH v hv]; exact hfresh' v hv hvG a ha
  · rw [hres, LGraph.relabel_congr hG fun v hv => (hσG v hv).symm, LGraph.relabel_congr hH fun v hv => (hσH v hv).symm]
  · rw [itsOf_sync, itsOf_relabel hσ]
    exact ⟨_, isIso_relabel itsSel _ (itsOf_wf G H hG hH) σ (.of_injective hσ)⟩

/-- On fully mapped reactions the product has no atom of its own: both sides are relabelled by `lab`. -/
theorem canonRxnWith_eq (lab : Nat → Nat) (G H : LGraph) (h : FullyMapped G H)
    (hinj : ∀ a ∈ G.ids, ∀ b ∈ G.ids, lab a = lab b → a = b) :
    canonRxnWith lab G H = .ok (sync (G.relabel lab), sync (H.relabel lab)) := by
  have hne := fullyMapped_prod_ne h
  obtain ⟨hG, hH, _, _, hHG, hmG, hmH, hpos⟩ := h
  obtain ⟨σ, _, hσ, _, e, _⟩ := canonRxnWith_unpaired_equiv lab G H hG hH hne hmG hmH hpos hinj
  rw [e, LGraph.relabel_congr hG hσ, LGraph.relabel_congr hH fun v hv => hσ v (hHG v hv)]

/-- **C09, numbering independence.** With an order key that is relabel-invariant and injective on
the reactant atoms, the canonical reaction of any renumbering of a fully mapped reaction (ids and
maps sent through an injective `π` with positive values) *equals* the canonical reaction of the
original. -/
theorem canonRxn_numbering_indep (key : LGraph → Nat → Nat) (hkey : KeyInvariant key) (G H : LGraph)
    (h : FullyMapped G H) (hinj : KeyInjectiveOn key G)
    (π : Nat → Nat) (hπ : Function.Injective π) (hpos : ∀ v ∈ G.ids, 0 < π v) :
    canonRxn key (renumber π (G, H)).1 (renumber π (G, H)).2 = canonRxn key G H := by
  have h2 := fullyMapped_renumber hπ G H h hpos
  have hord := canonOrder_renumber key G (hkey G π hπ) hinj
  have hp : ∀ v, pos (canonOrder key (sync (G.relabel π))) (π v) = pos (canonOrder key G) v := by
    intro v; unfold pos; rw [hord, Core.idxOf_map_of_injOn fun _ _ e => hπ e]
  unfold canonRxn
  simp only [renumber]
  rw [canonRxnWith_eq _ _ _ h2 (pos_canonOrder_injOn key _), canonRxnWith_eq _ G H h (pos_canonOrder_injOn key G),
    sync_relabel_sync, sync_relabel_sync, LGraph.relabel_relabel, LGraph.relabel_relabel]
  simp only [hp]

/-- **C09, fixed point.** Under the same hypotheses on the key, the output of the canonicaliser
is a fixed point of the canonicaliser. -/
theorem canonRxn_fix (key : LGraph → Nat → Nat) (hkey : KeyInvariant key) (G H : LGraph)
    (h : FullyMapped G H) (hinj : KeyInjectiveOn key G) (G' H' : LGraph)
    (hout : canonRxn key G H = .ok (G', H')) : canonRxn key G' H' = .ok (G', H') := by
  have hne := fullyMapped_prod_ne h
  obtain ⟨hG, hH, _, _, _, hmG, hmH, hpos⟩ := id h
  obtain ⟨σ, hσ, hσG, _, e, _⟩ :=
    canonRxnWith_unpaired_equiv _ G H hG hH hne hmG hmH hpos (pos_canonOrder_injOn key G)
  have hform : canonRxn key G H = .ok ((renumber σ (G, H)).1, (renumber σ (G, H)).2) := e
  obtain ⟨rfl, rfl⟩ := Prod.mk.inj (Except.ok.inj (hform.symm.trans hout))
  rw [canonRxn_numbering_indep key hkey G H h hinj σ hσ fun v hv => by rw [hσG v hv]; exact Nat.succ_pos _, hform]

/-- **C09, equivalence (any back-end).** For a fully mapped reaction and a back-end labelling that
is injective on the reactant atoms, the canonicaliser succeeds and the ITS graph of its output is
isomorphic (on the label pairs `typesGH` and the order pairs) to the ITS graph of the input. -/
theorem canonRxnWith_equiv (lab : Nat → Nat) (G H : LGraph) (h : FullyMapped G H)
    (hinj : ∀ a ∈ G.ids, ∀ b ∈ G.ids, lab a = lab b → a = b) :
    ∃ G' H', canonRxnWith lab G H = .ok (G', H') ∧ ∃ m, IsIso itsSel (itsOf G' H') (itsOf G H) m := by
  have hne := fullyMapped_prod_ne h
  obtain ⟨hG, hH, _, _, _, hmG, hmH, hpos⟩ := h
  obtain ⟨σ, _, _, _, e, hiso⟩ := canonRxnWith_unpaired_equiv lab G H hG hH hne hmG hmH hpos hinj
  exact ⟨_, _, e, hiso⟩

/-- **C09, equivalence (key-sorting back-end).** `canonRxn_equiv` of DESIGN §5. -/
theorem canonRxn_equiv (key : LGraph → Nat → Nat) (G H : LGraph) (h : FullyMapped G H) :
    ∃ G' H', canonRxn key G H = .ok (G', H') ∧ ∃ m, IsIso itsSel (itsOf G' H') (itsOf G H) m :=
  canonRxnWith_equiv _ G H h (pos_canonOrder_injOn key G)

/-- **C09, atom order (canonical order).** The canonical order depends on the *set* of node ids
and on the key only, not on the order in which the atoms are listed. -/
theorem canonOrder_atom_order_indep (key : LGraph → Nat → Nat) (G G₂ : LGraph) (hp : G₂.ids.Perm G.ids)
    (hk : ∀ v, key G₂ v = key G v) : canonOrder key G₂ = canonOrder key G := by
  rw [canonOrder, canonOrder, funext hk]
  exact sortBy_eq_of_perm hp (keyLe_total _) (keyLe_trans _) (keyLe_antisymm _)

/-- **C09, atom order (canonical reaction).** Listing the atoms and bonds of a fully mapped
reaction in another order (same key) gives canonical graphs with the same nodes and edges, listed
in the correspondingly permuted order. -/
theorem canonRxn_atom_order_indep (key : LGraph → Nat → Nat) (G H G₂ H₂ : LGraph)
    (h : FullyMapped G H) (h₂ : FullyMapped G₂ H₂)
    (hGn : G₂.nodes.Perm G.nodes) (hGe : G₂.edges.Perm G.edges)
    (hHn : H₂.nodes.Perm H.nodes) (hHe : H₂.edges.Perm H.edges) (hk : ∀ v, key G₂ v = key G v) :
    ∃ A B A₂ B₂, canonRxn key G H = .ok (A, B) ∧ canonRxn key G₂ H₂ = .ok (A₂, B₂) ∧
      A₂.nodes.Perm A.nodes ∧ A₂.edges.Perm A.edges ∧ B₂.nodes.Perm B.nodes ∧ B₂.edges.Perm B.edges := by
  have hord := canonOrder_atom_order_indep key G G₂ (hGn.map _) hk
  refine ⟨_, _, _, _,
    canonRxnWith_eq _ G H h (pos_canonOrder_injOn key G), canonRxnWith_eq _ G₂ H₂ h₂ (pos_canonOrder_injOn key G₂), ?_⟩
  rw [hord]
  exact ⟨(hGn.map _).map _, hGe.map _, (hHn.map _).map _, hHe.map _⟩

/-- **C09, validator exact.** On well-formed reactions the validator's verdict (method ITS or RC)
is true exactly when the ITS graphs (reaction centres) are isomorphic on the label pairs and the
order pairs. -/
theorem aamCheck_iff_iso (m : Method) (R₁ R₂ : LGraph × LGraph) (h1 : R₂.1.WF) (h2 : R₂.2.WF) :
    aamCheck m R₁ R₂ = true ↔ ∃ μ, IsIso itsSel (view m R₁) (view m R₂) μ :=
  isoDecide_iff itsSel (view m R₁) (view m R₂) (view_wf m R₂ h1 h2)

/-- **C09, renumberings accepted.** Every renumbering of a mapping (ids and maps of both sides sent
through an injective `π`) is accepted against the original, by both methods. -/
theorem aamCheck_renumber (m : Method) (R : LGraph × LGraph) (h1 : R.1.WF) (h2 : R.2.WF)
    (π : Nat → Nat) (hπ : Function.Injective π) : aamCheck m (renumber π R) R = true := by
  rw [aamCheck_iff_iso m _ R h1 h2, view_renumber hπ]
  exact ⟨_, isIso_relabel itsSel _ (view_wf m R h1 h2) π (.of_injective hπ)⟩

/-- **C09, balance.** The balance check answers true exactly when every element (hydrogens
included) occurs equally often on both sides and the total charges agree. -/
theorem balanced_iff (G H : LGraph) :
    balanced G H = true ↔ (∀ e, (atomsOf G).count e = (atomsOf H).count e) ∧ chargeOf G = chargeOf H := by
  unfold balanced formula
  rw [decide_eq_true_eq, Prod.mk.injEq, table_eq_iff]

/-- **C09, standardisation idempotent.** Hypothesis on the opaque `canon` (RDKit, trusted):
re-parsing a canonical fragment string (after the `[HH]` rewrite) and canonicalising again gives
the same string. -/
theorem standardize_idem {M : Type} (canon : M → String) (post : String → String) (parse : String → M)
    (hcanon : ∀ m, canon (parse (post (canon m))) = canon m) (R : List M × List M) :
    standardize canon post (((standardize canon post R).1.map parse), ((standardize canon post R).2.map parse)) =
      standardize canon post R := by
  have side : ∀ fr : List M, stdSide canon post ((stdSide canon post fr).map parse) = stdSide canon post fr := by
    intro fr
    unfold stdSide
    have hid : (((sortBy strLe (fr.map canon)).map post).map parse).map canon = sortBy strLe (fr.map canon) := by
      rw [List.map_map, List.map_map]
      refine Core.map_eq_self fun x hx => ?_
      obtain ⟨m, _, rfl⟩ := List.mem_map.1 ((mem_sortBy _ _ _).1 hx)
      exact hcanon m
    rw [hid, sortBy_eq_of_perm (sortBy_perm _ _) strLe_total strLe_trans strLe_antisymm]
  unfold standardize
  simp only [side]

/-- **C09, standardisation invariant.** If the fragments of two reactions have, side by side, the
same canonical strings up to order (fragment order permuted; atom order / map numbers changed inside
a fragment, under which `canon` is invariant — RDKit, trusted), the standard forms are equal. -/
theorem standardize_perm {M : Type} (canon : M → String) (post : String → String) (R R' : List M × List M)
    (h1 : (R.1.map canon).Perm (R'.1.map canon)) (h2 : (R.2.map canon).Perm (R'.2.map canon)) :
    standardize canon post R = standardize canon post R' := by
  unfold standardize stdSide
  rw [sortBy_eq_of_perm h1 strLe_total strLe_trans strLe_antisymm,
    sortBy_eq_of_perm h2 strLe_total strLe_trans strLe_antisymm]

/-- The same, phrased with a rewriting `rw` of molecules under which `canon` is invariant, and a
permutation of the fragments. -/
theorem standardize_rewrite {M : Type} (canon : M → String) (post : String → String) (rw : M → M)
    (hinv : ∀ m, canon (rw m) = canon m) (R R' : List M × List M)
    (h1 : R'.1.Perm (R.1.map rw)) (h2 : R'.2.Perm (R.2.map rw)) :
    standardize canon post R' = standardize canon post R := by
  have side : ∀ {l l' : List M}, l'.Perm (l.map rw) → (l'.map canon).Perm (l.map canon) := fun h => by
    have := h.map canon
    rwa [List.map_map, show (canon ∘ rw) = canon from funext hinv] at this
  exact standardize_perm canon post R' R (side h1) (side h2)

def exAtom (el : String) (h : Int) (m : Nat) : Attrs :=
  [("element", .str el), ("aromatic", .bool false), ("hcount", .num (2 * h)), ("charge", .num 0),
   ("atom_map", .num (2 * (m : Int)))]
def exBond (o : Int) : Attrs := [("order", .num o)]

/-- ethanol → ethene + water, `[CH3:1][CH2:2][OH:3]>>[CH2:1]=[CH2:2].[OH2:3]` (orders in half-units). -/
def exG : LGraph :=
  { nodes := [(1, exAtom "C" 3 1), (2, exAtom "C" 2 2), (3, exAtom "O" 1 3)], edges := [(1, 2, exBond 2), (2, 3, exBond 2)] }
def exH : LGraph :=
  { nodes := [(1, exAtom "C" 2 1), (2, exAtom "C" 2 2), (3, exAtom "O" 2 3)], edges := [(1, 2, exBond 4)] }
/-- The products with the maps of a carbon and the oxygen exchanged (a wrong mapping). -/
def exHswapCO : LGraph :=
  { nodes := [(3, exAtom "C" 2 3), (2, exAtom "C" 2 2), (1, exAtom "O" 2 1)], edges := [(3, 2, exBond 4)] }

/-- An order key that is relabel-invariant by construction: the hydrogen count. -/
def hKey (G : LGraph) (v : Nat) : Nat := (intOf (G.attrs v) "hcount").toNat

example : KeyInvariant hKey := by
  intro G π hπ v _
  unfold hKey intOf
  rw [get_attrs_sync _ _ _ (by decide), LGraph.attrs_relabel_of_injective hπ]

example : FullyMapped exG exH := by decide +kernel
example : KeyInjectiveOn hKey exG := by unfold KeyInjectiveOn; decide +kernel
/-- the canonical order puts OH (1 H) first, then CH2, then CH3: ids 3, 2, 1 become 1, 2, 3. -/
example : (canonRxn hKey exG exH).toOption.map (fun o => (o.1.ids, o.2.ids)) = some ([3, 2, 1], [3, 2, 1]) := by
  decide +kernel
/-- `[CH3:1][OH:4]>>[CH3:1][OH:4].[OH2:2]`: the water oxygen (map 2) has no reactant partner. -/
def exG2 : LGraph :=
  { nodes := [(1, exAtom "C" 3 1), (4, exAtom "O" 1 4)], edges := [(1, 4, exBond 2)] }
def exH2 : LGraph :=
  { nodes := [(1, exAtom "C" 3 1), (4, exAtom "O" 1 4), (2, exAtom "O" 2 2)], edges := [(1, 4, exBond 2)] }

/-- the hypotheses of `canonRxnWith_unpaired_no_collision` / `_equiv` hold, the reaction is not fully mapped … -/
example : exG2.WF ∧ exH2.WF ∧ exH2.nodes ≠ [] ∧ ¬ FullyMapped exG2 exH2 ∧
    (∀ p ∈ exG2.nodes, atomMapOf p.2 = 2 * (p.1 : Int)) ∧ (∀ p ∈ exH2.nodes, atomMapOf p.2 = 2 * (p.1 : Int)) ∧
    (∀ v ∈ exG2.ids, 0 < v) ∧ KeyInjectiveOn hKey exG2 := by
  unfold KeyInjectiveOn; decide +kernel
/-- … before the repair (shared-map pairs only: OH 4 ↦ 1, CH3 1 ↦ 2, the water oxygen keeps 2) it collided … -/
example : aamPairs (exG2.relabel (pos (canonOrder hKey exG2))) exH2 = [(2, 1), (1, 4)] ∧
    remapGraph exH2 (aamPairs (exG2.relabel (pos (canonOrder hKey exG2))) exH2) = .error .collision := by decide +kernel
/-- … and now the water oxygen gets the fresh id 3. -/
example : unpairedPairs (exG2.relabel (pos (canonOrder hKey exG2))) exH2
      (aamPairs (exG2.relabel (pos (canonOrder hKey exG2))) exH2) = [(3, 2)] ∧
    (canonRxn hKey exG2 exH2).toOption.map (fun o => (o.1.ids, o.2.ids, o.2.edges.map fun e => (e.1, e.2.1))) =
      some ([2, 1], [2, 1, 3], [(2, 1)]) := by decide +kernel
example : aamCheck .its (renumber (· + 10) (exG, exH)) (exG, exH) = true := by decide +kernel
/-- a transposition of two non-equivalent centre atoms on the product side is rejected by both methods. -/
example : aamCheck .its (exG, exHswapCO) (exG, exH) = false ∧ aamCheck .rc (exG, exHswapCO) (exG, exH) = false := by
  decide +kernel
example : balanced exG exH = true ∧ balanced exG { exH with nodes := exH.nodes.take 2 } = false := by decide +kernel
example : standardize (M := String) id id (["b", "a"], ["c"]) = (["a", "b"], ["c"]) := by decide +kernel

/-- C09 at full strength over the model (readings of DESIGN §5a; RDKit's part as hypotheses). -/
def C09.FullStatement : Prop :=
  (∀ (key : LGraph → Nat → Nat) (G H : LGraph), FullyMapped G H →
    (∃ G' H', canonRxn key G H = .ok (G', H') ∧ ∃ m, IsIso itsSel (itsOf G' H') (itsOf G H) m) ∧
    (KeyInvariant key → KeyInjectiveOn key G →
      (∀ G' H', canonRxn key G H = .ok (G', H') → canonRxn key G' H' = .ok (G', H')) ∧
      (∀ π : Nat → Nat, Function.Injective π → (∀ v ∈ G.ids, 0 < π v) →
        canonRxn key (renumber π (G, H)).1 (renumber π (G, H)).2 = canonRxn key G H))) ∧
  (∀ (m : Method) (R₁ R₂ : LGraph × LGraph), R₂.1.WF → R₂.2.WF →
    (aamCheck m R₁ R₂ = true ↔ ∃ μ, IsIso itsSel (view m R₁) (view m R₂) μ) ∧
    (∀ π : Nat → Nat, Function.Injective π → aamCheck m (renumber π R₂) R₂ = true)) ∧
  (∀ G H : LGraph, balanced G H = true ↔
    (∀ e, (atomsOf G).count e = (atomsOf H).count e) ∧ chargeOf G = chargeOf H) ∧
  (∀ (M : Type) (canon : M → String) (post : String → String) (parse : String → M),
    (∀ m, canon (parse (post (canon m))) = canon m) →
    (∀ R, standardize canon post (((standardize canon post R).1.map parse), ((standardize canon post R).2.map parse)) =
      standardize canon post R) ∧
    (∀ R R' : List M × List M, (R.1.map canon).Perm (R'.1.map canon) → (R.2.map canon).Perm (R'.2.map canon) →
      standardize canon post R = standardize canon post R'))

theorem C09.fullStatement : C09.FullStatement :=
  ⟨fun key G H h => ⟨canonRxn_equiv key G H h, fun hk hi =>
      ⟨fun G' H' => canonRxn_fix key hk G H h hi G' H', fun π hπ hp => canonRxn_numbering_indep key hk G H h hi π hπ hp⟩⟩,
   fun m R₁ R₂ h1 h2 => ⟨aamCheck_iff_iso m R₁ R₂ h1 h2, fun π hπ => aamCheck_renumber m R₂ h1 h2 π hπ⟩,
   balanced_iff,
   fun _ canon post parse hc => ⟨standardize_idem canon post parse hc, standardize_perm canon post⟩⟩

end SynKit.RxnNorm
