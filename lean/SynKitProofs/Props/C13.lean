import SynKitModel.Cluster
import SynKitProofs.ClusterLemmas
import SynKitProofs.ClusterIso
/-!
# C13 — clustering partitions graphs exactly into isomorphism classes

The items, the isomorphism test `iso` and the pre-grouping attribute `key` are abstract; `IsEquiv iso` and
`KeyInv iso key` are the hypotheses of the property ("isomorphic on element, charge and bond order",
"isomorphism-invariant pre-grouping attribute or none").  The oracle of the real code is an equivalence on
WELL-FORMED graphs only, so each clause that needs them is proved on a carrier `P` (the `_on` theorems of
`ClusterLemmas.lean`): the abstract clause is the carrier `fun _ => True`, the clause for the real isomorphism
(`_iso`) the carrier `LGraph.WF` with `iso := clIso`.
-/
namespace SynKit.Cluster
variable {α : Type} {κ : Type} [DecidableEq κ]

/-- **C13, "assigns each item exactly one class".** For every list, `iterative_cluster` returns
`clusters` that form a partition of the index set `{0,…,n-1}`: no index occurs twice in the
concatenation of the clusters (pairwise disjoint, duplicate-free), the union is exactly the index
set, no cluster is empty; `rule_to_cluster` agrees with membership in `clusters`; every index
`< n` has exactly one class (`classOf` is a function and is `some c` with `c` a valid cluster number,
the cluster containing an index is unique), indices `≥ n` have none; `GraphCluster.fit` writes that
class to every entry. No hypothesis on `iso` or `key`. -/
theorem cluster_partition (iso : α → α → Bool) (key : α → κ) (xs : List α) :
    let s := iterState iso key xs
    s.clusters.flatten.Nodup ∧
    (∀ j, j ∈ s.clusters.flatten ↔ j < xs.length) ∧
    (∀ C ∈ s.clusters, C ≠ []) ∧
    (∀ j c, classOf iso key xs j = some c ↔ ∃ C, s.clusters[c]? = some C ∧ j ∈ C) ∧
    (∀ j, j < xs.length → ∃ c, classOf iso key xs j = some c ∧ c < s.clusters.length) ∧
    (∀ (j c c' : Nat) (C C' : List Nat), s.clusters[c]? = some C → s.clusters[c']? = some C' → j ∈ C → j ∈ C' → c = c') ∧
    (∀ j, xs.length ≤ j → classOf iso key xs j = none) ∧
    gcClasses iso key xs = (List.range xs.length).map (classOf iso key xs) := by
  intro s
  have hperm : s.clusters.flatten.Perm (List.range' 0 xs.length) := clusters_flatten_perm iso key xs
  have h1 : s.clusters.flatten.Nodup := hperm.nodup_iff.2 (List.nodup_range' 1)
  have h2 : ∀ j, j ∈ s.clusters.flatten ↔ j < xs.length := fun j => by
    rw [hperm.mem_iff, List.mem_range'_1]; omega
  have h4 : ∀ j c, classOf iso key xs j = some c ↔ ∃ C, s.clusters[c]? = some C ∧ j ∈ C := fun j c => by
    rw [classOf_eq_findIdx?]; exact findIdx?_mem_iff h1 j c
  refine ⟨h1, h2, clusters_ne_nil iso key xs, h4, fun j hj => ?_, fun j c c' C C' hC hC' hj hj' => ?_,
    fun j hj => ?_, rfl⟩
  · obtain ⟨C, hC, hjC⟩ := List.mem_flatten.1 ((h2 j).2 hj)
    obtain ⟨c, hc⟩ := List.mem_iff_getElem?.1 hC
    exact ⟨c, (h4 j c).2 ⟨C, hc, hjC⟩, (List.getElem?_eq_some_iff.1 hc).1⟩
  · exact Option.some.inj (((h4 j c).2 ⟨C, hC, hj⟩).symm.trans ((h4 j c').2 ⟨C', hC', hj'⟩))
  · cases h : classOf iso key xs j with
    | none => rfl
    | some c =>
      obtain ⟨C, hC, hjC⟩ := (h4 j c).1 h
      exact absurd ((h2 j).1 (List.mem_flatten.2 ⟨C, List.mem_of_getElem? hC, hjC⟩)) (Nat.not_lt.2 hj)

/-- Non-vacuity of `cluster_partition`: seven items, three classes, clusters and classes as the
Python code returns them (residues mod 3 with an invariant key). -/
example : iterativeCluster exIso exKey [0, 1, 3, 4, 2, 6, 7] =
    .ok ([[0, 2, 5], [1, 3, 6], [4]], [(0, 0), (2, 0), (5, 0), (1, 1), (3, 1), (6, 1), (4, 2)]) := by decide +kernel

/-- **C13, "two items share a class iff their graphs are isomorphic".** When `iso` is an
equivalence and the attribute is isomorphism-invariant, two positions of the list get the same
class exactly when their items are isomorphic. -/
theorem same_class_iff {iso : α → α → Bool} {key : α → κ} (hE : IsEquiv iso) (hK : KeyInv iso key)
    (xs : List α) (i j : Nat) (hi : i < xs.length) (hj : j < xs.length) :
    classOf iso key xs i = classOf iso key xs j ↔ iso xs[i] xs[j] = true :=
  same_class_iff_on hE.on hK.on xs (fun _ _ => trivial) i j hi hj

theorem exIso_equiv : IsEquiv exIso where
  refl := fun x => beq_self_eq_true (x % 3)
  symm := fun x y h => by rw [exIso, beq_iff_eq] at *; exact h.symm
  trans := fun x y z h1 h2 => by rw [exIso, beq_iff_eq] at *; exact h1.trans h2

theorem exKey_inv : KeyInv exIso exKey := by
  intro x y h; simp only [exIso, beq_iff_eq, exKey] at *; rw [h]

/-- Non-vacuity of `same_class_iff`: its hypotheses hold for the concrete instance
(`exIso_equiv`, `exKey_inv`), and on a concrete list positions 0 and 2 share a class (0 ≅ 3)
while positions 0 and 1 do not. -/
example : classOf exIso exKey [0, 1, 3, 4, 2] 0 = classOf exIso exKey [0, 1, 3, 4, 2] 2 ∧
    classOf exIso exKey [0, 1, 3, 4, 2] 0 ≠ classOf exIso exKey [0, 1, 3, 4, 2] 1 := by decide +kernel

/-- **C13, "the partition does not depend on the order of the list".** Let `ys` be `xs` read
through any index map `σ` (`ys[a] = xs[σ a]`; for a reordering of the list `σ` is the permutation).
Two positions of `ys` are classified together exactly when their pre-images are classified together
in `xs`: the partition of the positions of the reordered list is the image of the original partition
under the permutation. -/
theorem cluster_perm_invariant {iso : α → α → Bool} {key : α → κ} (hE : IsEquiv iso) (hK : KeyInv iso key)
    (xs ys : List α) (σ : Nat → Nat)
    (hσ : ∀ a, a < ys.length → σ a < xs.length ∧ ys[a]? = xs[σ a]?)
    (a b : Nat) (ha : a < ys.length) (hb : b < ys.length) :
    classOf iso key ys a = classOf iso key ys b ↔ classOf iso key xs (σ a) = classOf iso key xs (σ b) :=
  cluster_perm_invariant_on hE.on hK.on xs ys (fun _ _ => trivial) (fun _ _ => trivial) σ hσ a b ha hb

/-- The same statement without naming the permutation, for `List.Perm` (or any two lists): items
that occur in both lists are co-classified in the one exactly when they are in the other. -/
theorem cluster_perm_invariant_items {iso : α → α → Bool} {key : α → κ} (hE : IsEquiv iso) (hK : KeyInv iso key)
    (xs ys : List α) (_h : xs.Perm ys) (i j a b : Nat) (hi : i < xs.length) (hj : j < xs.length)
    (ha : a < ys.length) (hb : b < ys.length) (e1 : ys[a] = xs[i]) (e2 : ys[b] = xs[j]) :
    classOf iso key ys a = classOf iso key ys b ↔ classOf iso key xs i = classOf iso key xs j := by
  rw [same_class_iff hE hK ys a b ha hb, same_class_iff hE hK xs i j hi hj, e1, e2]

/-- Non-vacuity of `cluster_perm_invariant`: a list and a reordering of it (σ = [4,2,0,3,1]);
the classes are renumbered (first appearance) but the partition is the image. -/
example : gcClasses exIso exKey [0, 1, 3, 4, 2] = [some 0, some 1, some 0, some 1, some 2] ∧
    gcClasses exIso exKey [2, 3, 0, 4, 1] = [some 0, some 1, some 1, some 2, some 2] := by decide +kernel

/-- **C13, "classifying new items against existing class representatives", raw form.** For ANY
template list (no invariant needed) `lib_check` either finds a template with equal attribute that
is isomorphic to the item — the FIRST such in template order —, returns that template's class and
leaves the templates unchanged; or no such template exists, the returned class is fresh (differs
from the class of every template) and exactly one template, the item with that class, is appended. -/
theorem libCheck_spec (iso : α → α → Bool) (key : α → κ) (x : α) (ts : List (Tmpl α)) :
    (∃ pre t post, ts = pre ++ t :: post ∧ (key t.item = key x ∧ iso t.item x = true) ∧
        (∀ u ∈ pre, ¬ (key u.item = key x ∧ iso u.item x = true)) ∧ libCheck iso key x ts = (t.cls, ts)) ∨
    ((∀ t ∈ ts, ¬ (key t.item = key x ∧ iso t.item x = true)) ∧
        libCheck iso key x ts = (newClass ts, ts ++ [⟨x, newClass ts⟩]) ∧ ∀ t ∈ ts, t.cls ≠ newClass ts) :=
  libCheck_cases iso key x ts

/-- **C13, "puts each into the class of its isomorphic representative or into a fresh class when
none exists".** With `iso` an equivalence, an invariant attribute, and templates that are one
representative per class (`TInv`: pairwise non-isomorphic, pairwise different class numbers — the
numbers need not be contiguous): an item isomorphic to a template gets THE class of that template
and the templates are unchanged; an item isomorphic to no template gets a class carried by no
template and becomes the representative of it; in both cases the template invariant is kept. -/
theorem libCheck_joins_representative {iso : α → α → Bool} {key : α → κ} (hE : IsEquiv iso)
    (hK : KeyInv iso key) (ts : List (Tmpl α)) (hT : TInv iso ts) (x : α) :
    (∀ t ∈ ts, iso t.item x = true → libCheck iso key x ts = (t.cls, ts)) ∧
    ((∀ t ∈ ts, iso t.item x = false) →
        (libCheck iso key x ts).1 ∉ ts.map (·.cls) ∧
        (libCheck iso key x ts).2 = ts ++ [⟨x, (libCheck iso key x ts).1⟩]) ∧
    TInv iso (libCheck iso key x ts).2 :=
  have h := libCheck_joins_representative_on hE.on hK.on ts (fun _ _ => trivial) hT x trivial
  ⟨h.1, h.2.1, h.2.2.1⟩

/-- Non-vacuity of `libCheck_spec` / `libCheck_joins_representative`: templates with the
non-contiguous classes 7 and 3; 8 ≅ 5 joins class 7, 1 matches nothing and opens class 8. -/
example : libCheck exIso exKey 8 [⟨5, 7⟩, ⟨9, 3⟩] = (7, [⟨5, 7⟩, ⟨9, 3⟩]) ∧
    libCheck exIso exKey 1 [⟨5, 7⟩, ⟨9, 3⟩] = (8, [⟨5, 7⟩, ⟨9, 3⟩, ⟨1, 8⟩]) := by decide +kernel

example : TInv exIso ([⟨5, 7⟩, ⟨9, 3⟩] : List (Tmpl Nat)) := (tinv_iff_pairwise _ _).2 (by decide +kernel)

/-- **C13, classification of a whole arrival sequence against existing representatives.** With
`iso` an equivalence, an invariant attribute and templates that are one representative per class,
`BatchCluster.cluster` keeps the template invariant, only appends templates, and the classes it
writes follow isomorphism: two arrivals share a class iff they are isomorphic, and an arrival gets
the class of a template given at the start iff it is isomorphic to that template (so an arrival
isomorphic to none of them gets a class none of them carries). -/
theorem cluster_with_templates_spec {iso : α → α → Bool} {key : α → κ} (hE : IsEquiv iso)
    (hK : KeyInv iso key) (l : List α) (ts : List (Tmpl α)) (hT : TInv iso ts) :
    TInv iso (clusterRun iso key l ts).2 ∧ (∃ E, (clusterRun iso key l ts).2 = ts ++ E) ∧
    (clusterRun iso key l ts).1.length = l.length ∧
    (∀ (i j : Nat) (xi xj : α) (ci cj : Int), l[i]? = some xi → l[j]? = some xj →
      (clusterRun iso key l ts).1[i]? = some ci → (clusterRun iso key l ts).1[j]? = some cj →
      (ci = cj ↔ iso xi xj = true)) ∧
    (∀ t ∈ ts, ∀ (k : Nat) (x : α) (c : Int), l[k]? = some x → (clusterRun iso key l ts).1[k]? = some c →
      (c = t.cls ↔ iso t.item x = true)) :=
  cluster_with_templates_spec_on hE.on hK.on l (fun _ _ => trivial) ts (fun _ _ => trivial) hT

/-- Non-vacuity of `cluster_with_templates_spec`: arrivals 0,1,3,8 against templates 5↦7, 9↦3. -/
example : clusterRun exIso exKey [0, 1, 3, 8] [⟨5, 7⟩, ⟨9, 3⟩] = ([3, 8, 3, 7], [⟨5, 7⟩, ⟨9, 3⟩, ⟨1, 8⟩]) := by decide +kernel

/-- **C13, incremental = one-shot.** Starting from empty templates, `BatchCluster.cluster`
(`lib_check` item by item) gives every item the very class number `GraphCluster.fit` gives it
one-shot (classes are numbered by first appearance in both), and cutting the list into ANY batches
processed one after the other with the templates threaded gives the same classes and templates.
No hypothesis on `iso` or `key`. -/
theorem incremental_eq_oneshot (iso : α → α → Bool) (key : α → κ) (xs : List α) :
    (clusterRun iso key xs []).1.map some = (gcClasses iso key xs).map (Option.map Int.ofNat) ∧
    ∀ bs : List (List α), bs.flatten = xs → fitBatches iso key bs [] = clusterRun iso key xs [] := by
  constructor
  · rw [gcClasses_eq_seqCls, clusterRun_contig iso key xs [] rfl]
    simp only [List.map_map, List.map_nil]
    rfl
  · intro bs h; rw [fitBatches_eq, h]

/-- **C13, incremental classification in any arrival order.** (Equivalence + invariant key.) If the
items arrive in another order (`ys[a] = xs[σ a]`), incremental classification from empty templates
co-classifies two arrivals exactly when one-shot clustering of `xs` co-classifies their originals. -/
theorem incremental_perm_invariant {iso : α → α → Bool} {key : α → κ} (hE : IsEquiv iso) (hK : KeyInv iso key)
    (xs ys : List α) (σ : Nat → Nat)
    (hσ : ∀ a, a < ys.length → σ a < xs.length ∧ ys[a]? = xs[σ a]?)
    (a b : Nat) (ha : a < ys.length) (hb : b < ys.length) :
    (clusterRun iso key ys []).1[a]? = (clusterRun iso key ys []).1[b]? ↔
      classOf iso key xs (σ a) = classOf iso key xs (σ b) :=
  incremental_perm_invariant_on hE.on hK.on xs ys (fun _ _ => trivial) (fun _ _ => trivial) σ hσ a b ha hb

/-- Non-vacuity of `incremental_eq_oneshot`: incremental classes of a concrete list equal the
one-shot classes, also in three batches. -/
example : (clusterRun exIso exKey [0, 1, 3, 4, 2, 6, 7] []).1 = [0, 1, 0, 1, 2, 0, 1] ∧
    (fitBatches exIso exKey [[0, 1, 3], [4, 2, 6], [7]] []).1 = [0, 1, 0, 1, 2, 0, 1] ∧
    gcClasses exIso exKey [0, 1, 3, 4, 2, 6, 7] = [some 0, some 1, some 0, some 1, some 2, some 0, some 1] := by
  decide +kernel

/-- **C13 (and C14), batched = one-shot for `BatchCluster.fit`.** For a non-empty list, no
templates (`None` or `[]`) and any `batch_size ≥ 1` — or no batch size — `fit` succeeds and writes
exactly the classes of one-shot `GraphCluster.fit`. With non-empty templates the classes and the
resulting templates are those of `cluster` on the whole list, whatever the batch size. -/
theorem batched_eq_oneshot (iso : α → α → Bool) (key : α → κ) (xs : List α) (hx : xs ≠ [])
    (ts0 : Option (List (Tmpl α))) (bs : Option Nat) (hbs : ∀ k, bs = some k → 1 ≤ k) :
    (ts0.getD [] = [] →
      ∃ ts', bcFit iso key xs ts0 bs = .ok ((gcClasses iso key xs).map (Option.map Int.ofNat), ts')) ∧
    (ts0.getD [] ≠ [] →
      bcFit iso key xs ts0 bs =
        .ok ((clusterRun iso key xs (ts0.getD [])).1.map some, (clusterRun iso key xs (ts0.getD [])).2)) := by
  have hgc : gcFit iso key xs = .ok (gcClasses iso key xs) := by
    cases xs with
    | nil => exact absurd rfl hx
    | cons x l => rfl
  -- a single batch is the whole list: one-shot `fit` without templates, `cluster` with templates
  have single : (ts0.getD [] = [] → ∃ ts', bcFit iso key xs ts0 none =
        .ok ((gcClasses iso key xs).map (Option.map Int.ofNat), ts')) ∧
      (ts0.getD [] ≠ [] → bcFit iso key xs ts0 none =
        .ok ((clusterRun iso key xs (ts0.getD [])).1.map some, (clusterRun iso key xs (ts0.getD [])).2)) :=
    ⟨fun h0 => ⟨firstPerClass (xs.zip (gcClasses iso key xs)) [],
        by simp only [bcFit, h0, hgc, List.isEmpty_nil, if_true]⟩,
      fun h0 => by simp only [bcFit, List.isEmpty_iff, h0, if_false]⟩
  cases bs with
  | none => exact single
  | some k =>
    have hk : ¬ k < 1 := Nat.not_lt.2 (hbs k rfl)
    have hflat := chunks_flatten k (hbs k rfl) xs.length xs (Nat.le_refl _)
    simp only [bcFit, batchDicts, hk, if_false]
    generalize chunks k xs.length xs = batches at hflat ⊢
    match batches, hflat with
    | [], hflat => exact absurd hflat.symm hx
    | [b], hflat =>
      rw [List.flatten_singleton] at hflat
      subst hflat
      exact single
    | b :: b2 :: rest, hflat =>
      simp only [fitBatches_eq, hflat]
      exact ⟨fun h0 => ⟨_, by rw [h0, (incremental_eq_oneshot iso key xs).1]⟩, fun _ => trivial⟩

/-- Non-vacuity of `batched_eq_oneshot`: `fit` with `batch_size = 3` and without batch size, no
templates; and with two pre-existing templates. -/
example : bcFit exIso exKey [0, 1, 3, 4, 2, 6, 7] none (some 3) =
    .ok ([some 0, some 1, some 0, some 1, some 2, some 0, some 1], [⟨0, 0⟩, ⟨1, 1⟩, ⟨2, 2⟩]) := by decide +kernel
example : bcFit exIso exKey [0, 1, 3, 4, 2, 6, 7] (some []) none =
    .ok ([some 0, some 1, some 0, some 1, some 2, some 0, some 1], [⟨0, 0⟩, ⟨1, 1⟩, ⟨2, 2⟩]) := by decide +kernel
example : bcFit exIso exKey [0, 1, 3] (some [⟨5, 7⟩, ⟨9, 3⟩]) (some 2) =
    .ok ([some 3, some 8, some 3], [⟨5, 7⟩, ⟨9, 3⟩, ⟨1, 8⟩]) := by decide +kernel
/-- The error branches are modelled, not totalised away. -/
example : bcFit exIso exKey [0, 1] none (some 0) = .error .valueError := by decide +kernel
example : bcFit exIso exKey ([] : List Nat) none none = .error .indexError := by decide +kernel

/-- The whole of C13 over the model, for every item type, oracle and attribute. -/
def C13.FullStatement : Prop :=
  ∀ (α κ : Type) [DecidableEq κ] (iso : α → α → Bool) (key : α → κ),
    -- every item gets exactly one class; `clusters` is a partition agreeing with `rule_to_cluster`
    (∀ xs : List α,
      let s := iterState iso key xs
      s.clusters.flatten.Nodup ∧ (∀ j, j ∈ s.clusters.flatten ↔ j < xs.length) ∧ (∀ C ∈ s.clusters, C ≠ []) ∧
      (∀ j c, classOf iso key xs j = some c ↔ ∃ C, s.clusters[c]? = some C ∧ j ∈ C) ∧
      (∀ j, j < xs.length → ∃ c, classOf iso key xs j = some c ∧ c < s.clusters.length)) ∧
    -- incremental (any batching) = one-shot, class numbers included; `fit` batched = one-shot
    (∀ xs : List α,
      (clusterRun iso key xs []).1.map some = (gcClasses iso key xs).map (Option.map Int.ofNat) ∧
      (∀ bs : List (List α), bs.flatten = xs → fitBatches iso key bs [] = clusterRun iso key xs []) ∧
      (xs ≠ [] → ∀ k, 1 ≤ k → ∃ ts',
        bcFit iso key xs none (some k) = .ok ((gcClasses iso key xs).map (Option.map Int.ofNat), ts'))) ∧
    -- raw behaviour of `lib_check` on any templates: first matching template, else a fresh class
    (∀ (x : α) (ts : List (Tmpl α)),
      (∃ (pre : List (Tmpl α)) (t : Tmpl α) (post : List (Tmpl α)), ts = pre ++ t :: post ∧
          (key t.item = key x ∧ iso t.item x = true) ∧
          (∀ u ∈ pre, ¬ (key u.item = key x ∧ iso u.item x = true)) ∧ libCheck iso key x ts = (t.cls, ts)) ∨
      ((∀ t ∈ ts, ¬ (key t.item = key x ∧ iso t.item x = true)) ∧
          libCheck iso key x ts = (newClass ts, ts ++ [⟨x, newClass ts⟩]) ∧ ∀ t ∈ ts, t.cls ≠ newClass ts)) ∧
    (IsEquiv iso → KeyInv iso key →
      -- same class ⇔ isomorphic
      (∀ (xs : List α) (i j : Nat) (hi : i < xs.length) (hj : j < xs.length),
        classOf iso key xs i = classOf iso key xs j ↔ iso xs[i] xs[j] = true) ∧
      -- the partition does not depend on the order of the list (one-shot and incremental)
      (∀ (xs ys : List α) (σ : Nat → Nat), (∀ a, a < ys.length → σ a < xs.length ∧ ys[a]? = xs[σ a]?) →
        ∀ a b, a < ys.length → b < ys.length →
          ((classOf iso key ys a = classOf iso key ys b ↔ classOf iso key xs (σ a) = classOf iso key xs (σ b)) ∧
           ((clusterRun iso key ys []).1[a]? = (clusterRun iso key ys []).1[b]? ↔
              classOf iso key xs (σ a) = classOf iso key xs (σ b)))) ∧
      -- new items join the class of their isomorphic representative, else a fresh class
      (∀ (ts : List (Tmpl α)) (x : α), TInv iso ts →
        (∀ t ∈ ts, iso t.item x = true → libCheck iso key x ts = (t.cls, ts)) ∧
        ((∀ t ∈ ts, iso t.item x = false) →
            (libCheck iso key x ts).1 ∉ ts.map (·.cls) ∧
            (libCheck iso key x ts).2 = ts ++ [⟨x, (libCheck iso key x ts).1⟩]) ∧
        TInv iso (libCheck iso key x ts).2) ∧
      -- … and so does every arrival of a whole sequence classified against existing representatives
      (∀ (l : List α) (ts : List (Tmpl α)), TInv iso ts →
        TInv iso (clusterRun iso key l ts).2 ∧ (∃ E, (clusterRun iso key l ts).2 = ts ++ E) ∧
        (clusterRun iso key l ts).1.length = l.length ∧
        (∀ (i j : Nat) (xi xj : α) (ci cj : Int), l[i]? = some xi → l[j]? = some xj →
          (clusterRun iso key l ts).1[i]? = some ci → (clusterRun iso key l ts).1[j]? = some cj →
          (ci = cj ↔ iso xi xj = true)) ∧
        (∀ t ∈ ts, ∀ (k : Nat) (x : α) (c : Int), l[k]? = some x → (clusterRun iso key l ts).1[k]? = some c →
          (c = t.cls ↔ iso t.item x = true))))

/-- **C13, full statement**, assembled from the theorems above. -/
theorem C13.full : C13.FullStatement := by
  intro α κ _ iso key
  refine ⟨?_, ?_, ?_, ?_⟩
  · intro xs
    obtain ⟨h1, h2, h3, h4, h5, _⟩ := cluster_partition iso key xs
    exact ⟨h1, h2, h3, h4, h5⟩
  · intro xs
    refine ⟨(incremental_eq_oneshot iso key xs).1, (incremental_eq_oneshot iso key xs).2, ?_⟩
    intro hx k hk
    exact (batched_eq_oneshot iso key xs hx none (some k) (by intro k' e; cases e; exact hk)).1 rfl
  · intro x ts; exact libCheck_spec iso key x ts
  · intro hE hK
    refine ⟨same_class_iff hE hK, ?_, ?_, ?_⟩
    · intro xs ys σ hσ a b ha hb
      exact ⟨cluster_perm_invariant hE hK xs ys σ hσ a b ha hb,
        incremental_perm_invariant hE hK xs ys σ hσ a b ha hb⟩
    · intro ts x hT; exact libCheck_joins_representative hE hK ts hT x
    · intro l ts hT; exact cluster_with_templates_spec hE hK l ts hT

/-- Non-vacuity of the `_on` theorems: on the carrier `P x := x < 100` the residue oracle is an
equivalence with invariant key (it is one everywhere; the point is that the hypotheses are satisfiable). -/
example : IsEquivOn (fun x : Nat => x < 100) exIso ∧ KeyInvOn (fun x : Nat => x < 100) exIso exKey :=
  ⟨⟨fun x _ => exIso_equiv.refl x, fun x y _ _ => exIso_equiv.symm x y, fun x y z _ _ _ => exIso_equiv.trans x y z⟩,
    fun x y _ _ => exKey_inv x y⟩

/-! ## C13 with the real isomorphism: `iso := clIso` (`SynKitProofs/ClusterIso.lean`) on the carrier `LGraph.WF`

`clIso_iff` turns every `clIso G H = true` of the `_on` theorems into `∃ m, IsIso clSel (norm G) (norm H) m`. -/

open SynKit.Match

/-- **The oracle of the code is an equivalence relation on well-formed graphs** (the hypothesis `IsEquiv`
of the abstract theorems, over the subtype of well-formed graphs; `clIso_equivOn` is the same fact with a
carrier predicate): reflexive, symmetric (no hydrogen rule), transitive. -/
theorem clIso_equiv_wf : IsEquiv (fun G H : {G : LGraph // G.WF} => clIso G.1 H.1) where
  refl := fun G => clIso_equivOn.refl G.1 G.2
  symm := fun G H => clIso_equivOn.symm G.1 H.1 G.2 H.2
  trans := fun A B C => clIso_equivOn.trans A.1 B.1 C.1 A.2 B.2 C.2

omit [DecidableEq κ] in
/-- "Isomorphism-invariant pre-grouping attribute" for the real isomorphism. The constant attribute
(`attribute_key = None`) satisfies it trivially. -/
def KeyInvIso (key : LGraph → κ) : Prop :=
  ∀ G H : LGraph, G.WF → H.WF → (∃ m, IsIso clSel (norm G) (norm H) m) → key G = key H

omit [DecidableEq κ] in
theorem KeyInvIso.on {key : LGraph → κ} (hK : KeyInvIso key) : KeyInvOn LGraph.WF clIso key :=
  fun G H hG hH h => hK G H hG hH ((clIso_iff G H hH).1 h)

/-- **C13, "two items share a class iff their graphs are isomorphic on element, charge and bond order".**
For every list of well-formed graphs and every isomorphism-invariant pre-grouping attribute, two positions
get the same class from `GraphCluster.iterative_cluster` / `fit` exactly when there is a node bijection
between the two graphs that preserves adjacency and non-adjacency, `element`, `charge` (defaults `"*"`, `0`)
and `order` (default `1`). -/
theorem same_class_iff_iso {key : LGraph → κ} (hK : KeyInvIso key) (xs : List LGraph) (hW : ∀ G ∈ xs, G.WF)
    (i j : Nat) (hi : i < xs.length) (hj : j < xs.length) :
    classOf clIso key xs i = classOf clIso key xs j ↔ ∃ m, IsIso clSel (norm xs[i]) (norm xs[j]) m := by
  rw [same_class_iff_on clIso_equivOn hK.on xs hW i j hi hj]
  exact clIso_iff xs[i] xs[j] (hW _ (List.getElem_mem hj))

/-- **C13, "the partition does not depend on the order of the list"**, for the real isomorphism:
if `ys` is `xs` read through an index map `σ` (a reordering), two positions of `ys` are classified
together exactly when their pre-images are classified together in `xs` — and that is exactly when the two
graphs are isomorphic on element, charge and bond order. -/
theorem cluster_perm_invariant_iso {key : LGraph → κ} (hK : KeyInvIso key) (xs ys : List LGraph)
    (hWx : ∀ G ∈ xs, G.WF) (hWy : ∀ G ∈ ys, G.WF) (σ : Nat → Nat)
    (hσ : ∀ a, a < ys.length → σ a < xs.length ∧ ys[a]? = xs[σ a]?)
    (a b : Nat) (ha : a < ys.length) (hb : b < ys.length) :
    (classOf clIso key ys a = classOf clIso key ys b ↔ classOf clIso key xs (σ a) = classOf clIso key xs (σ b)) ∧
    (classOf clIso key ys a = classOf clIso key ys b ↔ ∃ m, IsIso clSel (norm ys[a]) (norm ys[b]) m) :=
  ⟨cluster_perm_invariant_on clIso_equivOn hK.on xs ys hWx hWy σ hσ a b ha hb,
    same_class_iff_iso hK ys hWy a b ha hb⟩

/-- **C13, "classifying new items against existing class representatives", raw form, for the real
isomorphism.** For ANY template list and a well-formed new graph `x`, `lib_check` either finds a template
with equal attribute that is isomorphic to `x` on element, charge and bond order — the FIRST such in
template order —, returns its class and leaves the templates unchanged; or no template with equal attribute
is isomorphic to `x`, the returned class is fresh and exactly one template (`x` with that class) is appended. -/
theorem libCheck_spec_iso (key : LGraph → κ) (x : LGraph) (hx : x.WF) (ts : List (Tmpl LGraph)) :
    (∃ pre t post, ts = pre ++ t :: post ∧
        (key t.item = key x ∧ ∃ m, IsIso clSel (norm t.item) (norm x) m) ∧
        (∀ u ∈ pre, ¬ (key u.item = key x ∧ ∃ m, IsIso clSel (norm u.item) (norm x) m)) ∧
        libCheck clIso key x ts = (t.cls, ts)) ∨
    ((∀ t ∈ ts, ¬ (key t.item = key x ∧ ∃ m, IsIso clSel (norm t.item) (norm x) m)) ∧
        libCheck clIso key x ts = (newClass ts, ts ++ [⟨x, newClass ts⟩]) ∧ ∀ t ∈ ts, t.cls ≠ newClass ts) := by
  have h := libCheck_spec clIso key x ts
  simp only [clIso_iff _ x hx] at h
  exact h

/-- **C13, "puts each into the class of its isomorphic representative or into a fresh class when none
exists", for the real isomorphism.** Well-formed templates that are one representative per class
(pairwise non-isomorphic, pairwise different class numbers), an invariant attribute, a well-formed new
graph: if a template is isomorphic to it on element, charge and bond order it gets THE class of that
template and the templates are unchanged; if none is, it gets a class no template carries and becomes its
representative; the template invariant and well-formedness are kept. -/
theorem libCheck_joins_representative_iso {key : LGraph → κ} (hK : KeyInvIso key) (ts : List (Tmpl LGraph))
    (hWt : ∀ t ∈ ts, t.item.WF) (hT : TInv clIso ts) (x : LGraph) (hx : x.WF) :
    (∀ t ∈ ts, (∃ m, IsIso clSel (norm t.item) (norm x) m) → libCheck clIso key x ts = (t.cls, ts)) ∧
    ((∀ t ∈ ts, ¬ ∃ m, IsIso clSel (norm t.item) (norm x) m) →
        (libCheck clIso key x ts).1 ∉ ts.map (·.cls) ∧
        (libCheck clIso key x ts).2 = ts ++ [⟨x, (libCheck clIso key x ts).1⟩]) ∧
    TInv clIso (libCheck clIso key x ts).2 ∧ (∀ t ∈ (libCheck clIso key x ts).2, t.item.WF) := by
  obtain ⟨h1, h2, h3, h4⟩ := libCheck_joins_representative_on clIso_equivOn hK.on ts hWt hT x hx
  exact ⟨fun t ht hm => h1 t ht ((clIso_iff _ x hx).2 hm),
    fun hall => h2 fun t ht => Bool.eq_false_iff.2 fun h => hall t ht ((clIso_iff _ x hx).1 h), h3, h4⟩

/-- **C13, classification of a whole arrival sequence against existing representatives, for the real
isomorphism**: two arrivals share a class iff they are isomorphic on element, charge and bond order; an
arrival gets the class of a template given at the start iff it is isomorphic to that template. -/
theorem cluster_with_templates_spec_iso {key : LGraph → κ} (hK : KeyInvIso key) (l : List LGraph)
    (hWl : ∀ G ∈ l, G.WF) (ts : List (Tmpl LGraph)) (hWt : ∀ t ∈ ts, t.item.WF) (hT : TInv clIso ts) :
    TInv clIso (clusterRun clIso key l ts).2 ∧ (∃ E, (clusterRun clIso key l ts).2 = ts ++ E) ∧
    (clusterRun clIso key l ts).1.length = l.length ∧
    (∀ (i j : Nat) (xi xj : LGraph) (ci cj : Int), l[i]? = some xi → l[j]? = some xj →
      (clusterRun clIso key l ts).1[i]? = some ci → (clusterRun clIso key l ts).1[j]? = some cj →
      (ci = cj ↔ ∃ m, IsIso clSel (norm xi) (norm xj) m)) ∧
    (∀ t ∈ ts, ∀ (k : Nat) (x : LGraph) (c : Int), l[k]? = some x → (clusterRun clIso key l ts).1[k]? = some c →
      (c = t.cls ↔ ∃ m, IsIso clSel (norm t.item) (norm x) m)) := by
  obtain ⟨h1, h2, h3, h4, h5⟩ := cluster_with_templates_spec_on clIso_equivOn hK.on l hWl ts hWt hT
  refine ⟨h1, h2, h3, ?_, ?_⟩
  · intro i j xi xj ci cj hi hj hci hcj
    rw [h4 i j xi xj ci cj hi hj hci hcj]
    exact clIso_iff xi xj (hWl _ (List.mem_of_getElem? hj))
  · intro t ht k x c hk hc
    rw [h5 t ht k x c hk hc]
    exact clIso_iff t.item x (hWl _ (List.mem_of_getElem? hk))

/-- **C13, incremental classification in any arrival order, for the real isomorphism.** If the
well-formed graphs of `xs` arrive in another order (`ys[a] = xs[σ a]`), incremental classification from empty
templates (`BatchCluster.cluster`, any batching by `incremental_eq_oneshot`) co-classifies two arrivals exactly
when one-shot clustering of `xs` co-classifies their originals — exactly when the two graphs are isomorphic
on element, charge and bond order. -/
theorem incremental_perm_invariant_iso {key : LGraph → κ} (hK : KeyInvIso key) (xs ys : List LGraph)
    (hWx : ∀ G ∈ xs, G.WF) (hWy : ∀ G ∈ ys, G.WF) (σ : Nat → Nat)
    (hσ : ∀ a, a < ys.length → σ a < xs.length ∧ ys[a]? = xs[σ a]?)
    (a b : Nat) (ha : a < ys.length) (hb : b < ys.length) :
    ((clusterRun clIso key ys []).1[a]? = (clusterRun clIso key ys []).1[b]? ↔
      classOf clIso key xs (σ a) = classOf clIso key xs (σ b)) ∧
    ((clusterRun clIso key ys []).1[a]? = (clusterRun clIso key ys []).1[b]? ↔
      ∃ m, IsIso clSel (norm ys[a]) (norm ys[b]) m) :=
  ⟨incremental_perm_invariant_on clIso_equivOn hK.on xs ys hWx hWy σ hσ a b ha hb,
    (incremental_same_class_iff_oneshot clIso key ys a b).trans (same_class_iff_iso hK ys hWy a b ha hb)⟩

/-- **C13, relabelled copies land in the same class (one-shot clustering).** If position `j` of a list
of well-formed graphs holds a copy of the graph at position `i` with the node ids renamed by an `f` that
is injective on the nodes of that graph (node order, edge order and all attributes kept — `relabel_nodes`),
both positions get the same class. -/
theorem relabel_same_class_iso {key : LGraph → κ} (hK : KeyInvIso key) (xs : List LGraph) (hW : ∀ G ∈ xs, G.WF)
    (i j : Nat) (hi : i < xs.length) (hj : j < xs.length) (f : Nat → Nat) (hf : InjOnIds xs[i] f)
    (e : xs[j] = xs[i].relabel f) : classOf clIso key xs i = classOf clIso key xs j := by
  have hWi := hW _ (List.getElem_mem hi)
  have hWj := hW _ (List.getElem_mem hj)
  rw [same_class_iff_on clIso_equivOn hK.on xs hW i j hi hj, clIso_symm _ _ hWi hWj, e]
  exact clIso_relabel_self xs[i] hWi f hf

/-- **C13, relabelled copies land in the same class (incremental classification).** With well-formed
one-representative-per-class templates, a well-formed relabelled copy of a template's graph is put into
that template's class and the templates stay as they are. -/
theorem libCheck_relabel_joins_iso {key : LGraph → κ} (hK : KeyInvIso key) (ts : List (Tmpl LGraph))
    (hWt : ∀ t ∈ ts, t.item.WF) (hT : TInv clIso ts) (t : Tmpl LGraph) (ht : t ∈ ts) (f : Nat → Nat)
    (hf : InjOnIds t.item f) (hx : (t.item.relabel f).WF) :
    libCheck clIso key (t.item.relabel f) ts = (t.cls, ts) := by
  have hWt' := hWt t ht
  refine (libCheck_joins_representative_on clIso_equivOn hK.on ts hWt hT _ hx).1 t ht ?_
  rw [clIso_symm _ _ hWt' hx]
  exact clIso_relabel_self t.item hWt' f hf

/-! ### non-vacuity on concrete graphs (`decide`)

`gA`: C(=O)–N⁺ ; `gB`: a relabelled copy (ids renamed, node and edge order changed, one edge written in the
other direction); `gC`: near miss, one charge changed; `gD`: near miss, one bond order changed; `gE`: `gA` with
the charges `0` and the single-bond order left out (the `generic_*_match` defaults apply). -/

def gA : LGraph :=
  { nodes := [(1, [("element", .str "C"), ("charge", .num 0)]), (2, [("element", .str "O"), ("charge", .num 0)]),
              (3, [("element", .str "N"), ("charge", .num 2)])],
    edges := [(1, 2, [("order", .num 4)]), (1, 3, [("order", .num 2)])] }
def gB : LGraph :=
  { nodes := [(5, [("element", .str "N"), ("charge", .num 2)]), (7, [("element", .str "O"), ("charge", .num 0)]),
              (6, [("element", .str "C"), ("charge", .num 0)])],
    edges := [(6, 5, [("order", .num 2)]), (7, 6, [("order", .num 4)])] }
def gC : LGraph :=
  { nodes := [(1, [("element", .str "C"), ("charge", .num 0)]), (2, [("element", .str "O"), ("charge", .num 0)]),
              (3, [("element", .str "N"), ("charge", .num 0)])],
    edges := [(1, 2, [("order", .num 4)]), (1, 3, [("order", .num 2)])] }
def gD : LGraph :=
  { nodes := [(1, [("element", .str "C"), ("charge", .num 0)]), (2, [("element", .str "O"), ("charge", .num 0)]),
              (3, [("element", .str "N"), ("charge", .num 2)])],
    edges := [(1, 2, [("order", .num 2)]), (1, 3, [("order", .num 2)])] }
def gE : LGraph :=
  { nodes := [(1, [("element", .str "C")]), (2, [("element", .str "O")]),
              (3, [("element", .str "N"), ("charge", .num 2)])],
    edges := [(1, 2, [("order", .num 4)]), (1, 3, [])] }

/-- The hypotheses of the `_iso` theorems are satisfiable: the five graphs are well-formed, and the
constant attribute (`attribute_key = None`) is isomorphism-invariant. -/
example : ∀ G ∈ [gA, gC, gB, gD, gE], G.WF := by decide +kernel
example : KeyInvIso (fun _ : LGraph => ()) := fun _ _ _ _ _ => rfl

/-- Non-vacuity of `same_class_iff_iso` / `relabel_same_class_iso`: the relabelled copy and the copy with
defaulted attributes share the class of `gA`; each near miss (one charge, one bond order) is alone. -/
example : gcClasses clIso (fun _ => ()) [gA, gC, gB, gD, gE] = [some 0, some 1, some 0, some 2, some 0] := by
  decide +kernel

/-- Non-vacuity of `cluster_perm_invariant_iso`: another order of the same list; the classes are renumbered
by first appearance, the partition is the image ({gA, gB, gE}, {gC}, {gD}). -/
example : gcClasses clIso (fun _ => ()) [gD, gE, gC, gB, gA] = [some 0, some 1, some 2, some 1, some 1] := by
  decide +kernel

/-- The relabelled copy written with `relabel` (the renaming `v ↦ 8 - v` is injective on the nodes of `gA`,
not on ℕ): verdict `true` in both directions; the near misses are rejected in both directions. -/
example : clIso gA (gA.relabel fun v => 8 - v) = true ∧ clIso (gA.relabel fun v => 8 - v) gA = true ∧
    clIso gA gB = true ∧ clIso gA gC = false ∧ clIso gC gA = false ∧ clIso gA gD = false ∧ clIso gD gA = false ∧
    clIso gA gE = true ∧ clIso gE gA = true := by decide +kernel

/-- Non-vacuity of `libCheck_spec_iso` / `libCheck_joins_representative_iso`: templates `gA ↦ 7`, `gC ↦ 3`;
the relabelled copy `gB` joins class 7, the bond-order near miss `gD` matches nothing and opens class 8. -/
example : libCheck clIso (fun _ => ()) gB [⟨gA, 7⟩, ⟨gC, 3⟩] = (7, [⟨gA, 7⟩, ⟨gC, 3⟩]) ∧
    libCheck clIso (fun _ => ()) gD [⟨gA, 7⟩, ⟨gC, 3⟩] = (8, [⟨gA, 7⟩, ⟨gC, 3⟩, ⟨gD, 8⟩]) := by decide +kernel

example : TInv clIso ([⟨gA, 7⟩, ⟨gC, 3⟩] : List (Tmpl LGraph)) := (tinv_iff_pairwise _ _).2 (by decide +kernel)

/-- Non-vacuity of `cluster_with_templates_spec_iso`: arrivals `gB, gD, gE, gD` against templates
`gA ↦ 7`, `gC ↦ 3`. -/
example : (clusterRun clIso (fun _ => ()) [gB, gD, gE, gD] [⟨gA, 7⟩, ⟨gC, 3⟩]).1 = [7, 8, 7, 8] := by decide +kernel

/-- Non-vacuity of `incremental_perm_invariant_iso`: incremental classes in two arrival orders. -/
example : (clusterRun clIso (fun _ => ()) [gA, gC, gB, gD, gE] []).1 = [0, 1, 0, 2, 0] ∧
    (clusterRun clIso (fun _ => ()) [gD, gE, gC, gB, gA] []).1 = [0, 1, 2, 1, 1] := by decide +kernel

/-- The clauses of C13 that speak of isomorphism, for the real isomorphism test on element, charge and bond
order, for every isomorphism-invariant pre-grouping attribute and all well-formed graphs. (The clauses that
need no hypothesis on the oracle — partition, incremental = one-shot with class numbers, batched = one-shot,
raw `lib_check` — are in `C13.FullStatement` for every oracle, `clIso` included.) -/
def C13.IsoStatement : Prop :=
  ∀ (κ : Type) [DecidableEq κ] (key : LGraph → κ), KeyInvIso key →
    -- same class ⇔ isomorphic on element, charge and bond order
    (∀ (xs : List LGraph), (∀ G ∈ xs, G.WF) → ∀ (i j : Nat) (hi : i < xs.length) (hj : j < xs.length),
      (classOf clIso key xs i = classOf clIso key xs j ↔ ∃ m, IsIso clSel (norm xs[i]) (norm xs[j]) m)) ∧
    -- the partition does not depend on the order of the list (one-shot and incremental)
    (∀ (xs ys : List LGraph), (∀ G ∈ xs, G.WF) → (∀ G ∈ ys, G.WF) → ∀ σ : Nat → Nat,
      (∀ a, a < ys.length → σ a < xs.length ∧ ys[a]? = xs[σ a]?) →
      ∀ a b, a < ys.length → b < ys.length →
        ((classOf clIso key ys a = classOf clIso key ys b ↔ classOf clIso key xs (σ a) = classOf clIso key xs (σ b)) ∧
         ((clusterRun clIso key ys []).1[a]? = (clusterRun clIso key ys []).1[b]? ↔
            classOf clIso key xs (σ a) = classOf clIso key xs (σ b)))) ∧
    -- relabelled copies land in the same class
    (∀ (xs : List LGraph), (∀ G ∈ xs, G.WF) → ∀ (i j : Nat) (hi : i < xs.length) (hj : j < xs.length) (f : Nat → Nat),
      InjOnIds xs[i] f → xs[j] = xs[i].relabel f → classOf clIso key xs i = classOf clIso key xs j) ∧
    -- a new item joins the class of its isomorphic representative, else a fresh class
    (∀ (ts : List (Tmpl LGraph)) (x : LGraph), (∀ t ∈ ts, t.item.WF) → TInv clIso ts → x.WF →
      (∀ t ∈ ts, (∃ m, IsIso clSel (norm t.item) (norm x) m) → libCheck clIso key x ts = (t.cls, ts)) ∧
      ((∀ t ∈ ts, ¬ ∃ m, IsIso clSel (norm t.item) (norm x) m) →
          (libCheck clIso key x ts).1 ∉ ts.map (·.cls) ∧
          (libCheck clIso key x ts).2 = ts ++ [⟨x, (libCheck clIso key x ts).1⟩]) ∧
      TInv clIso (libCheck clIso key x ts).2 ∧ (∀ t ∈ (libCheck clIso key x ts).2, t.item.WF)) ∧
    -- … and so does every arrival of a whole sequence classified against existing representatives
    (∀ (l : List LGraph) (ts : List (Tmpl LGraph)), (∀ G ∈ l, G.WF) → (∀ t ∈ ts, t.item.WF) → TInv clIso ts →
      TInv clIso (clusterRun clIso key l ts).2 ∧ (∃ E, (clusterRun clIso key l ts).2 = ts ++ E) ∧
      (clusterRun clIso key l ts).1.length = l.length ∧
      (∀ (i j : Nat) (xi xj : LGraph) (ci cj : Int), l[i]? = some xi → l[j]? = some xj →
        (clusterRun clIso key l ts).1[i]? = some ci → (clusterRun clIso key l ts).1[j]? = some cj →
        (ci = cj ↔ ∃ m, IsIso clSel (norm xi) (norm xj) m)) ∧
      (∀ t ∈ ts, ∀ (k : Nat) (x : LGraph) (c : Int), l[k]? = some x → (clusterRun clIso key l ts).1[k]? = some c →
        (c = t.cls ↔ ∃ m, IsIso clSel (norm t.item) (norm x) m)))

/-- **C13 for the real isomorphism**, assembled from the `_iso` theorems above. -/
theorem C13.full_iso : C13.IsoStatement := by
  intro κ _ key hK
  refine ⟨fun xs hW i j hi hj => same_class_iff_iso hK xs hW i j hi hj, ?_,
    fun xs hW i j hi hj f hf e => relabel_same_class_iso hK xs hW i j hi hj f hf e,
    fun ts x hWt hT hx => libCheck_joins_representative_iso hK ts hWt hT x hx,
    fun l ts hWl hWt hT => cluster_with_templates_spec_iso hK l hWl ts hWt hT⟩
  intro xs ys hWx hWy σ hσ a b ha hb
  exact ⟨(cluster_perm_invariant_iso hK xs ys hWx hWy σ hσ a b ha hb).1,
    (incremental_perm_invariant_iso hK xs ys hWx hWy σ hσ a b ha hb).1⟩

end SynKit.Cluster
