import SynKitModel.Repr
import SynKitModel.Gml
import SynKitModel.Match
import SynKitProofs.ReprLemmas
import SynKitProofs.ReprTable
import SynKitProofs.ReprFoldIn
import SynKitProofs.ImplicitHLemmas
import SynKitProofs.GmlLemmas
import SynKitProofs.GmlRcLemmas
import SynKitProofs.GmlIsoLemmas
import SynKitProofs.GmlReaderLemmas
import SynKitProofs.GmlReindexLemmas
import SynKitProofs.GmlSmartLemmas
import SynKitModel.ReprOpt
import SynKitProofs.ReprOptLemmas
import SynKitProofs.ReprOptGmlLemmas
/-!
# C10 — changing representation (SMILES ↔ graph, explicit ↔ implicit hydrogens, ITS ↔ GML) loses nothing

RDKit (SMILES parsing / printing, sanitisation, aromaticity) is external: a molecule is its atom/bond
table, and the SMILES clause of the property rests on the correspondence check
(`harness/props/c10.py`, stream (a)).
-/
namespace SynKit

open SynKit.Repr SynKit.Gml in
/-- C10 at full strength over the model.  Its first nine conjuncts are proved
(`C10.clauses_1_to_9` at the end of this file; the single theorems are `graphToMol_molToGraph`,
`hToImplicit_hToExplicit`, `totalH_hToExplicit`, `totalH_hToImplicit`, `label_roundtrip`,
`gml_roundtrip`, `gml_roundtrip_reindexed`, `gml_two_ways_core`, `gml_two_ways_centre`).  The last
conjunct (full, non-core export: reaction string vs ITS) is **false as written**
(`C10.last_clause_needs_molShape`: a product graph with a bond lacking `order` satisfies its
hypotheses and the two routes differ); it holds, and is proved, for the graphs `rsmi_to_graph`
delivers (`MolShape`: `gml_two_ways_full`).  `C10.FullStatementMol` is the corrected statement and
`C10.fullStatementMol` its proof. -/
def C10.FullStatement : Prop :=
  -- 1. the part of the table the code can carry survives table → graph → table
  (∀ M : Mol, M.WF → graphToMol (molToGraph M) = .ok M.out) ∧
  -- 2. explicit then implicit restores the graph (guard: no explicit H bonded to a heavy atom)
  (∀ G : LGraph, G.WF → HTyped G → NoHeavyBoundH G → hToImplicit (hToExplicit G) = G) ∧
  -- 3./4. neither direction changes the total hydrogen count
  (∀ G : LGraph, totalH (hToExplicit G) = totalH G) ∧
  (∀ G : LGraph, G.WF → HTyped G → HValence G → totalH (hToImplicit G) = totalH G) ∧
  -- 5. element + charge labels
  (∀ e c, alpha e → parseLabel (render e c) = (e, c)) ∧
  -- 6. ITS → GML → ITS keeps atoms, charges, (before, after) orders; core and full export
  (∀ (I : LGraph) (core : Bool), ItsShape (if core then getRc I else I) →
      RuleEq (gmlToIts (itsToGml core false I)) (if core then getRc I else I)) ∧
  -- 7. … and up to renumbering when ids are re-indexed
  (∀ (I : LGraph) (core : Bool), ItsShape (if core then getRc I else I) →
      ∃ m, Match.IsIso ⟨["v"], ["o"], false⟩ (viewGraph (if core then getRc I else I))
        (viewGraph (gmlToIts (itsToGml core true I))) m) ∧
  -- 8. the routes agree: reaction string vs ITS (full or centre), core export; and full export
  (∀ (r p : LGraph) (ri : Bool), smartToGml true ri r p = itsToGml true ri (construct r p)) ∧
  (∀ (I : LGraph) (ri : Bool), itsToGml true ri (getRc I) = itsToGml true ri I) ∧
  (∀ (r p : LGraph) (ri : Bool), ItsShape (construct r p) → r.ids = p.ids →
      ∃ m, Match.IsIso ⟨["v"], ["o"], false⟩ (viewGraph (gmlToIts (smartToGml false ri r p)))
        (viewGraph (gmlToIts (itsToGml false ri (construct r p)))) m)

namespace Repr

/-- **C10, table clause.** For a table as RDKit delivers it (bonds between existing atoms, one of
the four standard bond types) `graph_to_mol(mol_to_graph(M))` hands RDKit exactly the element,
charge, map number and total hydrogen count of every atom (in order) and every bond with its
type (1.5 ↔ aromatic included).  Only the aromatic *flag* is not carried back (RDKit recomputes
it), which is why `Mol.out` omits it. -/
theorem graphToMol_molToGraph (M : Mol) (h : M.WF) : graphToMol (molToGraph M) = .ok M.out := by
  rw [graphToMol, molToGraph_atoms, molToGraph_bonds M h]
  rfl

example : (⟨[⟨"N", 1, 0, 3, false⟩, ⟨"C", 0, 7, 3, false⟩], [⟨0, 1, 2⟩]⟩ : Mol).WF := by decide

/-- **C10, hydrogens: round trip.**  If no explicit hydrogen is bonded to a heavy atom
(`has_XH(G)` is false) and no hydrogen node carries a count of its own, then making the
hydrogens explicit and implicit again gives back *the same graph* (same nodes in the same order
with the same attribute dicts, same edges).  Hydrogens without a heavy neighbour (H₂, H⁺) are
kept — this is the F18 repair the model follows. -/
theorem hToImplicit_hToExplicit (G : LGraph) (hwf : G.WF) (ht : HTyped G) (hg : NoHeavyBoundH G) :
    hToImplicit (hToExplicit G) = G := by
  rw [← explicitOn_filter_pos G hwf.1]
  exact hToImplicit_explicitOn G hwf ht hg _ (hwf.1.filter _) fun _ h => (List.mem_filter.1 h).1

/-- The first half of the guard is literally `has_XH`: it is false iff every bond joins two
hydrogens or two heavy atoms. -/
theorem hasXH_false_iff (G : LGraph) :
    hasXH G = false ↔ ∀ e ∈ G.edges, isH (G.attrs e.1) = isH (G.attrs e.2.1) := by
  refine ⟨isH_ends_of_noXH G, fun h => ?_⟩
  simp only [hasXH, List.any_eq_false]
  intro e he
  rw [h e he]; cases isH (G.attrs e.2.1) <;> simp

/-- Non-vacuity: CH₄ next to H₂ and H⁺ satisfies every hypothesis, and is really expanded
(4 new hydrogen nodes). -/
example :
    let G : LGraph := { nodes := [(1, [("element", .str "C"), ("hcount", .num 8)]),
                                  (5, [("element", .str "H"), ("hcount", .num 0)]),
                                  (6, [("element", .str "H"), ("hcount", .num 0)]),
                                  (9, [("element", .str "H"), ("hcount", .num 0), ("charge", .num 2)])],
                        edges := [(5, 6, [("order", .num 2)])] }
    G.WF ∧ HTyped G ∧ NoHeavyBoundH G ∧ (hToExplicit G).ids = [1, 5, 6, 9, 10, 11, 12, 13] ∧ totalH G = 7 := by
  decide +kernel

/-- **C10, hydrogens: count, implicit → explicit.**  No guard at all. -/
theorem totalH_hToExplicit (G : LGraph) : totalH (hToExplicit G) = totalH G := by
  have h : ∀ ns : List (Nat × Attrs), ((ns.map zeroH).map hval).sum + (tot ns : Int) = (ns.map hval).sum := by
    intro ns
    induction ns with
    | nil => rfl
    | cons p rest ih =>
      simp only [List.map_cons, List.sum_cons, tot] at ih ⊢
      have := hval_zeroH p
      push_cast
      omega
  rw [show hToExplicit G = pend (G.nodes.map zeroH) G.edges (plan G.nodes (maxId G)) from rfl, totalH_pend, plan_length,
    totalH_eq]
  exact h G.nodes

/-- **C10, hydrogens: count, explicit → implicit — partial.**  Only on the graphs `hToExplicit G`,
under the guard of the round trip.  The statement for an arbitrary graph with monovalent, count-free
hydrogens (`HValence`, fourth clause of `C10.FullStatement`) is `totalH_hToImplicit`. -/
theorem totalH_roundtrip_partial (G : LGraph) (hwf : G.WF) (ht : HTyped G) (hg : NoHeavyBoundH G) :
    totalH (hToImplicit (hToExplicit G)) = totalH (hToExplicit G) := by
  rw [hToImplicit_hToExplicit G hwf ht hg, totalH_hToExplicit]

/-- **C10, hydrogens: count, explicit → implicit** (fourth clause of `C10.FullStatement`).  On *any* well-formed graph whose hydrogen nodes carry no
count of their own and have at most one heavy neighbour (`HValence`), `h_to_implicit` keeps the
total hydrogen count: a hydrogen with a heavy neighbour is removed and that neighbour's count goes
up by one; a hydrogen with only hydrogen neighbours (or none) stays (F18 repair).  `HTyped` is
not needed by the proof and kept only to match the clause. -/
theorem totalH_hToImplicit (G : LGraph) (hwf : G.WF) (ht : HTyped G) (hv : HValence G) :
    totalH (hToImplicit G) = totalH G := by
  have _ := ht
  rw [hToImplicit_eq_foldIn G hwf.1]
  apply totalH_foldInW addsH_bump G hwf
  intro d hd
  obtain ⟨hd1, hd2⟩ := List.mem_filter.1 hd
  obtain ⟨hmem, hH⟩ := (hNodes_spec G hwf.1).2 d hd1
  obtain ⟨h0, h1⟩ := hv _ (LGraph.attrs_mem hmem) hH
  have h2 := (hasHeavyNbr_iff G d).1 hd2
  exact ⟨hH, h0, by simp only at h1; omega⟩

/-- Non-vacuity: CH₃–H with the fourth hydrogen explicit, next to H₂: the guard holds, the explicit
hydrogen is really folded in (node 5 disappears), H₂ stays, and the count is 6 before and after. -/
example :
    let G : LGraph := { nodes := [(1, [("element", .str "C"), ("hcount", .num 6)]),
                                  (5, [("element", .str "H"), ("hcount", .num 0)]),
                                  (6, [("element", .str "H"), ("hcount", .num 0)]),
                                  (7, [("element", .str "H"), ("hcount", .num 0)])],
                        edges := [(1, 5, [("order", .num 2)]), (6, 7, [("order", .num 2)])] }
    G.WF ∧ HTyped G ∧ HValence G ∧ (hToImplicit G).ids = [1, 6, 7] ∧ totalH G = 6 ∧ totalH (hToImplicit G) = 6 := by
  decide +kernel

/-- **C10, hydrogens: count, `implicit_hydrogen`** (the function `graph_to_smi(g, preserve_atom_maps)`
applies; model `implicitHydrogen`, which follows the F29 repair, draft fix 0022).  On a simple graph
whose hydrogen nodes carry no count of their own and have at most one heavy neighbour (`HValence`,
the guard of `totalH_hToImplicit`), folding the non-preserved hydrogens into their heavy neighbours
keeps the number of hydrogens of the molecule, for *every* `preserve` list: hydrogens without heavy
neighbour (H2, H+, H-, H·) are not removed.  No typing guard is needed. -/
theorem totalH_implicitHydrogen (G : LGraph) (preserve : List Nat) (hwf : G.WF) (hv : HValence G) :
    totalH (implicitHydrogen G preserve) = totalH G :=
  ImplH.totalH_implicitH G hwf preserve (ImplH.foldGuard_of_hValence G preserve hv)

/-- **C10, hydrogens: `implicit_hydrogen` keeps free hydrogens** (F29 repair).  A hydrogen node
without a non-hydrogen neighbour is a node of the result, with its whole attribute dict, whatever
the `preserve` list is. -/
theorem implicitHydrogen_free_hydrogen_stays (G : LGraph) (preserve : List Nat) (hn : G.ids.Nodup)
    (p : Nat × Attrs) (hp : p ∈ G.nodes) (hH : isH p.2 = true) (hf : hasHeavyNbr G p.1 = false) :
    p.1 ∈ (implicitHydrogen G preserve).ids ∧ (implicitHydrogen G preserve).attrs p.1 = p.2 := by
  have hid : p.1 ∈ G.ids := List.mem_map.2 ⟨p, hp, rfl⟩
  have hng : p.1 ∉ ImplH.gone G preserve := fun h => by
    rw [((ImplH.mem_gone_iff G hn preserve p.1).1 h).2.2] at hf; cases hf
  rw [ImplH.implicitHydrogen_eq_foldInW G hn]
  refine ⟨mem_foldInW_ids.2 ⟨hid, hng⟩, ?_⟩
  rw [foldInW_attrs hid hng, LGraph.attrs_of_mem hn hp, foldNodeW, if_pos hH]

/-- Non-vacuity: CH₃–H with the fourth hydrogen explicit, next to H₂ and H⁺, none of them preserved
(`preserve = [99]`): the guard holds, the bonded hydrogen is really folded in (node 5 disappears),
H₂ and H⁺ stay, the H–H bond stays, and the count is 7 before and after. -/
example :
    let G : LGraph := { nodes := [(1, [("element", .str "C"), ("hcount", .num 6), ("atom_map", .num 2)]),
                                  (5, [("element", .str "H"), ("hcount", .num 0), ("atom_map", .num 10)]),
                                  (6, [("element", .str "H"), ("hcount", .num 0), ("atom_map", .num 12)]),
                                  (7, [("element", .str "H"), ("hcount", .num 0), ("atom_map", .num 14)]),
                                  (9, [("element", .str "H"), ("hcount", .num 0), ("charge", .num 2), ("atom_map", .num 18)])],
                        edges := [(1, 5, [("order", .num 2)]), (6, 7, [("order", .num 2)])] }
    G.WF ∧ HValence G ∧ implDomain G = true ∧ hasHeavyNbr G 5 = true ∧ hasHeavyNbr G 6 = false ∧ hasHeavyNbr G 9 = false ∧
      (implicitHydrogen G [99]).ids = [1, 6, 7, 9] ∧ hcnt ((implicitHydrogen G [99]).attrs 1) = 4 ∧
      (implicitHydrogen G [99]).edges.map (fun e => (e.1, e.2.1)) = [(6, 7)] ∧
      totalH G = 7 ∧ totalH (implicitHydrogen G [99]) = 7 := by
  decide +kernel

end Repr

namespace Gml

/-- **C10, labels.**  For an element string over `[A-Za-z*]` (non-empty) and any integer charge,
parsing the label the writer emits (`O-`, `N2+`, `Cl`, `Mg12-`, …) gives back element and charge. -/
theorem label_roundtrip (e : List Char) (c : Int) (he : alpha e) : parseLabel (render e c) = (e, c) :=
  label_roundtrip' e c he

/-- Bond labels: the four standard orders survive `-`, `:`, `=`, `#`. -/
theorem orderLabel_roundtrip (h : Int) (hh : h = 2 ∨ h = 3 ∨ h = 4 ∨ h = 6) :
    labelOrder (orderLabel (.num h)) = .num h := orderLabel_roundtrip' h hh

example : alpha "Cl".toList ∧ parseLabel (render "Mg".toList 12) = ("Mg".toList, 12) := by decide

/-- **C10, ITS → GML → ITS — partial (token level).**  For an ITS graph of the shape
`ITSGraph` / `get_rc` produce, exported in full with ids kept, the written rule contains
everything the property names, in a form the reader's own label functions invert:

* every atom `n` with view `(e, c, e, c')` appears as a `context` node labelled `render e c`
  when its charge does not change, and otherwise as a `left` node labelled `render e c` and a
  `right` node labelled `render e c'`; by `label_roundtrip` these parse back to `(e, c)`, `(e, c')`;
* every bond with order pair `(x, y)` appears in `left` with the label of `x` iff `x ≠ 0` and in
  `right` with the label of `y` iff `y ≠ 0`; by `orderLabel_roundtrip` these parse back to `x`, `y`.

Not in this statement: that `gmlToIts` (sequential `add_node` / `add_edge`,
`_synchronize_nodes_and_edges`, `ITSGraph`) reassembles exactly these tokens into a graph with the
same `nodeView` / `edgeView`, and the reduction of the core export to the full export of the centre.
Both are in `gml_roundtrip` (sixth clause of `C10.FullStatement`). -/
theorem gml_roundtrip_partial (I : LGraph) (hs : ItsShape I) :
    (∀ p ∈ I.nodes, ∃ e c c', alpha e.toList ∧ nodeView I p.1 = .tup [.str e, .num c, .str e, .num c'] ∧
      parseLabel (render e.toList (c / 2)) = (e.toList, c / 2) ∧
      parseLabel (render e.toList (c' / 2)) = (e.toList, c' / 2) ∧
      (if c = c' then Item.node p.1 (render e.toList (c / 2)) ∈ (itsToGml false false I).context
       else Item.node p.1 (render e.toList (c / 2)) ∈ (itsToGml false false I).left ∧
            Item.node p.1 (render e.toList (c' / 2)) ∈ (itsToGml false false I).right)) ∧
    (∀ ed ∈ I.edges, ∃ x y, Attrs.get ed.2.2 "order" = .tup [.num x, .num y] ∧
      (x ≠ 0 → Item.edge ed.1 ed.2.1 (orderLabel (.num x)) ∈ (itsToGml false false I).left ∧
               labelOrder (orderLabel (.num x)) = .num x) ∧
      (y ≠ 0 → Item.edge ed.1 ed.2.1 (orderLabel (.num y)) ∈ (itsToGml false false I).right ∧
               labelOrder (orderLabel (.num y)) = .num y)) := by
  constructor
  · intro p hp
    obtain ⟨e, c, c', ha, hv, hmem⟩ := writer_nodes I hs p hp
    exact ⟨e, c, c', ha, hv, label_roundtrip' _ _ ha, label_roundtrip' _ _ ha, hmem⟩
  · intro ed he
    obtain ⟨x, y, ho, hx, hy, hl, hr⟩ := writer_edges I hs ed he
    have std : ∀ z : Int, stdOrder z = true → z ≠ 0 → (z = 2 ∨ z = 3 ∨ z = 4 ∨ z = 6) :=
      fun z hz h0 => (stdOrder_cases z hz).resolve_left h0
    exact ⟨x, y, ho, fun h0 => ⟨hl h0, orderLabel_roundtrip' x (std x hx h0)⟩,
      fun h0 => ⟨hr h0, orderLabel_roundtrip' y (std y hy h0)⟩⟩

/-- **C10, ITS → GML → ITS** (sixth clause of `C10.FullStatement`), core and full export, ids kept.
The graph the reader assembles from the written rule — sequential `add_node` / `add_edge` per
section, `_synchronize_nodes_and_edges`, `ITSGraph` — is the same rule as the exported graph (the
centre, for `core=True`): same atoms, same (element, charge) before and after on every atom, same
(before, after) order pair on every pair of atoms. -/
theorem gml_roundtrip (I : LGraph) (core : Bool) (hs : ItsShape (if core then getRc I else I)) :
    RuleEq (gmlToIts (itsToGml core false I)) (if core then getRc I else I) := by
  rw [itsToGml_exported]
  exact gml_roundtrip_full' _ hs

/-- Non-vacuity: a two-atom centre (C–O bond formed, O loses its charge) has the required shape,
its element strings satisfy `alpha`, and the written rule has the expected tokens. -/
example :
    let I : LGraph :=
      { nodes := [(1, [("element", .str "C"), ("charge", .num 0),
                       ("typesGH", .tup [.tup [.str "C", .bool false, .num 6, .num 0, .tup []],
                                         .tup [.str "C", .bool false, .num 6, .num 0, .tup []]])]),
                  (2, [("element", .str "O"), ("charge", .num (-2)),
                       ("typesGH", .tup [.tup [.str "O", .bool false, .num 0, .num (-2), .tup []],
                                         .tup [.str "O", .bool false, .num 0, .num 0, .tup []]])])],
        edges := [(1, 2, [("order", .tup [.num 0, .num 2]), ("standard_order", .num (-2))])] }
    ItsShape I ∧ itsToGml false false I =
      { left := [.node 2 ['O', '-']], context := [.node 1 ['C']], right := [.edge 1 2 ['-'], .node 2 ['O']] } ∧
    ruleEqb (gmlToIts (itsToGml false false I)) I = true := by
  decide +kernel

/-- **C10, ITS → GML → ITS, re-indexed** (seventh clause of `C10.FullStatement`).  With
`reindex=True` the re-imported graph is the exported one up to the re-indexing bijection: their
view graphs (node label = (element, charge) before/after, edge label = order pair) are isomorphic. -/
theorem gml_roundtrip_reindexed (I : LGraph) (core : Bool) (hs : ItsShape (if core then getRc I else I)) :
    ∃ m, Match.IsIso ⟨["v"], ["o"], false⟩ (viewGraph (if core then getRc I else I))
      (viewGraph (gmlToIts (itsToGml core true I))) m := by
  rw [itsToGml_exported]
  generalize (if core then getRc I else I) = J at hs ⊢
  have hf := injOn_indexMap J hs
  rw [itsToGml_reindex J hs]
  exact isIso_of_ruleEq_relabel J _ hs.1 _ hf
    (gml_roundtrip_full' _ (itsShape_relabel J hs _ hf)) (closed_gmlToIts _)
    (fun e he a ha => construct_order_consistent _ _ e he a ha)

/-- **C10, two routes (core export).**  The rule written from the reaction string's two graphs
*is* the rule written from their ITS with `core=True`: identical tokens, not merely equivalent. -/
theorem gml_two_ways_core (r p : LGraph) (ri : Bool) :
    smartToGml true ri r p = itsToGml true ri (construct r p) := rfl

/-- **C10, two routes (full ITS vs centre).**  With `core=True` the export of a full ITS is by
definition the full export of its centre — the F8 repair: left, right *and context* come from the
centre. -/
theorem gml_two_ways_full_is_centre (I : LGraph) (ri : Bool) :
    itsToGml true ri I = itsToGml false ri (getRc I) := rfl

/-- **C10, two routes (centre supplied) — partial.**  Supplying the centre instead of the full ITS
gives identical tokens *provided* extracting the centre of a centre changes nothing.  That is
`getRc_idem`; `gml_two_ways_centre` has no hypothesis. -/
theorem gml_two_ways_centre_partial (I : LGraph) (ri : Bool) (hidem : getRc (getRc I) = getRc I) :
    itsToGml true ri (getRc I) = itsToGml true ri I := by
  simp only [itsToGml, if_true, hidem]

/-- **`get_rc` is idempotent** (the `get_rc` the GML entry points call, default options): extracting
the centre of a centre gives back *the same graph* — same nodes in the same order with the same
attribute dicts, same edges — for every input graph (no well-formedness needed). -/
theorem getRc_idem (I : LGraph) : getRc (getRc I) = getRc I := getRc_idem' I

/-- **C10, two routes (centre supplied).**  Supplying the centre instead of the full ITS gives
identical tokens, with or without re-indexing (ninth clause of `C10.FullStatement`). -/
theorem gml_two_ways_centre (I : LGraph) (ri : Bool) : itsToGml true ri (getRc I) = itsToGml true ri I :=
  gml_two_ways_centre_partial I ri (getRc_idem I)

/-- **C10, reaction string → GML → ITS.**  The rule `smart_to_gml` writes from the two molecule
graphs of a reaction (full export, ids kept) reads back as the ITS graph of these two graphs. -/
theorem gml_smart_roundtrip (r p : LGraph) (hr : MolShape r) (hp : MolShape p) (hid : r.ids = p.ids)
    (hs : ItsShape (construct r p)) : RuleEq (gmlToIts (smartToGml false false r p)) (construct r p) :=
  smart_roundtrip' r p hr hp hid hs

/-- **C10, two routes (full export).**  For the two molecule graphs `rsmi_to_graph` delivers
(`MolShape`: a NetworkX graph, every atom with an element and an integer charge, every bond with a
standard order; same atoms on both sides), the rule written from the reaction string and the rule
written from the ITS graph of the same two graphs — both in full, with or without re-indexing —
read back as isomorphic rules.  (The tokens themselves differ: the `right` section lists the
product's bonds in the product's own order and orientation on one route, in ITS order on the
other.)  `MolShape` cannot be dropped: `C10.last_clause_needs_molShape`. -/
theorem gml_two_ways_full (r p : LGraph) (ri : Bool) (hr : MolShape r) (hp : MolShape p) (hid : r.ids = p.ids)
    (hs : ItsShape (construct r p)) :
    ∃ m, Match.IsIso ⟨["v"], ["o"], false⟩ (viewGraph (gmlToIts (smartToGml false ri r p)))
      (viewGraph (gmlToIts (itsToGml false ri (construct r p)))) m :=
  two_ways_full' r p ri hr hp hid hs

/-- Non-vacuity for `gml_roundtrip*` / `gml_two_ways_full`: a C–O bond that becomes a double bond
while O loses its charge.  The two molecule graphs have the required shape, so has their ITS, its
centre is non-trivial, and the two routes really write different token lists (`right` section). -/
example :
    let r : LGraph := { nodes := [(1, [("element", .str "C"), ("charge", .num 0)]),
                                  (2, [("element", .str "O"), ("charge", .num (-2))]),
                                  (3, [("element", .str "N"), ("charge", .num 0)])],
                        edges := [(1, 2, [("order", .num 2)]), (1, 3, [("order", .num 2)])] }
    let p : LGraph := { nodes := [(1, [("element", .str "C"), ("charge", .num 0)]),
                                  (2, [("element", .str "O"), ("charge", .num 0)]),
                                  (3, [("element", .str "N"), ("charge", .num 0)])],
                        edges := [(3, 1, [("order", .num 2)]), (2, 1, [("order", .num 4)])] }
    MolShape r ∧ MolShape p ∧ r.ids = p.ids ∧ ItsShape (construct r p) ∧ ItsShape (getRc (construct r p)) ∧
    (getRc (construct r p)).ids = [1, 2] ∧
    smartToGml false false r p ≠ itsToGml false false (construct r p) ∧
    ruleEqb (gmlToIts (smartToGml false true r p)) (gmlToIts (itsToGml false true (construct r p))) = true := by
  decide +kernel

end Gml
/-! ## The non-default options (`SynKitModel/ReprOpt.lean`)

`MolToGraph.transform` with `use_index_as_atom_map` / `drop_non_aam`, `h_to_explicit(G, nodes, its)`,
`implicit_hydrogen(reindex=True)`, the GML writer with `explicit_hydrogen`. -/
namespace ReprOpt
open SynKit.Repr SynKit.Gml

/-- **C10, table → graph with both flags off is the default.**  On a table whose bonds join
existing atoms (`Mol.WF`), `MolToGraph.transform(mol, drop_non_aam=False, use_index_as_atom_map=False)`
as modelled with its options is `molToGraph`, the function the table clause is about. -/
theorem molToGraphOpt_default (M : Mol) (h : M.WF) : molToGraphOpt false false M = .ok (molToGraph M) := by
  have := molToGraphOpt_relabel false M h (fun v => v) (fun _ _ => rfl) (by
    rw [List.map_id', molToGraph_ids]; exact List.nodup_range' 1 (by omega))
  rwa [LGraph.relabel_id] at this

/-- **C10, `use_index_as_atom_map=True` renumbers the default graph**: node `idx + 1` becomes the
atom's map number when that is non-zero (`aamMap`), provided no two atoms get the same id (the
model answers `collision` otherwise: NetworkX would merge the atoms). -/
theorem molToGraphOpt_useIdx (M : Mol) (h : M.WF) (hnd : ((molToGraph M).ids.map (aamMap M)).Nodup) :
    molToGraphOpt true false M = .ok ((molToGraph M).relabel (aamMap M)) := by
  refine molToGraphOpt_relabel true M h (aamMap M) ?_ hnd
  intro p hp
  obtain ⟨_, h2, h3⟩ := List.mem_zipIdx hp
  simp only [Nat.zero_add, Nat.sub_zero] at h2 h3
  simp [aamMap, atomId, List.getElem?_eq_getElem h2, h3]

/-- **C10, `drop_non_aam=True` gives the induced subgraph on the mapped atoms.**  Whenever
`use_index_as_atom_map=True` alone succeeds with graph `G`, adding `drop_non_aam=True` returns
`dropUnmapped G`: the nodes of `G` whose `atom_map` is non-zero, in the same order with the same
attribute dicts (`neighbors` still names dropped neighbours), and exactly the edges of `G` both of
whose ends are kept.  Without `use_index_as_atom_map` the call raises (`molToGraphOpt_valueError`). -/
theorem molToGraphOpt_drop (M : Mol) (G : LGraph) (h : molToGraphOpt true false M = .ok G) :
    molToGraphOpt true true M = .ok (dropUnmapped G) := by
  rw [molToGraphOpt_eq true false M rfl, kept_false] at h
  split at h
  · rename_i hnd
    rw [← Except.ok.inj h, molToGraphOpt_eq true true M rfl, kept_true,
      if_pos (hnd.sublist (List.Sublist.map _ List.filter_sublist)),
      graphOf_filter M _ (by rw [keptBase_idx]; exact List.nodup_range) hnd]
  · cases h

/-- Non-vacuity: `[CH3:7][OH:5]` next to an unmapped water: the table is well-formed, the default ids
are 1, 2, 3; with `use_index_as_atom_map` they are 7, 5 and (unmapped, index 2) 3 — no collision;
`drop_non_aam` keeps the two mapped atoms and their bond. -/
example :
    let M : Mol := ⟨[⟨"C", 0, 7, 3, false⟩, ⟨"O", 0, 5, 1, false⟩, ⟨"O", 0, 0, 2, false⟩], [⟨0, 1, 2⟩]⟩
    M.WF ∧ ((molToGraph M).ids.map (aamMap M)).Nodup ∧ (molToGraph M).ids = [1, 2, 3] ∧
    (match molToGraphOpt true false M with | .ok G => G.ids | .error _ => []) = [7, 5, 3] ∧
    (match molToGraphOpt true true M with | .ok G => (G.ids, G.edges.map fun e => (e.1, e.2.1)) | .error _ => ([], [])) =
      ([7, 5], [(7, 5)]) := by
  decide +kernel

/-- **C10, `h_to_explicit(G, nodes)` in closed form.**  The loop over an arbitrary node list equals
the explicit graph `form G L`: `L` (`expanded G ns`) lists the atoms that are really expanded — the
nodes of `G` with a positive count, each once, in the order of their first visit — their `hcount`
goes to zero (and `typesGH` is adjusted when present), and one block of consecutive fresh hydrogen
ids per atom of `L` is appended after the old nodes (edges likewise). -/
theorem hToExplicitG_closed_form (G : LGraph) (hn : G.ids.Nodup) (ns : List Nat) :
    hToExplicitG G ns false = form G (expanded G ns) ∧ (expanded G ns).Nodup ∧
    ∀ v ∈ expanded G ns, v ∈ G.ids ∧ hcnt (G.attrs v) > 0 :=
  ⟨hToExplicitG_eq_form G hn ns, expanded_inv G ns⟩

/-- **C10, `h_to_explicit(G, nodes=all)` is the default model.**  With `nodes=None` (`[]`) or the
list of all ids, and no `typesGH` on an atom with a positive count (`explicitDomain`, the domain of
the default model `hToExplicit`, which does not model the adjustment), the option model returns
*the same graph* as `hToExplicit`: same node list, same edge list. -/
theorem hToExplicitG_all (G : LGraph) (hn : G.ids.Nodup) (hd : explicitDomain G = true) :
    hToExplicitG G [] false = hToExplicit G ∧ hToExplicitG G G.ids false = hToExplicit G := by
  obtain ⟨h1, h2⟩ := expanded_all G hn
  exact ⟨by rw [hToExplicitG_eq_form G hn, h1, form_all G hn hd],
    by rw [hToExplicitG_eq_form G hn, h2, form_all G hn hd]⟩

/-- **C10, hydrogens: round trip for a node list** (second clause of `C10.FullStatement` for the
node-list option; the node-list version of `hToImplicit_hToExplicit`).  Under the guard of that
theorem (`NoHeavyBoundH`: no explicit hydrogen bonded to a heavy atom, no count on a hydrogen), on
a well-formed typed graph none of whose atoms with a positive count carries `typesGH`
(`explicitDomain`: `h_to_implicit` does not undo the `typesGH` adjustment, see the example below),
expanding **any** node list and folding back gives *the same graph*. -/
theorem hToExplicitG_restores (G : LGraph) (hwf : G.WF) (ht : HTyped G) (hg : NoHeavyBoundH G)
    (hd : explicitDomain G = true) (ns : List Nat) : hToImplicit (hToExplicitG G ns false) = G := by
  rw [hToExplicitG_eq_form G hwf.1 ns, form_eq_explicitOn G hd]
  exact hToImplicit_explicitOn G hwf ht hg _ (expanded_inv G ns).1 fun v hv => ((expanded_inv G ns).2 v hv).1

/-- **C10, hydrogens: count, `h_to_explicit(G, nodes, its)`** (third clause of `C10.FullStatement` for
the node-list option).  For a graph with distinct node ids (the first component of `LGraph.WF`; a
NetworkX graph always has them) and **any** node list `ns` — ids that are not nodes of `G`, repeated
ids, ids of hydrogens the call itself has just created are all allowed; `[]` stands for `None` — and
both values of `its`, the expansion keeps the number of hydrogens of the molecule.  No typing guard
(`HTyped`) and no guard on `typesGH` (`typesDomain` / `explicitDomain`) is needed: the `typesGH`
adjustment does not touch `hcount` or `element`, and `its=True` only rewrites edge attributes. -/
theorem hToExplicitG_totalH (G : LGraph) (hn : G.ids.Nodup) (ns : List Nat) (its : Bool) :
    totalH (hToExplicitG G ns its) = totalH G := by
  have hf : totalH (hToExplicitG G ns false) = totalH G := by
    rw [hToExplicitG_eq_form G hn ns]
    exact totalH_form G hn _ (expanded_inv G ns).1 fun v hv => ((expanded_inv G ns).2 v hv).1
  cases its with
  | false => exact hf
  | true => exact (totalH_normEdges _ _).trans hf

/-- Non-vacuity for `hToExplicitG_totalH` / `_closed_form` / `_all` / `_restores`: CH₃–OH next to H₂,
node list `[2, 9, 2, 8, 5]` (an absent id, a repeated id, the id of a hydrogen created for node 2, a
hydrogen of `G`): every hypothesis holds, only the oxygen is expanded (one new node, id 8), the
total is 6 before and after, folding back restores `G`; with all ids both atoms are expanded. -/
example :
    let G : LGraph := { nodes := [(1, [("element", .str "C"), ("hcount", .num 6)]),
                                  (2, [("element", .str "O"), ("hcount", .num 2)]),
                                  (5, [("element", .str "H"), ("hcount", .num 0)]),
                                  (7, [("element", .str "H"), ("hcount", .num 0)])],
                        edges := [(1, 2, [("order", .num 2)]), (5, 7, [("order", .num 2)])] }
    G.WF ∧ HTyped G ∧ NoHeavyBoundH G ∧ explicitDomain G = true ∧ typesDomain G = true ∧
    expanded G [2, 9, 2, 8, 5] = [2] ∧ (hToExplicitG G [2, 9, 2, 8, 5] false).ids = [1, 2, 5, 7, 8] ∧
    totalH G = 6 ∧ totalH (hToExplicitG G [2, 9, 2, 8, 5] true) = 6 ∧
    hToImplicit (hToExplicitG G [2, 9, 2, 8, 5] false) = G ∧
    (hToExplicitG G G.ids false).ids = [1, 2, 5, 7, 8, 9, 10, 11] ∧ hToExplicitG G [] false = hToExplicit G := by
  decide +kernel

/-- `explicitDomain` cannot be dropped from `hToExplicitG_restores`: on an ITS node the expansion
also decrements the hydrogen count inside `typesGH`, which `h_to_implicit` does not put back. -/
example :
    let G : LGraph := { nodes := [(1, [("element", .str "O"), ("hcount", .num 2),
                                       ("typesGH", .tup [.tup [.str "O", .bool false, .num 2, .num 0, .tup []],
                                                         .tup [.str "O", .bool false, .num 2, .num 0, .tup []]])])],
                        edges := [] }
    G.WF ∧ HTyped G ∧ NoHeavyBoundH G ∧ typesDomain G = true ∧ explicitDomain G = false ∧
    hToImplicit (hToExplicitG G [1] false) ≠ G ∧ totalH (hToExplicitG G [1] false) = totalH G := by
  decide +kernel

/-- **C10, `implicit_hydrogen(reindex=True)` is `implicit_hydrogen` renumbered.**  For a well-formed
graph and every `preserve` list, with `h = implicitHydrogen G K`:
* the new ids are `1..n` in the node order of `h`;
* the renumbering `reindexMap h` (`v ↦ position of v in h + 1`) is injective on the nodes of `h`;
* `implicitHydrogenReindex G K` is `h` relabelled along it, up to the `atom_map` attribute: the
  listed mapping is a label-preserving isomorphism (`Match.IsIso`) for every selection of node /
  edge attributes that does not compare `atom_map` (with or without the hydrogen-count rule);
* every node carries its own new id as `atom_map`. -/
theorem implicitHydrogenReindex_relabel (G : LGraph) (K : List Nat) (hwf : G.WF) :
    (implicitHydrogenReindex G K).ids = List.range' 1 (implicitHydrogen G K).nodes.length ∧
    Match.InjOnIds (implicitHydrogen G K) (reindexMap (implicitHydrogen G K)) ∧
    (∀ sel : Match.Sel, "atom_map" ∉ sel.nodeKeys →
      Match.IsIso sel (implicitHydrogenReindex G K) (implicitHydrogen G K)
        ((implicitHydrogen G K).ids.map fun v => (v, reindexMap (implicitHydrogen G K) v))) ∧
    (∀ p ∈ (implicitHydrogenReindex G K).nodes, atomMapOf p.2 = some p.1) :=
  ⟨implicitHydrogenReindex_ids G K (ImplH.implicitH_ids_nodup G hwf.1 K), reindexMap_injOn _,
    fun sel hk => implicitHydrogenReindex_iso G K hwf sel hk, implicitHydrogenReindex_atomMap G K⟩

/-- **C10, hydrogens: count, `implicit_hydrogen(reindex=True)`.**  Under the guard of
`totalH_implicitHydrogen` (`HValence`) the re-indexed result has as many hydrogens as `G`; without
any guard it has as many as `implicit_hydrogen(reindex=False)`. -/
theorem totalH_implicitHydrogenReindex (G : LGraph) (K : List Nat) :
    totalH (implicitHydrogenReindex G K) = totalH (implicitHydrogen G K) ∧
    (G.WF → HValence G → totalH (implicitHydrogenReindex G K) = totalH G) :=
  ⟨totalH_implicitHydrogenReindex' G K, fun hwf hv => by
    rw [totalH_implicitHydrogenReindex' G K, Repr.totalH_implicitHydrogen G K hwf hv]⟩

/-- Non-vacuity: CH₃–H with the fourth hydrogen explicit next to H₂ (ids 4, 9, 6, 7), nothing
preserved: node 9 is folded in, the survivors 4, 6, 7 become 1, 2, 3 with `atom_map` = new id, the
H–H bond follows, the count is 6 before and after. -/
example :
    let G : LGraph := { nodes := [(4, [("element", .str "C"), ("hcount", .num 6), ("atom_map", .num 2)]),
                                  (9, [("element", .str "H"), ("hcount", .num 0), ("atom_map", .num 10)]),
                                  (6, [("element", .str "H"), ("hcount", .num 0), ("atom_map", .num 12)]),
                                  (7, [("element", .str "H"), ("hcount", .num 0), ("atom_map", .num 14)])],
                        edges := [(4, 9, [("order", .num 2)]), (6, 7, [("order", .num 2)])] }
    G.WF ∧ HValence G ∧ (implicitHydrogen G []).ids = [4, 6, 7] ∧ (implicitHydrogenReindex G []).ids = [1, 2, 3] ∧
    (implicitHydrogenReindex G []).edges.map (fun e => (e.1, e.2.1)) = [(2, 3)] ∧
    (implicitHydrogenReindex G []).nodes.map (fun p => atomMapOf p.2) = [some 1, some 2, some 3] ∧
    totalH G = 6 ∧ totalH (implicitHydrogenReindex G []) = 6 := by
  decide +kernel

/-- **C10, GML export with `explicit_hydrogen=False` is the default export**, for `its_to_gml` and
for `smart_to_gml`: every theorem about `itsToGml` / `smartToGml` is a theorem about the option
model with the flag off. -/
theorem itsToGmlX_false (core reindex : Bool) (I r p : LGraph) :
    itsToGmlX core reindex false I = itsToGml core reindex I ∧
    smartToGmlX core reindex false r p = smartToGml core reindex r p :=
  ⟨itsToGmlX_false' core reindex I, smartToGmlX_false' core reindex r p⟩

/-- **C10, ITS → GML (`explicit_hydrogen=True`) → ITS — partial: ids kept** (sixth clause of
`C10.FullStatement` for the explicit-hydrogen export; what correspondence stream (c2) gates).  Let
`I'` be the exported graph (the centre for `core=True`), of the shape `ITSGraph` / `get_rc` produce
(`ItsShape`) and with `standard_order == 0` only on bonds whose order does not change
(`StdConsistent`: `ITSGraph` sets `standard_order = before − after`; the writer decides by
`standard_order` which bonds go into the context section, so a graph lying about it is re-imported
with the wrong "after" order).  Then for the rule written with `reindex=False`,
`explicit_hydrogen=True` and read back by `gml_to_its`:
* its atoms are those of `I'` and the hydrogens `addedH I'` that `h_to_explicit` created
  (consecutive new ids above the largest id);
* on the atoms of `I'` it is `I'`: same (element, charge) before and after on every atom, same
  (before, after) order pair on every pair of atoms — i.e. exactly what the default round trip
  (`gml_roundtrip`) gives;
* every other atom is a hydrogen (`H`, charge 0 on both sides) that is not an atom of `I'`, hangs on
  one atom of `I'` by a (1, 1) bond and has no other bond;
* every atom of `I'` gets as many of them as its `hcount` says;
* (both values of `reindex`) the `left` and `right` sections are those of the default export.

Missing here: the re-import for `reindex=True` — proved in `itsToGmlX_roundtrip_reindex`; the two
together are `itsToGmlX_roundtrip` (the writer renumbers the atoms `1..n` first and expands the
renumbered graph, so that case is this theorem for the renumbered ITS). -/
theorem itsToGmlX_roundtrip_partial (I : LGraph) (core : Bool) (hs : ItsShape (if core then getRc I else I))
    (hc : StdConsistent (if core then getRc I else I)) :
    (∀ n, n ∈ (gmlToIts (itsToGmlX core false true I)).ids ↔
      n ∈ (if core then getRc I else I).ids ∨ ∃ q ∈ addedH (if core then getRc I else I), n = q.1) ∧
    (∀ n ∈ (if core then getRc I else I).ids,
      nodeView (gmlToIts (itsToGmlX core false true I)) n = nodeView (if core then getRc I else I) n ∧
      nodeView (gmlToIts (itsToGmlX core false true I)) n = nodeView (gmlToIts (itsToGml core false I)) n) ∧
    (∀ u ∈ (if core then getRc I else I).ids, ∀ v ∈ (if core then getRc I else I).ids,
      edgeView (gmlToIts (itsToGmlX core false true I)) u v = edgeView (if core then getRc I else I) u v ∧
      edgeView (gmlToIts (itsToGmlX core false true I)) u v = edgeView (gmlToIts (itsToGml core false I)) u v) ∧
    (∀ q ∈ addedH (if core then getRc I else I),
      q.1 ∉ (if core then getRc I else I).ids ∧ q.2 ∈ (if core then getRc I else I).ids ∧
      nodeView (gmlToIts (itsToGmlX core false true I)) q.1 = .tup [.str "H", .num 0, .str "H", .num 0] ∧
      edgeView (gmlToIts (itsToGmlX core false true I)) q.2 q.1 = some (.tup [.num 2, .num 2]) ∧
      ∀ u, u ≠ q.2 → edgeView (gmlToIts (itsToGmlX core false true I)) u q.1 = none) ∧
    (∀ v ∈ (if core then getRc I else I).ids,
      ((addedH (if core then getRc I else I)).map (·.2)).count v = (hcnt ((if core then getRc I else I).attrs v)).toNat) ∧
    (∀ ri, (itsToGmlX core ri true I).left = (itsToGml core ri I).left ∧
      (itsToGmlX core ri true I).right = (itsToGml core ri I).right) := by
  simp only [itsToGmlX_exported core, itsToGml_exported core]
  generalize (if core then getRc I else I) = J at hs hc ⊢
  obtain ⟨a, b, c, d, e⟩ := roundtripX_relabel J hs hc id fun _ _ _ _ h => h
  simp only [LGraph.relabel_id', List.map_id, id_eq] at a b c d e
  exact ⟨a, b, c, d, e, fun ri => itsToGmlX_sides false ri J⟩

/-- Non-vacuity for `itsToGmlX_roundtrip_partial`: the two-atom centre of the `gml_roundtrip` example
(C–O bond formed, O loses its charge) with three hydrogens on C and one on O: shape and
`standard_order` consistency hold, four hydrogens are added (ids 3..6; three on atom 1, one on
atom 2), they appear as context nodes and context edges of the written rule, and the re-imported
rule has the six atoms. -/
example :
    let I : LGraph :=
      { nodes := [(1, [("element", .str "C"), ("charge", .num 0), ("hcount", .num 6),
                       ("typesGH", .tup [.tup [.str "C", .bool false, .num 6, .num 0, .tup []],
                                         .tup [.str "C", .bool false, .num 6, .num 0, .tup []]])]),
                  (2, [("element", .str "O"), ("charge", .num (-2)), ("hcount", .num 2),
                       ("typesGH", .tup [.tup [.str "O", .bool false, .num 2, .num (-2), .tup []],
                                         .tup [.str "O", .bool false, .num 2, .num 0, .tup []]])])],
        edges := [(1, 2, [("order", .tup [.num 0, .num 2]), ("standard_order", .num (-2))])] }
    ItsShape I ∧ StdConsistent I ∧ typesDomain I = true ∧ addedH I = [(3, 1), (4, 1), (5, 1), (6, 2)] ∧
    (itsToGmlX false false true I).context =
      [.node 1 ['C'], .node 3 ['H'], .node 4 ['H'], .node 5 ['H'], .node 6 ['H'],
       .edge 1 3 ['-'], .edge 1 4 ['-'], .edge 1 5 ['-'], .edge 2 6 ['-']] ∧
    (gmlToIts (itsToGmlX false false true I)).ids = [2, 1, 3, 4, 5, 6] ∧
    edgeView (gmlToIts (itsToGmlX false false true I)) 1 2 = some (.tup [.num 0, .num 2]) ∧
    edgeView (gmlToIts (itsToGmlX false false true I)) 2 6 = some (.tup [.num 2, .num 2]) := by
  decide +kernel

/-- `StdConsistent` cannot be dropped: a bond that breaks, (1, 0), but claims `standard_order = 0` is
written into the context section and comes back as (1, 1). -/
example :
    let I : LGraph :=
      { nodes := [(1, [("element", .str "C"), ("charge", .num 0),
                       ("typesGH", .tup [.tup [.str "C", .bool false, .num 0, .num 0, .tup []],
                                         .tup [.str "C", .bool false, .num 0, .num 0, .tup []]])]),
                  (2, [("element", .str "O"), ("charge", .num 0),
                       ("typesGH", .tup [.tup [.str "O", .bool false, .num 0, .num 0, .tup []],
                                         .tup [.str "O", .bool false, .num 0, .num 0, .tup []]])])],
        edges := [(1, 2, [("order", .tup [.num 2, .num 0]), ("standard_order", .num 0)])] }
    ItsShape I ∧ ¬ StdConsistent I ∧ edgeView I 1 2 = some (.tup [.num 2, .num 0]) ∧
    edgeView (gmlToIts (itsToGml false false I)) 1 2 = some (.tup [.num 2, .num 0]) ∧
    edgeView (gmlToIts (itsToGmlX false false true I)) 1 2 = some (.tup [.num 2, .num 2]) := by
  decide +kernel

/-- **C10, ITS → GML (`explicit_hydrogen=True`) → ITS: the statement**, for both values of `reindex`.
`I'` is the exported graph (the centre for `core=True`), `f = renum ri I'` the renumbering the writer
applies to its atoms (`reindex=False`: none; `reindex=True`: `indexMap (side 0 I')`, position in the
node list + 1 — the map of `itsToGml_reindex` / `gml_roundtrip_reindexed`), `J = renumG ri I'` the
renumbered graph (`I'` itself for `reindex=False`) and `addedH J` the (new id, parent) pairs
`h_to_explicit` creates on it — the writer renumbers first and expands afterwards, so the new
hydrogens are numbered from the largest renumbered id + 1 and their parents are renumbered atoms.
For the rule written with `explicit_hydrogen=True` and read back by `gml_to_its`:
* its atoms are the renumbered atoms of `I'` and the new hydrogens;
* on the renumbered atoms it is `I'` — same (element, charge) before/after, same (before, after)
  order pair on every pair of atoms — and it is what the default round trip with the same `reindex`
  gives there;
* every new hydrogen is not one of the renumbered atoms, is `H`/0 on both sides, hangs on its parent
  (a renumbered atom) by a (1, 1) bond and has no other bond;
* every atom `v` of `I'` gets `hcount` of them (on `f v`);
* the `left` / `right` sections are those of the default export. -/
def ItsToGmlXRoundtrip (core ri : Bool) (I : LGraph) : Prop :=
  (∀ n, n ∈ (gmlToIts (itsToGmlX core ri true I)).ids ↔
    n ∈ (if core then getRc I else I).ids.map (renum ri (if core then getRc I else I)) ∨
    ∃ q ∈ addedH (renumG ri (if core then getRc I else I)), n = q.1) ∧
  (∀ n ∈ (if core then getRc I else I).ids,
    nodeView (gmlToIts (itsToGmlX core ri true I)) (renum ri (if core then getRc I else I) n) =
      nodeView (if core then getRc I else I) n ∧
    nodeView (gmlToIts (itsToGmlX core ri true I)) (renum ri (if core then getRc I else I) n) =
      nodeView (gmlToIts (itsToGml core ri I)) (renum ri (if core then getRc I else I) n)) ∧
  (∀ u ∈ (if core then getRc I else I).ids, ∀ v ∈ (if core then getRc I else I).ids,
    edgeView (gmlToIts (itsToGmlX core ri true I)) (renum ri (if core then getRc I else I) u)
        (renum ri (if core then getRc I else I) v) = edgeView (if core then getRc I else I) u v ∧
    edgeView (gmlToIts (itsToGmlX core ri true I)) (renum ri (if core then getRc I else I) u)
        (renum ri (if core then getRc I else I) v) =
      edgeView (gmlToIts (itsToGml core ri I)) (renum ri (if core then getRc I else I) u)
        (renum ri (if core then getRc I else I) v)) ∧
  (∀ q ∈ addedH (renumG ri (if core then getRc I else I)),
    q.1 ∉ (if core then getRc I else I).ids.map (renum ri (if core then getRc I else I)) ∧
    q.2 ∈ (if core then getRc I else I).ids.map (renum ri (if core then getRc I else I)) ∧
    nodeView (gmlToIts (itsToGmlX core ri true I)) q.1 = .tup [.str "H", .num 0, .str "H", .num 0] ∧
    edgeView (gmlToIts (itsToGmlX core ri true I)) q.2 q.1 = some (.tup [.num 2, .num 2]) ∧
    ∀ u, u ≠ q.2 → edgeView (gmlToIts (itsToGmlX core ri true I)) u q.1 = none) ∧
  (∀ v ∈ (if core then getRc I else I).ids,
    ((addedH (renumG ri (if core then getRc I else I))).map (·.2)).count (renum ri (if core then getRc I else I) v) =
      (hcnt ((if core then getRc I else I).attrs v)).toNat) ∧
  ((itsToGmlX core ri true I).left = (itsToGml core ri I).left ∧
    (itsToGmlX core ri true I).right = (itsToGml core ri I).right)

/-- **C10, ITS → GML (`explicit_hydrogen=True`, `reindex=True`) → ITS** — the case left out of
`itsToGmlX_roundtrip_partial`.  With `reindex=True` the writer renumbers the
atoms of `I'` `1..n` and then lets `h_to_explicit` expand the renumbered context graph, so the rule
is the `reindex=False` export of the renumbered ITS (`itsToGmlX_reindex`) and the new hydrogens get
the ids `n+1, …`: the two id ranges cannot meet.  The re-imported rule satisfies
`ItsToGmlXRoundtrip` with `ri = true`: the statement of the partial theorem for the renumbered graph,
read through the renumbering `indexMap (side 0 I')`.  (Before the repair of F44 SynKit added the
hydrogens first, numbered from the original largest id, and the two ranges could meet: the example
with atom ids 0, 1 below.) -/
theorem itsToGmlX_roundtrip_reindex (I : LGraph) (core : Bool) (hs : ItsShape (if core then getRc I else I))
    (hc : StdConsistent (if core then getRc I else I)) :
    ItsToGmlXRoundtrip core true I := by
  unfold ItsToGmlXRoundtrip
  rw [itsToGmlX_exported, itsToGml_exported]
  generalize (if core then getRc I else I) = J at hs hc ⊢
  rw [itsToGmlX_reindex J hs, itsToGml_reindex J hs]
  obtain ⟨a, b, c, d, e⟩ := roundtripX_relabel J hs hc _ (injOn_indexMap J hs)
  exact ⟨a, b, c, d, e, itsToGmlX_sides false false _⟩

/-- **C10, ITS → GML (`explicit_hydrogen=True`) → ITS, both values of `reindex`** (sixth and seventh
clause of `C10.FullStatement` for the explicit-hydrogen export): `itsToGmlX_roundtrip_partial`
(`reindex=False`) and `itsToGmlX_roundtrip_reindex` (`reindex=True`) in one statement, under the
shape hypotheses only. -/
theorem itsToGmlX_roundtrip (I : LGraph) (core ri : Bool) (hs : ItsShape (if core then getRc I else I))
    (hc : StdConsistent (if core then getRc I else I)) :
    ItsToGmlXRoundtrip core ri I := by
  cases ri with
  | true => exact itsToGmlX_roundtrip_reindex I core hs hc
  | false =>
    obtain ⟨a, b, c, d, e, g⟩ := itsToGmlX_roundtrip_partial I core hs hc
    unfold ItsToGmlXRoundtrip
    simp only [renum_false, renumG_false, List.map_id, id_eq]
    exact ⟨a, b, c, d, e, g false⟩

/-- Non-vacuity for `itsToGmlX_roundtrip_reindex` / `itsToGmlX_roundtrip` with `reindex = true`: atoms
5, 9, 12 (not `1..n`; C–O bond formed, O loses its charge, an unchanged O–N bond), three hydrogens
on atom 5, one on atom 9.  The hypotheses hold; the atoms become 1, 2, 3 and the hydrogens get the
ids 4..7 (counted from 3), hanging on the renumbered parents 1 and 2; the re-imported rule has the
seven atoms, the changed bond between the renumbered atoms and the hydrogen bonds. -/
example :
    let I : LGraph :=
      { nodes := [(5, [("element", .str "C"), ("charge", .num 0), ("hcount", .num 6),
                       ("typesGH", .tup [.tup [.str "C", .bool false, .num 6, .num 0, .tup []],
                                         .tup [.str "C", .bool false, .num 6, .num 0, .tup []]])]),
                  (9, [("element", .str "O"), ("charge", .num (-2)), ("hcount", .num 2),
                       ("typesGH", .tup [.tup [.str "O", .bool false, .num 2, .num (-2), .tup []],
                                         .tup [.str "O", .bool false, .num 2, .num 0, .tup []]])]),
                  (12, [("element", .str "N"), ("charge", .num 0), ("hcount", .num 0),
                       ("typesGH", .tup [.tup [.str "N", .bool false, .num 0, .num 0, .tup []],
                                         .tup [.str "N", .bool false, .num 0, .num 0, .tup []]])])],
        edges := [(5, 9, [("order", .tup [.num 0, .num 2]), ("standard_order", .num (-2))]),
                  (9, 12, [("order", .tup [.num 2, .num 2]), ("standard_order", .num 0)])] }
    ItsShape I ∧ StdConsistent I ∧ addedH (renumG true I) = [(4, 1), (5, 1), (6, 1), (7, 2)] ∧
    I.ids.map (renum true I) = [1, 2, 3] ∧
    (itsToGmlX false true true I).context =
      [.node 1 ['C'], .node 3 ['N'], .node 4 ['H'], .node 5 ['H'], .node 6 ['H'], .node 7 ['H'],
       .edge 2 3 ['-'], .edge 1 4 ['-'], .edge 1 5 ['-'], .edge 1 6 ['-'], .edge 2 7 ['-']] ∧
    (gmlToIts (itsToGmlX false true true I)).ids = [2, 3, 1, 4, 5, 6, 7] ∧
    edgeView (gmlToIts (itsToGmlX false true true I)) 1 2 = some (.tup [.num 0, .num 2]) ∧
    edgeView (gmlToIts (itsToGmlX false true true I)) 2 3 = some (.tup [.num 2, .num 2]) ∧
    edgeView (gmlToIts (itsToGmlX false true true I)) 2 7 = some (.tup [.num 2, .num 2]) := by
  decide +kernel

/-- The input of finding F44 round-trips: the two-atom centre numbered 0, 1 with one
hydrogen on each atom.  `reindex=True` renumbers the atoms 0 ↦ 1, 1 ↦ 2 and `h_to_explicit` then gives
the hydrogens the ids 3, 4 (before the repair: 2, 3, computed from the original ids, so hydrogen 2
and the renumbered oxygen shared an id and the re-imported rule had three atoms and an unchanged
C–O bond).  The re-imported rule has the four atoms, atom 2 is the oxygen, the C–O bond that is
*formed*, (0, 1), comes back as such — as in the default export with `reindex=True` — and each
hydrogen hangs on its parent. -/
example :
    let I : LGraph :=
      { nodes := [(0, [("element", .str "C"), ("charge", .num 0), ("hcount", .num 2),
                       ("typesGH", .tup [.tup [.str "C", .bool false, .num 2, .num 0, .tup []],
                                         .tup [.str "C", .bool false, .num 2, .num 0, .tup []]])]),
                  (1, [("element", .str "O"), ("charge", .num (-2)), ("hcount", .num 2),
                       ("typesGH", .tup [.tup [.str "O", .bool false, .num 2, .num (-2), .tup []],
                                         .tup [.str "O", .bool false, .num 2, .num 0, .tup []]])])],
        edges := [(0, 1, [("order", .tup [.num 0, .num 2]), ("standard_order", .num (-2))])] }
    ItsShape I ∧ StdConsistent I ∧ addedH I = [(2, 0), (3, 1)] ∧ addedH (renumG true I) = [(3, 1), (4, 2)] ∧
    I.ids.map (renum true I) = [1, 2] ∧
    (gmlToIts (itsToGmlX false true true I)).ids = [2, 1, 3, 4] ∧
    nodeView (gmlToIts (itsToGmlX false true true I)) 2 = .tup [.str "O", .num (-2), .str "O", .num 0] ∧
    (itsToGmlX false true true I).context = [.node 1 ['C'], .node 3 ['H'], .node 4 ['H'], .edge 1 3 ['-'], .edge 2 4 ['-']] ∧
    edgeView I 0 1 = some (.tup [.num 0, .num 2]) ∧
    edgeView (gmlToIts (itsToGml false true I)) 1 2 = some (.tup [.num 0, .num 2]) ∧
    edgeView (gmlToIts (itsToGmlX false true true I)) 1 2 = some (.tup [.num 0, .num 2]) ∧
    edgeView (gmlToIts (itsToGmlX false true true I)) 1 3 = some (.tup [.num 2, .num 2]) ∧
    edgeView (gmlToIts (itsToGmlX false true true I)) 2 4 = some (.tup [.num 2, .num 2]) := by
  decide +kernel

end ReprOpt

open SynKit.Repr SynKit.Gml in
/-- The first nine conjuncts of `C10.FullStatement`. -/
theorem C10.clauses_1_to_9 :
    (∀ M : Mol, M.WF → graphToMol (molToGraph M) = .ok M.out) ∧
    (∀ G : LGraph, G.WF → HTyped G → NoHeavyBoundH G → hToImplicit (hToExplicit G) = G) ∧
    (∀ G : LGraph, totalH (hToExplicit G) = totalH G) ∧
    (∀ G : LGraph, G.WF → HTyped G → HValence G → totalH (hToImplicit G) = totalH G) ∧
    (∀ e c, alpha e → parseLabel (render e c) = (e, c)) ∧
    (∀ (I : LGraph) (core : Bool), ItsShape (if core then getRc I else I) →
        RuleEq (gmlToIts (itsToGml core false I)) (if core then getRc I else I)) ∧
    (∀ (I : LGraph) (core : Bool), ItsShape (if core then getRc I else I) →
        ∃ m, Match.IsIso ⟨["v"], ["o"], false⟩ (viewGraph (if core then getRc I else I))
          (viewGraph (gmlToIts (itsToGml core true I))) m) ∧
    (∀ (r p : LGraph) (ri : Bool), smartToGml true ri r p = itsToGml true ri (construct r p)) ∧
    (∀ (I : LGraph) (ri : Bool), itsToGml true ri (getRc I) = itsToGml true ri I) :=
  ⟨Repr.graphToMol_molToGraph, Repr.hToImplicit_hToExplicit, Repr.totalH_hToExplicit, Repr.totalH_hToImplicit,
    fun e c he => Gml.label_roundtrip e c he, Gml.gml_roundtrip, Gml.gml_roundtrip_reindexed,
    Gml.gml_two_ways_core, Gml.gml_two_ways_centre⟩

open SynKit.Gml in
/-- The last conjunct of `C10.FullStatement` is false as written: the reactant C–O with a single
bond and the product C–O whose bond carries no `order` attribute satisfy its hypotheses (their ITS
has the required shape because `ITSGraph` reads the missing order as 0), but `smart_to_gml` writes
the product bond with the writer's default label `-` (order 1) whereas the ITS route drops it, so
the re-imported rules have order pairs (1, 1) and (1, 0) on that bond.  `rsmi_to_graph` never
produces such a bond; `gml_two_ways_full` assumes `MolShape` for that reason. -/
theorem C10.last_clause_needs_molShape :
    ¬ (∀ (r p : LGraph) (ri : Bool), ItsShape (construct r p) → r.ids = p.ids →
        ∃ m, Match.IsIso ⟨["v"], ["o"], false⟩ (viewGraph (gmlToIts (smartToGml false ri r p)))
          (viewGraph (gmlToIts (itsToGml false ri (construct r p)))) m) := by
  intro hall
  let r : LGraph := { nodes := [(1, [("element", .str "C"), ("charge", .num 0)]), (2, [("element", .str "O"), ("charge", .num 0)])],
                      edges := [(1, 2, [("order", .num 2)])] }
  let p : LGraph := { nodes := [(1, [("element", .str "C"), ("charge", .num 0)]), (2, [("element", .str "O"), ("charge", .num 0)])],
                      edges := [(1, 2, [])] }
  have hH : (viewGraph (gmlToIts (smartToGml false false r p))).edges = [(1, 2, [("o", .tup [.num 2, .num 2])])] := by
    decide +kernel
  have hP : (1, 2, [("o", Val.tup [.num 2, .num 0])]) ∈
      (viewGraph (gmlToIts (itsToGml false false (construct r p)))).edges := by decide +kernel
  obtain ⟨m, ⟨⟨_, _, _, hedge⟩, _⟩, _⟩ := hall r p false (by decide +kernel) (by decide +kernel)
  obtain ⟨hu, hv, ea, _, _, h3, h4⟩ := hedge _ hP
  obtain ⟨e, he, rfl, _⟩ := LGraph.edge?_some_mem h3
  rw [hH] at he
  simp only [List.mem_singleton] at he
  subst he
  revert h4
  decide

open SynKit.Repr SynKit.Gml in
/-- C10 at full strength over the model, with the last clause stated for the graphs
`rsmi_to_graph` delivers. -/
def C10.FullStatementMol : Prop :=
  (∀ M : Mol, M.WF → graphToMol (molToGraph M) = .ok M.out) ∧
  (∀ G : LGraph, G.WF → HTyped G → NoHeavyBoundH G → hToImplicit (hToExplicit G) = G) ∧
  (∀ G : LGraph, totalH (hToExplicit G) = totalH G) ∧
  (∀ G : LGraph, G.WF → HTyped G → HValence G → totalH (hToImplicit G) = totalH G) ∧
  (∀ e c, alpha e → parseLabel (render e c) = (e, c)) ∧
  (∀ (I : LGraph) (core : Bool), ItsShape (if core then getRc I else I) →
      RuleEq (gmlToIts (itsToGml core false I)) (if core then getRc I else I)) ∧
  (∀ (I : LGraph) (core : Bool), ItsShape (if core then getRc I else I) →
      ∃ m, Match.IsIso ⟨["v"], ["o"], false⟩ (viewGraph (if core then getRc I else I))
        (viewGraph (gmlToIts (itsToGml core true I))) m) ∧
  (∀ (r p : LGraph) (ri : Bool), smartToGml true ri r p = itsToGml true ri (construct r p)) ∧
  (∀ (I : LGraph) (ri : Bool), itsToGml true ri (getRc I) = itsToGml true ri I) ∧
  (∀ (r p : LGraph) (ri : Bool), MolShape r → MolShape p → r.ids = p.ids → ItsShape (construct r p) →
      ∃ m, Match.IsIso ⟨["v"], ["o"], false⟩ (viewGraph (gmlToIts (smartToGml false ri r p)))
        (viewGraph (gmlToIts (itsToGml false ri (construct r p)))) m)

/-- **C10, every clause.** -/
theorem C10.fullStatementMol : C10.FullStatementMol := by
  obtain ⟨h1, h2, h3, h4, h5, h6, h7, h8, h9⟩ := C10.clauses_1_to_9
  exact ⟨h1, h2, h3, h4, h5, h6, h7, h8, h9, Gml.gml_two_ways_full⟩

end SynKit
