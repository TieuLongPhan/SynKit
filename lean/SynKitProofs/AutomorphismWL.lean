import SynKitProofs.AutomorphismGroup
import SynKitProofs.AutomorphismLemmas
/-! The WL-1 colour refinement is invariant under automorphisms at every round (C11): the palette loop numbers
labels by equivalence class (`assign_color_eq_iff`), and an automorphism carries a node's label to an equivalent one
(`colorsAt_inv`), so it keeps every node inside its estimated class (`estOrbits_inv`). -/
namespace SynKit.Aut
open SynKit.Match

theorem assign_keys {L : Type} (eqv : L → L → Bool) (items : List (Nat × L)) (pal : List L) :
    (assign eqv items pal).map (·.1) = items.map (·.1) := by
  fun_induction assign eqv items pal with
  | case1 => rfl
  | case2 _ _ _ _ _ _ ih => exact congrArg (_ :: ·) ih
  | case3 _ _ _ _ _ ih => exact congrArg (_ :: ·) ih

theorem colorOf_of_mem {col : Colors} (hn : (col.map (·.1)).Nodup) {v c : Nat} (h : (v, c) ∈ col) :
    colorOf col v = c :=
  mapFn_of_mem col hn v c h

/-- The palette loop in closed form over the final palette `pal ++ t`; that the palette labels are pairwise inequivalent
is not needed. -/
theorem assign_spec {L : Type} {eqv : L → L → Bool} (hrefl : ∀ a, eqv a a = true) (items : List (Nat × L))
    (pal : List L) :
    ∃ t, assign eqv items pal = items.map (fun it => (it.1, (pal ++ t).findIdx fun q => eqv q it.2)) ∧
      ∀ it ∈ items, ∃ q ∈ pal ++ t, eqv q it.2 = true := by
  fun_induction assign eqv items pal with
  | case1 pal => exact ⟨[], rfl, nofun⟩
  | case2 v0 l0 rest pal i hf ih =>
    obtain ⟨hi, hidx⟩ := List.findIdx?_eq_some_iff_findIdx_eq.1 hf
    obtain ⟨q, hq, hql⟩ := List.findIdx_lt_length.1 (hidx ▸ hi)
    obtain ⟨t, ht, hall⟩ := ih
    refine ⟨t, ?_, List.forall_mem_cons.2 ⟨⟨q, List.mem_append_left _ hq, hql⟩, hall⟩⟩
    rw [ht, List.map_cons, List.findIdx_append, hidx, if_pos hi]
  | case3 v0 l0 rest pal hf ih =>
    obtain ⟨t, ht, hall⟩ := ih
    rw [List.append_assoc, List.singleton_append] at ht hall
    refine ⟨l0 :: t, ?_, List.forall_mem_cons.2 ⟨⟨l0, by simp, hrefl _⟩, hall⟩⟩
    rw [ht, List.map_cons, List.findIdx_append, List.findIdx_eq_length.2 (List.findIdx?_eq_none_iff.1 hf),
      if_neg (Nat.lt_irrefl _), List.findIdx_cons, hrefl, cond_true, Nat.zero_add]

theorem assign_color_eq_iff {L : Type} {eqv : L → L → Bool} (he : Equivalence fun a b => eqv a b = true)
    {items : List (Nat × L)} (hn : (items.map (·.1)).Nodup) {u v : Nat} {lu lv : L} (hu : (u, lu) ∈ items)
    (hv : (v, lv) ∈ items) :
    colorOf (assign eqv items []) u = colorOf (assign eqv items []) v ↔ eqv lu lv = true := by
  obtain ⟨t, ht, hall⟩ := assign_spec he.refl items []
  have hcol : ∀ {w l}, (w, l) ∈ items → colorOf (assign eqv items []) w = t.findIdx fun q => eqv q l := fun h =>
    colorOf_of_mem (by rw [assign_keys]; exact hn) (ht ▸ List.mem_map_of_mem h)
  rw [hcol hu, hcol hv]
  constructor
  · intro h
    -- the palette label at the common position is equivalent to both
    have hi := List.findIdx_lt_length.2 (hall _ hu)
    exact he.trans (he.symm ((List.findIdx_eq hi).1 rfl).1) ((List.findIdx_eq hi).1 h.symm).1
  · intro h
    congr 1
    funext q
    exact Bool.eq_iff_iff.2 ⟨fun h' => he.trans h' h, fun h' => he.trans h' (he.symm h)⟩

theorem eqvOk_eq {L : Type} [DecidableEq L] : Equivalence fun a b : L => decide (a = b) = true :=
  ⟨by simp, by intro a b h; simp at h; simp [h], by intro a b c h1 h2; simp at h1 h2; simp [h1, h2]⟩

theorem labelEqv_iff {a b : Nat × List (Nat × List Val)} : labelEqv a b = true ↔ a.1 = b.1 ∧ a.2.Perm b.2 := by
  simp only [labelEqv, Bool.and_eq_true, beq_iff_eq, List.isPerm_iff]

theorem eqvOk_label : Equivalence fun a b => labelEqv a b = true :=
  ⟨fun _ => labelEqv_iff.2 ⟨rfl, .refl _⟩,
   fun h => let ⟨h1, h2⟩ := labelEqv_iff.1 h; labelEqv_iff.2 ⟨h1.symm, h2.symm⟩,
   fun h h' => let ⟨h1, h2⟩ := labelEqv_iff.1 h; let ⟨h1', h2'⟩ := labelEqv_iff.1 h'
     labelEqv_iff.2 ⟨h1.trans h1', h2.trans h2'⟩⟩

def ColInv (G : LGraph) (col : Colors) (f : Nat → Nat) : Prop := ∀ v ∈ G.ids, colorOf col (f v) = colorOf col v

theorem colInv_assign {L : Type} {eqv : L → L → Bool} (he : Equivalence fun a b => eqv a b = true) {G : LGraph}
    (hwf : G.WF) {f : Nat → Nat} {lab : Nat → L} (h : ∀ v ∈ G.ids, f v ∈ G.ids ∧ eqv (lab (f v)) (lab v) = true) :
    ColInv G (assign eqv (G.ids.map fun v => (v, lab v)) []) f := fun v hv =>
  (assign_color_eq_iff he (by rw [Core.map_fst_graph]; exact hwf.1) (List.mem_map.2 ⟨_, (h v hv).1, rfl⟩)
    (List.mem_map.2 ⟨v, hv, rfl⟩)).2 (h v hv).2

theorem init_inv (c : EstCfg) {G : LGraph} (hwf : G.WF) {f : Nat → Nat} (hf : IsAutFn c.sel G f) :
    ColInv G (initColors c G) f := by
  refine colInv_assign eqvOk_eq hwf fun v hv => ⟨(hf.node v hv).1, ?_⟩
  simp only [decide_eq_true_eq, initialLabel, Prod.mk.injEq]
  refine ⟨?_, ?_⟩
  · rw [← (hf.neighbors_perm hwf hwf hv).length_eq, List.length_map]
  · apply List.map_congr_left
    intro k hk
    exact (nodeOk_iff rfl _ _).1 (hf.node v hv).2 k hk

theorem sweep_inv (c : EstCfg) {G : LGraph} (hwf : G.WF) {f : Nat → Nat} (hf : IsAutFn c.sel G f)
    {col : Colors} (hc : ColInv G col f) : ColInv G (sweep c G col) f := by
  refine colInv_assign eqvOk_label hwf fun v hv => ⟨(hf.node v hv).1, ?_⟩
  refine labelEqv_iff.2 ⟨hc v hv, ((hf.neighbors_perm hwf hwf hv).symm.map (sigOf c G col (f v))).trans ?_⟩
  rw [List.map_map]
  apply List.Perm.of_eq
  apply List.map_congr_left
  intro w hw
  have hwids := LGraph.neighbors_subset_ids hwf hw
  obtain ⟨a, ha⟩ := Option.isSome_iff_exists.1 (LGraph.mem_neighbors_iff.1 hw)
  obtain ⟨b, hb1, hb2⟩ := hf.edge?_image ha
  simp only [Function.comp, sigOf, Prod.mk.injEq, hb1, ha, Option.getD_some]
  exact ⟨hc w hwids, List.map_congr_left fun k hk => (edgeOk_iff _ _).1 hb2 k hk⟩

theorem colorsAt_inv (c : EstCfg) {G : LGraph} (hwf : G.WF) {f : Nat → Nat} (hf : IsAutFn c.sel G f) :
    ∀ k, ColInv G (colorsAt c G k) f
  | 0 => init_inv c hwf hf
  | k + 1 => sweep_inv c hwf hf (colorsAt_inv c hwf hf k)

theorem refine_eq_colorsAt (c : EstCfg) (G : LGraph) (fuel : Nat) (col : Colors) :
    (∃ i, col = colorsAt c G i) → ∃ j, refine c G fuel col = colorsAt c G j := by
  fun_induction refine c G fuel col with
  | case1 col => exact id
  | case2 k col r hr ih => exact fun ⟨i, e⟩ => ih ⟨i + 1, congrArg (sweep c G) e⟩
  | case3 k col r hr => exact fun ⟨i, e⟩ => ⟨i + 1, congrArg (sweep c G) e⟩

theorem colorsAt_keys (c : EstCfg) (G : LGraph) : ∀ k, (colorsAt c G k).map (·.1) = G.ids
  | 0 => by simp only [colorsAt, initColors]; rw [assign_keys, Core.map_fst_graph]
  | k + 1 => by simp only [colorsAt, sweep]; rw [assign_keys, Core.map_fst_graph]

theorem sameClass_of_color_eq {col : Colors} (hn : (col.map (·.1)).Nodup) {u v : Nat}
    (hu : u ∈ col.map (·.1)) (hv : v ∈ col.map (·.1)) (h : colorOf col u = colorOf col v) :
    SameClass (orbitsOfColors col) u v := by
  obtain ⟨⟨u', cu⟩, hpu, rfl⟩ := List.mem_map.1 hu
  obtain ⟨⟨v', cv⟩, hpv, rfl⟩ := List.mem_map.1 hv
  rw [colorOf_of_mem hn hpu, colorOf_of_mem hn hpv] at h
  subst h
  refine ⟨_, (mem_dedupR _ _).2 (List.mem_map.2 ⟨(u', cu), hpu, rfl⟩), ?_, ?_⟩
  · rw [mem_sortDedup]; exact List.mem_map.2 ⟨(u', cu), List.mem_filter.2 ⟨hpu, by simp⟩, rfl⟩
  · rw [mem_sortDedup]; exact List.mem_map.2 ⟨(v', cu), List.mem_filter.2 ⟨hpv, by simp⟩, rfl⟩

theorem estOrbits_inv (c : EstCfg) {G : LGraph} (hwf : G.WF) {f : Nat → Nat} (hf : IsAutFn c.sel G f) {u : Nat}
    (hu : u ∈ G.ids) : SameClass (estOrbits c G) u (f u) := by
  obtain ⟨j, hj⟩ : ∃ j, finalColors c G = colorsAt c G j := refine_eq_colorsAt c G c.maxIter _ ⟨0, rfl⟩
  have hk := colorsAt_keys c G j
  rw [estOrbits, hj]
  exact sameClass_of_color_eq (hk ▸ hwf.1) (hk ▸ hu) (hk ▸ (hf.node u hu).1) (colorsAt_inv c hwf hf j u hu).symm

end SynKit.Aut
