import SynKitModel.ViewsRaw
import SynKitModel.ViewsClaim
import SynKitProofs.ViewsLemmas.Bip
import SynKitProofs.ViewsClaimBasic
import SynKitProofs.Core.List
/-!
# The raw bipartite importer (`SynKitModel/ViewsRaw.lean`)

The first classification loop in closed form (`classifyTagged_eq`, through the per-node decision `cls`); a graph
whose nodes all carry a usable `kind` is classified by it (`classify_tagged`).
On an exported view, with the default options, the raw importer *is* the importer the round-trip theorems are
about (`ofBipartiteRaw_toRaw`); this is what puts the raw streams of `harness/props/c16.py` under those theorems.
Second part (namespace `Raw`): what the importer reads (`ofBipartiteRaw_congr`, for two graphs given as two readings
of the same index lists); the node and arc conditions of `SynKitModel/ViewsClaim.lean` against a tagged reference
graph give its hypotheses (`ofBipartiteRaw_of_nodeOK`), which is used for `kind` overwritten on an exported view
(`ofBipartiteRaw_setKind`) and for the claim condition on degraded views (`bipRawClaim_core`). Last, the
attribute-name layer (`read_rename`).
-/
namespace SynKit.Views

/-- The node map of `BGraph.toRaw` (there an anonymous function), named. -/
def rawOfBNode (n : BNode) : RNode :=
  { id := n.id, kind := some (match n.kind with | .species => "species" | .reaction => "reaction"),
    spLabel := some n.label, rxLabel := some n.label, edgeId := n.edgeId, mol := n.mol }

theorem toRaw_nodes (g : BGraph) : g.toRaw.nodes = g.nodes.map rawOfBNode := rfl
theorem toRaw_edges (g : BGraph) : g.toRaw.edges = g.edges := rfl

/-- The first loop on one node: `some true` a species, `some false` a reaction, `none` left over (for the
degree heuristic, if nothing at all gets classified). -/
def cls (o : ImpOpts) (n : RNode) : Option Bool :=
  if n.kind = some "species" then some true
  else if n.kind = some "reaction" then some false
  else if n.id.startsWith o.speciesPrefix then some true
  else if n.id.startsWith o.reactionPrefix then some false
  else none

theorem clsStep_eq (o : ImpOpts) (acc : List NodeId × List NodeId) (n : RNode) :
    (if n.kind = some "species" then (acc.1 ++ [n.id], acc.2)
      else if n.kind = some "reaction" then (acc.1, acc.2 ++ [n.id])
      else if n.id.startsWith o.speciesPrefix then (acc.1 ++ [n.id], acc.2)
      else if n.id.startsWith o.reactionPrefix then (acc.1, acc.2 ++ [n.id])
      else acc) =
    (acc.1 ++ (if cls o n = some true then [n.id] else []),
      acc.2 ++ (if cls o n = some false then [n.id] else [])) := by
  unfold cls
  by_cases h1 : n.kind = some "species"
  · simp only [if_pos h1, ↓reduceIte, Option.some.injEq, Bool.true_eq_false, List.append_nil]
  by_cases h2 : n.kind = some "reaction"
  · simp only [if_neg h1, if_pos h2, ↓reduceIte, Option.some.injEq, Bool.false_eq_true, List.append_nil]
  by_cases h3 : n.id.startsWith o.speciesPrefix = true
  · simp only [if_neg h1, if_neg h2, if_pos h3, ↓reduceIte, Option.some.injEq, Bool.true_eq_false, List.append_nil]
  by_cases h4 : n.id.startsWith o.reactionPrefix = true
  · simp only [if_neg h1, if_neg h2, if_neg h3, if_pos h4, ↓reduceIte, Option.some.injEq, Bool.false_eq_true, List.append_nil]
  · simp only [if_neg h1, if_neg h2, if_neg h3, if_neg h4, ↓reduceIte, reduceCtorEq, List.append_nil]

theorem classifyTagged_eq (o : ImpOpts) (g : RBGraph) :
    classifyTagged o g = ((g.nodes.filter (cls o · = some true)).map (·.id),
      (g.nodes.filter (cls o · = some false)).map (·.id)) := by
  have key : ∀ (ns : List RNode) (acc : List NodeId × List NodeId),
      ns.foldl (fun acc n =>
        if n.kind = some "species" then (acc.1 ++ [n.id], acc.2)
        else if n.kind = some "reaction" then (acc.1, acc.2 ++ [n.id])
        else if n.id.startsWith o.speciesPrefix then (acc.1 ++ [n.id], acc.2)
        else if n.id.startsWith o.reactionPrefix then (acc.1, acc.2 ++ [n.id])
        else acc) acc =
      (acc.1 ++ (ns.filter (cls o · = some true)).map (·.id),
        acc.2 ++ (ns.filter (cls o · = some false)).map (·.id)) := by
    intro ns
    induction ns with
    | nil => intro acc; simp
    | cons n ns ih =>
      intro acc
      rw [List.foldl_cons, ih, clsStep_eq, List.filter_cons, List.filter_cons]
      cases cls o n with
      | none => simp
      | some b => cases b <;> simp
  exact (key g.nodes ([], [])).trans (by simp)

theorem classify_mem (o : ImpOpts) (g : RBGraph) (r : NodeId) :
    (r ∈ (classify o g).1 → ∃ n ∈ g.nodes, n.id = r) ∧ (r ∈ (classify o g).2 → ∃ n ∈ g.nodes, n.id = r) := by
  unfold classify
  simp only []
  split
  · simp only [List.mem_map, List.mem_filter]
    exact ⟨fun ⟨n, hn, h⟩ => ⟨n, hn.1, h⟩, fun ⟨n, hn, h⟩ => ⟨n, hn.1, h⟩⟩
  · simp only [classifyTagged_eq, List.mem_map, List.mem_filter]
    exact ⟨fun ⟨n, hn, h⟩ => ⟨n, hn.1, h⟩, fun ⟨n, hn, h⟩ => ⟨n, hn.1, h⟩⟩

def Tagged (n : RNode) : Prop := n.kind = some "species" ∨ n.kind = some "reaction"

theorem cls_tagged (o : ImpOpts) {n : RNode} (ht : Tagged n) :
    cls o n = some (decide (n.kind = some "species")) := by
  rcases ht with h | h <;> simp [cls, h]

/-- A graph with a tagged node never reaches the degree heuristic. -/
theorem classifyTagged_ne (o : ImpOpts) (g : RBGraph) (n : RNode) (hn : n ∈ g.nodes) (ht : Tagged n) :
    ((classifyTagged o g).1.isEmpty && (classifyTagged o g).2.isEmpty) = false := by
  apply isEmpty_and_false
  rw [classifyTagged_eq]
  have hc := cls_tagged o ht
  rcases ht with h | h
  · exact Or.inl (List.ne_nil_of_mem (List.mem_map.2 ⟨n, List.mem_filter.2 ⟨hn, by simp [hc, h]⟩, rfl⟩))
  · exact Or.inr (List.ne_nil_of_mem (List.mem_map.2 ⟨n, List.mem_filter.2 ⟨hn, by simp [hc, h]⟩, rfl⟩))

theorem rawOfBNode_tagged (m : BNode) : Tagged (rawOfBNode m) := by
  unfold Tagged rawOfBNode
  cases m.kind
  · exact Or.inl rfl
  · exact Or.inr rfl

theorem classify_tagged (o : ImpOpts) (g : RBGraph) (ht : ∀ n ∈ g.nodes, Tagged n) :
    classify o g = ((g.nodes.filter (·.kind = some "species")).map (·.id),
      (g.nodes.filter (·.kind = some "reaction")).map (·.id)) := by
  cases hg : g.nodes with
  | nil => simp [classify, classifyTagged, hg]
  | cons n ns =>
    unfold classify
    simp only [classifyTagged_ne o g n (by simp [hg]) (ht n (by simp [hg])), Bool.false_eq_true, if_false]
    rw [classifyTagged_eq, hg]
    congr 2
    · apply List.filter_congr
      intro m hm
      rw [cls_tagged o (ht m (hg ▸ hm))]
      simp
    · apply List.filter_congr
      intro m hm
      rw [cls_tagged o (ht m (hg ▸ hm))]
      rcases ht m (hg ▸ hm) with h | h <;> simp [h]

theorem classify_toRaw (o : ImpOpts) (g : BGraph) :
    classify o g.toRaw =
      ((g.nodes.filter (·.kind = .species)).map (·.id), (g.nodes.filter (·.kind = .reaction)).map (·.id)) := by
  rw [classify_tagged o _ (fun n hn => by
    obtain ⟨m, _, rfl⟩ := List.mem_map.1 hn; exact rawOfBNode_tagged m), toRaw_nodes]
  simp only [List.filter_map, List.map_map]
  congr 2
  · apply List.filter_congr
    intro n _
    cases h : n.kind <;> simp [rawOfBNode, h]
  · apply List.filter_congr
    intro n _
    cases h : n.kind <;> simp [rawOfBNode, h]

theorem node?_toRaw (g : BGraph) (i : NodeId) : g.toRaw.node? i = (g.node? i).map rawOfBNode := by
  unfold RBGraph.node? BGraph.node?
  rw [toRaw_nodes, List.find?_map]
  rfl

theorem rawSide_toRaw (g : BGraph) (sp : List NodeId) (ends : List (NodeId × Option Nat)) :
    rawSide g.toRaw sp ends = sideOfArcs g sp ends := by
  unfold rawSide sideOfArcs
  congr 1
  funext m us
  rw [node?_toRaw]
  cases g.node? us.1 <;> simp [rawOfBNode]

theorem rawOfRNode_toRaw (g : BGraph) (sp : List NodeId) (r : NodeId) :
    rawOfRNode {} g.toRaw sp r = rawOfNode g sp r := by
  unfold rawOfRNode rawOfNode
  simp only [rawSide_toRaw, toRaw_edges, node?_toRaw]
  cases g.node? r <;> simp [rawOfBNode]

theorem importMolRaw_toRaw (g : BGraph) (N : Net) (hnd : (g.nodes.map (·.id)).Nodup) :
    importMolRaw {} g.toRaw ((g.nodes.filter (·.kind = .species)).map (·.id)) N = importMol g N := by
  unfold importMolRaw importMol
  simp only [if_true, toRaw_nodes, List.filter_map, List.foldl_map]
  rw [List.filter_congr (q := (·.kind = .species)) fun n hn => by
    simp only [Function.comp, rawOfBNode]
    exact decide_eq_decide.2 ((Core.mem_map_filter_of_nodup hnd hn).trans decide_eq_true_iff)]
  congr 1

/-- **Tie, bipartite graph.** On a graph whose nodes all carry `kind` and `label` (node ids
distinct, as in any NetworkX graph), with the importer's default options, the raw importer is
`ofBipartite`. -/
theorem ofBipartiteRaw_toRaw (genId : GenId) (g : BGraph) (hnd : (g.nodes.map (·.id)).Nodup) :
    ofBipartiteRaw genId {} g.toRaw = ofBipartite genId g := by
  unfold ofBipartiteRaw ofBipartite
  simp only [classify_toRaw]
  rw [funext (rawOfRNode_toRaw g _)]
  cases importRxns genId {} _ with
  | error e => rfl
  | ok N => simp only [importMolRaw_toRaw g N hnd]

end SynKit.Views

namespace SynKit.Views.Raw

/-- Two graphs that are to be compared are given as two readings (`φ`, `φ'` / `ψ`, `ψ'`) of the same index lists,
so that "the same node / arc in both" is "the same index". -/
def mkG {ι κ : Type} (zs : List ι) (φ : ι → RNode) (ws : List κ) (ψ : κ → BEdge) : RBGraph :=
  { nodes := zs.map φ, edges := ws.map ψ }

def effId (gen : GenId) (n : RNode) (r p : Side) (ru : String) : String :=
  match n.edgeId with
  | some i => i
  | none => gen n.id r p ru

theorem node?_mkG {ι κ : Type} (zs : List ι) (φ : ι → RNode) (ws : List κ) (ψ : κ → BEdge) (i : NodeId) :
    (mkG zs φ ws ψ).node? i = (zs.find? (fun z => decide ((φ z).id = i))).map φ := by
  unfold RBGraph.node? mkG
  simp only [List.find?_map]
  rfl

/-- The reaction loop reads a collected reaction, and the generator, only through `Bip.rawRxn`. -/
theorem importRxns_congr {α : Type} (gen gen' : GenId) (xs : List α) (ρ ρ' : α → RawRxn)
    (h : ∀ x ∈ xs, Bip.rawRxn gen' (ρ' x) = Bip.rawRxn gen (ρ x)) :
    ∀ N : Net, importRxns gen' N (xs.map ρ') = importRxns gen N (xs.map ρ) := by
  induction xs with
  | nil => intro N; rfl
  | cons x xs ih =>
    intro N
    simp only [List.map_cons, Bip.importRxns_cons, h x List.mem_cons_self,
      ih fun y hy => h y (List.mem_cons_of_mem _ hy)]

theorem importMolRaw_eq (o : ImpOpts) (g : RBGraph) (sp : List NodeId) (N : Net) :
    importMolRaw o g sp N = (g.nodes.filter (fun n => decide (n.id ∈ sp))).foldl
      (fun M n => molSet M (n.spLabel.getD n.id.toStr) (effMol o n)) N := by
  unfold importMolRaw
  by_cases hm : o.molOn = true
  · rw [if_pos hm]
    congr 1
    funext N n
    unfold molSet effMol
    simp only [hm, if_true]
    cases n.mol <;> rfl
  · rw [if_neg hm]
    have hm' : o.molOn = false := by simpa using hm
    exact (Core.foldl_eq_self fun n _ => by simp [molSet, effMol, hm']).symm

theorem ofBipartiteRaw_congr {ι κ : Type} (gen gen' : GenId) (o o' : ImpOpts)
    (zs : List ι) (φ φ' : ι → RNode) (ws : List κ) (ψ ψ' : κ → BEdge)
    (hid : ∀ z ∈ zs, (φ' z).id = (φ z).id)
    (hcl : classify o' (mkG zs φ' ws ψ') = classify o (mkG zs φ ws ψ))
    (hsp : ∀ z ∈ zs, (φ z).id ∈ (classify o (mkG zs φ ws ψ)).1 →
      (φ' z).spLabel.getD (φ z).id.toStr = (φ z).spLabel.getD (φ z).id.toStr ∧
      effMol o' (φ' z) = effMol o (φ z))
    (hrx : ∀ z ∈ zs, (φ z).id ∈ (classify o (mkG zs φ ws ψ)).2 →
      (φ' z).rxLabel.getD o'.defaultRule = (φ z).rxLabel.getD o.defaultRule ∧
      ∀ r p ru, effId gen' (φ' z) r p ru = effId gen (φ z) r p ru)
    (hed : ∀ w ∈ ws, (ψ' w).src = (ψ w).src ∧ (ψ' w).dst = (ψ w).dst ∧
      (ψ' w).stoich.getD 1 = (ψ w).stoich.getD 1) :
    ofBipartiteRaw gen' o' (mkG zs φ' ws ψ') = ofBipartiteRaw gen o (mkG zs φ ws ψ) := by
  generalize hc : classify o (mkG zs φ ws ψ) = c at hcl hsp hrx
  have hfind : ∀ i : NodeId, zs.find? (fun z => decide ((φ' z).id = i)) = zs.find? (fun z => decide ((φ z).id = i)) := by
    intro i
    apply Core.find?_congr
    intro z hz
    rw [hid z hz]
  have hside : ∀ (pick : BEdge → Bool) (nd : BEdge → NodeId)
      (_ : ∀ w ∈ ws, pick (ψ' w) = pick (ψ w)) (_ : ∀ w ∈ ws, nd (ψ' w) = nd (ψ w)),
      rawSide (mkG zs φ' ws ψ') c.1 (((mkG zs φ' ws ψ').edges.filter pick).map (fun e => (nd e, e.stoich))) =
      rawSide (mkG zs φ ws ψ) c.1 (((mkG zs φ ws ψ).edges.filter pick).map (fun e => (nd e, e.stoich))) := by
    intro pick nd hpick hnd
    unfold rawSide
    simp only [mkG, List.filter_map, List.map_map, List.foldl_map]
    rw [List.filter_congr (p := pick ∘ ψ') (q := pick ∘ ψ) (fun w hw => hpick w hw)]
    apply List.foldl_ext
    intro m w hw
    have hw' : w ∈ ws := (List.mem_filter.1 hw).1
    simp only [Function.comp, hnd w hw', (hed w hw').2.2]
    by_cases hmem : nd (ψ w) ∈ c.1
    · simp only [hmem, if_true]
      have h1 := node?_mkG zs φ' ws ψ' (nd (ψ w))
      have h2 := node?_mkG zs φ ws ψ (nd (ψ w))
      unfold mkG at h1 h2
      rw [h1, h2, hfind]
      cases hz : zs.find? (fun z => decide ((φ z).id = nd (ψ w))) with
      | none => rfl
      | some z =>
        have hzm := List.mem_of_find?_eq_some hz
        have hzi : (φ z).id = nd (ψ w) := by simpa using List.find?_some hz
        simp only [Option.map_some]
        rw [← hzi, (hsp z hzm (hzi ▸ hmem)).1]
    · simp only [hmem, if_false]
  have hraw : ∀ r ∈ c.2, Bip.rawRxn gen' (rawOfRNode o' (mkG zs φ' ws ψ') c.1 r) =
      Bip.rawRxn gen (rawOfRNode o (mkG zs φ ws ψ) c.1 r) := by
    intro r hr
    have hR := hside (fun e => decide (e.dst = r)) (fun e => e.src)
      (fun w hw => by simp only [(hed w hw).2.1]) (fun w hw => (hed w hw).1)
    have hP := hside (fun e => decide (e.src = r)) (fun e => e.dst)
      (fun w hw => by simp only [(hed w hw).1]) (fun w hw => (hed w hw).2.1)
    obtain ⟨n, hn, hnr⟩ := (classify_mem o (mkG zs φ ws ψ) r).2 (hc ▸ hr)
    obtain ⟨z0, hz0, rfl⟩ := List.mem_map.1 (show n ∈ zs.map φ from hn)
    obtain ⟨z, hz⟩ := Option.isSome_iff_exists.1
      (List.find?_isSome (p := fun z => decide ((φ z).id = r)).2 ⟨z0, hz0, by simp [hnr]⟩)
    have hzm := List.mem_of_find?_eq_some hz
    have hzi : (φ z).id = r := by simpa using List.find?_some hz
    have hn' : (mkG zs φ' ws ψ').node? r = some (φ' z) := by rw [node?_mkG, hfind, hz]; rfl
    have hn0 : (mkG zs φ ws ψ).node? r = some (φ z) := by rw [node?_mkG, hz]; rfl
    obtain ⟨hrule, heff⟩ := hrx z hzm (hzi ▸ hr)
    have hrule' : (rawOfRNode o' (mkG zs φ' ws ψ') c.1 r).rule = (rawOfRNode o (mkG zs φ ws ψ) c.1 r).rule := by
      simp only [rawOfRNode, hn', hn0, Option.bind_some]
      exact hrule
    unfold Bip.rawRxn
    refine congr (congr (congr (congrArg Rxn.mk ?_) hrule') hR) hP
    have := heff (sortSide (rawOfRNode o (mkG zs φ ws ψ) c.1 r).reactants)
      (sortSide (rawOfRNode o (mkG zs φ ws ψ) c.1 r).products) (rawOfRNode o (mkG zs φ ws ψ) c.1 r).rule
    rw [effId, effId, hid z hzm, hzi] at this
    rw [Bip.rawId, Bip.rawId, hrule', show (rawOfRNode o' (mkG zs φ' ws ψ') c.1 r).reactants = _ from hR,
      show (rawOfRNode o' (mkG zs φ' ws ψ') c.1 r).products = _ from hP]
    simp only [rawOfRNode, hn', hn0, Option.bind_some] at this ⊢
    exact this
  have hmol : ∀ N : Net, importMolRaw o' (mkG zs φ' ws ψ') c.1 N = importMolRaw o (mkG zs φ ws ψ) c.1 N := by
    intro N
    rw [importMolRaw_eq, importMolRaw_eq]
    simp only [mkG, List.filter_map, List.foldl_map]
    rw [List.filter_congr (p := (fun n : RNode => decide (n.id ∈ c.1)) ∘ φ') (q := (fun n : RNode => decide (n.id ∈ c.1)) ∘ φ)
      (fun z hz => by simp only [Function.comp, hid z hz])]
    apply List.foldl_ext
    intro M z hz
    obtain ⟨hzm, hzc⟩ := List.mem_filter.1 hz
    have hzc' : (φ z).id ∈ c.1 := of_decide_eq_true hzc
    obtain ⟨hl, he⟩ := hsp z hzm hzc'
    simp only [he, hid z hzm, hl]
  unfold ofBipartiteRaw
  simp only [hcl, hc]
  rw [importRxns_congr gen gen' (sortBy NodeId.le c.2) (rawOfRNode o (mkG zs φ ws ψ) c.1)
    (rawOfRNode o' (mkG zs φ' ws ψ') c.1)
    (fun r hr => hraw r ((sortBy_perm _ _).mem_iff.1 hr)) {}]
  cases importRxns gen {} ((sortBy NodeId.le c.2).map (rawOfRNode o (mkG zs φ ws ψ) c.1)) with
  | error e => rfl
  | ok N => simp only [hmol N]

theorem cls_kindOK (o o' : ImpOpts) (n n' : RNode) (ht : Tagged n) (hid : n'.id = n.id)
    (hk : kindOK o' n n' = true) : cls o' n' = cls o n := by
  rw [cls_tagged o ht]
  unfold kindOK at hk
  simp only [Bool.or_eq_true, Bool.and_eq_true, decide_eq_true_eq] at hk
  rcases hk with hk | ⟨⟨h1, h2⟩, h3⟩
  · rw [← hk]; exact cls_tagged o' (by unfold Tagged; rw [hk]; exact ht)
  · rcases ht with ht | ht
    · rw [if_pos ht] at h3
      simp [cls, h1, h2, hid, h3, ht]
    · have hns : ¬ n.kind = some "species" := by rw [ht]; decide
      rw [if_neg hns] at h3
      simp only [Bool.and_eq_true, Bool.not_eq_eq_eq_not, Bool.not_true] at h3
      simp [cls, h1, h2, hid, h3.1, h3.2, hns]

theorem classify_degraded {ι κ : Type} (o o' : ImpOpts)
    (zs : List ι) (φ φ' : ι → RNode) (ws : List κ) (ψ ψ' : κ → BEdge)
    (hid : ∀ z ∈ zs, (φ' z).id = (φ z).id) (ht : ∀ z ∈ zs, Tagged (φ z))
    (hk : ∀ z ∈ zs, kindOK o' (φ z) (φ' z) = true) :
    classify o' (mkG zs φ' ws ψ') = classify o (mkG zs φ ws ψ) := by
  have hct : classifyTagged o' (mkG zs φ' ws ψ') = classifyTagged o (mkG zs φ ws ψ) := by
    have hf : ∀ b : Bool, (zs.filter fun z => decide (cls o' (φ' z) = some b)) =
        zs.filter fun z => decide (cls o (φ z) = some b) := fun b =>
      List.filter_congr (fun z hz => by rw [cls_kindOK o o' _ _ (ht z hz) (hid z hz) (hk z hz)])
    simp only [classifyTagged_eq, mkG, List.filter_map, List.map_map, Function.comp_def, hf]
    exact Prod.ext (List.map_congr_left fun z hz => hid z (List.mem_filter.1 hz).1)
      (List.map_congr_left fun z hz => hid z (List.mem_filter.1 hz).1)
  cases zs with
  | nil => rfl
  | cons z zs =>
    unfold classify
    rw [hct]
    simp only [classifyTagged_ne o (mkG (z :: zs) φ ws ψ) (φ z) (by simp [mkG]) (ht z List.mem_cons_self),
      Bool.false_eq_true, if_false]

theorem kind_of_mem_classify {ι κ : Type} (o : ImpOpts) (zs : List ι) (φ : ι → RNode) (ws : List κ)
    (ψ : κ → BEdge) (hnd : (zs.map fun z => (φ z).id).Nodup) (ht : ∀ z ∈ zs, Tagged (φ z))
    (z : ι) (hz : z ∈ zs) :
    ((φ z).id ∈ (classify o (mkG zs φ ws ψ)).1 → (φ z).kind = some "species") ∧
    ((φ z).id ∈ (classify o (mkG zs φ ws ψ)).2 → (φ z).kind = some "reaction") := by
  have hnd' : ((zs.map φ).map (·.id)).Nodup := by rwa [List.map_map]
  have key : ∀ k : Option String, (φ z).id ∈ ((zs.map φ).filter (·.kind = k)).map (·.id) → (φ z).kind = k :=
    fun k hm => of_decide_eq_true ((Core.mem_map_filter_of_nodup hnd' (List.mem_map_of_mem hz)).1 hm)
  rw [classify_tagged o _ (fun n hn => by obtain ⟨z', hz', rfl⟩ := List.mem_map.1 hn; exact ht z' hz')]
  exact ⟨key _, key _⟩

theorem nodeOK_elim {o : ImpOpts} {n n' : RNode} (h : nodeOK o n n' = true) :
    n'.id = n.id ∧ kindOK o n n' = true ∧
    (n.kind = some "species" →
      n'.spLabel.getD n.id.toStr = n.spLabel.getD n.id.toStr ∧ effMol o n' = n.mol) ∧
    (¬ n.kind = some "species" → n'.rxLabel.getD o.defaultRule = n.rxLabel.getD "r") := by
  unfold nodeOK at h
  simp only [Bool.and_eq_true, decide_eq_true_eq] at h
  refine ⟨h.1.1, h.1.2, fun hk => ?_, fun hk => ?_⟩
  · simpa only [if_pos hk, Bool.and_eq_true, decide_eq_true_eq] using h.2
  · simpa only [if_neg hk, decide_eq_true_eq] using h.2

theorem ofBipartiteRaw_of_nodeOK {ι κ : Type} (gen gen' : GenId) (o : ImpOpts) (zs : List ι)
    (φ φ' : ι → RNode) (ws : List κ) (ψ ψ' : κ → BEdge)
    (hnd : (zs.map fun z => (φ z).id).Nodup) (ht : ∀ z ∈ zs, Tagged (φ z))
    (hn : ∀ z ∈ zs, nodeOK o (φ z) (φ' z) = true)
    (hgen : ∀ z ∈ zs, (φ z).kind = some "reaction" →
      ∀ r p ru, effId gen' (φ' z) r p ru = effId gen (φ z) r p ru)
    (he : ∀ w ∈ ws, edgeOK (ψ w) (ψ' w) = true) :
    ofBipartiteRaw gen' o (mkG zs φ' ws ψ') = ofBipartiteRaw gen {} (mkG zs φ ws ψ) := by
  apply ofBipartiteRaw_congr gen gen' {} o
  · exact fun z hz => (nodeOK_elim (hn z hz)).1
  · exact classify_degraded {} o zs φ φ' ws ψ ψ' (fun z hz => (nodeOK_elim (hn z hz)).1) ht
      (fun z hz => (nodeOK_elim (hn z hz)).2.1)
  · intro z hz hmem
    exact (nodeOK_elim (hn z hz)).2.2.1 ((kind_of_mem_classify {} zs φ ws ψ hnd ht z hz).1 hmem)
  · intro z hz hmem
    have hk := (kind_of_mem_classify {} zs φ ws ψ hnd ht z hz).2 hmem
    exact ⟨(nodeOK_elim (hn z hz)).2.2.2 (by rw [hk]; decide), hgen z hz hk⟩
  · intro w hw
    have := he w hw
    unfold edgeOK at this
    simp only [Bool.and_eq_true, decide_eq_true_eq] at this
    exact ⟨this.1.1, this.1.2, this.2⟩

theorem toRaw_eq_mkG (B : BGraph) : B.toRaw = mkG B.nodes rawOfBNode B.edges id := by
  unfold mkG
  rw [List.map_id]
  rfl

theorem setKind_toRaw_eq_mkG (B : BGraph) (p : NodeId → Bool) (k : Option String) :
    B.toRaw.setKind p k =
      mkG B.nodes (fun m => if p (rawOfBNode m).id then { rawOfBNode m with kind := k } else rawOfBNode m) B.edges id := by
  unfold mkG RBGraph.setKind
  rw [List.map_id, toRaw_nodes, List.map_map]
  rfl

/-- An instance of `ofBipartiteRaw_of_nodeOK`. `o'.defaultRule` is free: every reaction node of a `toRaw` graph
carries its rule. -/
theorem ofBipartiteRaw_setKind (gen : GenId) (o' : ImpOpts) (hm : o'.molOn = true) (B : BGraph)
    (hnd : (B.nodes.map (·.id)).Nodup) (p : NodeId → Bool) (k : Option String)
    (hk : ∀ m ∈ B.nodes, p (rawOfBNode m).id = true →
      kindOK o' (rawOfBNode m) { rawOfBNode m with kind := k } = true) :
    ofBipartiteRaw gen o' (B.toRaw.setKind p k) = ofBipartite gen B := by
  rw [← ofBipartiteRaw_toRaw gen B hnd, setKind_toRaw_eq_mkG, toRaw_eq_mkG]
  refine ofBipartiteRaw_of_nodeOK gen gen o' B.nodes _ _ B.edges id id hnd
    (fun m _ => rawOfBNode_tagged m) (fun m hm' => ?_) (fun m _ _ r q ru => ?_) (fun w _ => by simp [edgeOK])
  · have hrest : ∀ k', nodeOK o' (rawOfBNode m) { rawOfBNode m with kind := k' } =
        kindOK o' (rawOfBNode m) { rawOfBNode m with kind := k' } := by
      intro k'; cases hkd : m.kind <;> simp [nodeOK, rawOfBNode, effMol, hm, hkd]
    by_cases hp : p (rawOfBNode m).id = true
    · rw [if_pos hp, hrest]; exact hk m hm' hp
    · rw [if_neg hp, show rawOfBNode m = { rawOfBNode m with kind := (rawOfBNode m).kind } from rfl, hrest]
      simp [kindOK]
  · split <;> rfl

theorem startsWith_append (sp s : String) : (NodeId.str (sp ++ s)).startsWith sp = true := by
  unfold NodeId.startsWith
  simp only [String.toList_append]
  exact List.isPrefixOf_iff_prefix.2 (List.prefix_append _ _)

theorem kindOK_prefix (f : BipFlags) (N : Net) (hN : WfNet N) (hc : NoIdClash f N) (sp rp : String)
    (hstr : f.integerIds = false) (hsp : f.speciesPrefix = some sp) (hrp : f.reactionPrefix = some rp)
    (hd : PrefixDisjoint sp rp N) (o' : ImpOpts) (ho1 : o'.speciesPrefix = sp) (ho2 : o'.reactionPrefix = rp)
    (k : Option String) (hk1 : k ≠ some "species") (hk2 : k ≠ some "reaction") :
    ∀ m ∈ (toBipartite f N).nodes, kindOK o' (rawOfBNode m) { rawOfBNode m with kind := k } = true := by
  rw [Bip.toBipartite_clean f N hN hc]
  intro m hm
  unfold Bip.cleanGraph at hm
  simp only [List.mem_append, List.mem_map] at hm
  unfold kindOK
  simp only [Bool.or_eq_true, Bool.and_eq_true, decide_eq_true_eq]
  right
  refine ⟨⟨hk1, hk2⟩, ?_⟩
  rcases hm with ⟨s, _, rfl⟩ | ⟨e, he, rfl⟩
  · have h1 : (rawOfBNode (Bip.spNode f N (Bip.sid f (speciesIter f N)) s)).kind = some "species" := rfl
    have h2 : (rawOfBNode (Bip.spNode f N (Bip.sid f (speciesIter f N)) s)).id = .str (sp ++ s) := by
      show Bip.sid f (speciesIter f N) s = _
      unfold Bip.sid
      simp [hstr, hsp, withPrefix]
    rw [if_pos h1, h2, ho1]
    exact startsWith_append sp s
  · have h1 : ¬ (rawOfBNode (Bip.rxNode f (Bip.rid f (speciesIter f N).length (sortRxns N.rxns)) e)).kind = some "species" := by
      show ¬ (some "reaction" : Option String) = some "species"
      decide
    have h2 : (rawOfBNode (Bip.rxNode f (Bip.rid f (speciesIter f N).length (sortRxns N.rxns)) e)).id = .str (rp ++ e.id) := by
      show Bip.rid f (speciesIter f N).length (sortRxns N.rxns) e = _
      unfold Bip.rid
      simp [hstr, hrp, withPrefix]
    rw [if_neg h1, h2, ho1, ho2]
    have he' : e ∈ N.rxns := (sortRxns_perm N.rxns).mem_iff.1 he
    simp only [Bool.and_eq_true, Bool.not_eq_eq_eq_not, Bool.not_true]
    exact ⟨hd e he', startsWith_append rp e.id⟩

abbrev Idx := String ⊕ Rxn

/-- Index list (for `mkG`) of the nodes of the exported graph, in export order. -/
def nodeIdx (f : BipFlags) (N : Net) : List Idx :=
  (speciesIter f N).map Sum.inl ++ (sortRxns N.rxns).map Sum.inr

def refNode (f : BipFlags) (N : Net) (sd : String → NodeId) (rd : Rxn → NodeId) : Idx → RNode
  | .inl s => rawOfBNode (Bip.spNode f N sd s)
  | .inr e => rawOfBNode (Bip.rxNode f rd e)

/-- The flags inside `bipRef` and `bipIdRef`. -/
def f0 (f : BipFlags) (mol : Bool) : BipFlags :=
  { f with includeEdgeIdAttr := false, includeMol := f.includeMol && mol }
def f1 (f : BipFlags) : BipFlags := { f with includeEdgeIdAttr := true }

theorem toRaw_toBipartite_nodes (fx : BipFlags) (N : Net) (hN : WfNet N) (hc : NoIdClash fx N) :
    (toBipartite fx N).toRaw.nodes = (nodeIdx fx N).map
      (refNode fx N (Bip.sid fx (speciesIter fx N)) (Bip.rid fx (speciesIter fx N).length (sortRxns N.rxns))) := by
  rw [Bip.toBipartite_clean fx N hN hc, toRaw_nodes]
  unfold Bip.cleanGraph nodeIdx
  simp only [List.map_append, List.map_map]
  rfl

/-- An id generator that reproduces, on a view without edge ids, the ids the importer hands out on the nodes `z.2`
of a degraded graph: it looks the node up by its key. -/
theorem exists_gen_effId {ι : Type} (gen : GenId) (zs : List (ι × RNode)) (key : ι → NodeId)
    (hkey : (zs.map fun z => key z.1).Nodup) :
    ∃ G : GenId, ∀ z ∈ zs, ∀ r p ru, G (key z.1) r p ru = effId gen z.2 r p ru := by
  refine ⟨fun rnode r p ru =>
    match zs.find? (fun z => decide (key z.1 = rnode)) with
    | some z => effId gen z.2 r p ru
    | none => gen rnode r p ru, fun z hz r p ru => ?_⟩
  simp only [Core.find?_of_nodup_map (f := fun z : ι × RNode => key z.1) hkey hz rfl]

theorem mem_zip_of_mem_left {α β : Type} (l : List α) (l' : List β) (h : l = (l.zip l').map Prod.fst)
    (a : α) (ha : a ∈ l) : ∃ b, (a, b) ∈ l.zip l' := by
  rw [h] at ha
  obtain ⟨z, hz, rfl⟩ := List.mem_map.1 ha
  exact ⟨z.2, hz⟩

theorem idOK_reaction {n₁ n' : RNode} (hk : n₁.kind = some "reaction") (h : idOK n₁ n' = true) :
    n'.edgeId = none ∨ n'.edgeId = n₁.edgeId := by
  simpa [idOK, hk] using h

theorem idKept_reaction {n₁ n' : RNode} (hk : n₁.kind = some "reaction") (h : idKept n₁ n' = true) :
    n'.edgeId = n₁.edgeId := by
  simpa [idKept, hk] using h

theorem bipRawClaim_wf {mol : Bool} {f : BipFlags} {o : ImpOpts} {N : Net} {g' : RBGraph}
    (h : bipRawClaimWith mol f o N g' = true) : WfNet N := by
  unfold bipRawClaimWith at h
  simp only [Bool.and_eq_true] at h
  exact (wfNetB_iff N).1 h.1.1.1.1.1

/-- The degraded graph `g'` and the reference view `bipRef` are both `mkG` over the zips of their node and arc
lists; `ofBipartiteRaw_of_nodeOK` moves the importer from `g'` to the reference view with a generator that
reproduces its ids (`exists_gen_effId`), and there `Bip.roundtrip_general` applies. `idOf e` is the stored id where the node of `e` kept its `edge_id`,
a generated one where it lost it. -/
theorem bipRawClaim_core (mol : Bool) (f : BipFlags) (o : ImpOpts) (N : Net) (g' : RBGraph) (gen : GenId)
    (h : bipRawClaimWith mol f o N g' = true) :
    ∃ (idOf : Rxn → String) (nodeOf : Rxn → NodeId),
      (∀ a ∈ N.rxns, ∀ b ∈ N.rxns, nodeOf a = nodeOf b → a = b) ∧
      (∀ e ∈ N.rxns, idOf e = e.id ∨
        idOf e = gen (nodeOf e) (sortSide e.reactants) (sortSide e.products) e.rule) ∧
      (bipRawIdsKept f N g' = true → ∀ e ∈ N.rxns, idOf e = e.id) ∧
      ((N.rxns.map idOf).Nodup →
        ∃ N', ofBipartiteRaw gen o g' = .ok N' ∧
          N'.rxns.Perm (N.rxns.map fun e => ⟨idOf e, e.rule, e.reactants, e.products⟩) ∧
          (∀ s, s ∈ N'.species ↔ s ∈ N.rxnSpecies) ∧
          (∀ s, N'.mol.get? s =
            if (f.includeMol && mol) = true ∧ s ∈ N.rxnSpecies then N.mol.get? s else none)) := by
  unfold bipRawClaimWith at h
  simp only [Bool.and_eq_true] at h
  obtain ⟨⟨⟨⟨⟨hN, hc⟩, hs⟩, hnodes⟩, hedges⟩, hidok⟩ := h
  rw [wfNetB_iff] at hN
  rw [noIdClashB_iff] at hc
  rw [stoichKeptB_iff] at hs
  have hc0 : NoIdClash (f0 f mol) N := hc
  have hs0 : StoichKept (f0 f mol) N := hs
  have hc1 : NoIdClash (f1 f) N := hc
  have I := Bip.ids_concrete f N hN hc
  generalize hsd : Bip.sid f (speciesIter f N) = sd at I
  generalize hrd : Bip.rid f (speciesIter f N).length (sortRxns N.rxns) = rd at I
  have hn0 : (bipRef f mol N).nodes = (nodeIdx f N).map (refNode (f0 f mol) N sd rd) := by
    rw [← hsd, ← hrd]; exact toRaw_toBipartite_nodes (f0 f mol) N hN hc0
  have hn1 : (bipIdRef f N).nodes = (nodeIdx f N).map (refNode (f1 f) N sd rd) := by
    rw [← hsd, ← hrd]; exact toRaw_toBipartite_nodes (f1 f) N hN hc1
  have hnd0 : ((toBipartite (f0 f mol) N).nodes.map (·.id)).Nodup := Bip.toBipartite_ids_nodup _ N hN hc0
  rw [hn0, all2_map_left] at hnodes
  rw [hn1, all2_map_left] at hidok
  obtain ⟨hz1, hz2, hzn⟩ := all2_zip _ _ _ hnodes
  obtain ⟨_, _, hzi⟩ := all2_zip _ _ _ hidok
  obtain ⟨hw1, hw2, hwe⟩ := all2_zip _ _ _ hedges
  have hzm := mem_zip_of_mem_left _ _ hz1
  generalize hzs : (nodeIdx f N).zip g'.nodes = zs at hz1 hz2 hzn hzi hzm
  generalize hws : (bipRef f mol N).edges.zip g'.edges = ws at hw1 hw2 hwe
  have hg' : g' = mkG zs Prod.snd ws Prod.snd := by
    cases g' with
    | mk ns es => simp only [mkG] at hz2 hw2 ⊢; rw [← hz2, ← hw2]
  have href : bipRef f mol N = mkG zs (fun z => refNode (f0 f mol) N sd rd z.1) ws Prod.fst := by
    have : (bipRef f mol N).nodes = zs.map (fun z => refNode (f0 f mol) N sd rd z.1) := by
      rw [hn0]; conv => lhs; rw [hz1]
      rw [List.map_map]; rfl
    cases hb : bipRef f mol N with
    | mk ns es => rw [hb] at this hw1; simp only [mkG] at this hw1 ⊢; rw [← this, ← hw1]
  have hkey : (zs.map fun z => (refNode (f0 f mol) N sd rd z.1).id).Nodup := by
    have h1 : (zs.map fun z => (refNode (f0 f mol) N sd rd z.1).id) = (bipRef f mol N).nodes.map (·.id) := by
      rw [href]; simp only [mkG, List.map_map]; rfl
    rw [h1]
    unfold bipRef
    rw [toRaw_nodes, List.map_map]
    exact hnd0
  obtain ⟨G, hG⟩ := exists_gen_effId gen zs (fun i => (refNode (f0 f mol) N sd rd i).id) hkey
  have hGr : ∀ e n', ((Sum.inr e : Idx), n') ∈ zs → ∀ r p ru, G (rd e) r p ru = effId gen n' r p ru :=
    fun e n' hz => hG _ hz
  have hrxn : ∀ e ∈ N.rxns, ∃ n', ((Sum.inr e : Idx), n') ∈ zs := fun e he => hzm (Sum.inr e)
    (List.mem_append_right _ (List.mem_map.2 ⟨e, (sortRxns_perm N.rxns).mem_iff.2 he, rfl⟩))
  have hidcase : ∀ e n', ((Sum.inr e : Idx), n') ∈ zs → n'.edgeId = none ∨ n'.edgeId = some e.id :=
    fun e n' hz => idOK_reaction (n₁ := refNode (f1 f) N sd rd (Sum.inr e)) rfl (hzi _ hz)
  refine ⟨fun e => G (rd e) (sortSide e.reactants) (sortSide e.products) e.rule, rd, ?_, ?_, ?_, ?_⟩
  · intro a ha b hb hab
    exact I.ridInj a ((sortRxns_perm N.rxns).mem_iff.2 ha) b ((sortRxns_perm N.rxns).mem_iff.2 hb) hab
  · intro e he
    show G (rd e) _ _ _ = _ ∨ G (rd e) _ _ _ = _
    obtain ⟨n', hz⟩ := hrxn e he
    rw [hGr e n' hz]
    unfold effId
    rcases hidcase e n' hz with h | h
    · right; rw [h, (nodeOK_elim (hzn _ hz)).1]; rfl
    · left; rw [h]
  · intro hkept e he
    show G (rd e) _ _ _ = _
    obtain ⟨n', hz⟩ := hrxn e he
    rw [hGr e n' hz]
    unfold bipRawIdsKept at hkept
    rw [hn1, all2_map_left] at hkept
    obtain ⟨_, _, hzk⟩ := all2_zip _ _ _ hkept
    rw [hzs] at hzk
    unfold effId
    rw [idKept_reaction (n₁ := refNode (f1 f) N sd rd (Sum.inr e)) rfl (hzk _ hz)]
    rfl
  · intro hnodup
    have hcongr : ofBipartiteRaw gen o g' = ofBipartiteRaw G {} (bipRef f mol N) := by
      rw [href]
      conv => lhs; rw [hg']
      apply ofBipartiteRaw_of_nodeOK _ gen o zs _ _ ws _ _ hkey ?_ hzn ?_ hwe
      · intro z _
        obtain ⟨i, n'⟩ := z
        cases i <;> exact rawOfBNode_tagged _
      · intro z hz hk r p ru
        obtain ⟨i, n'⟩ := z
        cases i with
        | inl s => exact absurd (show (some "species" : Option String) = some "reaction" from hk) (by decide)
        | inr e => exact (hGr e n' hz r p ru).symm
    have hrd0 : Bip.rid (f0 f mol) (speciesIter (f0 f mol) N).length (sortRxns N.rxns) = rd := hrd
    obtain ⟨N', h1, h2, h3, h4⟩ := Bip.roundtrip_general (f0 f mol) N G hN hc0 hs0 (by rw [hrd0]; exact hnodup)
    refine ⟨N', ?_, hrd0 ▸ h2, h3, h4⟩
    rw [hcongr]
    exact (ofBipartiteRaw_toRaw G _ hnd0).trans h1

theorem get?_renameKeys {α : Type} (ρ : String → String) (d : Dict α) (k : String)
    (hρ : ∀ x ∈ d.keys, ρ x = ρ k → x = k) : (renameKeys ρ d).get? (ρ k) = d.get? k := by
  induction d with
  | nil => rfl
  | cons kv d ih =>
    obtain ⟨x, v⟩ := kv
    have hx := hρ x (by simp [Dict.keys])
    have ih' := ih (fun y hy => hρ y (by simp only [Dict.keys, List.map_cons, List.mem_cons] at hy ⊢; exact Or.inr hy))
    simp only [renameKeys, List.map_cons, Dict.get?] at ih' ⊢
    by_cases hxk : x = k
    · simp [hxk]
    · have : ¬ ρ x = ρ k := fun h => hxk (hx h)
      simp only [hxk, this, if_false]
      exact ih'

/-- `hk`: `kind` is the one attribute name that is not a keyword argument of the importer. -/
theorem read_rename (ρ σ : String → String) (hρ : ∀ a b, ρ a = ρ b → a = b) (hσ : ∀ a b, σ a = σ b → a = b)
    (hk : ρ "kind" = "kind") (a : AttrNames) (g : ABGraph) :
    (g.rename ρ σ).read (a.rename ρ σ) = g.read a := by
  have hget : ∀ (d : Dict String) (k : String), (renameKeys ρ d).get? (ρ k) = d.get? k :=
    fun d k => get?_renameKeys ρ d k (fun x _ h => hρ x k h)
  have hgetσ : ∀ (d : Dict Nat) (k : String), (renameKeys σ d).get? (σ k) = d.get? k :=
    fun d k => get?_renameKeys σ d k (fun x _ h => hσ x k h)
  unfold ABGraph.read ABGraph.rename AttrNames.rename
  simp only [List.map_map]
  congr 1
  · apply List.map_congr_left
    intro n _
    simp only [Function.comp, hget]
    have h1 : (renameKeys ρ n.attrs).get? "kind" = n.attrs.get? "kind" := by
      have := hget n.attrs "kind"; rw [hk] at this; exact this
    rw [h1]
    cases a.mol <;> simp [hget]
  · apply List.map_congr_left
    intro e _
    simp only [Function.comp, hgetσ]

theorem ofBipartiteAttr_rename (gen : GenId) (sp rp d : String) (ρ σ : String → String)
    (hρ : ∀ a b, ρ a = ρ b → a = b) (hσ : ∀ a b, σ a = σ b → a = b) (hk : ρ "kind" = "kind")
    (a : AttrNames) (g : ABGraph) :
    ofBipartiteAttr gen sp rp d (a.rename ρ σ) (g.rename ρ σ) = ofBipartiteAttr gen sp rp d a g := by
  unfold ofBipartiteAttr
  rw [read_rename ρ σ hρ hσ hk]
  have : (a.rename ρ σ).mol.isSome = a.mol.isSome := by
    unfold AttrNames.rename; cases a.mol <;> rfl
  rw [this]

end SynKit.Views.Raw
