import SynKitModel.SubgraphSearch
import SynKitModel.ReactorInv
import SynKitProofs.SubgraphSearchLemmas
import SynKitProofs.ReactorInvLemmas
import SynKitProofs.ReactorLink
/-!
`findComp` (C06 model) commutes with renumbering host and pattern: a list equality (order included), with
every limit (`max_results`, `strict_cc_count`, `threshold`) in place and no well-formedness hypothesis; hence
`SearchEquivariant` for the component-aware and the fallback strategy (C05).  Chain: components (label
propagation) → `sub` → per-component `allMonos` → stable sort by length → the back-tracking assembly in its
closed form (`enum`, `findComp_eq`).
-/
namespace SynKit.SubgraphSearch
open SynKit.Match SynKit.GraphAlg SynKit.ReactorInv

section Components
variable {f : Nat → Nat} (hf : Function.Injective f)

include hf in
theorem comps_relabel (G : LGraph) : comps (G.relabel f) = (comps G).map (List.map f) := by
  unfold comps
  have h1 : (G.relabel f).ids = G.ids.map f := LGraph.ids_relabel
  have h2 : endpoints (G.relabel f) = (endpoints G).map fun e => (f e.1, f e.2) := by
    simp [endpoints, LGraph.relabel, List.map_map, Function.comp_def]
  rw [h1, h2, components_map hf]

include hf in
theorem contains_map_inj (c : List Nat) (x : Nat) : (c.map f).contains (f x) = c.contains x := by
  rw [Bool.eq_iff_iff, List.contains_iff_mem, List.contains_iff_mem, List.mem_map_of_injective hf]

include hf in
theorem sub_relabel (G : LGraph) (c : List Nat) : sub (G.relabel f) (c.map f) = (sub G c).relabel f := by
  simp only [sub, LGraph.relabel, List.filter_map, Function.comp_def, contains_map_inj hf]

include hf in
theorem compGraphs_relabel (G : LGraph) :
    (comps (G.relabel f)).map (sub (G.relabel f)) = ((comps G).map (sub G)).map (·.relabel f) := by
  rw [comps_relabel hf, List.map_map, List.map_map]
  exact List.map_congr_left fun c _ => sub_relabel hf G c

end Components

def rb (f π : Nat → Nat) (m : Mapping) : Mapping := relabelHost f (relabelPat π m)

def rbT (f π : Nat → Nat) (im : Nat × Mapping) : Nat × Mapping := (im.1, rb f π im.2)

theorem rb_append (f π : Nat → Nat) (a b : Mapping) : rb f π (a ++ b) = rb f π a ++ rb f π b := by
  simp [rb, relabelBoth_eq]

theorem rb_nil (f π : Nat → Nat) : rb f π [] = [] := rfl

section Assembly
variable {f π : Nat → Nat} (hf : Function.Injective f) (hπ : Function.Injective π)

include hf hπ in
theorem perComponent_relabel (sel : Sel) (hostCcs : List LGraph) (pc : LGraph) :
    perComponent sel (hostCcs.map (·.relabel f)) (pc.relabel π) =
      (perComponent sel hostCcs pc).map (rbT f π) := by
  unfold perComponent
  -- the size filter sees equal lengths; each host component's embeddings are renumbered by `allMonos_relabel`
  simp only [List.zipIdx_map, List.filter_map, List.flatMap_map, List.map_flatMap, Function.comp_def, Prod.map, id,
    LGraph.nodes_relabel, List.length_map, allMonos_relabel hf hπ, List.map_map]
  rfl

theorem sortByLen_mapLen {α β : Type} (g : α → β) (xs : List (List α)) :
    sortByLen (xs.map (List.map g)) = (sortByLen xs).map (List.map g) := by
  rw [sortByLen_eq, sortByLen_eq, ← List.map_reverse]
  exact Core.sortBy_map _ fun a _ b _ => by rw [List.length_map, List.length_map]

include hπ in
theorem normalize_relabel (P : LGraph) (acc : Mapping) :
    normalize (P.relabel π) (rb f π acc) = rb f π (normalize P acc) := by
  unfold normalize
  rw [LGraph.ids_relabel, List.filterMap_map]
  conv_rhs => rw [rb, relabelBoth_eq, List.map_filterMap]
  apply List.filterMap_congr
  intro p _
  simp only [Function.comp]
  rw [rb, get?_relabelBoth hπ]
  cases acc.get? p <;> rfl

include hπ in
theorem skip_relabel (used : List Nat) (acc : Mapping) (hi : Nat) (m : Mapping) :
    skip used (rb f π acc) hi (rb f π m) = skip used acc hi m := by
  simp only [skip, rb, relabelBoth_eq, List.any_map, Function.comp_def, hπ.eq_iff]

include hπ in
theorem enum_relabel (P : LGraph) (levels : List (List (Nat × Mapping))) (used : List Nat) (acc : Mapping) :
    enum (P.relabel π) (levels.map (List.map (rbT f π))) used (rb f π acc) =
      (enum P levels used acc).map (rb f π) := by
  induction levels generalizing used acc with
  | nil => simp only [List.map_nil, enum, List.map_cons, normalize_relabel hπ]
  | cons lvl rest ih =>
    simp only [List.map_cons, enum, List.flatMap_map, List.map_flatMap]
    refine List.flatMap_congr fun hm _ => ?_
    simp only [rbT, skip_relabel hπ]
    split
    · rfl
    · rw [← rb_append, ih]

theorem collect_map {α β : Type} (g : α → β) (k thr : Nat) (l acc : List α) :
    collect k thr (l.map g) (acc.map g) = (collect k thr l acc).map g := by
  induction l generalizing acc with
  | nil => simp only [List.map_nil, collect, List.map_reverse]
  | cons x xs ih =>
    simp only [List.map_cons, collect, List.length_cons, List.length_map]
    split
    · rw [← List.map_cons, List.map_reverse]
    · split
      · rfl
      · exact ih (x :: acc)

include hf hπ in
theorem perCc_relabel (sel : Sel) (H P : LGraph) :
    perCc sel (H.relabel f) (P.relabel π) = (perCc sel H P).map (List.map (rbT f π)) := by
  unfold perCc
  rw [compGraphs_relabel hf, compGraphs_relabel hπ]
  generalize (comps H).map (sub H) = hostCcs
  generalize (comps P).map (sub P) = patCcs
  rw [List.map_map, List.map_map]
  exact List.map_congr_left fun c _ => perComponent_relabel hf hπ sel hostCcs c

include hf hπ in
theorem findAll_relabel (sel : Sel) (H P : LGraph) (k thr : Nat) :
    findAll sel (H.relabel f) (P.relabel π) k thr = (findAll sel H P k thr).map (rb f π) := by
  unfold findAll
  rw [allMonos_relabel hf hπ]
  exact collect_map (rb f π) k thr _ []

include hf hπ in
theorem compEnum_relabel (sel : Sel) (H P : LGraph) :
    compEnum sel (H.relabel f) (P.relabel π) = (compEnum sel H P).map (rb f π) := by
  unfold compEnum
  rw [perCc_relabel hf hπ, sortByLen_mapLen]
  exact enum_relabel (f := f) hπ P (sortByLen (perCc sel H P)) [] []

include hf hπ in
theorem findComp_relabel (sel : Sel) (H P : LGraph) (k : Nat) (strict : Bool) (thr : Nat) :
    findComp sel (H.relabel f) (P.relabel π) k strict thr = (findComp sel H P k strict thr).map (rb f π) := by
  have hany : ∀ q : List (Nat × Mapping) → Bool, (∀ maps, q (maps.map (rbT f π)) = q maps) →
      ((perCc sel H P).map (List.map (rbT f π))).any q = (perCc sel H P).any q := fun q hq => by
    rw [List.any_map]
    exact congrArg _ (funext hq)
  rw [findComp_eq, findComp_eq, comps_relabel hπ, comps_relabel hf, perCc_relabel hf hπ, List.length_map,
    List.length_map, hany _ fun maps => by rw [List.isEmpty_map], hany _ fun maps => by rw [List.length_map],
    findAll_relabel hf hπ, compEnum_relabel hf hπ, ← List.map_take]
  simp only [apply_ite (List.map (rb f π)), List.map_nil, List.map_cons, rb_nil]

end Assembly

theorem findComp_searchEquivariant (sel : Sel) (k : Nat) (strict : Bool) (thr : Nat) :
    SearchEquivariant (fun H P => findComp sel H P k strict thr) := by
  intro H P f π hf hπ m
  show m ∈ findComp sel (H.relabel f) (P.relabel π) k strict thr ↔ _
  rw [findComp_relabel hf hπ]
  exact Core.mem_map_iff

section NoMap
open SynKit.ReactorLink

theorem comps_noMap (P : LGraph) : comps (noMap P) = comps P := by
  unfold comps
  rw [noMap_ids]
  rfl

theorem sub_noMap (P : LGraph) (c : List Nat) : sub (noMap P) c = noMap (sub P c) := by
  unfold sub noMap
  simp only [List.filter_map, LGraph.mk.injEq, and_true]
  rfl

theorem perComponent_noMap (sel : Sel) (hk : "atom_map" ∉ sel.nodeKeys) (hostCcs : List LGraph) (pc : LGraph) :
    perComponent sel hostCcs (noMap pc) = perComponent sel hostCcs pc := by
  unfold perComponent
  have hl : (noMap pc).nodes.length = pc.nodes.length := by simp [noMap]
  rw [hl]
  refine List.flatMap_congr fun hi _ => ?_
  rw [allMonos_noMap sel hk]

theorem perCc_noMap (sel : Sel) (hk : "atom_map" ∉ sel.nodeKeys) (H P : LGraph) :
    perCc sel H (noMap P) = perCc sel H P := by
  rw [perCc_eq, perCc_eq, comps_noMap]
  exact List.map_congr_left fun c _ => by rw [level, sub_noMap, perComponent_noMap sel hk]

theorem enum_noMap (P : LGraph) (levels : List (List (Nat × Mapping))) (used : List Nat) (acc : Mapping) :
    enum (noMap P) levels used acc = enum P levels used acc := by
  induction levels generalizing used acc with
  | nil => simp only [enum, normalize, noMap_ids]
  | cons lvl rest ih =>
    simp only [enum]
    refine List.flatMap_congr fun hm _ => ?_
    rw [ih]

theorem findComp_noMap (sel : Sel) (hk : "atom_map" ∉ sel.nodeKeys) (H P : LGraph) (k : Nat) (strict : Bool) (thr : Nat) :
    findComp sel H (noMap P) k strict thr = findComp sel H P k strict thr := by
  rw [findComp_eq, findComp_eq, comps_noMap, perCc_noMap sel hk]
  unfold findAll compEnum
  rw [allMonos_noMap sel hk, perCc_noMap sel hk, enum_noMap]

end NoMap

end SynKit.SubgraphSearch
