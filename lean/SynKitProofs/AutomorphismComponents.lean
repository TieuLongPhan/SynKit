import SynKitModel.Automorphism
import SynKitProofs.ITSRadius
/-! The closure-based `components` computes the connected components (C11). -/
namespace SynKit.Aut

inductive Reach (G : LGraph) : Nat → Nat → Prop
  | refl (v : Nat) : Reach G v v
  | step {u w v : Nat} : Reach G u w → v ∈ G.neighbors w → Reach G u v

theorem Reach.trans {G : LGraph} {a b c : Nat} (h1 : Reach G a b) (h2 : Reach G b c) : Reach G a c := by
  induction h2 with
  | refl => exact h1
  | step _ hn ih => exact Reach.step ih hn

theorem Reach.symm {G : LGraph} {a b : Nat} (h : Reach G a b) : Reach G b a := by
  induction h with
  | refl => exact Reach.refl _
  | step _ hn ih => exact Reach.trans (Reach.step (Reach.refl _) (LGraph.mem_neighbors_comm.1 hn)) ih

def Closed (G : LGraph) (S : List Nat) : Prop := ∀ s ∈ S, ∀ w ∈ G.neighbors s, w ∈ S

theorem iter_succ' {α : Type} (f : α → α) : ∀ k x, iter f (k + 1) x = f (iter f k x)
  | 0, _ => rfl
  | k + 1, x => iter_succ' f k (f x)

/-- The closure loop of `compOf` is the radius expansion of C02 (`ITS.expand`) run for `|V|` rounds: what it
reaches, and that `|V|` rounds saturate, are facts of that layer (`ITS.mem_expand_iff`, `ITS.mem_expand_card_iff`). -/
theorem compOf_eq (G : LGraph) (v : Nat) : compOf G v = ITS.expand G [v] G.nodes.length :=
  go G.nodes.length
where
  go : ∀ k, iter (expand G) k [v] = ITS.expand G [v] k
  | 0 => rfl
  | k + 1 => by rw [iter_succ', go k]; rfl

theorem reach_iff {G : LGraph} {v x : Nat} : Reach G v x ↔ ITS.Reach G [v] x := by
  constructor
  · intro h
    induction h with
    | refl => exact ⟨_, List.mem_singleton.2 rfl, 0, .refl 0⟩
    | step _ hn ih => exact let ⟨s, hs, k, hd⟩ := ih; ⟨s, hs, k + 1, .step hd (LGraph.mem_neighbors_iff.1 hn)⟩
  · rintro ⟨s, hs, k, hd⟩
    obtain rfl := List.mem_singleton.1 hs
    induction hd with
    | refl => exact Reach.refl _
    | step _ hE ih => exact Reach.step ih (LGraph.mem_neighbors_iff.2 hE)

theorem self_mem_compOf (G : LGraph) (v : Nat) : v ∈ compOf G v := by
  rw [compOf_eq]; exact ITS.mem_expand_of_mem _ _ (List.mem_singleton.2 rfl)

theorem mem_compOf_iff {G : LGraph} (hwf : G.WF) {v : Nat} (hv : v ∈ G.ids) (x : Nat) :
    x ∈ compOf G v ↔ Reach G v x := by
  rw [compOf_eq, reach_iff]
  exact ITS.mem_expand_card_iff hwf (fun s hs => List.mem_singleton.1 hs ▸ hv) (Nat.le_refl _)

theorem compOf_closed {G : LGraph} (hwf : G.WF) {v : Nat} (hv : v ∈ G.ids) : Closed G (compOf G v) :=
  fun s hs w hw => (mem_compOf_iff hwf hv w).2 (((mem_compOf_iff hwf hv s).1 hs).step hw)

theorem componentsAux_spec (G : LGraph) (vs : List Nat) (acc : List (List Nat)) :
    ∃ rest, componentsAux G vs acc = acc ++ rest ∧ (∀ v ∈ vs, ∃ c ∈ acc ++ rest, v ∈ c) ∧
      ∀ c ∈ rest, ∃ v ∈ vs, c = compOf G v ∧ ∀ d ∈ acc, v ∉ d := by
  fun_induction componentsAux G vs acc with
  | case1 acc => exact ⟨[], (List.append_nil acc).symm, nofun, nofun⟩
  | case2 v vs acc hcov ih =>
    obtain ⟨c, hc, hvc⟩ := List.any_eq_true.1 hcov
    obtain ⟨rest, e, h2, h3⟩ := ih
    exact ⟨rest, e, List.forall_mem_cons.2 ⟨⟨c, List.mem_append_left _ hc, List.contains_iff_mem.1 hvc⟩, h2⟩,
      fun c hc => let ⟨w, hw, e⟩ := h3 c hc; ⟨w, List.mem_cons_of_mem _ hw, e⟩⟩
  | case3 v vs acc hcov ih =>
    obtain ⟨rest, e, h2, h3⟩ := ih
    rw [List.append_assoc] at e h2
    exact ⟨compOf G v :: rest, e,
      List.forall_mem_cons.2 ⟨⟨_, List.mem_append_right _ List.mem_cons_self, self_mem_compOf G v⟩, h2⟩,
      List.forall_mem_cons.2 ⟨⟨v, List.mem_cons_self, rfl, fun d hd hv =>
          hcov (List.any_eq_true.2 ⟨d, hd, List.contains_iff_mem.2 hv⟩)⟩, fun c hc =>
        let ⟨w, hw, e, hn⟩ := h3 c hc
        ⟨w, List.mem_cons_of_mem _ hw, e, fun d hd => hn d (List.mem_append_left _ hd)⟩⟩⟩

theorem components_cover {G : LGraph} {v : Nat} (hv : v ∈ G.ids) : ∃ c ∈ components G, v ∈ c := by
  obtain ⟨rest, e, h, -⟩ := componentsAux_spec G G.ids []
  rw [components, e]
  exact h v hv

theorem mem_components {G : LGraph} {c : List Nat} (hc : c ∈ components G) : ∃ v ∈ G.ids, c = compOf G v := by
  obtain ⟨rest, e, -, h⟩ := componentsAux_spec G G.ids []
  rw [components, e] at hc
  exact (h c hc).imp fun v hv => ⟨hv.1, hv.2.1⟩

def Connected (G : LGraph) : Prop := ∀ u ∈ G.ids, ∀ v ∈ G.ids, Reach G u v

/-- The left side is the code's connectivity test `len(comps) <= 1`. -/
theorem components_connected_iff {G : LGraph} (hwf : G.WF) : (components G).length ≤ 1 ↔ Connected G := by
  unfold components Connected
  cases hids : G.ids with
  | nil => exact ⟨fun _ _ hu => absurd hu List.not_mem_nil, fun _ => Nat.zero_le 1⟩
  | cons v0 rest =>
    -- the list is the component of the first node, then those of the nodes outside it: none iff it reaches every node
    have hmem (x : Nat) : x ∈ compOf G v0 ↔ Reach G v0 x := mem_compOf_iff hwf (hids ▸ List.mem_cons_self) x
    obtain ⟨r, e, hcov, hr⟩ := componentsAux_spec G rest [compOf G v0]
    rw [show componentsAux G (v0 :: rest) [] = componentsAux G rest [compOf G v0] from rfl, e]
    constructor
    · intro h
      obtain rfl : r = [] := List.eq_nil_of_length_eq_zero (by simpa using h)
      have key : ∀ x ∈ v0 :: rest, Reach G v0 x := List.forall_mem_cons.2 ⟨.refl _, fun x hx => by
        obtain ⟨c, hc, hxc⟩ := hcov x hx
        exact (hmem x).1 (List.mem_singleton.1 hc ▸ hxc)⟩
      exact fun u hu v hv => (key u hu).symm.trans (key v hv)
    · intro hconn
      rw [show r = [] from List.eq_nil_iff_forall_not_mem.2 fun c hc => ?_]
      · exact Nat.le_refl 1
      · obtain ⟨x, hx, -, hn⟩ := hr c hc
        exact hn _ (List.mem_singleton_self _)
          ((hmem x).2 (hconn v0 List.mem_cons_self x (List.mem_cons_of_mem _ hx)))

end SynKit.Aut
