import SynKitModel.Mcs
import SynKitProofs.Match
import SynKitProofs.Core.Fold
import SynKitProofs.Core.Sort
import SynKitProofs.Core.Graph
import SynKitProofs.Core.Dict
import Mathlib.Data.List.Nodup
import Mathlib.Data.List.Perm.Subperm
/-!
# Lemmas for C12 (common-subgraph matcher)

On the normalised labels the engine's `.get` equality is the Python closure, so level `k` of the search sees
exactly the `k`-node common induced sub-graphs, written in pattern node order (`mem_levelCands`), and is non-empty
iff there is one (`existsOfSize_eq_true_iff`).  In maximum mode the loop processes the first non-empty level of
the descending scan and nothing else (`search_mcs_eq`); the property clauses are read off that closed form and the
invariant `Inv` of the `visit` step at the end of a level (`level_inv`).  Validity holds in every mode and goes
through the loop itself (`loop_inv`).
`find` is `search` on the pair `orient` picks (`find_eq`); `find_oriented` carries the clauses from (pattern, host)
to (`G₁`, `G₂`).
-/
namespace SynKit.Mcs
open SynKit.Match

theorem nodeOk_norm (cfg : Cfg) (a b : Attrs) :
    nodeOk theSel (normNodeAttrs cfg a) (normNodeAttrs cfg b) = nodeMatch cfg a b := by
  rw [Bool.eq_iff_iff]
  simp only [nodeOk, theSel, normNodeAttrs, Attrs.get_cons, if_true, List.all_cons, List.all_nil, Bool.and_true,
    Bool.not_false, Bool.true_or, decide_eq_true_eq, Val.tup.injEq, List.map_inj_left, nodeMatch, nodeMatchPy,
    List.all_eq_true, beq_iff_eq]

theorem edgeVal_main (cfg : Cfg) (hv : cfg.variant = .main) (b1 b2 : Bool) (x y : Val) :
    normEdgeVal cfg b1 x = normEdgeVal cfg b2 y ↔ edgeAttrMatchPy x y = true := by
  cases x <;> cases y <;> simp [normEdgeVal, edgeAttrMatchPy, toFloat?, hv]

theorem edgeVal_mtg (cfg : Cfg) (hv : cfg.variant = .mtg) (x y : Val) :
    normEdgeVal cfg true x = normEdgeVal cfg false y ↔ edgeAttrMatchMtg x y = true := by
  simp only [normEdgeVal, edgeAttrMatchMtg, hv]
  cases toFloat? x <;> cases toFloat? y <;> simp

theorem edgeOk_norm (cfg : Cfg) (b a : Attrs) :
    edgeOk theSel (normEdgeAttrs cfg true b) (normEdgeAttrs cfg false a) = edgeMatch cfg b a := by
  rw [Bool.eq_iff_iff]
  simp only [edgeOk, theSel, normEdgeAttrs, Attrs.get_cons, if_true, List.all_cons, List.all_nil, Bool.and_true,
    decide_eq_true_eq, Val.tup.injEq, List.map_inj_left, edgeMatch]
  cases hv : cfg.variant
  · simp only [edgeMatchPy, List.all_eq_true]
    exact forall₂_congr fun k _ => edgeVal_main cfg hv true false _ _
  · simp only [edgeMatchMtg, List.all_eq_true]
    exact forall₂_congr fun k _ => edgeVal_mtg cfg hv _ _

theorem edgeAttrMatchPy_symm (x y : Val) : edgeAttrMatchPy x y = edgeAttrMatchPy y x := by
  rw [Bool.eq_iff_iff, ← edgeVal_main {} rfl true true, ← edgeVal_main {} rfl true true]
  exact eq_comm

theorem edgeAttrMatchMtg_symm (x y : Val) : edgeAttrMatchMtg x y = edgeAttrMatchMtg y x := by
  unfold edgeAttrMatchMtg
  cases toFloat? x <;> cases toFloat? y <;> simp [eq_comm]

theorem nodeMatch_symm (cfg : Cfg) (a b : Attrs) : nodeMatch cfg a b = nodeMatch cfg b a := by
  simp only [nodeMatch, nodeMatchPy]
  congr 1
  funext kd
  exact BEq.comm

theorem edgeMatch_symm (cfg : Cfg) (a b : Attrs) : edgeMatch cfg a b = edgeMatch cfg b a := by
  simp only [edgeMatch]
  cases cfg.variant
  · simp only [edgeMatchPy]; congr 1; funext k; exact edgeAttrMatchPy_symm _ _
  · simp only [edgeMatchMtg]; congr 1; funext k; exact edgeAttrMatchMtg_symm _ _

theorem edgeAgree_none_left (cfg : Cfg) (e₂ : Option Attrs) : EdgeAgree cfg none e₂ ↔ e₂ = none := by
  cases e₂ <;> simp [EdgeAgree]

theorem edgeAgree_symm (cfg : Cfg) (e₁ e₂ : Option Attrs) : EdgeAgree cfg e₁ e₂ ↔ EdgeAgree cfg e₂ e₁ := by
  cases e₁ <;> cases e₂ <;> simp [EdgeAgree, edgeMatch_symm]

theorem normGraph_eq (cfg : Cfg) (b : Bool) (g : LGraph) :
    normGraph cfg b g = g.mapAttrs (fun _ => normNodeAttrs cfg) (normEdgeAttrs cfg b) := rfl

theorem ids_normGraph (cfg : Cfg) (b : Bool) (g : LGraph) : (normGraph cfg b g).ids = g.ids :=
  normGraph_eq cfg b g ▸ LGraph.ids_mapAttrs

theorem induce_eq (g : LGraph) (S : List Nat) : induce g S = g.induce S := by
  simp only [induce, LGraph.induce, LGraph.keep, List.contains_eq_mem, Bool.decide_and]

theorem edge?_normGraph (cfg : Cfg) (b : Bool) (g : LGraph) (u v : Nat) :
    (normGraph cfg b g).edge? u v = (g.edge? u v).map (normEdgeAttrs cfg b) :=
  normGraph_eq cfg b g ▸ LGraph.edge?_mapAttrs

theorem hasEdge_normGraph (cfg : Cfg) (b : Bool) (g : LGraph) (u v : Nat) :
    (normGraph cfg b g).hasEdge u v = g.hasEdge u v :=
  normGraph_eq cfg b g ▸ LGraph.hasEdge_mapAttrs

theorem attrs_normGraph (cfg : Cfg) (b : Bool) (g : LGraph) (v : Nat) (hv : v ∈ g.ids) :
    (normGraph cfg b g).attrs v = normNodeAttrs cfg (g.attrs v) :=
  normGraph_eq cfg b g ▸ LGraph.attrs_mapAttrs hv

theorem mem_allInduced_induce (cfg : Cfg) (P H : LGraph) (hP : P.WF) {S : List Nat} (hS : S.Sublist P.ids)
    (m : Mapping) :
    m ∈ allInduced theSel (normGraph cfg true H) (induce (normGraph cfg false P) S) ↔
      m.map (·.1) = S ∧ IsCommonInduced cfg P H m := by
  unfold allInduced
  rw [mem_extend_nil, induce_eq, LGraph.ids_induce, ids_normGraph, Core.filter_mem_of_sublist hS hP.1]
  refine and_congr_right fun h1 => ?_
  have hfst : ∀ x ∈ m, x.1 ∈ S := fun x hx => h1 ▸ List.mem_map_of_mem hx
  -- the enumerator's two conditions read on the original graphs: `NodeCond` of a pair is its label clause and the
  -- diagonal of the bond clause, `PairRel` of two pairs their injectivity and bond clauses
  have hnode : ∀ x ∈ m, (NodeCond theSel true (normGraph cfg true H) ((normGraph cfg false P).induce S) x ↔
      x.2 ∈ H.ids ∧ nodeMatch cfg (H.attrs x.2) (P.attrs x.1) = true ∧
        EdgeAgree cfg (P.edge? x.1 x.1) (H.edge? x.2 x.2)) := fun x hx => by
    unfold NodeCond
    rw [ids_normGraph, hasEdge_normGraph, LGraph.edge?_self hP, edgeAgree_none_left, LGraph.hasEdge_false_iff_edge?]
    refine and_congr_right fun hh => ?_
    rw [LGraph.attrs_induce (hfst x hx), attrs_normGraph _ _ _ _ (hS.subset (hfst x hx)), attrs_normGraph _ _ _ _ hh,
      nodeOk_norm, imp_iff_right rfl]
  have hpair : ∀ {x y}, x ∈ m → y ∈ m →
      (PairRel theSel true (normGraph cfg true H) ((normGraph cfg false P).induce S) x y ↔
        x.2 ≠ y.2 ∧ EdgeAgree cfg (P.edge? x.1 y.1) (H.edge? x.2 y.2)) := fun {x y} hx hy => by
    unfold PairRel pairOk
    rw [LGraph.edge?_induce_of_mem (hfst x hx) (hfst y hy), edge?_normGraph, edge?_normGraph, hasEdge_normGraph]
    cases P.edge? x.1 y.1 <;> cases hH : H.edge? x.2 y.2 <;> simp [EdgeAgree, LGraph.hasEdge, hH, edgeOk_norm]
  rw [List.Pairwise.iff_of_mem hpair, forall₂_congr hnode]
  constructor
  · rintro ⟨hpw, hnc⟩
    refine ⟨h1 ▸ hP.1.sublist hS, fun p hp => hS.subset (h1 ▸ hp), List.pairwise_map.2 (hpw.imp And.left),
      List.forall_mem_map.2 fun x hx => (hnc x hx).1, fun x hx => (hnc x hx).2.1, fun x hx y hy => ?_⟩
    exact (hpw.imp And.right).forall_of_forall_of_flip (fun x hx => (hnc x hx).2.2)
      ((hpw.imp And.right).imp fun h => by
        rwa [flip, LGraph.edge?_comm (g := P), LGraph.edge?_comm (g := H)]) hx hy
  · rintro ⟨_, _, c3, c4, c5, c6⟩
    exact ⟨(List.pairwise_map.1 c3).imp_of_mem fun hx hy hne => ⟨hne, c6 _ hx _ hy⟩,
      fun x hx => ⟨c4 _ (List.mem_map_of_mem hx), c5 x hx, c6 x hx x hx⟩⟩

theorem mem_combinations {α : Type} : ∀ (k : Nat) (xs S : List α),
    S ∈ combinations k xs ↔ S.Sublist xs ∧ S.length = k
  | 0, xs, S => by
    rw [combinations, List.mem_singleton, List.length_eq_zero_iff]
    exact ⟨fun h => ⟨h ▸ List.nil_sublist _, h⟩, And.right⟩
  | k + 1, [], S => by
    simp only [combinations, List.not_mem_nil, List.sublist_nil, false_iff, not_and]
    rintro rfl; simp
  | k + 1, x :: xs, S => by
    simp only [combinations, List.mem_append, List.mem_map, mem_combinations k xs, mem_combinations (k + 1) xs,
      List.sublist_cons_iff]
    constructor
    · rintro (⟨T, ⟨hT, hl⟩, rfl⟩ | ⟨h1, h2⟩)
      · exact ⟨Or.inr ⟨T, rfl, hT⟩, by simp [hl]⟩
      · exact ⟨Or.inl h1, h2⟩
    · rintro ⟨h1 | ⟨T, rfl, hT⟩, h2⟩
      · exact Or.inr ⟨h1, h2⟩
      · exact Or.inl ⟨T, ⟨hT, by simpa using h2⟩, rfl⟩

abbrev candsOf (cfg : Cfg) (P H : LGraph) (k : Nat) : List Mapping :=
  levelCands (normGraph cfg false P) (normGraph cfg true H) k

theorem mem_levelCands (cfg : Cfg) (P H : LGraph) (hP : P.WF) (k : Nat) (m : Mapping) :
    m ∈ candsOf cfg P H k ↔
      (m.map (·.1)).Sublist P.ids ∧ m.length = k ∧ IsCommonInduced cfg P H m := by
  simp only [levelCands, List.mem_flatMap, mem_combinations, ids_normGraph]
  constructor
  · rintro ⟨S, ⟨hS, hk⟩, hm⟩
    obtain ⟨rfl, hc⟩ := (mem_allInduced_induce cfg P H hP hS m).1 hm
    exact ⟨hS, by rw [← hk, List.length_map], hc⟩
  · rintro ⟨hS, hk, hm⟩
    exact ⟨_, ⟨hS, by rw [List.length_map, hk]⟩, (mem_allInduced_induce cfg P H hP hS m).2 ⟨rfl, hm⟩⟩

theorem isCommonInduced_subperm (cfg : Cfg) (G₁ G₂ : LGraph) {m m' : Mapping} (hs : m'.Subperm m)
    (h : IsCommonInduced cfg G₁ G₂ m) : IsCommonInduced cfg G₁ G₂ m' := by
  obtain ⟨c1, c2, c3, c4, c5, c6⟩ := h
  obtain ⟨l, hp, hl⟩ := hs
  have hsub : ∀ {β : Type} (f : Nat × Nat → β), ∀ y ∈ m'.map f, y ∈ m.map f := fun f y hy =>
    (hl.map f).subset ((hp.map f).mem_iff.2 hy)
  exact ⟨((hp.map _).nodup_iff).1 (c1.sublist (hl.map _)), fun p hp' => c2 p (hsub _ p hp'),
    ((hp.map _).nodup_iff).1 (c3.sublist (hl.map _)), fun p hp' => c4 p (hsub _ p hp'),
    fun ph h' => c5 ph (hl.subset (hp.mem_iff.2 h')),
    fun ph h' qh h'' => c6 ph (hl.subset (hp.mem_iff.2 h')) qh (hl.subset (hp.mem_iff.2 h''))⟩

/-- The search writes every mapping in the node order of its pattern and `IsCommonInduced` does not see the
order of the pairs: completeness holds up to that order, with `canon P m` for `m`. -/
def canon (P : LGraph) (m : Mapping) : Mapping := P.ids.filterMap fun p => m.find? (·.1 = p)

theorem canon_fst_sublist (P : LGraph) (m : Mapping) : ((canon P m).map (·.1)).Sublist P.ids := by
  have h : ((canon P m).map (·.1)).Sublist (P.ids.map id) :=
    Core.filterMap_map_sublist (fun a x h => by simpa using List.find?_some h) _
  rwa [List.map_id] at h

theorem canon_perm (P : LGraph) (hP : P.ids.Nodup) (m : Mapping) (c1 : (m.map (·.1)).Nodup)
    (c2 : ∀ p ∈ m.map (·.1), p ∈ P.ids) : (canon P m).Perm m := by
  have hn : (canon P m).Nodup := List.Nodup.of_map _ (hP.sublist (canon_fst_sublist P m))
  rw [List.perm_ext_iff_of_nodup hn (List.Nodup.of_map _ c1)]
  intro x
  simp only [canon, List.mem_filterMap]
  constructor
  · rintro ⟨p, _, h⟩; exact List.mem_of_find?_eq_some h
  · intro hx
    exact ⟨x.1, c2 _ (List.mem_map.2 ⟨x, hx, rfl⟩), Core.find?_of_nodup_map c1 hx rfl⟩

theorem exists_perm_mem_levelCands (cfg : Cfg) (P H : LGraph) (hP : P.WF) (m : Mapping)
    (h : IsCommonInduced cfg P H m) : ∃ m' ∈ candsOf cfg P H m.length, m'.Perm m := by
  have hp := canon_perm P hP.1 m h.1 h.2.1
  refine ⟨canon P m, ?_, hp⟩
  rw [mem_levelCands cfg P H hP]
  exact ⟨canon_fst_sublist P m, hp.length_eq, isCommonInduced_subperm cfg P H hp.subperm h⟩

theorem existsOfSize_eq_true_iff (cfg : Cfg) (P H : LGraph) (hP : P.WF) (k : Nat) :
    existsOfSize cfg P H k = true ↔ ∃ m, IsCommonInduced cfg P H m ∧ m.length = k := by
  simp only [existsOfSize, Bool.not_eq_true', List.isEmpty_eq_false_iff_exists_mem]
  constructor
  · rintro ⟨m, hm⟩
    rw [mem_levelCands cfg P H hP] at hm
    exact ⟨m, hm.2.2, hm.2.1⟩
  · rintro ⟨m, hm, rfl⟩
    exact (exists_perm_mem_levelCands cfg P H hP m hm).imp fun _ => And.left

theorem length_le_of_common (cfg : Cfg) (P H : LGraph) (m : Mapping) (h : IsCommonInduced cfg P H m) :
    m.length ≤ min P.nodes.length H.nodes.length := by
  obtain ⟨c1, c2, c3, c4, _, _⟩ := h
  have a := (List.Nodup.subperm c1 c2).length_le
  have b := (List.Nodup.subperm c3 c4).length_le
  simp only [List.length_map, LGraph.ids] at a b
  omega

theorem sameSet_refl (a : List Nat) : sameSet a a = true := by simp [sameSet]

theorem sameSet_comm (a b : List Nat) : sameSet a b = sameSet b a := by
  simp only [sameSet]; exact Bool.and_comm _ _

theorem sameSet_iff (a b : List Nat) : sameSet a b = true ↔ ∀ x, x ∈ a ↔ x ∈ b := by
  simp only [sameSet, Bool.and_eq_true, List.all_eq_true, decide_eq_true_eq]
  exact ⟨fun h x => ⟨h.1 x, h.2 x⟩, fun h => ⟨fun x => (h x).1, fun x => (h x).2⟩⟩

structure Inv (prune : Bool) (st : St) : Prop where
  out_sub : ∀ m ∈ st.out, m ∈ st.seen
  seen_sub : prune = false → ∀ m ∈ st.seen, m ∈ st.out
  nodup : st.out.Nodup
  hs : prune = true → ∀ s, s ∈ st.hostSets ↔ ∃ m ∈ st.out, s = m.map (·.2)
  rep : prune = true → ∀ m ∈ st.seen, ∃ m' ∈ st.out, sameSet (m.map (·.2)) (m'.map (·.2)) = true
  distinct : prune = true → st.out.Pairwise fun a b => sameSet (a.map (·.2)) (b.map (·.2)) = false

theorem inv_init (prune : Bool) : Inv prune {} :=
  ⟨by simp, by simp, List.nodup_nil, by simp, by simp, fun _ => List.Pairwise.nil⟩

theorem visit_cases (prune : Bool) (st : St) (m : Mapping) :
    (m ∈ st.seen ∧ visit prune st m = st) ∨
    (m ∉ st.seen ∧ prune = true ∧ st.hostSets.any (sameSet (m.map (·.2))) = true ∧
      visit prune st m = { st with seen := m :: st.seen }) ∨
    (m ∉ st.seen ∧ (prune = true → st.hostSets.any (sameSet (m.map (·.2))) = false) ∧
      visit prune st m = { st with seen := m :: st.seen, out := st.out ++ [m], found := true
                                   hostSets := if prune then m.map (·.2) :: st.hostSets else st.hostSets }) := by
  unfold visit
  by_cases h : m ∈ st.seen
  · exact Or.inl ⟨h, if_pos h⟩
  · rw [if_neg h]
    cases prune
    · exact Or.inr (Or.inr ⟨h, fun h => (by cases h), rfl⟩)
    · cases hany : st.hostSets.any (sameSet (m.map (·.2)))
      · exact Or.inr (Or.inr ⟨h, fun _ => rfl, by simp only [hany]; rfl⟩)
      · exact Or.inr (Or.inl ⟨h, rfl, rfl, by simp only [hany]; rfl⟩)

theorem visit_seen (prune : Bool) (st : St) (m x : Mapping) :
    x ∈ (visit prune st m).seen ↔ x = m ∨ x ∈ st.seen := by
  rcases visit_cases prune st m with ⟨h, e⟩ | ⟨_, _, _, e⟩ | ⟨_, _, e⟩ <;> rw [e]
  · exact ⟨Or.inr, fun h' => h'.elim (· ▸ h) id⟩
  · exact List.mem_cons
  · exact List.mem_cons

theorem visit_out (prune : Bool) (st : St) (m x : Mapping) (hx : x ∈ (visit prune st m).out) :
    x ∈ st.out ∨ x = m := by
  rcases visit_cases prune st m with ⟨_, e⟩ | ⟨_, _, _, e⟩ | ⟨_, _, e⟩ <;> rw [e] at hx
  · exact Or.inl hx
  · exact Or.inl hx
  · exact (List.mem_append.1 hx).imp_right List.mem_singleton.1

theorem visit_best (prune : Bool) (st : St) (m : Mapping) : (visit prune st m).best = st.best := by
  rcases visit_cases prune st m with ⟨_, e⟩ | ⟨_, _, _, e⟩ | ⟨_, _, e⟩ <;> rw [e]

theorem visit_inv (prune : Bool) (st : St) (m : Mapping) (hI : Inv prune st) : Inv prune (visit prune st m) := by
  rcases visit_cases prune st m with ⟨_, e⟩ | ⟨_, hp, hany, e⟩ | ⟨hm, hany, e⟩ <;> rw [e]
  · exact hI
  · obtain ⟨s, hs, hss⟩ := List.any_eq_true.1 hany
    obtain ⟨m', hm', rfl⟩ := (hI.hs hp s).1 hs
    exact ⟨fun x hx => List.mem_cons_of_mem _ (hI.out_sub x hx), fun h => (by rw [hp] at h; cases h), hI.nodup, hI.hs,
      fun _ x hx => (List.mem_cons.1 hx).elim (fun e => ⟨m', hm', e ▸ hss⟩) (hI.rep hp x), hI.distinct⟩
  · have hmo : m ∉ st.out := fun h => hm (hI.out_sub m h)
    have hin : m ∈ st.out ++ [m] := List.mem_append_right _ List.mem_cons_self
    refine ⟨List.forall_mem_append.2 ⟨fun x hx => List.mem_cons_of_mem _ (hI.out_sub x hx),
        List.forall_mem_singleton.2 List.mem_cons_self⟩,
      fun hp => List.forall_mem_cons.2 ⟨hin, fun x hx => List.mem_append_left _ (hI.seen_sub hp x hx)⟩,
      (List.perm_append_singleton m st.out).nodup_iff.2 (List.nodup_cons.2 ⟨hmo, hI.nodup⟩),
      fun hp s => ?_,
      fun hp => List.forall_mem_cons.2 ⟨⟨m, hin, sameSet_refl _⟩, fun x hx =>
        (hI.rep hp x hx).imp fun m' h => ⟨List.mem_append_left _ h.1, h.2⟩⟩,
      fun hp => List.pairwise_append.2 ⟨hI.distinct hp, List.pairwise_singleton _ _, fun a ha b hb => ?_⟩⟩
    · rw [hp, if_pos rfl, List.mem_cons, hI.hs hp s]
      simp only [List.mem_append, List.mem_singleton, or_and_right, exists_or, exists_eq_left]
      exact or_comm
    · rw [List.mem_singleton.1 hb, sameSet_comm]
      exact List.any_eq_false.1 (hany hp) _ ((hI.hs hp _).2 ⟨a, ha, rfl⟩) |> Bool.eq_false_iff.2

theorem fold_seen (prune : Bool) (cs : List Mapping) (st : St) (x : Mapping) :
    x ∈ (cs.foldl (visit prune) st).seen ↔ x ∈ cs ∨ x ∈ st.seen :=
  (Core.foldl_or_iff (Q := fun s => x ∈ s.seen) (C := fun m => x = m)
    fun st m => (visit_seen prune st m x).trans or_comm).trans (by simp [or_comm])

/-- `Inv` reads `seen` as a set, and after a whole level that set is the level's candidates. -/
theorem level_inv (prune : Bool) (cs : List Mapping) : Inv prune { cs.foldl (visit prune) {} with seen := cs } := by
  have hI : Inv prune (cs.foldl (visit prune) {}) := Core.foldl_inv (fun st m _ => visit_inv prune st m) (inv_init _)
  have hs : ∀ x, x ∈ (cs.foldl (visit prune) {}).seen ↔ x ∈ cs := fun x =>
    (fold_seen prune cs {} x).trans (or_iff_left List.not_mem_nil)
  exact ⟨fun m h => (hs m).1 (hI.out_sub m h), fun hp m h => hI.seen_sub hp m ((hs m).2 h), hI.nodup, hI.hs,
    fun hp m h => hI.rep hp m ((hs m).2 h), hI.distinct⟩

theorem fold_best (prune : Bool) : ∀ (cs : List Mapping) (st : St), (cs.foldl (visit prune) st).best = st.best :=
  fun _ st => Core.foldl_inv (P := fun s => s.best = st.best) (fun s m _ h => (visit_best prune s m).trans h) rfl

theorem fold_found_cons (prune : Bool) (c : Mapping) (cs : List Mapping) :
    (cs.foldl (visit prune) (visit prune {} c)).found = true :=
  Core.foldl_inv (P := fun s : St => s.found = true)
    (fun s m _ h => by
      rcases visit_cases prune s m with ⟨_, e⟩ | ⟨_, _, _, e⟩ | ⟨_, _, e⟩ <;> rw [e] <;> exact h)
    (by cases prune <;> simp [visit])

theorem mem_levels : ∀ (n k : Nat), k ∈ levels n ↔ 1 ≤ k ∧ k ≤ n
  | 0, k => by simp only [levels, List.not_mem_nil, false_iff]; omega
  | n + 1, k => by simp only [levels, List.mem_cons, mem_levels n k]; omega

theorem le_find?_levels (p : Nat → Bool) : ∀ (n k : Nat), k ≤ n → p k = true → k ≤ ((levels n).find? p).getD 0
  | 0, _, h, _ => h
  | n + 1, k, h, hk => by
    rw [levels, List.find?_cons]
    cases hp : p (n + 1) with
    | true => exact h
    | false =>
      refine le_find?_levels p n k (Nat.le_of_lt_succ (Nat.lt_of_le_of_ne h fun e => ?_)) hk
      rw [e, hp] at hk
      cases hk

theorem loop_inv {prune mcs : Bool} {cands : Nat → List Mapping} {P : St → Prop}
    (hf : ∀ st b, P st → P { st with found := b }) (hb : ∀ st k, P st → P { st with best := k }) :
    ∀ (ks : List Nat), (∀ st, ∀ k ∈ ks, ∀ m ∈ cands k, P st → P (visit prune st m)) →
      ∀ st, P st → P (loop prune mcs cands ks st)
  | [], _, st, h => h
  | k :: ks, hv, st, h => by
    have h1 : P ((cands k).foldl (visit prune) { st with found := false }) :=
      Core.foldl_inv (fun s m hm => hv s k List.mem_cons_self m hm) (hf _ _ h)
    have hrec := loop_inv (mcs := mcs) hf hb ks fun s k' hk' => hv s k' (List.mem_cons_of_mem _ hk')
    unfold loop
    split
    · exact h
    · simp only
      split
      · split
        · exact hb _ _ h1
        · exact hrec _ (hb _ _ h1)
      · exact hrec _ h1

theorem loop_mcs (prune : Bool) (cands : Nat → List Mapping) : ∀ ks : List Nat,
    loop prune true cands ks {} =
      match ks.find? (fun k => !(cands k).isEmpty) with
      | none => {}
      | some k => { (cands k).foldl (visit prune) {} with best := k }
  | [] => rfl
  | k :: ks => by
    -- at `best = 0` the guard is off; an empty level leaves `{}` behind, a non-empty one sets `found`
    rw [List.find?_cons]
    cases hc : cands k with
    | nil => simpa [loop, hc] using loop_mcs prune cands ks
    | cons c cs => simp [loop, hc, fold_found_cons]

theorem insertBy_eq {α : Type} (le : α → α → Bool) (x : α) (l : List α) :
    insertBy le x l = Core.insertBy (fun a b => le a b) x l := by
  induction l with
  | nil => rfl
  | cons y ys ih => simp only [insertBy, Core.insertBy, ih]

theorem isort_eq {α : Type} (le : α → α → Bool) (l : List α) : isort le l = Core.sortBy (fun a b => le a b) l := by
  induction l with
  | nil => rfl
  | cons x xs ih => rw [isort, ih, insertBy_eq, Core.sortBy_cons]

theorem isort_perm {α : Type} (le : α → α → Bool) (l : List α) : (isort le l).Perm l :=
  isort_eq le l ▸ Core.sortBy_perm

theorem mem_isort {α : Type} (le : α → α → Bool) (l : List α) (x : α) : x ∈ isort le l ↔ x ∈ l :=
  (isort_perm le l).mem_iff

theorem search_mcs_eq (cfg : Cfg) (P H : LGraph) :
    search cfg true P H =
      match (levels (min P.nodes.length H.nodes.length)).find? (existsOfSize cfg P H) with
      | none => ([], 0)
      | some k => (isort keyLe ((((candsOf cfg P H k).foldl (visit cfg.pruneAut) {}).out).filter
          (fun m => m.length == k)), k) := by
  unfold existsOfSize
  simp only [search, loop_mcs]
  cases hf : (levels (min P.nodes.length H.nodes.length)).find? fun k => !(candsOf cfg P H k).isEmpty with
  | none => cases hv : cfg.variant <;> simp [isort]
  | some k =>
    have hk : 1 ≤ k := ((mem_levels _ _).1 (List.mem_of_find?_eq_some hf)).1
    have hk0 : (k != 0) = true := by simp; omega
    cases hv : cfg.variant <;> simp [hk0]

theorem search_valid (cfg : Cfg) (mcs : Bool) (P H : LGraph) (hP : P.WF) (m : Mapping)
    (hm : m ∈ (search cfg mcs P H).1) : (m.map (·.1)).Sublist P.ids ∧ IsCommonInduced cfg P H m := by
  have hall := loop_inv (prune := cfg.pruneAut) (mcs := mcs) (cands := candsOf cfg P H)
    (P := fun s => ∀ x ∈ s.out, (x.map Prod.fst).Sublist P.ids ∧ IsCommonInduced cfg P H x)
    (fun _ _ h => h) (fun _ _ h => h) (levels (min P.nodes.length H.nodes.length))
    (fun st k _ c hc h x hx => (visit_out _ st c x hx).elim (h x) fun e =>
      e ▸ ((mem_levelCands cfg P H hP k c).1 hc).imp_right And.right) {} (fun _ h => nomatch h)
  simp only [search, mem_isort] at hm
  split at hm
  · exact hall m (List.mem_filter.1 hm).1
  · exact hall m hm

theorem search_same_size (cfg : Cfg) (P H : LGraph) (m : Mapping) (hm : m ∈ (search cfg true P H).1) :
    m.length = (search cfg true P H).2 := by
  rw [search_mcs_eq] at hm ⊢
  split at hm
  · simp at hm
  · simp only [mem_isort, List.mem_filter, beq_iff_eq] at hm
    exact hm.2

theorem search_maximal (cfg : Cfg) (P H : LGraph) (hP : P.WF) (m : Mapping) (h : IsCommonInduced cfg P H m) :
    m.length ≤ (search cfg true P H).2 := by
  have hle := le_find?_levels (existsOfSize cfg P H) _ _ (length_le_of_common cfg P H m h)
    ((existsOfSize_eq_true_iff cfg P H hP _).2 ⟨m, h, rfl⟩)
  rw [search_mcs_eq]
  split
  next hf => rwa [hf] at hle
  next k hf => rwa [hf] at hle

theorem search_all (cfg : Cfg) (P H : LGraph) (hP : P.WF) (hpr : cfg.pruneAut = false) :
    (search cfg true P H).1.Nodup ∧
    ∀ m, IsCommonInduced cfg P H m → m.length = (search cfg true P H).2 → m ≠ [] →
      ∃ m' ∈ (search cfg true P H).1, m'.Perm m := by
  rw [search_mcs_eq]
  cases hf : (levels (min P.nodes.length H.nodes.length)).find? (existsOfSize cfg P H) with
  | none => exact ⟨List.nodup_nil, fun m _ hl hne => absurd (List.eq_nil_of_length_eq_zero hl) hne⟩
  | some k =>
    have hI := level_inv cfg.pruneAut (candsOf cfg P H k)
    refine ⟨((isort_perm _ _).nodup_iff).2 (hI.nodup.sublist List.filter_sublist), fun m hm hl _ => ?_⟩
    obtain ⟨m', hc, hp⟩ := exists_perm_mem_levelCands cfg P H hP m hm
    refine ⟨m', ?_, hp⟩
    simp only at hl
    rw [mem_isort, List.mem_filter]
    exact ⟨hI.seen_sub hpr _ (hl ▸ hc), by simp [hp.length_eq, hl]⟩

theorem search_pruned (cfg : Cfg) (P H : LGraph) (hP : P.WF) (hpr : cfg.pruneAut = true) :
    let rp := search cfg true P H
    let ru := search { cfg with prune := false } true P H
    rp.2 = ru.2 ∧ (∀ m ∈ rp.1, m ∈ ru.1) ∧
    (∀ m ∈ ru.1, ∃ m' ∈ rp.1, ∀ x, x ∈ m.map (·.2) ↔ x ∈ m'.map (·.2)) ∧
    rp.1.Pairwise (fun a b => ¬ ∀ x, x ∈ a.map (·.2) ↔ x ∈ b.map (·.2)) := by
  have heu : existsOfSize { cfg with prune := false } P H = existsOfSize cfg P H := rfl
  have hcu : ∀ k, candsOf { cfg with prune := false } P H k = candsOf cfg P H k := fun _ => rfl
  have hpu : Cfg.pruneAut { cfg with prune := false } = false := by simp [Cfg.pruneAut]
  simp only
  rw [search_mcs_eq, search_mcs_eq]
  simp only [heu, hcu, hpu, hpr]
  cases hf : (levels (min P.nodes.length H.nodes.length)).find? (existsOfSize cfg P H) with
  | none => exact ⟨rfl, fun _ h => h, fun _ h => absurd h List.not_mem_nil, List.Pairwise.nil⟩
  | some k =>
    have hIp := level_inv true (candsOf cfg P H k)
    have hIu := level_inv false (candsOf cfg P H k)
    simp only [mem_isort, List.mem_filter, beq_iff_eq]
    refine ⟨trivial, ?_, ?_, ?_⟩
    · rintro m ⟨hm, hl⟩
      exact ⟨hIu.seen_sub rfl m (hIp.out_sub m hm), hl⟩
    · rintro m ⟨hm, hl⟩
      obtain ⟨m', hm', hss⟩ := hIp.rep rfl m (hIu.out_sub m hm)
      exact ⟨m', ⟨hm', ((mem_levelCands cfg P H hP k m').1 (hIp.out_sub m' hm')).2.1⟩, (sameSet_iff _ _).1 hss⟩
    · refine List.Pairwise.imp (fun {a b} h hall => ?_) (List.Perm.pairwise (isort_perm _ _).symm
        ((hIp.distinct rfl).sublist List.filter_sublist) fun {x y} h => by rw [sameSet_comm]; exact h)
      rw [(sameSet_iff _ _).2 hall] at h
      cases h

theorem dictSet_of_not_mem {acc : Mapping} {k v : Nat} (h : k ∉ acc.map (·.1)) : dictSet acc k v = acc ++ [(k, v)] := by
  induction acc with
  | nil => rfl
  | cons p rest ih =>
    obtain ⟨k', v'⟩ := p
    simp only [List.map_cons, List.mem_cons, not_or] at h
    simp only [dictSet, Ne.symm h.1, if_false, List.cons_append, ih h.2]

theorem invert_eq_inverse (m : Mapping) (h : (m.map (·.2)).Nodup) : invert m = Mapping.inverse m := by
  have := Core.foldl_eq_append (g := fun ab : Nat × Nat => (ab.2, ab.1)) (r := fun y x => y.1 ≠ x.1) (l := m)
    (fun acc a _ hy => dictSet_of_not_mem fun hm => by
      obtain ⟨y, hy', e⟩ := List.mem_map.1 hm
      exact hy y hy' e) []
    (fun _ _ y hy => absurd hy List.not_mem_nil) (List.pairwise_map.2 (List.pairwise_map.1 h))
  rwa [List.nil_append] at this

theorem inverse_inverse (m : Mapping) : Mapping.inverse (Mapping.inverse m) = m := by
  simp [Mapping.inverse, List.map_map, Function.comp_def]

theorem inverse_fst (m : Mapping) : (Mapping.inverse m).map (·.1) = m.map (·.2) := by
  simp [Mapping.inverse, List.map_map, Function.comp_def]

theorem inverse_snd (m : Mapping) : (Mapping.inverse m).map (·.2) = m.map (·.1) := by
  simp [Mapping.inverse, List.map_map, Function.comp_def]

theorem inverse_length (m : Mapping) : (Mapping.inverse m).length = m.length := by simp [Mapping.inverse]

theorem isCommonInduced_inverse (cfg : Cfg) (G₁ G₂ : LGraph) (m : Mapping) (h : IsCommonInduced cfg G₁ G₂ m) :
    IsCommonInduced cfg G₂ G₁ (Mapping.inverse m) := by
  obtain ⟨c1, c2, c3, c4, c5, c6⟩ := h
  exact ⟨by rwa [inverse_fst], by rwa [inverse_fst], by rwa [inverse_snd], by rwa [inverse_snd],
    List.forall_mem_map.2 fun x hx => (nodeMatch_symm cfg _ _).trans (c5 x hx),
    List.forall_mem_map.2 fun x hx => List.forall_mem_map.2 fun y hy => (edgeAgree_symm cfg _ _).1 (c6 x hx y hy)⟩

theorem isCommonInduced_inverse_iff (cfg : Cfg) (G₁ G₂ : LGraph) (m : Mapping) :
    IsCommonInduced cfg G₁ G₂ m ↔ IsCommonInduced cfg G₂ G₁ (Mapping.inverse m) :=
  ⟨isCommonInduced_inverse cfg G₁ G₂ m, fun h => by
    have := isCommonInduced_inverse cfg G₂ G₁ _ h
    rwa [inverse_inverse] at this⟩

theorem wf_used (cfg : Cfg) (G : LGraph) (h : G.WF) : (used cfg G).WF := by
  unfold used
  split
  · exact induce_eq _ _ ▸ LGraph.wf_induce h _
  · exact h

theorem used_of_none (cfg : Cfg) (G : LGraph) (h : cfg.pruneWc = none) : used cfg G = G := by
  unfold used; rw [h]; cases cfg.variant <;> rfl

theorem used_mtg (cfg : Cfg) (G : LGraph) (h : cfg.variant = .mtg) : used cfg G = G := by
  unfold used; rw [h]

/-- Which graph is the pattern: decided by the variant and the two sizes only, not by `prune` or `mcs`
(`orient { cfg with prune := false } = orient cfg` by `rfl`). -/
def orient (cfg : Cfg) (G₁ G₂ : LGraph) : Bool × LGraph × LGraph :=
  if cfg.variant = .mtg ∨ (used cfg G₁).nodes.length ≤ (used cfg G₂).nodes.length
  then (true, used cfg G₁, used cfg G₂) else (false, used cfg G₂, used cfg G₁)

theorem find_eq (cfg : Cfg) (mcs : Bool) (G₁ G₂ : LGraph) :
    find cfg mcs G₁ G₂ =
      { mappings := (search cfg mcs (orient cfg G₁ G₂).2.1 (orient cfg G₁ G₂).2.2).1
        lastSize := (search cfg mcs (orient cfg G₁ G₂).2.1 (orient cfg G₁ G₂).2.2).2
        patternIsG1 := some (orient cfg G₁ G₂).1 } := by
  unfold find orient
  cases hv : cfg.variant
  · simp only [reduceCtorEq, false_or]; split <;> rfl
  · simp only [true_or, if_true, used_mtg cfg _ hv]

theorem wf_orient (cfg : Cfg) (G₁ G₂ : LGraph) (h₁ : G₁.WF) (h₂ : G₂.WF) : (orient cfg G₁ G₂).2.1.WF := by
  unfold orient; split
  · exact wf_used cfg G₁ h₁
  · exact wf_used cfg G₂ h₂

theorem dirs_pattern (r : Result) : r.getMappings "pattern_to_host" = .ok r.mappings := by
  simp [Result.getMappings]

theorem dirs_other (r : Result) (b : Bool) (h : r.patternIsG1 = some b) (d : String)
    (h1 : d ≠ "pattern_to_host") (h2 : d ≠ "G1_to_G2") (h3 : d ≠ "G2_to_G1") :
    r.getMappings d = .error .valueError := by
  simp [Result.getMappings, h, h1, h2, h3]

theorem dirs_fresh (r : Result) (h : r.patternIsG1 = none) (d : String) : r.getMappings d = .ok r.mappings := by
  simp [Result.getMappings, h]

theorem getMappings_g1 (r : Result) : r.getMappings "G1_to_G2" = .ok r.g1ToG2 := by
  cases h : r.patternIsG1 <;> simp [Result.g1ToG2, Result.getMappings, h]

theorem getMappings_g2 (r : Result) : r.getMappings "G2_to_G1" = .ok r.g2ToG1 := by
  cases h : r.patternIsG1 <;> simp [Result.g2ToG1, Result.getMappings, h]

/-- A mapping of the search (pattern → host) read in the direction G₁ → G₂: as it is when the pattern was `G₁`
(`b = true`), inverted when it was `G₂`. -/
def dir (b : Bool) (m : Mapping) : Mapping := if b then m else Mapping.inverse m

theorem dir_dir (b : Bool) (m : Mapping) : dir b (dir b m) = m := by
  cases b
  · exact inverse_inverse m
  · rfl

theorem dir_not (b : Bool) (m : Mapping) : dir (!b) m = Mapping.inverse (dir b m) := by
  cases b
  · exact (inverse_inverse m).symm
  · rfl

theorem dir_length (b : Bool) (m : Mapping) : (dir b m).length = m.length := by
  cases b
  · exact inverse_length m
  · rfl

theorem dir_perm (b : Bool) {m m' : Mapping} (h : m.Perm m') : (dir b m).Perm (dir b m') := by
  cases b
  · exact h.map _
  · exact h

theorem dirs_flag (r : Result) (b : Bool) (h : r.patternIsG1 = some b)
    (hi : ∀ m ∈ r.mappings, invert m = Mapping.inverse m) :
    r.g1ToG2 = r.mappings.map (dir b) ∧ r.g2ToG1 = r.mappings.map (dir (!b)) := by
  have ht : dir true = id := rfl
  have hf : dir false = Mapping.inverse := rfl
  cases b <;> simp [Result.g1ToG2, Result.g2ToG1, Result.getMappings, h, List.map_congr_left hi, ht, hf]

/-- **Orientation.** Whichever graph `find` takes as the pattern `P` (flag `b`), its result is that of
`search` on `(P, H)`, both direction lists are the search result read through `dir`, and being a common induced
sub-graph of `(G₁, G₂)` in the direction G₁ → G₂ is being one of `(P, H)` in the direction pattern → host (read
from either side: `dir b` undoes itself). -/
theorem find_oriented (cfg : Cfg) (mcs : Bool) (G₁ G₂ : LGraph) (h₁ : G₁.WF) (h₂ : G₂.WF) :
    ∃ (b : Bool) (P H : LGraph), P.WF ∧ (find cfg mcs G₁ G₂).patternIsG1 = some b ∧
      (find cfg mcs G₁ G₂).mappings = (search cfg mcs P H).1 ∧
      (find cfg mcs G₁ G₂).lastSize = (search cfg mcs P H).2 ∧
      (find cfg mcs G₁ G₂).g1ToG2 = (search cfg mcs P H).1.map (dir b) ∧
      (find cfg mcs G₁ G₂).g2ToG1 = (search cfg mcs P H).1.map (dir (!b)) ∧
      (∀ m, IsCommonInduced cfg (used cfg G₁) (used cfg G₂) (dir b m) ↔ IsCommonInduced cfg P H m) ∧
      ∀ m, IsCommonInduced cfg (used cfg G₁) (used cfg G₂) m ↔ IsCommonInduced cfg P H (dir b m) := by
  have w := wf_orient cfg G₁ G₂ h₁ h₂
  obtain ⟨e1, e2⟩ := dirs_flag (find cfg mcs G₁ G₂) (orient cfg G₁ G₂).1 (by rw [find_eq]) fun m hm => by
    rw [find_eq] at hm
    exact invert_eq_inverse m (search_valid cfg mcs _ _ w m hm).2.2.2.1
  rw [find_eq] at e1 e2 ⊢
  refine ⟨_, _, _, w, rfl, rfl, rfl, e1, e2, ?_⟩
  unfold orient
  split
  · exact ⟨fun _ => Iff.rfl, fun _ => Iff.rfl⟩
  · exact ⟨fun _ => (isCommonInduced_inverse_iff cfg _ _ _).symm, isCommonInduced_inverse_iff cfg _ _⟩

/-! ## Concrete graphs for the non-vacuity examples of `Props/C12.lean` -/

def exEl (s : String) : Attrs := [("element", Val.str s)]
def exOrd (h : Int) : Attrs := [("order", Val.num h)]
/-- C–C–O; orders are in half-units (`exOrd 2` is a single bond). -/
def exA : LGraph :=
  { nodes := [(1, exEl "C"), (2, exEl "C"), (3, exEl "O")], edges := [(1, 2, exOrd 2), (2, 3, exOrd 2)] }
/-- C–O–C=C with other ids, inserted in another order. -/
def exB : LGraph :=
  { nodes := [(12, exEl "C"), (10, exEl "C"), (11, exEl "O"), (13, exEl "C")]
    edges := [(11, 10, exOrd 2), (11, 12, exOrd 2), (12, 13, exOrd 4)] }
/-- Three-ring of carbons: six automorphisms, one host node set. -/
def exRing : LGraph :=
  { nodes := [(1, exEl "C"), (2, exEl "C"), (3, exEl "C")]
    edges := [(1, 2, exOrd 2), (2, 3, exOrd 2), (1, 3, exOrd 2)] }
def exBare : LGraph := { nodes := [(1, exEl "C"), (2, [])], edges := [(1, 2, [])] }
def exStar : LGraph := { nodes := [(7, exEl "*"), (8, exEl "C")], edges := [(7, 8, [("order", Val.none)])] }

end SynKit.Mcs
