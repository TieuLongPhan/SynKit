import SynKitModel.CrnIR
import SynKitProofs.CrnIRSearch
import SynKitProofs.CrnIREquiv
import SynKitProofs.CrnIRTie
import SynKitProofs.CrnOrbitLemmas
/-!
What `crnIrWith` returns, for every strict total label order (`crnIrWith_spec`: a leaf with the least label, with the
permutations of all leaves that carry it); its label and canonical graph are invariant under `IsIsoF` (equivariance of
the tree carries the best leaf of `H` to a least-label leaf of `G`, which differs from `G`'s best leaf by an
automorphism); the listed permutations are the images of the first under the automorphisms
(`crnPerms_spec`), so their position-wise merging yields the orbits (`orbitsFromPerms_orb`, for any group of maps).
-/
namespace SynKit.CrnCanon
open SynKit.Canon (StrictTotal)

theorem crnIrWith_spec (lt : CrnLabel → CrnLabel → Bool) (hlt : StrictTotal lt) (sel : SelD) (G : LGraph)
    (hn : G.ids.Nodup) :
    ∃ m ∈ crnRootLeaves sel G,
      crnIrWith lt sel G = some ⟨crnLeafLabel sel G m, m.2, crnWithLabel sel G (crnLeafLabel sel G m) (crnRootLeaves sel G)⟩ ∧
      m.2.Perm G.ids ∧ (∀ l ∈ crnRootLeaves sel G, lt (crnLeafLabel sel G l) (crnLeafLabel sel G m) = false) ∧
      (crnWithLabel sel G (crnLeafLabel sel G m) (crnRootLeaves sel G)).head? = some m.2 := by
  rw [crnIrWith_eq_fold]
  cases h : crnFoldLeaves lt sel G (crnRootLeaves sel G) none with
  | none => exact absurd ((crnFoldLeaves_eq_none_iff ..).1 h).1 (crnRootLeaves_ne_nil sel G hn)
  | some b =>
    obtain ⟨m, hm, rfl, hleast, hhead⟩ := crnFoldLeaves_none_spec lt hlt sel G _ h
    exact ⟨m, hm, rfl, crnRootLeaves_perm sel G hn m hm, hleast, hhead⟩

theorem crnOrderOf_isOrder (lt : CrnLabel → CrnLabel → Bool) (hlt : StrictTotal lt) (sel : SelD) (G : LGraph)
    (hn : G.ids.Nodup) : IsOrder G (crnOrderOf (crnIrWith lt sel G)) := by
  obtain ⟨m, _, e, hp, _⟩ := crnIrWith_spec lt hlt sel G hn
  rw [e]
  exact isOrder_of_perm hn hp

/-- The least label over corresponding sets of leaf labels. -/
theorem crnIrWith_label_rel (lt : CrnLabel → CrnLabel → Bool) (hlt : StrictTotal lt) {sel : SelD} {G H : LGraph}
    {g : Nat → Nat} (hG : G.ids.Nodup) (h : CrnIso sel G H g) :
    (crnIrWith lt sel G).map (·.label) = (crnIrWith lt sel H).map (·.label) := by
  obtain ⟨mG, hmG, eG, _, leastG, _⟩ := crnIrWith_spec lt hlt sel G hG
  obtain ⟨mH, hmH, eH, _, leastH, _⟩ := crnIrWith_spec lt hlt sel H (h.nodup hG)
  obtain ⟨b, hb, eb⟩ := (crnLeafLabels_rel hG h _).1 ⟨mG, hmG, rfl⟩
  obtain ⟨a, ha, ea⟩ := (crnLeafLabels_rel hG h _).2 ⟨mH, hmH, rfl⟩
  simp only [eG, eH, Option.map_some]
  exact congrArg some (hlt.eq_of_not_lt _ _ (eb ▸ leastH b hb) (ea ▸ leastG a ha))

theorem isIsoF_of_ids_nil (sel : SelD) {A B : LGraph} (hA : A.ids = []) (hB : B.ids = []) : IsIsoF sel A B id where
  inj _ _ _ _ e := e
  mem p hp := by rw [hB] at hp; exact absurd hp List.not_mem_nil
  size := by rw [hA, hB]
  node p hp := by rw [hB] at hp; exact absurd hp List.not_mem_nil
  arc p hp := by rw [hB] at hp; exact absurd hp List.not_mem_nil

theorem crnIrWith_invariant (lt : CrnLabel → CrnLabel → Bool) (hlt : StrictTotal lt) (sel : SelD) (G H : LGraph)
    (hG : WFD G) (hH : WFD H) (aG : CrnAttrOK sel G) (aH : CrnAttrOK sel H) (g : Nat → Nat) (h : IsIsoF sel G H g) :
    (crnIrWith lt sel G).map (·.label) = (crnIrWith lt sel H).map (·.label) ∧
    IsIsoF sel (canonBy G (crnOrderOf (crnIrWith lt sel G))) (canonBy H (crnOrderOf (crnIrWith lt sel H))) id := by
  have hiso := crnIso_of_isIsoF hH.1 aG aH h
  have hlab := crnIrWith_label_rel lt hlt hG.1 hiso
  refine ⟨hlab, ?_⟩
  obtain ⟨mG, hmG, eG, pG, _⟩ := crnIrWith_spec lt hlt sel G hG.1
  obtain ⟨mH, hmH, eH, pH, _⟩ := crnIrWith_spec lt hlt sel H hH.1
  rw [eG, eH] at hlab ⊢
  simp only [Option.map_some, Option.some.injEq] at hlab
  simp only [crnOrderOf]
  -- the image of `H`'s best leaf is a leaf of `G` with the least label
  have hl2 : (mH.1.map g, mH.2.map g) ∈ crnRootLeaves sel G := (crnRootLeaves_rel hG.1 hiso _).2 ⟨mH, hmH, rfl⟩
  have hlab2 : crnLeafLabel sel G (mH.1.map g, mH.2.map g) = crnLeafLabel sel G mG :=
    (crnLeafLabel_rel hiso hH.1 hmH).trans hlab.symm
  obtain ⟨hf, hmap⟩ := crnIso_of_leaves sel G hG.1 aG _ _ hl2 hmG hlab2
  simp only at hmap
  have hF := isIsoF_of_crnIso hG.1 hf
  have hord2 : IsOrder G (mH.2.map g) := isOrder_of_perm hG.1 ((pH.map g).trans hiso.perm)
  obtain ⟨_, E1⟩ := canon_equivariant' sel G G _ (mH.2.map g) hG hG hF hord2
  rw [hmap] at E1
  obtain ⟨_, E2⟩ := canon_equivariant' sel H G g mH.2 hH hG h (isOrder_of_perm hH.1 pH)
  exact isIsoF_trans ((canon_faithful' sel H mH.2 hH (isOrder_of_perm hH.1 pH)).1.nodup hH.1) E2 E1

theorem isPartition_of_perm {P : List (List Nat)} {ids ids' : List Nat} (hp : ids.Perm ids')
    (h : IsPartition P ids) : IsPartition P ids' :=
  ⟨fun c hc => ⟨(h.1 c hc).1, fun x hx => hp.mem_iff.1 ((h.1 c hc).2 x hx)⟩,
    fun u hu => h.2.1 u (hp.mem_iff.2 hu), h.2.2⟩

theorem mem_zip_map {l : List Nat} {f : Nat → Nat} {x y : Nat} : (x, y) ∈ l.zip (l.map f) ↔ x ∈ l ∧ y = f x := by
  rw [← List.map_prod_left_eq_zip, List.mem_map]
  constructor
  · rintro ⟨a, ha, e⟩
    cases e
    exact ⟨ha, rfl⟩
  · rintro ⟨hx, rfl⟩
    exact ⟨x, hx, rfl⟩

/-- `sample_permutations`: the permutations the search lists are exactly the images of the first one under the
structure-preserving self-maps.  Each differs from the first by such a map (`crnIso_of_leaves`); and since the search
prunes nothing, every such map carries the first leaf onto a leaf of the tree, which has the same label. -/
theorem crnPerms_spec (lt : CrnLabel → CrnLabel → Bool) (hlt : StrictTotal lt) (sel : SelD) (G : LGraph)
    (hn : G.ids.Nodup) (hok : CrnAttrOK sel G) :
    ∃ first rest, crnPermsOf (crnIrWith lt sel G) = first :: rest ∧ first.Perm G.ids ∧
      ∀ p, p ∈ first :: rest ↔ ∃ f, IsIsoF sel G G f ∧ first.map f = p := by
  obtain ⟨m, hm, e, hperm, _, hhead⟩ := crnIrWith_spec lt hlt sel G hn
  have hmem := mem_crnWithLabel sel G (crnLeafLabel sel G m) (crnRootLeaves sel G)
  obtain ⟨rest, hps⟩ := List.head?_eq_some_iff.1 hhead
  rw [hps] at hmem
  simp only [e, crnPermsOf, hps]
  refine ⟨m.2, rest, rfl, hperm, fun p => ⟨fun hp => ?_, ?_⟩⟩
  · obtain ⟨l, hl, hlab, rfl⟩ := (hmem p).1 hp
    obtain ⟨hf, hmap⟩ := crnIso_of_leaves sel G hn hok m l hm hl hlab.symm
    exact ⟨_, isIsoF_of_crnIso hn hf, hmap⟩
  · rintro ⟨f, hf, rfl⟩
    have hfi := crnIso_of_isIsoF hn hok hok hf
    exact (hmem _).2 ⟨_, (crnRootLeaves_rel hn hfi _).2 ⟨m, hm, rfl⟩, crnLeafLabel_rel hfi hn hm, rfl⟩

/-- `_orbits_from_perms` on a list that consists of the images of its first permutation under a group of maps: the
position-wise merging yields the orbits of the group. -/
theorem orbitsFromPerms_orb {ids : List Nat} {A : (Nat → Nat) → Prop} (hM : Core.MapGroup ids A) (hnd : ids.Nodup)
    {first : List Nat} {rest : List (List Nat)} (hp : first.Perm ids)
    (h : ∀ p, p ∈ first :: rest ↔ ∃ f, A f ∧ first.map f = p) :
    IsPartition (crnOrbitsFromPerms (first :: rest)) ids ∧
    ∀ u ∈ ids, ∀ v ∈ ids, (SameClass (crnOrbitsFromPerms (first :: rest)) u v ↔ Core.Orb ids A u v) := by
  have hgen : ∀ a b, GenRel (rest.map fun p => first.zip p) a b → Core.Orb ids A a b := by
    rintro a b ⟨mp, hmp, hab⟩
    obtain ⟨p, hp', rfl⟩ := List.mem_map.1 hmp
    obtain ⟨f, hf, rfl⟩ := (h p).1 (List.mem_cons_of_mem _ hp')
    obtain ⟨h1, rfl⟩ := mem_zip_map.1 hab
    exact ⟨hp.mem_iff.1 h1, f, hf, rfl⟩
  have hcov : ∀ u v, Core.Orb ids A u v → Relation.EqvGen (GenRel (rest.map fun p => first.zip p)) u v := by
    rintro u _ ⟨hu, f, hf, rfl⟩
    have hu0 : u ∈ first := hp.mem_iff.2 hu
    rcases List.mem_cons.1 ((h _).2 ⟨f, hf, rfl⟩) with heq | hin
    · -- `f` fixes the first permutation pointwise
      have h1 : first.map f = first.map id := by rw [heq, List.map_id]
      rw [List.map_inj_left.1 h1 u hu0]
      exact Relation.EqvGen.refl _
    · exact Relation.EqvGen.rel _ _ ⟨_, List.mem_map.2 ⟨_, hin, rfl⟩, mem_zip_map.2 ⟨hu0, rfl⟩⟩
  obtain ⟨hpart, hS⟩ := orbitsUF_orbits hM (fun _ => hp.mem_iff) (hp.nodup_iff.2 hnd) _ hgen hcov
  exact ⟨isPartition_of_perm hp hpart, hS⟩

theorem crnOrbits_exact (lt : CrnLabel → CrnLabel → Bool) (hlt : StrictTotal lt) (sel : SelD) (G : LGraph)
    (hn : G.ids.Nodup) (hok : CrnAttrOK sel G) :
    IsPartition (crnOrbitsFromPerms (crnPermsOf (crnIrWith lt sel G))) G.ids ∧
    ∀ u ∈ G.ids, ∀ v ∈ G.ids,
      (SameClass (crnOrbitsFromPerms (crnPermsOf (crnIrWith lt sel G))) u v ↔ ∃ σ ∈ autsD sel G, app σ u = v) := by
  obtain ⟨first, rest, e, hp, h⟩ := crnPerms_spec lt hlt sel G hn hok
  obtain ⟨h1, h2⟩ := orbitsFromPerms_orb (mapGroup_isoF sel G hn) hn hp h
  rw [e]
  exact ⟨h1, fun u hu v hv => (h2 u hu v hv).trans (orb_iff sel G hn hu v)⟩

end SynKit.CrnCanon
