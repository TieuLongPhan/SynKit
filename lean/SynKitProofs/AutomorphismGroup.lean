import SynKitProofs.Match
import SynKitProofs.Core.Orbit
/-! Automorphisms as functions on the node set: `Match.IsIsoFn` of a graph onto itself, so identity and composition are
those of `Match`; the bridge to `IsIso`, the inverse, and with it the group whose orbits the analysis reports (C11). -/
namespace SynKit.Aut
open SynKit.Match

abbrev IsAutFn (sel : Sel) (G : LGraph) (f : Nat → Nat) : Prop := IsIsoFn sel G G f

theorem autFn_of_isIso {sel : Sel} {G : LGraph} {m : Mapping} (h : IsIso sel G G m) {u v : Nat}
    (huv : m.get? u = some v) : u ∈ G.ids ∧ IsAutFn sel G (mapFn m) ∧ mapFn m u = v :=
  have hu := Mapping.mem_keys_of_get? huv
  ⟨h.mono.keys ▸ hu, h.isoFn, mapFn_of_get? huv⟩

theorem iso_iff_autFn {sel : Sel} {G : LGraph} (hwf : G.WF) {x y : Nat} :
    (∃ m, IsIso sel G G m ∧ m.get? x = some y) ↔ Core.Orb G.ids (IsAutFn sel G) x y :=
  ⟨fun ⟨_, hm, hg⟩ => let ⟨hx, hf, e⟩ := autFn_of_isIso hm hg; ⟨hx, _, hf, e⟩,
   fun ⟨hx, _, hf, e⟩ => ⟨_, hf.isIso hwf, e ▸ ofFn_get? hx⟩⟩

theorem IsAutFn.inv {sel : Sel} (hh : sel.hcountRule = false) {G : LGraph} (hwf : G.WF) {f : Nat → Nat}
    (hf : IsAutFn sel G f) : ∃ g, IsAutFn sel G g ∧ ∀ v ∈ G.ids, g (f v) = v :=
  let ⟨g, hg⟩ := InjOnIds.exists_leftInverse (G := G) hf.inj
  ⟨g, IsIsoFn.symm hwf hwf hf hg fun p hp => nodeOk_symm_of_noH sel hh _ _ (hf.node p hp).2, hg⟩

theorem mapGroup_autFn {sel : Sel} (hh : sel.hcountRule = false) {G : LGraph} (hwf : G.WF) :
    Core.MapGroup G.ids (IsAutFn sel G) :=
  ⟨fun hf v hv => (hf.node v hv).1, ⟨_, IsIsoFn.id sel hwf, fun _ _ => rfl⟩,
   fun hf hg => ⟨_, IsIsoFn.comp hg hf, fun _ _ => rfl⟩, fun hf => hf.inv hh hwf⟩

end SynKit.Aut
