import SynKitModel.Canon
import SynKitProofs.Core.List
/-!
# Positions in a node order

`pos o v` is the new id of `v` when the nodes are renumbered along the order `o`.  `CrnCanon.posOf` is the same
function (`rfl`), so these serve the undirected and the directed canonical graph alike.  `unpos o` reads the old id
back off the new one.
-/
namespace SynKit.Canon

theorem pos_inj (o : List Nat) {a b : Nat} (ha : a ∈ o) (h : pos o a = pos o b) : a = b :=
  (List.idxOf_inj ha).1 (Nat.succ.inj h)

theorem map_pos_eq_range (o : List Nat) (hn : o.Nodup) : o.map (pos o) = List.range' 1 o.length :=
  Core.map_idxOf_succ o hn

theorem pos_map {o : List Nat} {g : Nat → Nat} {p : Nat} (hinj : ∀ a ∈ o, g a = g p → a = p) :
    pos (o.map g) (g p) = pos o p := by
  unfold pos
  rw [Core.idxOf_map_of_injOn hinj]

def unpos (o : List Nat) (i : Nat) : Nat := o.getD (i - 1) 0

theorem unpos_pos (o : List Nat) (v : Nat) (hv : v ∈ o) : unpos o (pos o v) = v := by
  unfold unpos pos
  have hi : o.idxOf v < o.length := List.idxOf_lt_length_of_mem hv
  simp only [Nat.add_sub_cancel]
  rw [List.getD_eq_getElem?_getD, List.getElem?_eq_getElem hi, Option.getD_some]
  exact List.getElem_idxOf hi

theorem unpos_pos_getElem (o o' : List Nat) (hn : o'.Nodup) (i : Nat) (hi' : i < o'.length) (hi : i < o.length) :
    unpos o (pos o' (o'[i])) = o[i] := by
  unfold unpos pos
  rw [hn.idxOf_getElem i hi', Nat.add_sub_cancel, List.getD_eq_getElem?_getD, List.getElem?_eq_getElem hi,
    Option.getD_some]

theorem map_unpos_pos (o o' : List Nat) (hn : o'.Nodup) (hlen : o.length = o'.length) :
    o'.map (unpos o ∘ pos o') = o := by
  apply List.ext_getElem
  · rw [List.length_map, hlen]
  · intro i h1 h2
    rw [List.getElem_map]
    exact unpos_pos_getElem o o' hn i (by simpa using h1) h2

end SynKit.Canon
