import SynKitModel.Canon
import SynKitProofs.CanonOrder
import SynKitProofs.Core.Graph
import SynKitProofs.Core.Dict
import SynKitProofs.Match
import SynKitProofs.Core.LabIso
import SynKitProofs.CanonPos
/-!
# Lemmas for C08 (canonicalisation)

`canonBy o g` is well formed and carries the attributes along `pos o`.  `IsoCov` is the working form of the
engine's `IsIso covSel (cov G) (cov H)`.  `serialise` determines the covered data (`serialise_inj'`), and for
graphs in canonical shape the covered data determine it (`serialise_eq_of_covEqP`); hence `sigBrute_invariant`.
-/
namespace SynKit.Canon
open SynKit.Match
open SynKit.Core (LStruct orderKeys_iff)

theorem upair_eq_iff (a b c d : Nat) :
    upair a b = upair c d ↔ (a = c ∧ b = d) ∨ (a = d ∧ b = c) :=
  ⟨LGraph.pair_eq_of_key_eq, LGraph.key_eq_of_pair_eq⟩

def canonEdge (o : List Nat) (e : Nat × Nat × Attrs) : Nat × Nat × Attrs :=
  (min (pos o e.1) (pos o e.2.1), max (pos o e.1) (pos o e.2.1), e.2.2)

theorem canonBy_edges_perm (o : List Nat) (g : LGraph) :
    (canonBy o g).edges.Perm (g.edges.map (canonEdge o)) :=
  sortBy_perm _ _

theorem mem_canonBy_edges {o : List Nat} {g : LGraph} {x : Nat × Nat × Attrs} :
    x ∈ (canonBy o g).edges ↔ ∃ e ∈ g.edges, canonEdge o e = x := by
  rw [(canonBy_edges_perm o g).mem_iff, List.mem_map]

theorem upair_min_max (x y : Nat) : upair (min x y) (max x y) = upair x y := by
  unfold upair
  rcases Nat.le_total x y with h | h
  · simp only [Nat.min_eq_left h, Nat.max_eq_right h]
  · simp only [Nat.min_eq_right h, Nat.max_eq_left h, Nat.min_eq_left h, Nat.max_eq_right h]

theorem upair_pos_eq_iff (o : List Nat) {a b c d : Nat} (ha : a ∈ o) (hb : b ∈ o) :
    upair (pos o a) (pos o b) = upair (pos o c) (pos o d) ↔ upair a b = upair c d := by
  rw [upair_eq_iff, upair_eq_iff]
  exact or_congr (and_congr ⟨pos_inj o ha, congrArg _⟩ ⟨pos_inj o hb, congrArg _⟩)
    (and_congr ⟨pos_inj o ha, congrArg _⟩ ⟨pos_inj o hb, congrArg _⟩)

theorem upair_canonEdge (o : List Nat) (e : Nat × Nat × Attrs) :
    upair (canonEdge o e).1 (canonEdge o e).2.1 = upair (pos o e.1) (pos o e.2.1) :=
  upair_min_max _ _

theorem canonEdge_joins {o : List Nat} {e : Nat × Nat × Attrs} (h1 : e.1 ∈ o) (h2 : e.2.1 ∈ o) (u v : Nat) :
    (((canonEdge o e).1 = pos o u ∧ (canonEdge o e).2.1 = pos o v) ∨
      ((canonEdge o e).1 = pos o v ∧ (canonEdge o e).2.1 = pos o u)) ↔
    ((e.1 = u ∧ e.2.1 = v) ∨ (e.1 = v ∧ e.2.1 = u)) := by
  rw [← upair_eq_iff, ← upair_eq_iff, upair_canonEdge, upair_pos_eq_iff o h1 h2]

theorem canonBy_ids' (o : List Nat) (g : LGraph) : (canonBy o g).ids = o.map (pos o) := by
  unfold LGraph.ids canonBy
  rw [List.map_map]
  rfl

theorem canonBy_ids (o : List Nat) (g : LGraph) (hn : o.Nodup) :
    (canonBy o g).ids = List.range' 1 o.length := by
  rw [canonBy_ids', map_pos_eq_range o hn]

theorem canonBy_attrs (o : List Nat) (g : LGraph) (hn : o.Nodup) (v : Nat) (hv : v ∈ o) :
    (canonBy o g).attrs (pos o v) = g.attrs v := by
  apply LGraph.attrs_of_mem
  · rw [canonBy_ids o g hn]; exact List.nodup_range'
  · unfold canonBy; exact List.mem_map.2 ⟨v, hv, rfl⟩

theorem canonBy_wf (o : List Nat) (g : LGraph) (hw : g.WF) (hp : o.Perm g.ids) : (canonBy o g).WF := by
  have hends : ∀ e ∈ g.edges, e.1 ∈ o ∧ e.2.1 ∈ o := fun e he =>
    ⟨hp.mem_iff.2 (hw.2.1 e he).1, hp.mem_iff.2 (hw.2.1 e he).2.1⟩
  refine ⟨?_, ?_, ?_⟩
  · rw [canonBy_ids o g (hp.nodup_iff.2 hw.1)]; exact List.nodup_range'
  · intro e' he'
    obtain ⟨e, he, rfl⟩ := mem_canonBy_edges.1 he'
    have m1 : pos o e.1 ∈ (canonBy o g).ids := by
      rw [canonBy_ids']; exact List.mem_map_of_mem (hends e he).1
    have m2 : pos o e.2.1 ∈ (canonBy o g).ids := by
      rw [canonBy_ids']; exact List.mem_map_of_mem (hends e he).2
    have hne : pos o e.1 ≠ pos o e.2.1 := fun h => (hw.2.1 e he).2.2 (pos_inj o (hends e he).1 h)
    unfold canonEdge
    rcases Nat.le_total (pos o e.1) (pos o e.2.1) with h | h
    · rw [Nat.min_eq_left h, Nat.max_eq_right h]; exact ⟨m1, m2, hne⟩
    · rw [Nat.min_eq_right h, Nat.max_eq_left h]; exact ⟨m2, m1, hne.symm⟩
  · rw [((canonBy_edges_perm o g).map _).nodup_iff, List.map_map]
    refine (List.Nodup.of_map _ hw.2.2).map_on fun x hx y hy hxy => ?_
    apply List.inj_on_of_nodup_map hw.2.2 hx hy
    refine (upair_pos_eq_iff o (hends x hx).1 (hends x hx).2).1 ?_
    rw [← upair_canonEdge, ← upair_canonEdge]
    exact hxy

theorem canonBy_edge? (o : List Nat) (g : LGraph) (hw : g.WF) (hp : o.Perm g.ids) (u v : Nat) :
    (canonBy o g).edge? (pos o u) (pos o v) = g.edge? u v := by
  have hj : ∀ e ∈ g.edges, _ := fun e he =>
    canonEdge_joins (hp.mem_iff.2 (hw.2.1 e he).1) (hp.mem_iff.2 (hw.2.1 e he).2.1) u v
  apply Option.ext
  intro a
  rw [LGraph.edge?_eq_some_iff (canonBy_wf o g hw hp), LGraph.edge?_eq_some_iff hw]
  constructor
  · rintro ⟨e', he', rfl, hm⟩
    obtain ⟨e, he, rfl⟩ := mem_canonBy_edges.1 he'
    exact ⟨e, he, rfl, (hj e he).1 hm⟩
  · rintro ⟨e, he, rfl, hm⟩
    exact ⟨canonEdge o e, mem_canonBy_edges.2 ⟨e, he, rfl⟩, rfl, (hj e he).2 hm⟩

theorem canonBy_isRelabelling (o : List Nat) (g : LGraph) (hw : g.WF) (hp : o.Perm g.ids) :
    IsRelabelling g (canonBy o g) (g.ids.map fun v => (v, pos o v)) := by
  have hn : o.Nodup := hp.nodup_iff.2 hw.1
  have hlen : g.nodes.length = o.length := by
    rw [← LGraph.ids_length, hp.length_eq]
  have himg : (g.ids.map (pos o)).Perm (List.range' 1 g.nodes.length) := by
    rw [hlen, ← map_pos_eq_range o hn]; exact (hp.symm).map _
  refine ⟨?_, ?_, canonBy_wf o g hw hp, ?_, ?_, ?_⟩
  · simp [List.map_map, Function.comp_def]
  · simpa [List.map_map, Function.comp_def] using himg
  · rw [canonBy_ids']
    simpa [List.map_map, Function.comp_def] using hp.map (pos o)
  · intro p hpm
    obtain ⟨v, hv, rfl⟩ := List.mem_map.1 hpm
    exact canonBy_attrs o g hn v (hp.mem_iff.2 hv)
  · intro p hpm q hqm
    obtain ⟨u, -, rfl⟩ := List.mem_map.1 hpm
    obtain ⟨v, -, rfl⟩ := List.mem_map.1 hqm
    exact canonBy_edge? o g hw hp u v

theorem canonBy_edges_lt (o : List Nat) (g : LGraph) (hw : g.WF) (hp : o.Perm g.ids) :
    ∀ e ∈ (canonBy o g).edges, e.1 < e.2.1 := by
  intro e' he'
  have hne := ((canonBy_wf o g hw hp).2.1 e' he').2.2
  obtain ⟨e, _, rfl⟩ := mem_canonBy_edges.1 he'
  simp only [canonEdge] at hne ⊢
  omega

/-! A serialisation lists an item `(id, node key)` per node and an item `serE e` per edge. -/

/-- Prop-level counterpart of the model's `covEq` (`covEq_of_covEqP`). -/
structure CovEqP (G H : LGraph) : Prop where
  ids : G.ids.Perm H.ids
  node : ∀ v ∈ G.ids, nodeKey (G.attrs v) = nodeKey (H.attrs v)
  edge : ∀ u v, (G.edge? u v).map edgeKey = (H.edge? u v).map edgeKey

def serE (e : Nat × Nat × Attrs) : (Nat × Nat) × (Nat × Nat) × List Val :=
  ((e.1, e.2.1), upair e.1 e.2.1, edgeKey e.2.2)

theorem nodes_map_attrs (g : LGraph) (hn : g.ids.Nodup) {β : Type} (f : Attrs → β) :
    g.nodes.map (fun p => (p.1, f p.2)) = g.ids.map fun v => (v, f (g.attrs v)) := by
  unfold LGraph.ids
  rw [List.map_map]
  exact List.map_congr_left fun p hp => by rw [Function.comp_apply, LGraph.attrs_of_mem hn hp]

theorem map_perm_of_sortBy_map_eq {α β : Type} {lt : α → α → Bool} {f : α → β} {xs ys : List α}
    (h : (sortBy lt xs).map f = (sortBy lt ys).map f) : (xs.map f).Perm (ys.map f) :=
  ((sortBy_perm lt xs).map f).symm.trans (h ▸ (sortBy_perm lt ys).map f)

theorem edge?_map_eq_some_iff (g : LGraph) (hw : g.WF) (u v : Nat) (k : List Val) :
    (g.edge? u v).map edgeKey = some k ↔
      ∃ x ∈ g.edges.map serE, ((x.1.1 = u ∧ x.1.2 = v) ∨ (x.1.1 = v ∧ x.1.2 = u)) ∧ x.2.2 = k := by
  simp only [Option.map_eq_some_iff]
  constructor
  · rintro ⟨a, ha, rfl⟩
    obtain ⟨e, he, rfl, hm⟩ := LGraph.edge?_some_mem ha
    exact ⟨_, List.mem_map.2 ⟨e, he, rfl⟩, hm, rfl⟩
  · rintro ⟨x, hx, hm, rfl⟩
    obtain ⟨e, he, rfl⟩ := List.mem_map.1 hx
    exact ⟨e.2.2, LGraph.edge?_of_mem hw he hm, rfl⟩

theorem serialise_inj' (G H : LGraph) (hG : G.WF) (hH : H.WF) (h : serialise G = serialise H) :
    CovEqP G H := by
  have hnodes : (G.ids.map fun v => (v, nodeKey (G.attrs v))).Perm
      (H.ids.map fun v => (v, nodeKey (H.attrs v))) := by
    rw [← nodes_map_attrs G hG.1, ← nodes_map_attrs H hH.1]
    exact map_perm_of_sortBy_map_eq (congrArg Ser.nodes h)
  have hedges : (G.edges.map serE).Perm (H.edges.map serE) :=
    map_perm_of_sortBy_map_eq (congrArg Ser.edges h)
  refine ⟨?_, fun v hv => ?_, fun u v => ?_⟩
  · simpa [List.map_map, Function.comp_def] using hnodes.map (·.1)
  · obtain ⟨w, -, e⟩ := List.mem_map.1 (hnodes.mem_iff.1 (List.mem_map_of_mem hv))
    rw [Prod.mk.injEq] at e
    rw [← e.2, e.1]
  · apply Option.ext
    intro k
    rw [edge?_map_eq_some_iff G hG, edge?_map_eq_some_iff H hH]
    exact exists_congr fun x => and_congr_left fun _ => hedges.mem_iff

/-! `edgeLt` and `nodeLt` transported to the serialised items, so that `serialise` is a sort of the mapped
lists (`serialise_edges_eq`, `serialise_nodes_eq`). -/

def ltE (x y : (Nat × Nat) × (Nat × Nat) × List Val) : Bool := lexOr pairLt Val.ltList x.2 y.2

def keyLt (x y : Nat × List Val) : Bool := Val.ltList x.2 y.2

theorem serialise_nodes_eq (g : LGraph) :
    (serialise g).nodes = sortBy keyLt (g.nodes.map fun p => (p.1, nodeKey p.2)) := by
  simp only [serialise]
  exact (sortBy_map (fun p : Nat × Attrs => (p.1, nodeKey p.2)) nodeLt keyLt (fun a b => rfl) g.nodes).symm

theorem serialise_edges_eq (g : LGraph) : (serialise g).edges = sortBy ltE (g.edges.map serE) := by
  simp only [serialise]
  exact (sortBy_map serE edgeLt ltE (fun a b => rfl) g.edges).symm

theorem serE_mem_of_edgeKey_eq {A B : LGraph} (hA : A.WF) (oA : ∀ e ∈ A.edges, e.1 < e.2.1)
    (oB : ∀ e ∈ B.edges, e.1 < e.2.1)
    (h : ∀ u v, (A.edge? u v).map edgeKey = (B.edge? u v).map edgeKey)
    {x : (Nat × Nat) × (Nat × Nat) × List Val} (hx : x ∈ A.edges.map serE) : x ∈ B.edges.map serE := by
  obtain ⟨e, he, rfl⟩ := List.mem_map.1 hx
  have hk := h e.1 e.2.1
  rw [LGraph.edge?_of_mem hA he (.inl ⟨rfl, rfl⟩), Option.map_some] at hk
  obtain ⟨b, hb, hbk⟩ := Option.map_eq_some_iff.1 hk.symm
  obtain ⟨e', he', rfl, hj⟩ := LGraph.edge?_some_mem hb
  refine List.mem_map.2 ⟨e', he', ?_⟩
  have h1 := oA e he
  have h2 := oB e' he'
  have h3 : e'.1 = e.1 ∧ e'.2.1 = e.2.1 := by omega
  unfold serE
  rw [h3.1, h3.2, hbk]

/-- The converse of `serialise_inj'` for graphs in canonical shape: the same node list, every edge
listed as `(smaller, larger)`.  Nodes then serialise item by item; the edge items are the same set,
and sorting a list with distinct pairs does not depend on its order. -/
theorem serialise_eq_of_covEqP {A B : LGraph} (hA : A.WF) (hB : B.WF) (hid : A.ids = B.ids)
    (oA : ∀ e ∈ A.edges, e.1 < e.2.1) (oB : ∀ e ∈ B.edges, e.1 < e.2.1) (h : CovEqP A B) :
    serialise A = serialise B := by
  have hnodes : (serialise A).nodes = (serialise B).nodes := by
    rw [serialise_nodes_eq, serialise_nodes_eq, nodes_map_attrs A hA.1, nodes_map_attrs B hB.1, ← hid]
    congr 1
    exact List.map_congr_left fun v hv => by rw [h.node v hv]
  have hedges : (serialise A).edges = (serialise B).edges := by
    rw [serialise_edges_eq, serialise_edges_eq]
    have ndA : ((A.edges.map serE).map (·.2.1)).Nodup := by rw [List.map_map]; exact hA.2.2
    have ndB : ((B.edges.map serE).map (·.2.1)).Nodup := by rw [List.map_map]; exact hB.2.2
    have hst := lexOr_strictTotal pairLt_strictTotal Val.ltList_strictTotal
    apply sortBy_eq_of_perm ltE (fun a => hst.irrefl a.2) (fun a b c => hst.trans a.2 b.2 c.2)
    · exact (List.perm_ext_iff_of_nodup (.of_map _ ndA) (.of_map _ ndB)).2 fun x =>
        ⟨serE_mem_of_edgeKey_eq hA oA oB h.edge, serE_mem_of_edgeKey_eq hB oB oA fun u v => (h.edge u v).symm⟩
    · exact fun a ha b hb => (hst.total a.2 b.2).imp_right
        (Or.imp_left fun h1 => List.inj_on_of_nodup_map ndA ha hb (congrArg Prod.fst h1))
  have e : ∀ s : Ser, s = ⟨s.nodes, s.edges⟩ := fun _ => rfl
  rw [e (serialise A), e (serialise B), hnodes, hedges]

theorem covEq_of_covEqP {A B : LGraph} (hid : A.ids = B.ids) (h : CovEqP A B) : covEq A B = true := by
  simp only [covEq, Bool.and_eq_true, List.all_eq_true, decide_eq_true_eq, List.contains_iff_mem]
  exact ⟨⟨⟨fun v hv => hid ▸ hv, fun v hv => hid ▸ hv⟩, h.node⟩, fun u _ v _ => h.edge u v⟩

theorem covNodeAttrs_get (a : Attrs) : nodeKeyNames.map (covNodeAttrs a).get = nodeKey a := by
  simp [nodeKeyNames, covNodeAttrs, nodeKey, Attrs.get_cons]

theorem covEdgeAttrs_get (a : Attrs) : edgeKeyNames.map (covEdgeAttrs a).get = edgeKey a := by
  simp [edgeKeyNames, covEdgeAttrs, edgeKey, Attrs.get_cons]

theorem nodeOk_cov_iff (a b : Attrs) :
    nodeOk covSel (covNodeAttrs a) (covNodeAttrs b) = true ↔ nodeKey a = nodeKey b := by
  rw [← covNodeAttrs_get a, ← covNodeAttrs_get b, ← Core.all_decide_eq_iff]
  simp [nodeOk, covSel]

theorem edgeOk_cov_iff (a b : Attrs) :
    edgeOk covSel (covEdgeAttrs a) (covEdgeAttrs b) = true ↔ edgeKey a = edgeKey b := by
  rw [← covEdgeAttrs_get a, ← covEdgeAttrs_get b]
  exact Core.all_decide_eq_iff _ _ _

theorem cov_eq (g : LGraph) : cov g = g.mapAttrs (fun _ => covNodeAttrs) covEdgeAttrs := rfl

theorem cov_ids (g : LGraph) : (cov g).ids = g.ids := by
  rw [cov_eq]; exact LGraph.ids_mapAttrs

theorem cov_attrs (g : LGraph) (v : Nat) (hv : v ∈ g.ids) : (cov g).attrs v = covNodeAttrs (g.attrs v) := by
  rw [cov_eq]; exact LGraph.attrs_mapAttrs hv

theorem cov_edge? (g : LGraph) (u v : Nat) : (cov g).edge? u v = (g.edge? u v).map covEdgeAttrs := by
  rw [cov_eq]; exact LGraph.edge?_mapAttrs

theorem cov_hasEdge (g : LGraph) (u v : Nat) : (cov g).hasEdge u v = g.hasEdge u v := by
  rw [cov_eq]; exact LGraph.hasEdge_mapAttrs

theorem cov_wf (H : LGraph) (hH : H.WF) : (cov H).WF := by
  rw [cov_eq]; exact LGraph.wf_mapAttrs hH

/-- The covered dicts are the covered keys zipped with their names, so equal keys give equal dicts. -/
theorem covNodeAttrs_eq (a : Attrs) : covNodeAttrs a = nodeKeyNames.zip (nodeKey a) := rfl

theorem map_covEdgeAttrs (o : Option Attrs) :
    o.map covEdgeAttrs = (o.map edgeKey).map (List.zip edgeKeyNames) := by
  cases o <;> rfl

/-- The reading of a graph that the signature sees: covered node keys, covered edge keys through `edge?`. -/
abbrev covS (G : LGraph) : LStruct (List Val) (Option (List Val)) :=
  ⟨G.ids, fun v => nodeKey (G.attrs v), fun u v => (G.edge? u v).map edgeKey⟩

/-- `g` goes from the nodes of `H` to the nodes of `G`, like the engine's mappings (pattern → host). -/
abbrev IsoCov (G H : LGraph) (g : Nat → Nat) : Prop := (covS G).Iso (covS H) g

theorem IsoCov.edge {G H : LGraph} {g : Nat → Nat} (h : IsoCov G H g) : ∀ p ∈ H.ids, ∀ q ∈ H.ids,
    (G.edge? (g p) (g q)).map edgeKey = (H.edge? p q).map edgeKey := h.pair

/-- The constructor with the fields spelt on the graphs (an anonymous constructor leaves them as `(covS G).node …`). -/
theorem IsoCov.intro {G H : LGraph} {g : Nat → Nat} (perm : (H.ids.map g).Perm G.ids)
    (node : ∀ p ∈ H.ids, nodeKey (G.attrs (g p)) = nodeKey (H.attrs p))
    (edge : ∀ p ∈ H.ids, ∀ q ∈ H.ids, (G.edge? (g p) (g q)).map edgeKey = (H.edge? p q).map edgeKey) :
    IsoCov G H g := ⟨perm, node, edge⟩

/-- `cov` keeps nothing but the covered keys, so on `cov G`, `cov H` an `IsoCov` carries the attribute dicts over
exactly. -/
theorem IsoCov.isoFn {G H : LGraph} {g : Nat → Nat} (hG : G.WF) (hH : H.WF) (h : IsoCov G H g) :
    IsIsoFn covSel (cov G) (cov H) g := by
  have hmem : ∀ p ∈ H.ids, g p ∈ G.ids := fun p hp => h.mem hp
  refine .of_eq (cov_wf H hH) ?_ ?_ ?_ ?_ ?_
  · rw [cov_ids]; exact h.inj hG.1
  · rw [cov_ids, cov_ids]; exact hmem
  · rw [← LGraph.ids_length, ← LGraph.ids_length, cov_ids, cov_ids]; exact h.length_eq
  · intro p hp
    rw [cov_ids] at hp
    rw [cov_attrs G _ (hmem p hp), cov_attrs H _ hp, covNodeAttrs_eq, covNodeAttrs_eq]
    exact congrArg _ (h.node p hp)
  · intro p hp q hq
    rw [cov_ids] at hp hq
    rw [cov_edge?, cov_edge?, map_covEdgeAttrs, map_covEdgeAttrs, h.edge p hp q hq]

theorem isoCov_of_isoFn {G H : LGraph} {g : Nat → Nat} (hH : H.WF) (h : IsIsoFn covSel (cov G) (cov H) g) :
    IsoCov G H g := by
  have hperm := h.ids_perm (cov_wf H hH).1
  rw [cov_ids, cov_ids] at hperm
  have hid : ∀ {p}, p ∈ H.ids → p ∈ (cov H).ids := fun hp => (cov_ids H).symm ▸ hp
  refine .intro hperm (fun p hp => ?_) fun p hp q hq => ?_
  · obtain ⟨h1, h2⟩ := h.node p (hid hp)
    rw [cov_ids] at h1
    rwa [cov_attrs G _ h1, cov_attrs H _ hp, nodeOk_cov_iff] at h2
  · cases hx : H.edge? p q with
    | none =>
      have := h.nonedge p (hid hp) q (hid hq)
      rw [cov_hasEdge, cov_hasEdge, LGraph.hasEdge_false_iff_edge?, LGraph.hasEdge_false_iff_edge?] at this
      rw [this hx]
    | some a =>
      obtain ⟨b, hb, hok⟩ := h.edge?_image (p := p) (q := q) (a := covEdgeAttrs a) (by rw [cov_edge?, hx]; rfl)
      rw [cov_edge?] at hb
      obtain ⟨b0, hb0, rfl⟩ := Option.map_eq_some_iff.1 hb
      rw [hb0]
      exact congrArg some ((edgeOk_cov_iff _ _).1 hok)

theorem isIso_of_isoCov (G H : LGraph) (hG : G.WF) (hH : H.WF) (g : Nat → Nat) (h : IsoCov G H g) :
    IsIso covSel (cov G) (cov H) (ofFn (cov H) g) :=
  (h.isoFn hG hH).isIso (cov_wf H hH)

theorem isoCov_of_isIso (G H : LGraph) (hH : H.WF) (m : Mapping)
    (h : IsIso covSel (cov G) (cov H) m) : IsoCov G H (mapFn m) :=
  isoCov_of_isoFn hH h.isoFn

theorem IsoCov.trans {A B C : LGraph} {f g : Nat → Nat} (h₁ : IsoCov A B f) (h₂ : IsoCov B C g) :
    IsoCov A C (f ∘ g) := LStruct.Iso.trans h₁ h₂

theorem CovEqP.isoCov {G H : LGraph} (h : CovEqP G H) : IsoCov G H id :=
  ⟨by rw [List.map_id]; exact h.ids.symm, fun p hp => h.node p (h.ids.mem_iff.2 hp), fun p _ q _ => h.edge p q⟩

/-- An isomorphism between graphs on the same node list that fixes every node is equality on the
covered data (outside the node list neither graph has an edge). -/
theorem IsoCov.covEqP {A B : LGraph} {f : Nat → Nat} (hA : A.WF) (hB : B.WF) (hid : A.ids = B.ids)
    (h : IsoCov A B f) (hf : ∀ v ∈ B.ids, f v = v) : CovEqP A B := by
  refine ⟨hid ▸ List.Perm.refl _, fun v hv => ?_, fun u v => ?_⟩
  · have hv' : v ∈ B.ids := hid ▸ hv
    have := h.node v hv'
    rwa [hf v hv'] at this
  · by_cases hu : u ∈ B.ids ∧ v ∈ B.ids
    · have := h.edge u hu.1 v hu.2
      rwa [hf u hu.1, hf v hu.2] at this
    · rw [LGraph.edge?_of_not_mem hA (hid ▸ not_and_or.1 hu), LGraph.edge?_of_not_mem hB (not_and_or.1 hu)]

theorem isoCov_canonBy_left (o : List Nat) (G : LGraph) (hw : G.WF) (hp : o.Perm G.ids) :
    IsoCov (canonBy o G) G (pos o) := by
  have hn : o.Nodup := hp.nodup_iff.2 hw.1
  refine .intro ?_ ?_ ?_
  · rw [canonBy_ids']; exact (hp.symm).map _
  · intro p hpG
    rw [canonBy_attrs o G hn p (hp.mem_iff.2 hpG)]
  · intro p _ q _
    rw [canonBy_edge? o G hw hp p q]

theorem isoCov_canonBy_right (o : List Nat) (G : LGraph) (hw : G.WF) (hp : o.Perm G.ids) :
    IsoCov G (canonBy o G) (unpos o) :=
  (isoCov_canonBy_left o G hw hp).symm fun p hpG => unpos_pos o p (hp.mem_iff.2 hpG)

/-- Carrying the node order along an isomorphism gives canonical graphs with the same serialisation:
the canonical graphs are isomorphic by `pos (o₂.map g) ∘ g ∘ unpos o₂`, which is the identity on `1..N`. -/
theorem serialise_canonBy_congr (G H : LGraph) (hG : G.WF) (hH : H.WF) (g : Nat → Nat)
    (h : IsoCov G H g) (o₂ : List Nat) (hp₂ : o₂.Perm H.ids) :
    serialise (canonBy (o₂.map g) G) = serialise (canonBy o₂ H) := by
  have hinj : ∀ a ∈ o₂, ∀ b ∈ o₂, g a = g b → a = b :=
    fun a ha b hb => List.inj_on_of_nodup_map (h.perm.nodup_iff.2 hG.1) (hp₂.mem_iff.1 ha) (hp₂.mem_iff.1 hb)
  have hp₁ : (o₂.map g).Perm G.ids := (hp₂.map g).trans h.perm
  have hA := canonBy_wf _ G hG hp₁
  have hB := canonBy_wf o₂ H hH hp₂
  have hid : (canonBy (o₂.map g) G).ids = (canonBy o₂ H).ids := by
    rw [canonBy_ids _ G (hp₁.nodup_iff.2 hG.1), canonBy_ids o₂ H (hp₂.nodup_iff.2 hH.1), List.length_map]
  have hiso := ((isoCov_canonBy_left _ G hG hp₁).trans h).trans (isoCov_canonBy_right o₂ H hH hp₂)
  refine serialise_eq_of_covEqP hA hB hid (canonBy_edges_lt _ G hG hp₁) (canonBy_edges_lt o₂ H hH hp₂)
    (hiso.covEqP hA hB hid fun i hi => ?_)
  rw [canonBy_ids'] at hi
  obtain ⟨p, hp, rfl⟩ := List.mem_map.1 hi
  rw [Function.comp_apply, Function.comp_apply, unpos_pos o₂ p hp, pos_map fun a ha => hinj a ha p hp]

/-- Equal serialisations of canonical graphs give an isomorphism: back from `G` to its canonical graph,
across (the canonical graphs agree on the covered data), and on to `H`. -/
theorem isoCov_of_ser_eq (G H : LGraph) (hG : G.WF) (hH : H.WF) (o₁ o₂ : List Nat)
    (hp₁ : o₁.Perm G.ids) (hp₂ : o₂.Perm H.ids)
    (h : serialise (canonBy o₁ G) = serialise (canonBy o₂ H)) : IsoCov G H (unpos o₁ ∘ pos o₂) :=
  ((isoCov_canonBy_right o₁ G hG hp₁).trans
    (serialise_inj' _ _ (canonBy_wf o₁ G hG hp₁) (canonBy_wf o₂ H hH hp₂) h).isoCov).trans
    (isoCov_canonBy_left o₂ H hH hp₂)

theorem canonBy_covEqP (G H : LGraph) (hG : G.WF) (hH : H.WF) (o₁ o₂ : List Nat)
    (hp₁ : o₁.Perm G.ids) (hp₂ : o₂.Perm H.ids)
    (h : serialise (canonBy o₁ G) = serialise (canonBy o₂ H)) :
    (canonBy o₁ G).ids = (canonBy o₂ H).ids ∧ CovEqP (canonBy o₁ G) (canonBy o₂ H) := by
  have hc := serialise_inj' _ _ (canonBy_wf o₁ G hG hp₁) (canonBy_wf o₂ H hH hp₂) h
  refine ⟨?_, hc⟩
  have hl := hc.ids.length_eq
  rw [canonBy_ids o₁ G (hp₁.nodup_iff.2 hG.1), canonBy_ids o₂ H (hp₂.nodup_iff.2 hH.1)] at hl ⊢
  rw [List.length_range', List.length_range'] at hl
  rw [hl]

/-! ## The least serialisation over all node orders

Under an isomorphism `g` the orders of `G.ids` are the images of the orders of `H.ids`, and an order and its image give the
same serialisation (`serialise_canonBy_congr`); so the two sets of candidate serialisations, hence their minima, coincide. -/

theorem mem_cands (l o : List Nat) : o ∈ l :: perms l ↔ o.Perm l := by
  rw [List.mem_cons, mem_perms]
  exact or_iff_right_of_imp fun h => h ▸ .refl _

theorem bruteOrder_perm (g : LGraph) : (bruteOrder g).Perm g.ids :=
  (mem_cands _ _).1 (minBy_mem _ g.ids (perms g.ids))

theorem sigBrute_invariant (G H : LGraph) (hG : G.WF) (hH : H.WF) (g : Nat → Nat) (h : IsoCov G H g) :
    sigBrute G = sigBrute H := by
  unfold sigBrute canonBrute bruteOrder
  refine minBy_key_congr Ser.lt Ser.lt_strictTotal (fun o => serialise (canonBy o G))
    (fun o => serialise (canonBy o H)) _ _ _ _ fun k => ?_
  simp only [mem_cands]
  exact orderKeys_iff h.perm _ _ (fun o ho => serialise_canonBy_congr G H hG hH g h o ho) k

theorem ite_eq_ok_iff {c : Prop} [Decidable c] {s t : String} (hs : s ≠ "ok") :
    (if c then s else t) = "ok" ↔ ¬ c ∧ t = "ok" := by
  split <;> simp [*]

theorem length_all_contains_iff {xs ys : List Nat} (hx : xs.Nodup) :
    (xs.length == ys.length && xs.all ys.contains) = true ↔ xs.Perm ys := by
  simp only [Bool.and_eq_true, beq_iff_eq, List.all_eq_true, List.contains_iff_mem]
  exact ⟨fun h => (List.subperm_of_subset hx h.2).perm_of_length_le (by omega),
    fun h => ⟨h.length_eq, fun v hv => h.mem_iff.1 hv⟩⟩

theorem isPermOfRange_iff (xs : List Nat) (n : Nat) :
    isPermOfRange xs n = true ↔ xs.Perm (List.range' 1 n) := by
  rw [List.perm_comm, ← length_all_contains_iff List.nodup_range', List.length_range', BEq.comm]
  rfl

/-- The driver's `spec.isRelabelling` answers "ok" exactly when `IsRelabelling` holds. -/
theorem checkRelabelling_ok_iff (G H : LGraph) (m : Mapping) :
    checkRelabelling G H m = "ok" ↔ IsRelabelling G H m := by
  unfold checkRelabelling IsRelabelling
  rw [ite_eq_ok_iff (by simp), ite_eq_ok_iff (by simp), ite_eq_ok_iff (by simp),
    ite_eq_ok_iff (by simp), ite_eq_ok_iff (by simp), ite_eq_ok_iff (by simp)]
  simp only [ne_eq, Decidable.not_not, Bool.not_eq_true', Bool.not_eq_false, decide_eq_true_eq, and_true,
    isPermOfRange_iff, List.all_eq_true]
  refine and_congr_right fun _ => and_congr_right fun _ => and_congr_right fun hw => and_congr ?_ Iff.rfl
  rw [← length_all_contains_iff hw.1, List.length_map]

end SynKit.Canon
