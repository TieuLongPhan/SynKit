import SynKitProofs.CrnCanonLemmas
import SynKitProofs.Core.Orbit
/-!
Orbits for C18: the structure-preserving self-maps form a `Core.MapGroup` (`mapGroup_isoF`) whose orbit relation is read
on the enumerated mapping lists by `orb_iff`; the classes listed by enumeration (`orbitsD`) are these orbits
(`dedupL_orbits` for any class function that lists orbits, `mem_orbitOf_iff_orb` / `orbitOf_congr` for `orbitOf`).  The
union–find merging `orbitsUF` computes the equivalence closure of its generator pairs — one `union` adds one generator
(`unionCls_spec` with `Core.eqvGen_join`, folded in `ufold_spec`) — and hence the orbit partition whenever the
generators lie inside orbits and connect each of them (`orbitsUF_orbits`).
-/
namespace SynKit.CrnCanon

theorem mem_orbitOf (sel : SelD) (G : LGraph) (u v : Nat) :
    v ∈ orbitOf sel G u ↔ v ∈ G.ids ∧ ∃ σ ∈ autsD sel G, app σ u = v := by
  simp [orbitOf, List.mem_filter, List.any_eq_true]

theorem mapGroup_isoF (sel : SelD) (G : LGraph) (hG : G.ids.Nodup) : Core.MapGroup G.ids (IsIsoF sel G G) :=
  ⟨fun hf => hf.mem, ⟨id, isIsoF_refl sel G, fun _ _ => rfl⟩,
   fun hf hg => ⟨_, isIsoF_trans hG hf hg, fun _ _ => rfl⟩,
   fun hf => ⟨_, isIsoF_symm hf hG, fun _ hv => invOn_left hf.inj hv⟩⟩

theorem orb_iff (sel : SelD) (G : LGraph) (hG : G.ids.Nodup) {u : Nat} (hu : u ∈ G.ids) (v : Nat) :
    Core.Orb G.ids (IsIsoF sel G G) u v ↔ ∃ σ ∈ autsD sel G, app σ u = v := by
  rw [Core.Orb, and_iff_right hu]
  constructor
  · rintro ⟨f, hf, e⟩
    exact ⟨_, (mem_allIsoD' sel G G hG _).2 (isIsoD_of_isIsoF hG hf), by rw [app_graph f hu, e]⟩
  · rintro ⟨σ, hσ, e⟩
    exact ⟨app σ, ((mem_allIsoD' sel G G hG σ).1 hσ).2, e⟩

theorem mem_orbitOf_iff_orb (sel : SelD) (G : LGraph) (hG : G.ids.Nodup) {u : Nat} (hu : u ∈ G.ids) (v : Nat) :
    v ∈ orbitOf sel G u ↔ Core.Orb G.ids (IsIsoF sel G G) u v := by
  rw [mem_orbitOf, ← orb_iff sel G hG hu]
  exact and_iff_right_of_imp (mapGroup_isoF sel G hG).mem

theorem orbitOf_congr (sel : SelD) (G : LGraph) (hG : G.ids.Nodup) {a b : Nat} (ha : a ∈ G.ids) (hb : b ∈ G.ids)
    (hab : Core.Orb G.ids (IsIsoF sel G G) a b) : orbitOf sel G a = orbitOf sel G b := by
  have hM := mapGroup_isoF sel G hG
  refine List.filter_congr fun v _ => ?_
  rw [Bool.eq_iff_iff, List.any_eq_true, List.any_eq_true]
  simp only [decide_eq_true_eq]
  rw [← orb_iff sel G hG ha, ← orb_iff sel G hG hb]
  exact ⟨hM.trans (hM.symm hab), hM.trans hab⟩

theorem mem_dedupL (l : List (List Nat)) (c : List Nat) : c ∈ dedupL l ↔ c ∈ l := by
  induction l with
  | nil => simp [dedupL]
  | cons x xs ih =>
    simp only [dedupL, List.mem_cons, List.mem_filter, ih, bne_iff_ne, ne_eq]
    by_cases h : c = x <;> simp [h]

theorem dedupL_nodup (l : List (List Nat)) : (dedupL l).Nodup := by
  induction l with
  | nil => simp [dedupL]
  | cons x xs ih =>
    simp only [dedupL, List.nodup_cons, List.mem_filter, bne_self_eq_false, Bool.false_eq_true,
      and_false, not_false_eq_true, true_and]
    exact ih.filter _

theorem dedupL_orbits {ids : List Nat} {A : (Nat → Nat) → Prop} (hM : Core.MapGroup ids A) (cls : Nat → List Nat)
    (hcls : ∀ a ∈ ids, ∀ x, x ∈ cls a ↔ Core.Orb ids A a x)
    (hext : ∀ a ∈ ids, ∀ b ∈ ids, Core.Orb ids A a b → cls a = cls b) :
    IsPartition (dedupL (ids.map cls)) ids ∧
    ∀ u v, (SameClass (dedupL (ids.map cls)) u v ↔ Core.Orb ids A u v) := by
  have hmem : ∀ c, c ∈ dedupL (ids.map cls) ↔ ∃ a ∈ ids, cls a = c := fun c => by rw [mem_dedupL, List.mem_map]
  refine ⟨⟨?_, ?_, ?_⟩, fun u v => ?_⟩
  · intro c hc
    obtain ⟨a, ha, rfl⟩ := (hmem c).1 hc
    exact ⟨List.ne_nil_of_mem ((hcls a ha a).2 (hM.refl ha)), fun x hx => hM.mem ((hcls a ha x).1 hx)⟩
  · exact fun u hu => ⟨_, (hmem _).2 ⟨u, hu, rfl⟩, (hcls u hu u).2 (hM.refl hu)⟩
  · refine List.Pairwise.imp_of_mem ?_ (dedupL_nodup _)
    intro c d hc hd hne x hxc hxd
    obtain ⟨a, ha, rfl⟩ := (hmem c).1 hc
    obtain ⟨b, hb, rfl⟩ := (hmem d).1 hd
    exact hne (hext a ha b hb (hM.trans ((hcls a ha x).1 hxc) (hM.symm ((hcls b hb x).1 hxd))))
  · exact hM.sameClass_iff (fun O hO => let ⟨a, ha, e⟩ := (hmem O).1 hO; ⟨a, e ▸ hcls a ha⟩)
      fun a ha => ⟨_, (hmem _).2 ⟨a, ha, rfl⟩, hcls a ha⟩

def GenRel (maps : List Mapping) (x y : Nat) : Prop := ∃ m ∈ maps, (x, y) ∈ m

theorem part_unique {p : List (List Nat)} {ids : List Nat} (hp : IsPartition p ids)
    {c d : List Nat} (hc : c ∈ p) (hd : d ∈ p) {z : Nat} (hzc : z ∈ c) (hzd : z ∈ d) : c = d := by
  have : Std.Symm (fun c d : List Nat => ∀ x, x ∈ c → x ∉ d) := ⟨fun _ _ h x hx hx' => h x hx' hx⟩
  by_contra hne
  exact List.Pairwise.forall hp.2.2 hc hd hne z hzc hzd

theorem sc_symm {p : List (List Nat)} {u v : Nat} (h : SameClass p u v) : SameClass p v u := by
  obtain ⟨c, hc, h1, h2⟩ := h
  exact ⟨c, hc, h2, h1⟩

theorem sc_trans {p : List (List Nat)} {ids : List Nat} (hp : IsPartition p ids) {u v w : Nat}
    (h1 : SameClass p u v) (h2 : SameClass p v w) : SameClass p u w := by
  obtain ⟨c, hc, huc, hvc⟩ := h1
  obtain ⟨d, hd, hvd, hwd⟩ := h2
  have := part_unique hp hc hd hvc hvd
  subst this
  exact ⟨c, hc, huc, hwd⟩

theorem sc_mem {p : List (List Nat)} {ids : List Nat} (hp : IsPartition p ids) {u v : Nat}
    (h : SameClass p u v) : u ∈ ids ∧ v ∈ ids := by
  obtain ⟨c, hc, h1, h2⟩ := h
  exact ⟨(hp.1 c hc).2 u h1, (hp.1 c hc).2 v h2⟩

theorem findCls_spec {p : List (List Nat)} {ids : List Nat} (hp : IsPartition p ids) {x : Nat}
    (hx : x ∈ ids) : findCls p x ∈ p ∧ x ∈ findCls p x := by
  unfold findCls
  cases hf : p.find? (·.contains x) with
  | none =>
    obtain ⟨c, hc, hxc⟩ := hp.2.1 x hx
    have := List.find?_eq_none.mp hf c hc
    simp [hxc] at this
  | some c =>
    exact ⟨List.mem_of_find?_eq_some hf, by simpa using List.find?_some hf⟩

theorem mem_findCls_iff {p : List (List Nat)} {ids : List Nat} (hp : IsPartition p ids) {x : Nat} (hx : x ∈ ids)
    (w : Nat) : w ∈ findCls p x ↔ SameClass p w x := by
  obtain ⟨hcx, hxcx⟩ := findCls_spec hp hx
  exact ⟨fun h => ⟨_, hcx, h, hxcx⟩, fun ⟨c, hc, hw, hxc⟩ => part_unique hp hc hcx hxc hxcx ▸ hw⟩

theorem unionCls_cases (p : List (List Nat)) (x y : Nat) :
    (y ∈ findCls p x ∧ unionCls p x y = p) ∨
    (y ∉ findCls p x ∧ unionCls p x y =
      (findCls p x ++ findCls p y) :: p.filter fun c => !(c.contains x) && !(c.contains y)) := by
  unfold unionCls
  by_cases h : y ∈ findCls p x
  · left; simp [h]
  · right; simp [h]

theorem mem_filter_xy {p : List (List Nat)} {x y : Nat} {c : List Nat} :
    c ∈ p.filter (fun c => !(c.contains x) && !(c.contains y)) ↔ c ∈ p ∧ x ∉ c ∧ y ∉ c := by
  simp [List.mem_filter]

theorem unionCls_spec {p : List (List Nat)} {ids : List Nat} (hp : IsPartition p ids) {x y : Nat}
    (hx : x ∈ ids) (hy : y ∈ ids) :
    IsPartition (unionCls p x y) ids ∧ ∀ u v, (SameClass (unionCls p x y) u v ↔
      SameClass p u v ∨ ((SameClass p u x ∨ SameClass p u y) ∧ (SameClass p v x ∨ SameClass p v y))) := by
  have key : ∀ w, w ∈ findCls p x ++ findCls p y ↔ SameClass p w x ∨ SameClass p w y := fun w => by
    rw [List.mem_append, mem_findCls_iff hp hx, mem_findCls_iff hp hy]
  rcases unionCls_cases p x y with ⟨hyx, e⟩ | ⟨_, e⟩
  · rw [e]
    refine ⟨hp, fun u v => ⟨Or.inl, fun h => h.elim id fun ⟨hu, hv⟩ => ?_⟩⟩
    have hyx' : SameClass p y x := (mem_findCls_iff hp hx y).1 hyx
    have hto : ∀ w, SameClass p w x ∨ SameClass p w y → SameClass p w x :=
      fun w h => h.elim id fun h => sc_trans hp h hyx'
    exact sc_trans hp (hto u hu) (sc_symm (hto v hv))
  · rw [e]
    -- a class of `p` is kept, or it holds `x` or `y` and lies inside the merged class
    have hold : ∀ c ∈ p, c ∈ p.filter (fun c => !(c.contains x) && !(c.contains y)) ∨
        ∀ w ∈ c, w ∈ findCls p x ++ findCls p y := by
      intro c hc
      by_cases h : x ∈ c ∨ y ∈ c
      · exact Or.inr fun w hw => (key w).2 (h.imp (fun h => ⟨c, hc, hw, h⟩) fun h => ⟨c, hc, hw, h⟩)
      · rw [not_or] at h
        exact Or.inl (mem_filter_xy.mpr ⟨hc, h.1, h.2⟩)
    refine ⟨⟨?_, ?_, ?_⟩, fun u v => ⟨?_, ?_⟩⟩
    · intro c hc
      rcases List.mem_cons.mp hc with rfl | hc
      · exact ⟨List.ne_nil_of_mem (List.mem_append_left _ (findCls_spec hp hx).2),
          fun z hz => ((key z).1 hz).elim (fun h => (sc_mem hp h).1) fun h => (sc_mem hp h).1⟩
      · exact hp.1 c (mem_filter_xy.mp hc).1
    · intro u hu
      obtain ⟨c, hc, huc⟩ := hp.2.1 u hu
      rcases hold c hc with h | h
      · exact ⟨c, List.mem_cons_of_mem _ h, huc⟩
      · exact ⟨_, List.mem_cons_self, h u huc⟩
    · rw [List.pairwise_cons]
      refine ⟨fun d hd z hz hzd => ?_, hp.2.2.filter _⟩
      obtain ⟨hdp, hxd, hyd⟩ := mem_filter_xy.mp hd
      rcases (key z).1 hz with ⟨c, hc, hzc, hxc⟩ | ⟨c, hc, hzc, hyc⟩
      · exact hxd (part_unique hp hc hdp hzc hzd ▸ hxc)
      · exact hyd (part_unique hp hc hdp hzc hzd ▸ hyc)
    · rintro ⟨c, hc, huc, hvc⟩
      rcases List.mem_cons.mp hc with rfl | hc
      · exact Or.inr ⟨(key u).1 huc, (key v).1 hvc⟩
      · exact Or.inl ⟨c, (mem_filter_xy.mp hc).1, huc, hvc⟩
    · rintro (⟨c, hc, huc, hvc⟩ | ⟨hu, hv⟩)
      · rcases hold c hc with h | h
        · exact ⟨c, List.mem_cons_of_mem _ h, huc, hvc⟩
        · exact ⟨_, List.mem_cons_self, h u huc, h v hvc⟩
      · exact ⟨_, List.mem_cons_self, (key u).2 hu, (key v).2 hv⟩

theorem ufold_spec (ids : List Nat) (ps : List (Nat × Nat)) (p : List (List Nat)) (R : Nat → Nat → Prop)
    (hp : IsPartition p ids) (hS : ∀ u ∈ ids, ∀ v ∈ ids, (SameClass p u v ↔ Relation.EqvGen R u v))
    (hps : ∀ sd ∈ ps, sd.1 ∈ ids ∧ sd.2 ∈ ids) :
    IsPartition (ps.foldl (fun p sd => unionCls p sd.1 sd.2) p) ids ∧
    ∀ u ∈ ids, ∀ v ∈ ids, (SameClass (ps.foldl (fun p sd => unionCls p sd.1 sd.2) p) u v ↔
      Relation.EqvGen (fun a b => R a b ∨ (a, b) ∈ ps) u v) := by
  induction ps generalizing p R with
  | nil => exact ⟨hp, fun u hu v hv => by simpa using hS u hu v hv⟩
  | cons xy ps ih =>
    obtain ⟨x, y⟩ := xy
    obtain ⟨hx, hy⟩ := hps _ List.mem_cons_self
    obtain ⟨hp', hsc⟩ := unionCls_spec hp hx hy
    obtain ⟨h1, h2⟩ := ih (unionCls p x y) (fun a b => R a b ∨ (a = x ∧ b = y)) hp'
      (fun u hu v hv => by
        rw [hsc, hS u hu v hv, hS u hu x hx, hS u hu y hy, hS v hv x hx, hS v hv y hy, Core.eqvGen_join])
      fun sd hsd => hps sd (List.mem_cons_of_mem _ hsd)
    refine ⟨h1, fun u hu v hv => ?_⟩
    rw [List.foldl_cons, h2 u hu v hv]
    exact Core.eqvGen_congr (fun a b => by simp only [List.mem_cons, Prod.mk.injEq, or_assoc]) u v

theorem init_partition (ids : List Nat) (hids : ids.Nodup) : IsPartition (ids.map fun v => [v]) ids := by
  refine ⟨?_, ?_, ?_⟩
  · intro c hc
    obtain ⟨v, hv, rfl⟩ := List.mem_map.mp hc
    exact ⟨by simp, fun x hx => by simp at hx; exact hx ▸ hv⟩
  · intro u hu
    exact ⟨[u], List.mem_map.mpr ⟨u, hu, rfl⟩, by simp⟩
  · rw [List.pairwise_map]
    refine List.Pairwise.imp ?_ hids
    intro a b hab x hx hx'
    simp at hx hx'
    exact hab (hx.symm.trans hx')

theorem init_sameClass (ids : List Nat) (u v : Nat) (hu : u ∈ ids) :
    SameClass (ids.map fun v => [v]) u v ↔ u = v := by
  constructor
  · rintro ⟨c, hc, h1, h2⟩
    obtain ⟨w, _, rfl⟩ := List.mem_map.mp hc
    simp at h1 h2
    rw [h1, h2]
  · rintro rfl
    exact ⟨[u], List.mem_map.mpr ⟨u, hu, rfl⟩, by simp, by simp⟩

theorem eqvGen_false_iff (u v : Nat) : Relation.EqvGen (fun _ _ : Nat => False) u v ↔ u = v :=
  ⟨Relation.EqvGen.eqvGen_le (r' := Eq) (fun _ _ h => h.elim) u v, fun h => h ▸ Relation.EqvGen.refl _⟩

theorem orbitsUF_spec' (ids : List Nat) (maps : List Mapping) (hids : ids.Nodup)
    (hmaps : ∀ m ∈ maps, ∀ sd ∈ m, sd.1 ∈ ids ∧ sd.2 ∈ ids) :
    IsPartition (orbitsUF ids maps) ids ∧
    ∀ u ∈ ids, ∀ v ∈ ids, (SameClass (orbitsUF ids maps) u v ↔ Relation.EqvGen (GenRel maps) u v) := by
  have hfold : orbitsUF ids maps =
      maps.flatten.foldl (fun p sd => unionCls p sd.1 sd.2) (ids.map fun v => [v]) := by
    unfold orbitsUF; rw [List.foldl_flatten]
  obtain ⟨h1, h2⟩ := ufold_spec ids maps.flatten (ids.map fun v => [v]) (fun _ _ => False)
    (init_partition ids hids) (fun u hu v _ => by rw [init_sameClass ids u v hu, eqvGen_false_iff])
    fun sd hsd => let ⟨m, hm, h⟩ := List.mem_flatten.mp hsd; hmaps m hm sd h
  rw [hfold]
  refine ⟨h1, fun u hu v hv => ?_⟩
  rw [h2 u hu v hv]
  exact Core.eqvGen_congr (fun a b => by simp only [false_or, List.mem_flatten, GenRel]) u v

/-- `ids'` is the node list in any order: `_orbits_from_perms` starts from the first permutation. -/
theorem orbitsUF_orbits {ids ids' : List Nat} {A : (Nat → Nat) → Prop} (hM : Core.MapGroup ids A)
    (hmem : ∀ v, v ∈ ids' ↔ v ∈ ids) (hnd : ids'.Nodup) (maps : List Mapping)
    (hgen : ∀ a b, GenRel maps a b → Core.Orb ids A a b)
    (hcov : ∀ u v, Core.Orb ids A u v → Relation.EqvGen (GenRel maps) u v) :
    IsPartition (orbitsUF ids' maps) ids' ∧
    ∀ u ∈ ids, ∀ v ∈ ids, (SameClass (orbitsUF ids' maps) u v ↔ Core.Orb ids A u v) := by
  obtain ⟨hp, hS⟩ := orbitsUF_spec' ids' maps hnd fun m hm sd hsd =>
    ⟨(hmem _).2 (hgen _ _ ⟨m, hm, hsd⟩).1, (hmem _).2 (hM.mem (hgen _ _ ⟨m, hm, hsd⟩))⟩
  exact ⟨hp, fun u hu v hv => (hS u ((hmem u).2 hu) v ((hmem v).2 hv)).trans
    ⟨fun h => hM.eqvGen hgen h hu, hcov u v⟩⟩

end SynKit.CrnCanon
