import SynKitProofs.ReactorInvLemmas
import SynKitProofs.Core.Sort
/-!
Pruning of possibly partial matches (`prunePartial`, `pruneWithCap`; C11, reactor clause).  All the proofs
need from the key: it is ONE OF the images up to the order of its pairs (`keyP_key`), and two images on
`keep` with the same pairs are equal (`composeOn_eq_of_mem`) — so equal keys give a common image whatever
order `sorted` / `min` use (`keyP_sound`).  When it does not raise, the loop is `dedupKey` (`dedupP_eq_ok`), so both
routines keep a covering sub-list (`covers_prunePartial`, `covers_pruneWithCap`).
-/
namespace SynKit.ReactorInv
open SynKit.Match

theorem insertRepr_eq (x : Nat × Nat) (l : Mapping) :
    insertRepr x l = Core.insertBy (fun a b => ¬ reprPairLt b a) x l := by
  induction l with
  | nil => rfl
  | cons y ys ih => simp only [insertRepr, Core.insertBy, ih, ite_not]

theorem sortRepr_eq (l : Mapping) : sortRepr l = Core.sortBy (fun a b => ¬ reprPairLt b a) l := by
  induction l with
  | nil => rfl
  | cons x xs ih => rw [sortRepr, ih, insertRepr_eq, Core.sortBy_cons]

theorem mem_sortRepr (y : Nat × Nat) (l : Mapping) : y ∈ sortRepr l ↔ y ∈ l := by
  rw [sortRepr_eq, Core.mem_sortBy]

theorem minKey_mem (b : Mapping) (l : List Mapping) : minKey b l ∈ b :: l := by
  induction l generalizing b with
  | nil => simp [minKey]
  | cons y ys ih =>
    simp only [minKey]
    split
    · exact List.mem_cons_of_mem _ (ih y)
    · rcases List.mem_cons.1 (ih b) with h | h
      · rw [h]; exact List.mem_cons_self ..
      · exact List.mem_cons_of_mem _ (List.mem_cons_of_mem _ h)

theorem mapOpt_isSome {α β : Type} (f : α → Option β) (l : List α) (h : ∀ a ∈ l, ∃ b, f a = some b) :
    ∃ r, mapOpt f l = some r := by
  induction l with
  | nil => exact ⟨[], rfl⟩
  | cons x rest ih =>
    obtain ⟨b, hb⟩ := h x (List.mem_cons_self ..)
    obtain ⟨bs, hbs⟩ := ih (fun a ha => h a (List.mem_cons_of_mem _ ha))
    exact ⟨b :: bs, by simp only [mapOpt, hb, hbs]⟩

theorem composeOn_congr (keep : List Nat) (m σ m' σ' : Mapping)
    (h : ∀ p ∈ keep, pcomp m σ p = pcomp m' σ' p) : composeOn keep m σ = composeOn keep m' σ' := by
  rw [composeOn_eq, composeOn_eq]
  exact mapOpt_congr fun p hp => by rw [h p hp]

theorem mem_composeOn {keep : List Nat} {m σ k : Mapping} (h : composeOn keep m σ = some k) (x : Nat × Nat) :
    x ∈ k ↔ x.1 ∈ keep ∧ pcomp m σ x.1 = some x.2 := by
  obtain ⟨hs, rfl⟩ := (composeOn_eq_some keep m σ k).1 h
  rw [List.mem_map]
  constructor
  · rintro ⟨p, hp, rfl⟩
    obtain ⟨v, hv⟩ := Option.isSome_iff_exists.1 (hs p hp)
    exact ⟨hp, by simp [hv]⟩
  · rintro ⟨hp, hx⟩
    exact ⟨x.1, hp, by rw [hx]; rfl⟩

theorem composeOn_eq_of_mem (keep : List Nat) (m σ k m' σ' k' : Mapping)
    (h₁ : composeOn keep m σ = some k) (h₂ : composeOn keep m' σ' = some k') (hmem : ∀ x, x ∈ k ↔ x ∈ k') :
    k = k' ∧ ∀ p ∈ keep, pcomp m σ p = pcomp m' σ' p := by
  have hpt : ∀ p ∈ keep, pcomp m σ p = pcomp m' σ' p := by
    intro p hp
    obtain ⟨v, hv⟩ := Option.isSome_iff_exists.1 (((composeOn_eq_some keep m σ k).1 h₁).1 p hp)
    have := (mem_composeOn h₂ (p, v)).1 ((hmem _).1 ((mem_composeOn h₁ (p, v)).2 ⟨hp, hv⟩))
    rw [hv, this.2]
  refine ⟨?_, hpt⟩
  have := composeOn_congr keep m σ m' σ' hpt
  rw [h₁, h₂] at this
  exact Option.some.inj this

theorem coversB_iff (keep : List Nat) (m : Mapping) :
    coversB keep m = true ↔ ∀ p ∈ keep, ∃ h, Mapping.get? m p = some h := by
  simp only [coversB, List.all_eq_true, Option.isSome_iff_exists]

theorem composeOn_defined (keep : List Nat) (m σ : Mapping) (hm : coversB keep m = true)
    (hσ : ∀ p ∈ keep, ∃ q ∈ keep, Mapping.get? σ p = some q) : ∃ k, composeOn keep m σ = some k := by
  refine ⟨_, (composeOn_eq_some keep m σ _).2 ⟨fun p hp => ?_, rfl⟩⟩
  obtain ⟨q, hq, e⟩ := hσ p hp
  obtain ⟨h, eh⟩ := (coversB_iff keep m).1 hm q hq
  simp [pcomp, e, eh]

theorem keyP_key (keep : List Nat) (group : List Mapping) (m k : Mapping) (h : keyP keep group m = .key k) :
    coversB keep m = true ∧ ∃ σ ∈ group, ∃ i, composeOn keep m σ = some i ∧ sortRepr i = k := by
  unfold keyP at h
  split at h
  · next c =>
    refine ⟨c, ?_⟩
    split at h
    · cases h
    · cases h
    · next i is hr =>
      cases h
      have hk : minKey (sortRepr i) (is.map sortRepr) ∈ (i :: is).map sortRepr := minKey_mem _ _
      obtain ⟨j, hj, e⟩ := List.mem_map.1 hk
      obtain ⟨σ, hσ, eσ⟩ := (mem_of_mapOpt hr j).1 hj
      exact ⟨σ, hσ, j, eσ, e⟩
  · cases h

theorem keyP_lacking_iff (keep : List Nat) (group : List Mapping) (m : Mapping) :
    keyP keep group m = .lacking ↔ coversB keep m = false := by
  unfold keyP
  split
  · next c => rw [c]; split <;> simp
  · next c => simpa using c

theorem keyP_no_error (keep : List Nat) (group : List Mapping)
    (hg : ∀ σ ∈ group, ∀ p ∈ keep, ∃ q ∈ keep, Mapping.get? σ p = some q) (hne : group ≠ []) (m : Mapping) :
    keyP keep group m = .lacking ∨ ∃ k, keyP keep group m = .key k := by
  by_cases c : coversB keep m = true
  · right
    obtain ⟨imgs, hi⟩ := mapOpt_isSome _ group fun σ hσ => composeOn_defined keep m σ c (hg σ hσ)
    unfold keyP
    rw [if_pos c, hi]
    cases imgs with
    | nil => exact absurd (List.map_eq_nil_iff.1 ((mapOpt_eq_some_iff _ _ _).1 hi)) hne
    | cons i is => exact ⟨_, rfl⟩
  · left
    exact (keyP_lacking_iff keep group m).2 (by simpa using c)

def KeyRes.key? : KeyRes → Option Mapping
  | .key k => some k
  | _ => none

theorem KeyRes.key?_key (k : Mapping) : (KeyRes.key k).key? = some k := rfl

theorem KeyRes.key?_lacking : KeyRes.lacking.key? = none := rfl

theorem KeyRes.key?_eq_some {x : KeyRes} {k : Mapping} : x.key? = some k ↔ x = .key k := by
  cases x <;> simp [KeyRes.key?]

theorem consOk_ok (m : Mapping) (res : PruneRes) (r' : List Mapping) :
    consOk m res = .ok r' ↔ ∃ r, res = .ok r ∧ r' = m :: r := by
  cases res <;> simp [consOk, eq_comm]

theorem consOk_ok_iff {res : PruneRes} {A : Prop} {d : List Mapping} (h : ∀ r, res = .ok r ↔ A ∧ r = d)
    (a : Mapping) (r : List Mapping) : consOk a res = .ok r ↔ A ∧ r = a :: d := by
  simp only [consOk_ok, h, and_assoc, exists_and_left, exists_eq_left]

theorem dedupP_eq_ok (key : Mapping → KeyRes) (seen ms r : List Mapping) :
    dedupP key seen ms = .ok r ↔
      (∀ m ∈ ms, key m = .lacking ∨ ∃ k, key m = .key k) ∧ r = dedupKey (fun m => (key m).key?) seen ms := by
  fun_induction dedupP key seen ms generalizing r with
  | case1 => simp [dedupKey, eq_comm]
  | case2 seen a ms hk ih =>
    simp only [List.forall_mem_cons, dedupKey, hk, KeyRes.key?_lacking, consOk_ok_iff ih, true_or, true_and]
  | case3 seen a ms hk | case4 seen a ms hk =>
    simp only [List.forall_mem_cons, hk, reduceCtorEq, exists_false, or_self, false_and]
  | case5 seen a ms k hk c ih =>
    simp only [List.forall_mem_cons, dedupKey, hk, KeyRes.key?_key, c, if_true, ih, KeyRes.key.injEq, exists_eq',
      or_true, true_and]
  | case6 seen a ms k hk c ih =>
    simp only [List.forall_mem_cons, dedupKey, hk, KeyRes.key?_key, c, Bool.false_eq_true, if_false, consOk_ok_iff ih,
      KeyRes.key.injEq, exists_eq', or_true, true_and]

theorem keyP_sound (keep : List Nat) (group : List Mapping) :
    KeySound keep group (fun m => coversB keep m = true) (fun m => (keyP keep group m).key?) := by
  intro m m' k h h'
  obtain ⟨c, σ₁, hσ₁, i₁, e₁, s₁⟩ := keyP_key keep group m k (KeyRes.key?_eq_some.1 h)
  obtain ⟨c', σ₂, hσ₂, i₂, e₂, s₂⟩ := keyP_key keep group m' k (KeyRes.key?_eq_some.1 h')
  have hmem : ∀ x, x ∈ i₁ ↔ x ∈ i₂ := fun x => by
    rw [← mem_sortRepr x i₁, ← mem_sortRepr x i₂, s₁, s₂]
  obtain ⟨e, _⟩ := composeOn_eq_of_mem keep m σ₁ i₁ m' σ₂ i₂ e₁ e₂ hmem
  exact ⟨c, c', σ₁, hσ₁, σ₂, hσ₂, i₁, e₁, e ▸ e₂⟩

/-- When it does not raise, the routine is the loop `dedupKey` over the keys; the shortcut for fewer than two
matches decides only whether it can raise. -/
theorem prunePartial_eq_ok (keep : List Nat) (group ms r : List Mapping) :
    prunePartial keep group ms = .ok r ↔
      (ms.length < 2 ∨ ∀ m ∈ ms, keyP keep group m = .lacking ∨ ∃ k, keyP keep group m = .key k) ∧
        r = dedupKey (fun m => (keyP keep group m).key?) [] ms := by
  unfold prunePartial
  split
  · next h => rw [dedupKey_of_length_lt_two _ _ h, PruneRes.ok.injEq, eq_comm]; exact ⟨fun e => ⟨Or.inl h, e⟩, And.right⟩
  · next h => rw [dedupP_eq_ok, or_iff_right h]

theorem covers_prunePartial (keep : List Nat) (group ms r : List Mapping) (h : prunePartial keep group ms = .ok r) :
    Covers keep group (fun m => coversB keep m = true) ms r := by
  obtain ⟨-, rfl⟩ := (prunePartial_eq_ok keep group ms r).1 h
  exact dedupKey_covers_of_sound (keyP_sound keep group) ms

theorem prunePartial_ok (keep : List Nat) (group : List Mapping)
    (hg : ∀ σ ∈ group, ∀ p ∈ keep, ∃ q ∈ keep, Mapping.get? σ p = some q) (hne : group ≠ []) (ms : List Mapping) :
    ∃ r, prunePartial keep group ms = .ok r :=
  ⟨_, (prunePartial_eq_ok keep group ms _).2 ⟨Or.inr fun m _ => keyP_no_error keep group hg hne m, rfl⟩⟩

theorem pruneWithCap_eq (cap : Nat) (keep : List Nat) (group ms : List Mapping) :
    pruneWithCap cap keep group ms = if group.length > cap then .ok ms else prunePartial keep group ms := by
  unfold pruneWithCap prunePartial
  split <;> split <;> rfl

/-- The `max_group` fall-back returns the matches unchanged, which covers them trivially. -/
theorem covers_pruneWithCap (cap : Nat) (keep : List Nat) (group ms r : List Mapping)
    (h : pruneWithCap cap keep group ms = .ok r) : Covers keep group (fun m => coversB keep m = true) ms r := by
  rw [pruneWithCap_eq] at h
  split at h
  · cases h; exact Covers.refl ..
  · exact covers_prunePartial keep group ms r h

theorem related_relatedP (keep : List Nat) (group : List Mapping) (m m' : Mapping) (h : Related keep group m m') :
    RelatedP keep group m m' := by
  obtain ⟨σ₁, h₁, σ₂, h₂, k, e₁, e₂⟩ := h
  exact ⟨σ₁, h₁, σ₂, h₂, (composeOn_eq_of_mem keep m σ₁ k m' σ₂ k e₁ e₂ (fun _ => Iff.rfl)).2⟩

theorem relatedP_related (keep : List Nat) (group : List Mapping)
    (hg : ∀ σ ∈ group, ∀ p ∈ keep, ∃ q ∈ keep, Mapping.get? σ p = some q)
    (m m' : Mapping) (hm : coversB keep m = true) (h : RelatedP keep group m m') : Related keep group m m' := by
  obtain ⟨σ₁, h₁, σ₂, h₂, hpt⟩ := h
  obtain ⟨k, hk⟩ := composeOn_defined keep m σ₁ hm (hg σ₁ h₁)
  exact ⟨σ₁, h₁, σ₂, h₂, k, hk, by rw [← composeOn_congr keep m σ₁ m' σ₂ hpt]; exact hk⟩

theorem domOn_congr (keep : List Nat) (m σ m' σ' : Mapping) (h : ∀ p ∈ keep, pcomp m σ p = pcomp m' σ' p) :
    domOn keep m σ = domOn keep m' σ' := by
  unfold domOn
  exact List.filter_congr fun p hp => by rw [h p hp]

end SynKit.ReactorInv
