import SynKitModel.GraphMatcherEngine
import SynKitProofs.Match
import SynKitProofs.Core.Dict
import Mathlib.Data.List.Basic
import Mathlib.Data.List.Nodup
import Mathlib.Data.List.Perm.Subperm
/-! C07.  The cache only ever holds the histogram of the graph object and attribute selection an entry is keyed by
(`CacheOk`), so a history of queries answers as the cache-free functions do (`run_ok`).  A monomorphism injects the
pattern's nodes and edges into the host's, selected labels kept (`IsMonoFn.nodes_subperm`, `IsMonoFn.edges_subperm`); the
soundness of the size, label and WL filters is counting along these injections (`contained_of_subperm`).  The
pre-check reads the engine's node keys only, so it passes on an induced embedding under any selection with these keys
(`preCheckPure_of_induced`): that is `preCheck_sound`, and with the inverse isomorphism the equal-size case of the verdict.
For `use_filter` the defaulted graphs are `LGraph.mapAttrs` of the given ones, and the node test of `SubCfg.sel` on them
is the comparison the filter makes on the raw dicts (`withDefaults_get`). -/
namespace SynKit.GME
open SynKit.Match

def CacheOk (heap : List LGraph) (cache : Cache) : Prop :=
  ∀ e ∈ cache, e.2 = wl1 (graphAt heap e.1.1) e.1.2

theorem wlCached_ok (heap : List LGraph) (cache : Cache) (h : CacheOk heap cache) (gid : GraphId) (attrs : List String) :
    (wlCached cache gid (graphAt heap gid) attrs).1 = wl1 (graphAt heap gid) attrs ∧
      CacheOk heap (wlCached cache gid (graphAt heap gid) attrs).2 := by
  unfold wlCached
  cases hf : cache.find? (fun e => e.1 = (gid, attrs)) with
  | some e =>
    simp only
    have hm := List.mem_of_find?_eq_some hf
    have hk := List.find?_some hf
    simp only [decide_eq_true_eq] at hk
    refine ⟨?_, h⟩
    rw [h e hm, hk]
  | none =>
    simp only [true_and]
    intro e he
    rcases List.mem_append.1 he with he | he
    · exact h e he
    · rw [List.mem_singleton] at he; subst he; rfl

theorem preCheck_ok (heap : List LGraph) (cache : Cache) (h : CacheOk heap cache) (e : Engine) (hid pid : GraphId) :
    (preCheck e cache hid pid (graphAt heap hid) (graphAt heap pid)).1 =
        preCheckPure e (graphAt heap hid) (graphAt heap pid) ∧
      CacheOk heap (preCheck e cache hid pid (graphAt heap hid) (graphAt heap pid)).2 := by
  unfold preCheck preCheckPure
  split
  · next hs => exact ⟨by unfold preCheckWith; rw [if_pos hs], h⟩
  · next hs =>
    split
    · next hw => exact ⟨by unfold preCheckWith; rw [if_neg hs, if_pos hw], h⟩
    · obtain ⟨a1, a2⟩ := wlCached_ok heap cache h hid e.nodeAttrs
      obtain ⟨b1, b2⟩ := wlCached_ok heap _ a2 pid e.nodeAttrs
      simp only
      exact ⟨by rw [b1, a1], b2⟩

theorem isomorphic_ok (heap : List LGraph) (cache : Cache) (h : CacheOk heap cache) (e : Engine) (i j : GraphId) :
    (isomorphic e cache i j (graphAt heap i) (graphAt heap j)).1 = isomorphicPure e (graphAt heap i) (graphAt heap j) ∧
      CacheOk heap (isomorphic e cache i j (graphAt heap i) (graphAt heap j)).2 := by
  unfold isomorphic isomorphicPure
  by_cases hgt : (graphAt heap i).nodes.length > (graphAt heap j).nodes.length
  · simp only [hgt, if_true]
    obtain ⟨a, b⟩ := preCheck_ok heap cache h e i j
    rw [← a]
    split <;> exact ⟨rfl, b⟩
  · simp only [hgt, if_false]
    obtain ⟨a, b⟩ := preCheck_ok heap cache h e j i
    rw [← a]
    split <;> exact ⟨rfl, b⟩

theorem getMappings_ok (heap : List LGraph) (cache : Cache) (h : CacheOk heap cache) (e : Engine) (i j : GraphId) :
    (getMappings e cache i j (graphAt heap i) (graphAt heap j)).1 = getMappingsPure e (graphAt heap i) (graphAt heap j) ∧
      CacheOk heap (getMappings e cache i j (graphAt heap i) (graphAt heap j)).2 := by
  unfold getMappings getMappingsPure
  obtain ⟨a, b⟩ := preCheck_ok heap cache h e i j
  rw [← a]
  simp only
  split <;> exact ⟨rfl, b⟩

theorem step_ok (heap : List LGraph) (cache : Cache) (h : CacheOk heap cache) (q : Query) :
    (step heap cache q).1 = pureAnswer heap q ∧ CacheOk heap (step heap cache q).2 := by
  cases q with
  | iso e i j =>
    simp only [step, pureAnswer]
    exact (isomorphic_ok heap cache h e i j).imp_left (congrArg Answer.verdict)
  | maps e i j =>
    simp only [step, pureAnswer]
    exact (getMappings_ok heap cache h e i j).imp_left (congrArg Answer.mappings)

theorem run_ok (heap : List LGraph) (cache : Cache) (h : CacheOk heap cache) (qs : List Query) :
    run heap cache qs = qs.map (pureAnswer heap) := by
  induction qs generalizing cache with
  | nil => rfl
  | cons q qs ih =>
    obtain ⟨a, b⟩ := step_ok heap cache h q
    simp only [run, List.map_cons]
    rw [a, ih _ b]

theorem contained_of_subperm {α β κ : Type} {l₁ : List α} {l₂ : List β} {F : α → β} (hs : (l₁.map F).Subperm l₂)
    (g₁ : α → κ) (g₂ : β → κ) (R : κ → κ → Bool) (hR : ∀ k, ∀ a ∈ l₁, R k (g₂ (F a)) = R k (g₁ a)) :
    ((l₁.map g₁).all fun k =>
      decide (((l₂.map g₂).filter (R k)).length ≥ ((l₁.map g₁).filter (R k)).length)) = true := by
  rw [List.all_eq_true]
  intro k _
  rw [decide_eq_true_eq, List.filter_map, List.length_map, List.filter_map, List.length_map]
  have h := (hs.filter (R k ∘ g₂)).length_le
  have : l₁.filter ((R k ∘ g₂) ∘ F) = l₁.filter (R k ∘ g₁) := List.filter_congr (hR k)
  rwa [List.filter_map, List.length_map, this] at h

theorem baseLabel_eq_of_nodeOk (sel : Sel) (ha pa : Attrs) (h : nodeOk sel ha pa = true) :
    baseLabel sel.nodeKeys ha = baseLabel sel.nodeKeys pa := by
  unfold baseLabel
  exact List.map_congr_left (nodeOk_eq_true_iff.1 h).1

theorem keyEq_iff (a b : Label × List Label) : keyEq a b = true ↔ a.1 = b.1 ∧ a.2.Perm b.2 := by
  unfold keyEq
  rw [Bool.and_eq_true, beq_iff_eq, List.isPerm_iff]

theorem keyEq_congr_right (k a b : Label × List Label) (h : keyEq a b = true) : keyEq k a = keyEq k b := by
  rw [keyEq_iff] at h
  rw [Bool.eq_iff_iff, keyEq_iff, keyEq_iff]
  constructor
  · rintro ⟨h1, h2⟩; exact ⟨h1.trans h.1, h2.trans h.2⟩
  · rintro ⟨h1, h2⟩; exact ⟨h1.trans h.1.symm, h2.trans h.2.symm⟩

def wlKey (g : LGraph) (attrs : List String) (v : Nat) : Label × List Label :=
  (baseLabel attrs (g.attrs v), (g.neighbors v).map fun w => baseLabel attrs (g.attrs w))

theorem wl1_eq_ids (g : LGraph) (hg : g.ids.Nodup) (attrs : List String) : wl1 g attrs = g.ids.map (wlKey g attrs) := by
  unfold wl1 LGraph.ids
  rw [List.map_map]
  exact List.map_congr_left fun n hn => by
    show _ = wlKey g attrs n.1
    rw [wlKey, LGraph.attrs_of_mem hg hn]

theorem baseContained_of_mono (sel : Sel) (H P : LGraph) (m : Mapping) (hP : P.ids.Nodup)
    (hm : IsMono sel H P m) : baseContained (wl1 H sel.nodeKeys) (wl1 P sel.nodeKeys) = true := by
  have hf := hm.monoFn
  unfold baseContained
  rw [wl1_eq_ids P hP]
  refine contained_of_subperm (hf.nodes_subperm hP) _ _ (fun k x : Label × List Label => x.1 == k.1) fun k p hp => ?_
  show (baseLabel _ _ == _) = (baseLabel _ _ == _)
  rw [baseLabel_eq_of_nodeOk sel _ _ (hf.node p hp).2]

theorem wlContained_of_iso (sel : Sel) (H P : LGraph) (m : Mapping) (hH : H.WF) (hP : P.WF) (hm : IsIso sel H P m) :
    wlContained (wl1 H sel.nodeKeys) (wl1 P sel.nodeKeys) = true := by
  have hf := hm.isoFn
  have hbase : ∀ q ∈ P.ids, baseLabel sel.nodeKeys (H.attrs (mapFn m q)) = baseLabel sel.nodeKeys (P.attrs q) :=
    fun q hq => baseLabel_eq_of_nodeOk sel _ _ (hf.node q hq).2
  rw [wl1_eq_ids H hH.1, wl1_eq_ids P hP.1]
  refine contained_of_subperm (hf.ids_perm hP.1).subperm _ _ keyEq fun k p hp => ?_
  -- the key of the image is `keyEq` to the key of the node: same base label, neighbour labels permuted
  refine keyEq_congr_right k _ _ ((keyEq_iff _ _).2 ⟨hbase p hp, ?_⟩)
  refine ((hf.neighbors_perm hH hP hp).map fun w => baseLabel sel.nodeKeys (H.attrs w)).symm.trans ?_
  rw [List.map_map]
  exact .of_eq (List.map_congr_left fun q hq => hbase q (LGraph.neighbors_subset_ids hP hq))

theorem preCheckPure_of (e : Engine) (host pat : LGraph) (hn : pat.nodes.length ≤ host.nodes.length)
    (he : pat.edges.length ≤ host.edges.length)
    (hwl : e.wl1Filter = true → host.nodes.length = pat.nodes.length →
      wlContained (wl1 host e.nodeAttrs) (wl1 pat e.nodeAttrs) = true)
    (hbase : e.wl1Filter = true → host.nodes.length ≠ pat.nodes.length →
      baseContained (wl1 host e.nodeAttrs) (wl1 pat e.nodeAttrs) = true) :
    preCheckPure e host pat = true := by
  unfold preCheckPure preCheckWith
  rw [if_neg (by simp only [Bool.or_eq_true, decide_eq_true_eq]; omega)]
  cases hf : e.wl1Filter with
  | false => rfl
  | true =>
    simp only [Bool.not_true, Bool.false_eq_true, if_false]
    split
    · next h => exact hwl hf h
    · next h => exact hbase hf h

/-- With equally many nodes an induced embedding is an isomorphism. -/
theorem preCheckPure_of_induced (e : Engine) (sel : Sel) (hk : sel.nodeKeys = e.nodeAttrs) (host pat : LGraph)
    (hH : host.WF) (hP : pat.WF) (m : Mapping) (hm : IsInduced sel host pat m) : preCheckPure e host pat = true :=
  preCheckPure_of e host pat hm.1.nodes_le (mono_edges_le hP hm.1)
    (fun _ hl => hk ▸ wlContained_of_iso sel host pat m hH hP ⟨hm, hl⟩)
    (fun _ _ => hk ▸ baseContained_of_mono sel host pat m hP.1 hm.1)

theorem edgeLabelLoop_of_subperm (cs ps : List Val) (h : cs.Subperm ps) : edgeLabelLoop cs ps = true := by
  induction cs generalizing ps with
  | nil => rfl
  | cons c cs ih =>
    have hc : c ∈ ps := h.subset List.mem_cons_self
    simp only [edgeLabelLoop, List.contains_eq_mem, hc, decide_true, if_true]
    apply ih
    have := h.erase c
    rwa [List.erase_cons_head] at this

theorem zip_fst_sublist {α β : Type} (a : List α) (b : List β) : ((a.zip b).map (·.1)).Sublist a := by
  induction a generalizing b with
  | nil => simp
  | cons x xs ih =>
    cases b with
    | nil => simp
    | cons y ys => simp only [List.zip_cons_cons, List.map_cons]; exact (ih ys).cons_cons x

theorem withDefaults_get (names : List String) (defaults : List Val) (a : Attrs) {nd : String × Val} (hn : names.Nodup)
    (hk : nd ∈ names.zip defaults) : (withDefaults names defaults a).get nd.1 = Dict.getD a nd.1 nd.2 :=
  Attrs.get_of_get? (Dict.mem_get?_of_nodup _ _ _
    (by rw [withDefaults, Dict.keys, List.map_map]; exact hn.sublist (zip_fst_sublist _ _))
    (List.mem_map.2 ⟨nd, hk, rfl⟩))

theorem applyNodeDefaults_eq (names : List String) (defaults : List Val) (G : LGraph) :
    applyNodeDefaults names defaults G = G.mapAttrs (fun _ => withDefaults names defaults) id := by
  simp only [applyNodeDefaults, LGraph.mapAttrs, id, List.map_id']

theorem applyNodeDefaults_ids (names : List String) (defaults : List Val) (G : LGraph) :
    (applyNodeDefaults names defaults G).ids = G.ids :=
  applyNodeDefaults_eq names defaults G ▸ LGraph.ids_mapAttrs

theorem applyNodeDefaults_WF (names : List String) (defaults : List Val) (G : LGraph) (h : G.WF) :
    (applyNodeDefaults names defaults G).WF :=
  applyNodeDefaults_eq names defaults G ▸ LGraph.wf_mapAttrs h

theorem applyNodeDefaults_attrs (names : List String) (defaults : List Val) (G : LGraph) {v : Nat} (hv : v ∈ G.ids) :
    (applyNodeDefaults names defaults G).attrs v = withDefaults names defaults (G.attrs v) :=
  applyNodeDefaults_eq names defaults G ▸ LGraph.attrs_mapAttrs hv

theorem subFilter_of_mono (c : SubCfg) (child parent : LGraph) (hc : child.WF) (hn : c.names.Nodup) (m : Mapping)
    (hm : IsMono c.sel (applyNodeDefaults c.names c.defaults parent) (applyNodeDefaults c.names c.defaults child) m) :
    subFilter c child parent = true := by
  have hP' := applyNodeDefaults_WF c.names c.defaults child hc
  unfold subFilter
  rw [Bool.and_eq_true, Bool.and_eq_true]
  refine ⟨⟨?_, ?_⟩, ?_⟩
  · have h1 := hm.nodes_le
    have h2 := mono_edges_le hP' hm
    unfold filterSize
    simp only [applyNodeDefaults, List.length_map] at h1 h2
    simp only [Bool.not_eq_true', Bool.or_eq_false_iff, decide_eq_false_iff_not]
    omega
  · -- the image of a child node is a parent node with the same defaulted labels
    unfold filterNodes
    rw [List.all_eq_true]
    intro cn hcn
    have hcid : cn.1 ∈ child.ids := LGraph.mem_ids_of_mem hcn
    obtain ⟨hmem, hok⟩ := hm.monoFn.node cn.1 (by rwa [applyNodeDefaults_ids])
    rw [applyNodeDefaults_ids] at hmem
    rw [applyNodeDefaults_attrs _ _ _ hmem, applyNodeDefaults_attrs _ _ _ hcid, LGraph.attrs_of_mem hc.1 hcn] at hok
    rw [List.any_eq_true]
    refine ⟨_, LGraph.attrs_mem hmem, ?_⟩
    rw [List.all_eq_true]
    intro nd hnd
    have := (nodeOk_iff rfl _ _).1 hok nd.1 (List.mem_map.2 ⟨nd, hnd, rfl⟩)
    rw [withDefaults_get _ _ _ hn hnd, withDefaults_get _ _ _ hn hnd] at this
    exact decide_eq_true this.symm
  · unfold filterEdges
    cases hk : c.edgeAttr with
    | none => rfl
    | some k =>
      -- the edge injection keeps the label `k`, so the child's labels are a sub-multiset of the parent's
      obtain ⟨f, hf, l, hl, hs⟩ := hm.monoFn.edges_subperm hP'
      refine edgeLabelLoop_of_subperm _ _ ⟨l.map fun e => e.2.2.get k, (hl.map _).trans (.of_eq ?_), hs.map _⟩
      rw [List.map_map]
      exact List.map_congr_left fun e he => (edgeOk_iff _ _).1 (hf e he).2 k (by simp [SubCfg.sel, hk])

end SynKit.GME
