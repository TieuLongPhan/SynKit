import SynKitProofs.ReactorGlue
/-! Clauses (c) and (a) of C03 in the form the specification evaluates: the labelled changed-bond graph
of the glued ITS is isomorphic (`IsIso`) to the template's (`glue_lc_iso_X`), and the reactant side of the
glued ITS is the substrate after hydrogen normalisation (`specA_of_left`, on `normH_hostProj`). -/
namespace SynKit.Reactor
open SynKit.Match

def touchedB (I : LGraph) (v : Nat) : Bool :=
  (I.edges.filter fun e => changed e.2.2).any fun e => e.1 = v || e.2.1 = v

theorem changed_iff (a : Attrs) : changed a = true ↔ delta a ≠ 0 := by
  unfold changed delta
  simp only [decide_eq_true_eq]
  constructor <;> intro h <;> omega

theorem touchedB_iff (I : LGraph) (v : Nat) :
    touchedB I v = true ↔ ∃ e ∈ I.edges, delta e.2.2 ≠ 0 ∧ (e.1 = v ∨ e.2.1 = v) := by
  unfold touchedB
  simp only [List.any_eq_true, List.mem_filter, Bool.or_eq_true, decide_eq_true_eq, changed_iff, and_assoc]

theorem lc_nodes (I : LGraph) :
    (labelledChanges I).nodes =
      (I.keep (touchedB I)).nodes.map fun p => (p.1, [("el", tgField p.2 0 0), ("dh", .num (hR p.2 - hL p.2))]) := rfl

theorem lc_ids (I : LGraph) : (labelledChanges I).ids = I.ids.filter (touchedB I) :=
  (LGraph.ids_map_nodes (lc_nodes I) fun _ _ => rfl).trans LGraph.ids_keep

theorem mem_lc_ids (I : LGraph) (v : Nat) :
    v ∈ (labelledChanges I).ids ↔ v ∈ I.ids ∧ ∃ e ∈ I.edges, delta e.2.2 ≠ 0 ∧ (e.1 = v ∨ e.2.1 = v) := by
  rw [lc_ids, List.mem_filter, touchedB_iff]

theorem mem_lc_edges (I : LGraph) (x : Nat × Nat × Attrs) :
    x ∈ (labelledChanges I).edges ↔
      ∃ e ∈ I.edges, delta e.2.2 ≠ 0 ∧ x = (e.1, e.2.1, [("d", Val.num (delta e.2.2))]) := by
  unfold labelledChanges
  simp only [List.mem_map, List.mem_filter, changed_iff, and_assoc]
  exact exists_congr fun e => and_congr_right fun _ => and_congr_right fun _ => eq_comm

theorem lc_attrs (I : LGraph) (v : Nat) (hv : v ∈ (labelledChanges I).ids) :
    (labelledChanges I).attrs v =
      [("el", tgField (I.attrs v) 0 0), ("dh", Val.num (hR (I.attrs v) - hL (I.attrs v)))] := by
  rw [lc_ids, ← LGraph.ids_keep] at hv
  rw [LGraph.attrs_map_nodes (lc_nodes I) (fun _ _ => rfl) hv, LGraph.attrs_keep (LGraph.mem_ids_keep.1 hv).2]

theorem lc_ends_mem (I : LGraph) (hI : I.WF) (e : Nat × Nat × Attrs) (he : e ∈ I.edges) (hd : delta e.2.2 ≠ 0) :
    e.1 ∈ (labelledChanges I).ids ∧ e.2.1 ∈ (labelledChanges I).ids :=
  ⟨(mem_lc_ids I _).2 ⟨(hI.2.1 e he).1, e, he, hd, Or.inl rfl⟩,
   (mem_lc_ids I _).2 ⟨(hI.2.1 e he).2.1, e, he, hd, Or.inr rfl⟩⟩

theorem lc_wf (T : LGraph) (hT : T.WF) : (labelledChanges T).WF := by
  refine ⟨by rw [lc_ids]; exact hT.1.filter _, ?_, ?_⟩
  · intro x hx
    obtain ⟨te, hte, hdt, rfl⟩ := (mem_lc_edges T x).1 hx
    exact ⟨(lc_ends_mem T hT te hte hdt).1, (lc_ends_mem T hT te hte hdt).2, (hT.2.1 te hte).2.2⟩
  · have : (labelledChanges T).edges.map (fun e => (min e.1 e.2.1, max e.1 e.2.1)) =
        (T.edges.filter fun e => changed e.2.2).map (fun e => (min e.1 e.2.1, max e.1 e.2.1)) := by
      unfold labelledChanges; simp only [List.map_map]; rfl
    rw [this]
    exact hT.2.2.sublist (List.Sublist.map _ List.filter_sublist)

/-- Clause (c) in specification form, on a prepared host; the isomorphism is the match itself,
restricted to the end atoms of changed bonds. -/
theorem glue_lc_iso_X (host T : LGraph) (m : Mapping) (hH : HostX host) (hT : WFTemplate T)
    (hm : IsMono monoSel host (left T) m) (hr : RoundExact host T m) :
    ∃ m', IsIso chgSel (labelledChanges (glue host T m)) (labelledChanges T) m' := by
  have F1 := glue_edge_image host T m hT hm hr
  have F2 : ∀ e ∈ (glue host T m).edges, delta e.2.2 ≠ 0 →
      ∃ te ∈ T.edges, delta te.2.2 = delta e.2.2 ∧ landsOn m te e.1 e.2.1 = true := by
    intro e he hd
    rcases glue_edges_classified host T m hT hr e he with ⟨te, hte, hl, hde⟩ | ⟨hz, _, _⟩
    · exact ⟨te, hte, hde.symm, hl⟩
    · exact absurd hz hd
  have hGn : (glue host T m).ids.Nodup := by rw [glue_ids]; exact hH.1.1
  have hsub : ∀ q ∈ (labelledChanges T).ids, q ∈ (left T).ids :=
    fun q hq => (left_ids T hT).symm ▸ ((mem_lc_ids T q).1 hq).1
  have hland : ∀ te x y, landsOn m te x y = true →
      (x = mapFn m te.1 ∧ y = mapFn m te.2.1) ∨ (x = mapFn m te.2.1 ∧ y = mapFn m te.1) := by
    intro te x y hl
    rcases (landsOn_ends m te x y).1 hl with ⟨g1, g2⟩ | ⟨g1, g2⟩
    · exact Or.inl ⟨(mapFn_of_get? g1).symm, (mapFn_of_get? g2).symm⟩
    · exact Or.inr ⟨(mapFn_of_get? g2).symm, (mapFn_of_get? g1).symm⟩
  -- bonds that join the same two atoms have the same ends
  have hends : ∀ {x y a b : Nat} (z : Nat), (x = a ∧ y = b) ∨ (x = b ∧ y = a) →
      ((x = z ∨ y = z) ↔ (a = z ∨ b = z)) :=
    fun z h => Iff.of_eq (LGraph.sym_of_joins (fun a b => a = z ∨ b = z) (fun _ _ => propext or_comm) h)
  have hinj : ∀ p ∈ (labelledChanges T).ids, ∀ q ∈ (labelledChanges T).ids, mapFn m p = mapFn m q → p = q :=
    fun p hp q hq => hm.monoFn.inj p (hsub p hp) q (hsub q hq)
  refine ⟨_, isIso_of_bijection chgSel _ _ (mapFn m) (by rw [lc_ids]; exact hGn.filter _)
    (by rw [lc_ids]; exact hT.1.1.filter _) hinj ?_ ?_ (fun e he => ?_) ?_ ?_⟩
  · -- a centre atom of the template goes to a centre atom of the result with the same labels
    intro q hq
    obtain ⟨_, te, hte, hd, hend⟩ := (mem_lc_ids T q).1 hq
    have hqm := hm.mem_mapFn (hsub q hq)
    obtain ⟨e, he, hl, hde⟩ := F1 te hte
    have hfH : mapFn m q ∈ (labelledChanges (glue host T m)).ids :=
      (mem_lc_ids _ _).2 ⟨by rw [glue_ids]; exact hm.val_mem hqm, e, he, by rw [hde]; exact hd,
        (hends _ (hland te _ _ hl)).2 (hend.imp (congrArg _) (congrArg _))⟩
    refine ⟨hfH, ?_⟩
    rw [lc_attrs _ _ hfH, lc_attrs T q hq]
    obtain ⟨n1, n2⟩ := glue_node_labels_X host T m hH hT hm q (mapFn m q) hqm
    simp only [nodeOk, chgSel, List.all_cons, List.all_nil, Bool.and_true, Attrs.get_cons, Bool.not_false,
      Bool.true_or, Bool.and_eq_true, decide_eq_true_eq]
    simp [n1, n2]
  · -- every centre atom of the result is such an image
    intro h hh
    obtain ⟨_, e, he, hd, hend⟩ := (mem_lc_ids _ h).1 hh
    obtain ⟨te, hte, hde, hl⟩ := F2 e he hd
    obtain ⟨t1, t2⟩ := lc_ends_mem T hT.1 te hte (by rw [hde]; exact hd)
    exact ((hends h (hland te _ _ hl)).1 hend).elim (fun a => ⟨te.1, t1, a⟩) fun b => ⟨te.2.1, t2, b⟩
  · obtain ⟨te, hte, hdt, rfl⟩ := (mem_lc_edges T e).1 he
    exact lc_ends_mem T hT.1 te hte hdt
  · -- bonds: whichever edge the lookup at the image end points returns, it carries the template bond's change
    intro x hx
    obtain ⟨te, hte, hdt, rfl⟩ := (mem_lc_edges T x).1 hx
    obtain ⟨e, he, hl, hde⟩ := F1 te hte
    have hx' : (e.1, e.2.1, [("d", Val.num (delta e.2.2))]) ∈ (labelledChanges (glue host T m)).edges :=
      (mem_lc_edges _ _).2 ⟨e, he, by rw [hde]; exact hdt, rfl⟩
    obtain ⟨ea, hea⟩ := Option.isSome_iff_exists.1
      (LGraph.hasEdge_of_mem hx' (hland te _ _ hl))
    refine ⟨ea, hea, ?_⟩
    obtain ⟨e2, he2, rfl, hend2⟩ := LGraph.edge?_some_mem hea
    obtain ⟨eG, heG, hdG, rfl⟩ := (mem_lc_edges _ e2).1 he2
    obtain ⟨te', hte', hdd, hl'⟩ := F2 eG heG hdG
    obtain ⟨t1, t2⟩ := lc_ends_mem T hT.1 te hte hdt
    have hl2 : landsOn m te eG.1 eG.2.1 = true :=
      (landsOn_iff _ _ _ _).2 ⟨_, _, hm.get?_mapFn (hsub _ t1), hm.get?_mapFn (hsub _ t2), LGraph.joins_symm hend2⟩
    cases tpl_edge_unique T hT.1 m hm.vals_nodup te te' hte hte' _ _ hl2 hl'
    simp [edgeOk, chgSel, Attrs.get_cons, hdd]
  · -- non-bonds: a changed bond between two images comes from a changed template bond between the pre-images
    intro p hpP q hqP hno
    by_contra hcon
    obtain ⟨ea, hea⟩ := Option.isSome_iff_exists.1 (Bool.eq_true_of_not_eq_false hcon)
    obtain ⟨e2, he2, _, hend2⟩ := LGraph.edge?_some_mem hea
    obtain ⟨eG, heG, hdG, rfl⟩ := (mem_lc_edges _ e2).1 he2
    obtain ⟨te', hte', hdd, hl'⟩ := F2 eG heG hdG
    obtain ⟨t1, t2⟩ := lc_ends_mem T hT.1 te' hte' (by rw [hdd]; exact hdG)
    have hx : (te'.1, te'.2.1, [("d", Val.num (delta te'.2.2))]) ∈ (labelledChanges T).edges :=
      (mem_lc_edges T _).2 ⟨te', hte', by rw [hdd]; exact hdG, rfl⟩
    have hpq : (te'.1 = p ∧ te'.2.1 = q) ∨ (te'.1 = q ∧ te'.2.1 = p) :=
      (LGraph.joins_trans (LGraph.joins_symm (hland te' _ _ hl')) hend2).imp
        (fun h => ⟨hinj _ t1 _ hpP h.1, hinj _ t2 _ hqP h.2⟩) fun h => ⟨hinj _ t1 _ hqP h.1, hinj _ t2 _ hpP h.2⟩
    rw [LGraph.hasEdge_of_mem hx hpq] at hno; exact Bool.noConfusion hno

theorem hostProj_eq (G : LGraph) :
    hostProj G = G.mapAttrs projAttrs fun a => [("order", pyGet a "order" (.num 2))] := rfl

theorem hostProj_ids (G : LGraph) : (hostProj G).ids = G.ids := hostProj_eq G ▸ LGraph.ids_mapAttrs

theorem hostProj_attrs (G : LGraph) (v : Nat) (hv : v ∈ G.ids) :
    (hostProj G).attrs v = projAttrs v (G.attrs v) := hostProj_eq G ▸ LGraph.attrs_mapAttrs hv

theorem isH_projAttrs (n : Nat) (a : Attrs) : isH (projAttrs n a) = isH a := by
  unfold isH projAttrs
  rw [Attrs.get_cons]
  simp only [if_true]
  unfold pyGet Attrs.get Dict.getD
  cases Dict.get? a "element" <;> simp

theorem pyGet_projAttrs (n : Nat) (a : Attrs) :
    pyGet (projAttrs n a) "element" (.str "*") = pyGet a "element" (.str "*") ∧
    pyGet (projAttrs n a) "aromatic" (.bool false) = pyGet a "aromatic" (.bool false) ∧
    pyGet (projAttrs n a) "hcount" (.num 0) = pyGet a "hcount" (.num 0) ∧
    pyGet (projAttrs n a) "charge" (.num 0) = pyGet a "charge" (.num 0) := by
  unfold projAttrs
  refine ⟨?_, ?_, ?_, ?_⟩ <;> simp [pyGet, Dict.getD, Dict.get?]

theorem isH_hostProj (host : LGraph) (v : Nat) : isH ((hostProj host).attrs v) = isH (host.attrs v) := by
  by_cases hv : v ∈ host.ids
  · rw [hostProj_attrs host v hv]; exact isH_projAttrs _ _
  · rw [LGraph.attrs_of_not_mem (by rw [hostProj_ids]; exact hv), LGraph.attrs_of_not_mem hv]

theorem hostProj_neighbors (host : LGraph) (v : Nat) : (hostProj host).neighbors v = host.neighbors v :=
  hostProj_eq host ▸ LGraph.neighbors_mapAttrs

theorem normH_hostProj (host : LGraph) : normH (hostProj host) = normH host := by
  unfold normH
  simp only [isH_hostProj, hostProj_neighbors]
  rw [hostProj_eq]
  simp only [LGraph.mapAttrs, List.filter_map, List.map_map]
  refine LGraph.ext (List.map_congr_left fun p _ => ?_) rfl
  simp only [Function.comp]
  obtain ⟨a1, a2, a3, a4⟩ := pyGet_projAttrs p.1 p.2
  rw [a1, a2, a3, a4, isH_projAttrs]

theorem sameLabelled_refl (G : LGraph) : sameLabelled G G = true := by
  unfold sameLabelled
  simp only [Bool.and_eq_true, decide_eq_true_eq, List.all_eq_true, List.any_eq_true, Bool.or_eq_true]
  exact ⟨⟨⟨trivial, fun p hp => List.contains_iff_mem.2 hp⟩, trivial⟩, fun e he => ⟨e, he, Or.inl rfl⟩⟩

/-- Clause (a) as the verdict the harness computes. -/
theorem specA_of_left (host E its : LGraph) (h : left its = hostProj E) (hn : normH E = normH host) :
    specA host its = true := by
  unfold specA
  rw [h, normH_hostProj, hn]
  exact sameLabelled_refl _

end SynKit.Reactor
