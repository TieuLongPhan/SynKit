import SynKitModel.Gml
import SynKitProofs.ITSConstructLemmas
import SynKitProofs.Core.Dict
/-! `Gml.construct` (the `ITSGraph` the GML entry points call, default arguments) against `ITS.construct {}` (C01's model of
the same function): the bond lists are equal on every input, the node lists as soon as both inputs have distinct ids — the
GML model lists the nodes the base graph lacks through `eraseDups`, C01's filters the other graph's node list.  What C10
needs to know about `Gml.construct` is then what C01 proves: `nodeView` and `edgeView` in terms of the two graphs
(`Rd.construct_nodeView`, `Rd.construct_edgeView`), and that it commutes with renumbering (`construct_relabel_on`). -/
namespace SynKit.Gml
open SynKit.ITS SynKit.ITS.C01L

theorem orderIn_eq_orderOf (g : LGraph) (u v : Nat) : orderIn g u v = orderOf g u v := rfl

theorem nodeRow_eq_sideTuple (g : LGraph) (n : Nat) : nodeRow g n = .tup (sideTuple g n) := by
  unfold nodeRow
  split
  · rfl
  · next h =>
    rw [Bool.not_eq_true, LGraph.hasNode_false_iff] at h
    unfold sideTuple
    rw [LGraph.attrs_of_not_mem h]
    rfl

theorem subVal_eq_standardOrder (x y : Val) : subVal x y = standardOrder false x y := by
  unfold standardOrder
  cases x <;> cases y <;> rfl

theorem itsEdge_eq_itsF (G H : LGraph) (u v : Nat) : itsEdge G H u v = (u, v, itsF {} G H u v) := by
  simp only [itsEdge, itsF, itsEdgeAttrs, subVal_eq_standardOrder, orderIn_eq_orderOf]

theorem itsNodeAttrs_eq_nodeAttrs (G H : LGraph) (n : Nat) (a : Attrs) :
    itsNodeAttrs G H n a = nodeAttrs false G H n a := by
  simp only [itsNodeAttrs, nodeAttrs, nodeRow_eq_sideTuple, sideTuple, typesKeys, List.map, List.zip_cons_cons,
    List.zip_nil_right, List.foldl, tupGet, List.getD_cons_zero, List.getD_cons_succ, Bool.false_eq_true, if_false]

theorem construct_edges_eq_its (G H : LGraph) : (Gml.construct G H).edges = (ITS.construct {} G H).edges := by
  rw [C01L.construct_edges_eq]
  simp only [Gml.construct, pairsOf, List.map_append, List.map_map, Function.comp_def, itsEdge_eq_itsF]

theorem eraseDups_of_nodup : ∀ {l : List Nat}, l.Nodup → l.eraseDups = l
  | [], _ => rfl
  | a :: as, h => by
    have ha : as.filter (fun b => !b == a) = as :=
      List.filter_eq_self.2 fun b hb => by
        simpa using fun e : b = a => (List.nodup_cons.1 h).1 (e ▸ hb)
    rw [List.eraseDups_cons, ha, eraseDups_of_nodup (List.nodup_cons.1 h).2]

/-- The nodes the base graph `B` lacks, as `Gml.construct` lists them (ids of both graphs, filtered, duplicates
erased) and as `ITS.construct` lists them (the other graph's nodes, filtered). -/
theorem extra_eq (B O : LGraph) (hO : O.ids.Nodup) (X : List Nat) (F : Nat → Attrs)
    (hX : X.filter (fun n => !B.hasNode n) = O.ids.filter fun n => !B.hasNode n)
    (hF : ∀ n ∈ O.ids, B.hasNode n = false → F n = O.attrs n) :
    ((X.filter fun n => !B.hasNode n).eraseDups.map fun n => (n, F n)) =
      O.nodes.filter fun p => !B.hasNode p.1 := by
  rw [hX, eraseDups_of_nodup (hO.sublist List.filter_sublist)]
  unfold LGraph.ids
  rw [List.filter_map, List.map_map]
  refine Core.map_eq_self fun p hp => ?_
  obtain ⟨hp1, hp2⟩ := List.mem_filter.1 hp
  have := hF p.1 (LGraph.mem_ids_of_mem hp1) (by simpa using hp2)
  simp only [Function.comp, this, LGraph.attrs_of_mem hO hp1]

theorem filter_not_hasNode_self (B : LGraph) : B.ids.filter (fun n => !B.hasNode n) = [] :=
  List.filter_eq_nil_iff.2 fun n hn => by simp [LGraph.hasNode_iff.2 hn]

theorem construct_eq_its (G H : LGraph) (hG : G.ids.Nodup) (hH : H.ids.Nodup) :
    Gml.construct G H = ITS.construct {} G H := by
  refine LGraph.ext ?_ (construct_edges_eq_its G H)
  rw [C01L.construct_nodes_eq, rawOf_eq]
  have hb : baseIsG {} G H = decide (G.nodes.length ≥ H.nodes.length) := by simp [baseIsG]
  simp only [Gml.construct, itsNodeAttrs_eq_nodeAttrs, hb, unionNodes]
  by_cases hlen : G.nodes.length ≥ H.nodes.length
  · simp only [hlen, if_true, decide_true]
    rw [extra_eq G H hH (G.ids ++ H.ids) _ (by rw [List.filter_append, filter_not_hasNode_self, List.nil_append])
      (fun n _ hn => by simp [hn])]
  · simp only [hlen, if_false, decide_false]
    rw [extra_eq H G hG (G.ids ++ H.ids) _ (by rw [List.filter_append, filter_not_hasNode_self, List.append_nil])
      (fun n hn _ => by simp [LGraph.hasNode_iff.2 hn])]
    simp

/-- C01 (5) for the GML model. -/
theorem construct_relabel (G H : LGraph) (hG : G.ids.Nodup) (hH : H.ids.Nodup) {π : Nat → Nat}
    (hπ : Function.Injective π) : Gml.construct (G.relabel π) (H.relabel π) = (Gml.construct G H).relabel π := by
  rw [construct_eq_its G H hG hH, construct_eq_its _ _ (by rw [LGraph.ids_relabel]; exact hG.map hπ)
    (by rw [LGraph.ids_relabel]; exact hH.map hπ)]
  exact construct_relabel' hπ {} G H

/-- C01 (5) for a renumbering that is injective only on a list `l` holding the atoms of both graphs (`indexMap`,
position in a node list + 1, is the identity elsewhere): on the three graphs in sight it is a renumbering of all of `Nat`. -/
theorem construct_relabel_on (G H : LGraph) (hG : G.WF) (hH : H.WF) (f : Nat → Nat) (l : List Nat)
    (hf : ∀ a ∈ l, ∀ b ∈ l, f a = f b → a = b) (hGl : ∀ v ∈ G.ids, v ∈ l) (hHl : ∀ v ∈ H.ids, v ∈ l) :
    Gml.construct (G.relabel f) (H.relabel f) = (Gml.construct G H).relabel f := by
  have hK : (Gml.construct G H).WF := construct_eq_its G H hG.1 hH.1 ▸ construct_wf' {} G H hG hH
  rw [LGraph.relabel_extOf hG hGl, LGraph.relabel_extOf hH hHl, LGraph.relabel_extOf (l := l) hK fun v hv => by
    rw [construct_eq_its G H hG.1 hH.1, construct_mem_ids] at hv
    exact hv.elim (hGl v) (hHl v)]
  exact construct_relabel G H hG.1 hH.1 (LGraph.extOf_injective hf)

theorem construct_ids_of_same (G H : LGraph) (hG : G.ids.Nodup) (hH : H.ids.Nodup) (hid : G.ids = H.ids) :
    (Gml.construct G H).ids = G.ids := by
  rw [construct_eq_its G H hG hH, C01L.construct_ids_of_same {} hG hH fun n => by rw [hid]]

theorem construct_edges (G H : LGraph) :
    (construct G H).edges = G.edges.map (fun e => itsEdge G H e.1 e.2.1) ++
      (H.edges.filter fun e => !G.hasEdge e.1 e.2.1).map fun e => itsEdge G H e.1 e.2.1 := rfl

namespace Rd

theorem mem_construct_ids (G H : LGraph) (n : Nat) : n ∈ (construct G H).ids ↔ n ∈ G.ids ∨ n ∈ H.ids := by
  have key : ∀ base : LGraph, (base = G ∨ base = H) →
      (n ∈ base.ids ∨ n ∈ ((G.ids ++ H.ids).filter fun n => !base.hasNode n).eraseDups ↔ n ∈ G.ids ∨ n ∈ H.ids) := by
    intro base hb
    rw [List.mem_eraseDups, List.mem_filter, List.mem_append]
    have hbase : n ∈ base.ids → n ∈ G.ids ∨ n ∈ H.ids := by
      rcases hb with rfl | rfl
      · exact Or.inl
      · exact Or.inr
    constructor
    · rintro (h | h)
      · exact hbase h
      · exact h.1
    · intro h
      by_cases hn : n ∈ base.ids
      · exact Or.inl hn
      · exact Or.inr ⟨h, by simpa [LGraph.hasNode] using hn⟩
  unfold construct
  simp only [LGraph.ids, List.map_map, List.map_append, List.mem_append, Function.comp_def, List.map_id']
  exact key _ (by split <;> simp)

theorem typesGH_itsNodeAttrs (G H : LGraph) (n : Nat) (a : Attrs) :
    Attrs.get (itsNodeAttrs G H n a) "typesGH" = .tup [nodeRow G n, nodeRow H n] := by
  rw [itsNodeAttrs_eq_nodeAttrs, nodeRow_eq_sideTuple, nodeRow_eq_sideTuple]
  exact Attrs.get_of_get? (ITS.C01L.nodeAttrs_typesGH false G H n a)

theorem construct_typesGH (G H : LGraph) (n : Nat) (hn : n ∈ (construct G H).ids) :
    Attrs.get ((construct G H).attrs n) "typesGH" = .tup [nodeRow G n, nodeRow H n] := by
  have hnodes : (construct G H).nodes = List.map (fun p : Nat × Attrs => (p.1, itsNodeAttrs G H p.1 p.2)) _ := rfl
  rw [LGraph.ids, hnodes, List.map_map] at hn
  rw [LGraph.attrs_map_nodes (g := ⟨_, []⟩) hnodes (fun _ _ => rfl) hn, typesGH_itsNodeAttrs]

theorem construct_nodeView (G H : LGraph) (n : Nat) (hn : n ∈ (construct G H).ids) :
    nodeView (construct G H) n =
      .tup ([tupGet (nodeRow G n) 0, tupGet (nodeRow G n) 3] ++ [tupGet (nodeRow H n) 0, tupGet (nodeRow H n) 3]) := by
  unfold nodeView
  rw [construct_typesGH G H n hn]
  rfl

theorem construct_edgeView (G H : LGraph) (u v : Nat) :
    edgeView (construct G H) u v =
      if G.hasEdge u v || H.hasEdge u v then some (.tup [orderIn G u v, orderIn H u v]) else none := by
  rw [edgeView, LGraph.edge?_congr (construct_edges_eq_its G H), ITS.C01L.construct_edge?]
  split
  · rw [Option.map_some, ITS.C01L.itsF, ITS.C01L.itsEdgeAttrs_order]; rfl
  · rfl

end Rd

end SynKit.Gml
