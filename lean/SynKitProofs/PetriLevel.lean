import SynKitProofs.PetriNetLemmas
import Mathlib.Data.List.Perm.Subperm
/-!
The search loop of `is_realizable`. One invariant of the `while q:` loop (`LInv`, kept by `bfs_level`) carries all
three clauses about the search (`isRealizable_spec`): a returned sequence is a certificate; a search that gives up
having touched no bound is conclusive; a search over few enough markings finds every certificate of length
`≤ max_depth + 1`.
-/
namespace SynKit.Petri

def Reach (net : PNet Place) (s0 m : Tuple) : Prop := ∃ σ : List String, runT net s0 σ = some m

def ProcL (net : PNet Place) (target : Tuple) (maxDepth : Nat) (q : Queue) (vis : List Tuple)
    (lev : Tuple → Nat) (x : Tuple) : Prop :=
  (∀ e ∈ q, lev x ≤ e.2.length) ∧
  (lev x ≤ maxDepth → ∀ t ∈ net.transitions, enabled t (ofTuple net.places x) = true →
    succT net x t ≠ target ∧ succT net x t ∈ vis ∧ lev (succT net x t) ≤ lev x + 1)

/-- The standard breadth-first argument, with a ghost level `lev` (the length of the sequence with which
a marking was first enqueued). Every queue entry replays to its marking, and the queue holds sequences
of non-decreasing length, all within one of the head (`entry`, `sorted`, `band`). Visited markings are
reachable and listed once, which with `states + len(queue) = len(visited)` keeps the pop counter below
the number of reachable markings. A visited marking that has left the queue (`ProcL`) and has level
`≤ max_depth` has been expanded: each enabled successor is visited, is not the target and has level at
most one more. Hence on exit every marking reached by `k ≤ max_depth + 1` firings is visited with level
`≤ k` (`LInv.closed`); when no entry was skipped for depth every level is `≤ max_depth` and the length
bound falls away. -/
structure LInv (net : PNet Place) (s0 target : Tuple) (maxDepth : Nat) (q : Queue)
    (vis : List Tuple) (lev : Tuple → Nat) : Prop where
  start : s0 ∈ vis ∧ lev s0 = 0
  nodup : vis.Nodup
  reach : ∀ x ∈ vis, Reach net s0 x
  entry : ∀ e ∈ q, runT net s0 e.2 = some e.1 ∧ e.1 ∈ vis ∧ lev e.1 = e.2.length
  sorted : q.Pairwise (fun a b => a.2.length ≤ b.2.length)
  band : ∀ a ∈ q, ∀ b ∈ q, b.2.length ≤ a.2.length + 1
  proc : ∀ x ∈ vis, x ∈ q.map (·.1) ∨ ProcL net target maxDepth q vis lev x

theorem LInv.init (net : PNet Place) (s0 target : Tuple) (maxDepth : Nat) :
    LInv net s0 target maxDepth [(s0, [])] [s0] (fun _ => 0) where
  start := ⟨List.mem_singleton_self _, rfl⟩
  nodup := List.nodup_singleton _
  reach := List.forall_mem_singleton.2 ⟨[], rfl⟩
  entry := List.forall_mem_singleton.2 ⟨rfl, List.mem_singleton_self _, rfl⟩
  sorted := List.pairwise_singleton _ _
  band := by simp
  proc := fun _ hx => Or.inl hx

/-- One `visited.add(x); q.append((x, s))`: `s` replays to the unvisited `x` and is at least as long as every queued
sequence, by at most one; every marking that has left the queue has level `≤ len(s)`. -/
theorem LInv.push {net : PNet Place} {s0 target : Tuple} {maxDepth : Nat} {q : Queue} {vis : List Tuple}
    {lev : Tuple → Nat} (h : LInv net s0 target maxDepth q vis lev) {x : Tuple} {s : List String}
    (hrun : runT net s0 s = some x) (hnv : x ∉ vis)
    (hlo : ∀ e ∈ q, e.2.length ≤ s.length) (hhi : ∀ e ∈ q, s.length ≤ e.2.length + 1)
    (hpr : ∀ y, ProcL net target maxDepth q vis lev y → lev y ≤ s.length) :
    LInv net s0 target maxDepth (q ++ [(x, s)]) (vis ++ [x]) (Function.update lev x s.length) := by
  have hagree : ∀ y ∈ vis, Function.update lev x s.length y = lev y :=
    fun y hy => Function.update_of_ne (fun heq : y = x => hnv (heq ▸ hy)) _ _
  refine ⟨⟨List.mem_append_left _ h.start.1, (hagree s0 h.start.1).trans h.start.2⟩, ?_, ?_, ?_, ?_, ?_, ?_⟩
  · exact List.nodup_append.2 ⟨h.nodup, List.nodup_singleton _, fun a ha b hb heq =>
      hnv (List.mem_singleton.1 hb ▸ heq ▸ ha)⟩
  · exact List.forall_mem_append.2 ⟨h.reach, List.forall_mem_singleton.2 ⟨s, hrun⟩⟩
  · refine List.forall_mem_append.2 ⟨fun e he => ?_, List.forall_mem_singleton.2
      ⟨hrun, List.mem_append_right _ List.mem_cons_self, Function.update_self _ _ _⟩⟩
    obtain ⟨e1, e2, e3⟩ := h.entry e he
    exact ⟨e1, List.mem_append_left _ e2, (hagree _ e2).trans e3⟩
  · exact List.pairwise_append.2 ⟨h.sorted, List.pairwise_singleton _ _, fun a ha b hb =>
      List.mem_singleton.1 hb ▸ hlo a ha⟩
  · simp only [List.forall_mem_append, List.forall_mem_singleton]
    exact ⟨fun a ha => ⟨h.band a ha, hhi a ha⟩, fun b hb => Nat.le_succ_of_le (hlo b hb), Nat.le_succ _⟩
  · refine List.forall_mem_append.2 ⟨fun y hy => ?_, List.forall_mem_singleton.2 (Or.inl (by simp))⟩
    refine (h.proc y hy).imp (fun hq => by simp [hq]) fun hp => ?_
    unfold ProcL
    rw [hagree y hy]
    refine ⟨List.forall_mem_append.2 ⟨hp.1, List.forall_mem_singleton.2 (hpr y hp)⟩, fun hd t ht hen => ?_⟩
    obtain ⟨s1, s2, s3⟩ := hp.2 hd t ht hen
    exact ⟨s1, List.mem_append_left _ s2, (hagree _ s2).symm ▸ s3⟩

/-- `popleft()` once the entry is dealt with: either it was skipped for depth (`hexp` is void) or
all its enabled successors have been looked at. -/
theorem LInv.pop {net : PNet Place} {s0 target : Tuple} {maxDepth : Nat} {m : Tuple}
    {seq : List String} {q : Queue} {vis : List Tuple} {lev : Tuple → Nat}
    (h : LInv net s0 target maxDepth ((m, seq) :: q) vis lev)
    (hexp : seq.length ≤ maxDepth → ∀ t ∈ net.transitions, enabled t (ofTuple net.places m) = true →
      succT net m t ≠ target ∧ succT net m t ∈ vis ∧ lev (succT net m t) ≤ seq.length + 1) :
    LInv net s0 target maxDepth q vis lev := by
  have hlev : lev m = seq.length := (h.entry (m, seq) List.mem_cons_self).2.2
  refine ⟨h.start, h.nodup, h.reach, fun e he => h.entry e (List.mem_cons_of_mem _ he),
    (List.pairwise_cons.1 h.sorted).2,
    fun a ha b hb => h.band a (List.mem_cons_of_mem _ ha) b (List.mem_cons_of_mem _ hb), fun x hx => ?_⟩
  rcases h.proc x hx with hq | hp
  · rcases List.mem_cons.1 hq with rfl | hq
    · exact Or.inr ⟨fun e he => hlev ▸ (List.pairwise_cons.1 h.sorted).1 e he, hlev ▸ hexp⟩
    · exact Or.inl hq
  · exact Or.inr ⟨fun e he => hp.1 e (List.mem_cons_of_mem _ he), hp.2⟩

theorem LInv.lev_le_head {net : PNet Place} {s0 target : Tuple} {maxDepth : Nat} {m : Tuple} {seq : List String}
    {q : Queue} {vis : List Tuple} {lev : Tuple → Nat} (h : LInv net s0 target maxDepth ((m, seq) :: q) vis lev)
    {x : Tuple} (hx : x ∈ vis) : x ∈ q.map (·.1) ∧ lev x ≤ seq.length + 1 ∨ lev x ≤ seq.length := by
  rcases h.proc x hx with hq | hp
  · obtain ⟨e, he, rfl⟩ := List.mem_map.1 hq
    rw [(h.entry e he).2.2]
    rcases List.mem_cons.1 he with rfl | he'
    · exact Or.inr (Nat.le_refl _)
    · exact Or.inl ⟨List.mem_map_of_mem he', h.band _ List.mem_cons_self e he⟩
  · exact Or.inr (hp.1 _ List.mem_cons_self)

theorem expand_found {net : PNet Place} (hn : (net.transitions.map (·.tid)).Nodup) {s0 target m : Tuple}
    {seq : List String} (hrun : runT net s0 seq = some m) (ts : List (Transition Place))
    (hts : ∀ t ∈ ts, t ∈ net.transitions) (q : Queue) (vis : List Tuple) (s : List String)
    (h : expand net.places target (ofTuple net.places m) seq ts q vis = .found s) :
    runT net s0 s = some target := by
  fun_induction expand net.places target (ofTuple net.places m) seq ts q vis with
  | case1 => cases h
  | case2 t ts q vis hen newT heq =>
    cases h
    exact heq ▸ runT_snoc hn (hts t List.mem_cons_self) hrun hen
  | case3 t ts q vis _ _ _ _ ih | case4 t ts q vis _ _ _ _ ih | case5 t ts q vis _ ih =>
    exact ih (fun t ht => hts t (List.mem_cons_of_mem _ ht)) h

theorem expand_level (net : PNet Place) (hn : (net.transitions.map (·.tid)).Nodup) (s0 target : Tuple)
    (maxDepth : Nat) (m : Tuple) (seq : List String) (ts : List (Transition Place))
    (hts : ∀ t ∈ ts, t ∈ net.transitions) (q : Queue) (vis : List Tuple) (lev : Tuple → Nat)
    (hinv : LInv net s0 target maxDepth ((m, seq) :: q) vis lev) (q' : Queue) (vis' : List Tuple)
    (h : expand net.places target (ofTuple net.places m) seq ts q vis = .cont q' vis') :
    ∃ lev' : Tuple → Nat, LInv net s0 target maxDepth ((m, seq) :: q') vis' lev' ∧
      (∀ x ∈ vis, x ∈ vis' ∧ lev' x = lev x) ∧
      vis'.length + q.length = vis.length + q'.length ∧
      (∀ t ∈ ts, enabled t (ofTuple net.places m) = true →
        succT net m t ≠ target ∧ succT net m t ∈ vis' ∧ lev' (succT net m t) ≤ seq.length + 1) := by
  fun_induction expand net.places target (ofTuple net.places m) seq ts q vis generalizing lev with
  | case1 q vis =>
    cases h
    exact ⟨lev, hinv, fun x hx => ⟨hx, rfl⟩, rfl, by simp⟩
  | case2 => cases h
  | case3 t ts q vis hen newT heq hv ih =>
    have hv' : succT net m t ∈ vis := List.contains_iff_mem.1 hv
    obtain ⟨lev', i1, i2, i3, i4⟩ := ih (fun t ht => hts t (List.mem_cons_of_mem _ ht)) lev hinv h
    refine ⟨lev', i1, i2, i3, List.forall_mem_cons.2 ⟨fun _ => ⟨heq, (i2 _ hv').1, ?_⟩, i4⟩⟩
    rw [(i2 _ hv').2]
    exact (hinv.lev_le_head hv').elim (·.2) Nat.le_succ_of_le
  | case4 t ts q vis hen newT heq hv ih =>
    -- new: queued behind entries no longer than `seq + [tid]`, the head `seq` being the shortest
    have hv' : succT net m t ∉ vis := fun hc => hv (List.contains_iff_mem.2 hc)
    have hmin : ∀ e ∈ (m, seq) :: q, seq.length ≤ e.2.length :=
      List.forall_mem_cons.2 ⟨Nat.le_refl _, (List.pairwise_cons.1 hinv.sorted).1⟩
    have hpush := hinv.push (runT_snoc hn (hts t List.mem_cons_self) (hinv.entry _ List.mem_cons_self).1 hen) hv'
      (fun e he => by simpa using hinv.band _ List.mem_cons_self e he)
      (fun e he => by simpa using hmin e he)
      (fun y hp => by simpa using Nat.le_succ_of_le (hp.1 _ List.mem_cons_self))
    obtain ⟨lev', i1, i2, i3, i4⟩ := ih (fun t ht => hts t (List.mem_cons_of_mem _ ht)) _ hpush h
    refine ⟨lev', i1, fun x hx => ?_, ?_, List.forall_mem_cons.2 ⟨fun _ => ?_, i4⟩⟩
    · obtain ⟨j1, j2⟩ := i2 x (List.mem_append_left _ hx)
      exact ⟨j1, j2.trans (Function.update_of_ne (fun hc : x = succT net m t => hv' (hc ▸ hx)) _ _)⟩
    · simp only [List.length_append, List.length_singleton] at i3
      omega
    · obtain ⟨j1, j2⟩ := i2 _ (List.mem_append_right _ (List.mem_singleton.2 rfl))
      exact ⟨heq, j1, Nat.le_of_eq (j2.trans ((Function.update_self _ _ _).trans (by simp)))⟩
  | case5 t ts q vis hen ih =>
    obtain ⟨lev', i1, i2, i3, i4⟩ := ih (fun t ht => hts t (List.mem_cons_of_mem _ ht)) lev hinv h
    exact ⟨lev', i1, i2, i3, List.forall_mem_cons.2 ⟨fun hen' => absurd hen' hen, i4⟩⟩

/-- When the queue is empty every visited marking has been expanded or lies beyond `max_depth`, so a run from the
start stays among the visited markings, at levels at most its length, and never meets the target after its first step:
for runs of length `≤ max_depth + 1`, and for all runs when every level is `≤ max_depth`. -/
theorem LInv.closed {net : PNet Place} {s0 target : Tuple} {maxDepth : Nat} {vis : List Tuple} {lev : Tuple → Nat}
    (h : LInv net s0 target maxDepth [] vis lev) {σ : List String} {m : Tuple} (hrun : runT net s0 σ = some m)
    (hlen : σ.length ≤ maxDepth + 1 ∨ ∀ x ∈ vis, lev x ≤ maxDepth) :
    m ∈ vis ∧ lev m ≤ σ.length ∧ (σ ≠ [] → m ≠ target) := by
  refine runT_induction (motive := fun σ m => (σ.length ≤ maxDepth + 1 ∨ ∀ x ∈ vis, lev x ≤ maxDepth) →
    m ∈ vis ∧ lev m ≤ σ.length ∧ (σ ≠ [] → m ≠ target))
    (fun _ => ⟨h.start.1, by simp [h.start.2], fun h => absurd rfl h⟩)
    (fun σ m t _ ih ht hen hlen => ?_) hrun hlen
  simp only [List.length_append, List.length_singleton] at hlen ⊢
  obtain ⟨j1, j2, _⟩ := ih (hlen.imp_left fun h => by omega)
  have hd : lev m ≤ maxDepth := hlen.elim (fun h => by omega) fun h => h m j1
  obtain ⟨s1, s2, s3⟩ := ((h.proc m j1).resolve_left List.not_mem_nil).2 hd t ht hen
  exact ⟨s2, by omega, fun _ => s1⟩

/-- `hsk` is the ghost reading of the `skipped` flag; by `hf` the fuel (`max_states + 2` pops at the
call) never runs out. -/
theorem bfs_level (net : PNet Place) (hn : (net.transitions.map (·.tid)).Nodup) (s0 target : Tuple)
    (maxStates maxDepth fuel : Nat) (q : Queue) (vis : List Tuple) (states : Nat) (sk : Bool)
    (lev : Tuple → Nat) (hinv : LInv net s0 target maxDepth q vis lev)
    (hcnt : states + q.length = vis.length)
    (hsk : sk = false → ∀ x ∈ vis, x ∈ q.map (·.1) ∨ lev x ≤ maxDepth)
    (hf : maxStates + 1 < fuel + states) (hs : states ≤ maxStates) :
    match bfs net target maxStates maxDepth fuel q vis states sk with
    | .found s => runT net s0 s = some target
    | .notFound a b =>
      (a = false → ∀ σ : List String, σ.length ≤ maxDepth + 1 ∨ b = false → σ ≠ [] →
        runT net s0 σ ≠ some target) ∧
      ((∃ R : List Tuple, (∀ x, Reach net s0 x → x ∈ R) ∧ R.length ≤ maxStates) → a = false)
    | .noEdges => False
    | .fuelOut => False := by
  fun_induction bfs net target maxStates maxDepth fuel q vis states sk generalizing lev with
  | case1 => omega
  | case2 fuel vis states sk =>
    refine ⟨fun _ σ hlen hne hrun => (hinv.closed hrun (hlen.imp_right fun hb x hx => ?_)).2.2 hne rfl, fun _ => rfl⟩
    exact (hsk hb x hx).resolve_left List.not_mem_nil
  | case3 fuel m seq q vis states sk hlim =>
    refine ⟨nofun, fun hR => ?_⟩
    obtain ⟨R, hR, hcard⟩ := hR
    have := (hinv.nodup.subperm fun x hx => hR x (hinv.reach x hx)).length_le
    simp only [List.length_cons] at hcnt
    omega
  | case4 fuel m seq q vis states sk hlim hdepth ih =>
    simp only [List.length_cons] at hcnt
    exact ih lev (LInv.pop hinv fun hle => absurd hle (by omega)) (by omega) nofun (by omega) (by omega)
  | case5 fuel m seq q vis states sk hlim hdepth s hex =>
    exact expand_found hn (hinv.entry _ List.mem_cons_self).1 _ (fun _ h => h) _ _ _ hex
  | case6 fuel m seq q vis states sk hlim hdepth q' vis' hex ih =>
    obtain ⟨lev', i1, _, i3, i4⟩ := expand_level net hn s0 target maxDepth m seq net.transitions
      (fun _ h => h) q vis lev hinv q' vis' hex
    simp only [List.length_cons] at hcnt
    refine ih lev' (LInv.pop i1 fun _ => i4) (by omega) (fun _ x hx => ?_) (by omega) (by omega)
    exact (i1.lev_le_head hx).imp (·.1) fun hle => by omega

def startT (P : Pathway) : Tuple := toTuple (buildNet P).places (initialMarking P)

theorem isRealizable_spec (P : Pathway) (maxStates maxDepth : Nat) :
    match isRealizable P maxStates maxDepth with
    | .found seq => validCertificate P seq = true
    | .notFound a b =>
      (a = false → ∀ seq : List String, seq.length ≤ maxDepth + 1 ∨ b = false →
        validCertificate P seq = false) ∧
      ((∃ R : List Tuple, (∀ m, Reach (buildNet P) (startT P) m → m ∈ R) ∧ R.length ≤ maxStates) →
        a = false)
    | .noEdges => P.edges.isEmpty = true
    | .fuelOut => False := by
  have hq := quickEqual_iff (buildNet P).places _ _ (markings_off_places P)
  unfold isRealizable
  by_cases he : P.edges.isEmpty = true
  · rw [if_pos he]; exact he
  by_cases hqe : quickEqual (initialMarking P) (targetMarking P) = true
  · simp only [he, hqe, if_true]
    exact beq_iff_eq.2 (congrArg some (hq.1 hqe))
  · simp only [he, hqe]
    have := bfs_level (buildNet P) (buildNet_tids_nodup P) (toTuple (buildNet P).places (initialMarking P))
      (toTuple (buildNet P).places (targetMarking P)) maxStates maxDepth (maxStates + 2) _ _ 0 false _
      (LInv.init _ _ _ maxDepth) rfl (fun _ x hx => Or.inl (by simpa using hx)) (by omega) (by omega)
    generalize bfs _ _ _ _ _ _ _ _ _ = res at this ⊢
    cases res with
    | found s => exact beq_iff_eq.2 this
    | notFound a b =>
      refine ⟨fun ha seq hlen => beq_eq_false_iff_ne.2 fun hrun => ?_, this.2⟩
      by_cases hnil : seq = []
      · subst hnil; exact hqe (hq.2 (Option.some.inj hrun))
      · exact this.1 ha seq hlen hnil hrun
    | noEdges => exact this.elim
    | fuelOut => exact this.elim

theorem isRealizable_sound (P : Pathway) (maxStates maxDepth : Nat) (seq : List String)
    (h : isRealizable P maxStates maxDepth = .found seq) : validCertificate P seq = true := by
  have := isRealizable_spec P maxStates maxDepth
  rwa [h] at this

theorem isRealizable_notFound_level (P : Pathway) (maxStates maxDepth : Nat) (R : List Tuple)
    (hR : ∀ m, Reach (buildNet P) (startT P) m → m ∈ R) (hcard : R.length ≤ maxStates) (a b : Bool)
    (h : isRealizable P maxStates maxDepth = .notFound a b) :
    a = false ∧ ∀ seq : List String, seq.length ≤ maxDepth + 1 → validCertificate P seq = false := by
  have := isRealizable_spec P maxStates maxDepth
  rw [h] at this
  have ha := this.2 ⟨R, hR, hcard⟩
  exact ⟨ha, fun seq hlen => this.1 ha seq (Or.inl hlen)⟩

theorem isRealizable_ne_noEdges (P : Pathway) (maxStates maxDepth : Nat) (hne : P.edges.isEmpty = false) :
    isRealizable P maxStates maxDepth ≠ .noEdges := fun h => by
  have := isRealizable_spec P maxStates maxDepth
  rw [h] at this
  exact absurd this (by simp [hne])

theorem isRealizable_noEdges (P : Pathway) (maxStates maxDepth : Nat) (he : P.edges.isEmpty = true) :
    isRealizable P maxStates maxDepth = .noEdges := by
  unfold isRealizable
  simp [he]

end SynKit.Petri
