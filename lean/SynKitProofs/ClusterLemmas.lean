import SynKitModel.Cluster
import SynKitProofs.Core.Mapping
import SynKitProofs.Core.Fold
/-!
# Lemmas for C13 (clustering)

The specification is `seqCls`: items are classified one after the other against the representatives met so far, the
class of an item being the position of the first representative that matches it.  `seqTab_cons_perm` reads that run
class by class (what the first representative matches, then the rest against the other representatives), and that is
one round of the one-shot loop: `iterative_cluster`, brought to the closed forms `pick`/`parts`/`label` (`inner_eq`,
`outer_eq`), leaves in `rule_to_cluster` the entries of the table of `seqCls` (`label_parts_perm`, `r2c_perm_seqTab`),
for any `iso`; the class of a position (`classOf_eq_seqCls`) and that the clusters cover the positions
(`clusters_flatten_perm`) are read off that.  `lib_check` item by item from empty templates computes `seqCls` as it
stands (`clusterRun_contig`).  "Same class ⇔ iso" is proved once, for `clusterRun` from any templates that are one
representative per class (`TInv`, `clusterRun_tinv`), with `iso` an equivalence only on a carrier `P` that holds the
items; the one-shot clause is the case of no templates (`same_class_iff_on`), and independence of the list order
(`cluster_perm_invariant_on`) is read off it.
-/
namespace SynKit.Cluster

theorem setAdd_of_not_mem {s : List Nat} {x : Nat} (h : x ∉ s) : setAdd s x = s ++ [x] := by
  simp [setAdd, h]

theorem dictSet_of_not_mem {d : List (Nat × Nat)} {k v : Nat} (h : k ∉ d.map (·.1)) :
    dictSet d k v = d ++ [(k, v)] := by
  induction d with
  | nil => rfl
  | cons p rest ih =>
    obtain ⟨k', v'⟩ := p
    simp only [List.map_cons, List.mem_cons, not_or] at h
    have hne : k' ≠ k := fun e => h.1 e.symm
    simp [dictSet, hne, ih h.2]

theorem dictGet_append (d e : List (Nat × Nat)) (k : Nat) :
    dictGet (d ++ e) k = (dictGet d k).or (dictGet e k) := by
  induction d with
  | nil => simp [dictGet]
  | cons p rest ih =>
    obtain ⟨k', v'⟩ := p
    by_cases h : k' = k <;> simp [dictGet, h, ih]

theorem dictGet_eq (d : List (Nat × Nat)) (k : Nat) : dictGet d k = Match.Mapping.get? d k := by
  induction d with
  | nil => rfl
  | cons p d ih => rw [Match.Mapping.get?_cons, ← ih]; rfl

theorem dictGet_eq_none {d : List (Nat × Nat)} {k : Nat} (h : k ∉ d.map (·.1)) : dictGet d k = none :=
  dictGet_eq d k ▸ Match.Mapping.get?_eq_none_iff.2 h

theorem dictGet_map_const {l : List Nat} {k c : Nat} (h : k ∈ l) :
    dictGet (l.map fun j => (j, c)) k = some c := by
  rw [dictGet_eq, Match.Mapping.get?_map_graph (f := fun _ => c), if_pos h]

theorem dictGet_perm {d e : List (Nat × Nat)} (h : d.Perm e) (hn' : (e.map (·.1)).Nodup) (k : Nat) :
    dictGet d k = dictGet e k := by
  have hn : (d.map (·.1)).Nodup := (h.map _).nodup_iff.2 hn'
  rw [dictGet_eq, dictGet_eq]
  apply Option.ext
  intro v
  rw [Match.Mapping.get?_eq_some_iff hn, Match.Mapping.get?_eq_some_iff hn', h.mem_iff]

theorem enumFrom_map_fst {α : Type} (i : Nat) (xs : List α) :
    (enumFrom i xs).map (·.1) = List.range' i xs.length := by
  induction xs generalizing i with
  | nil => rfl
  | cons x xs ih => simp [enumFrom, ih, List.range'_succ]

theorem enumFrom_map_snd {α : Type} (i : Nat) (xs : List α) : (enumFrom i xs).map (·.2) = xs := by
  induction xs generalizing i with
  | nil => rfl
  | cons x xs ih => simp [enumFrom, ih]

theorem enumFrom_nodup {α : Type} (i : Nat) (xs : List α) : ((enumFrom i xs).map (·.1)).Nodup := by
  rw [enumFrom_map_fst]; exact List.nodup_range' 1

theorem dictGet_enumFrom (cs : List Nat) : ∀ i k, dictGet (enumFrom i cs) (i + k) = cs[k]? := by
  induction cs with
  | nil => intro i k; rfl
  | cons c cs ih =>
    intro i k
    cases k with
    | zero => simp [enumFrom, dictGet]
    | succ k =>
      have : i + (k + 1) = i + 1 + k := by omega
      have hne : ¬ i = i + 1 + k := by omega
      simp [enumFrom, dictGet, this, hne, ih]

section
variable {α : Type} {κ : Type} [DecidableEq κ]

/-- The test `lib_check` and the inner loop apply: equal attribute and `iso(representative, item)`. -/
def matchB (iso : α → α → Bool) (key : α → κ) (r x : α) : Bool := decide (key r = key x) && iso r x

theorem matchB_iff (iso : α → α → Bool) (key : α → κ) (r x : α) :
    matchB iso key r x = true ↔ key r = key x ∧ iso r x = true := by
  simp [matchB]

/-- Classification against the growing list `R` of representatives: the class of an item is the position of
the first representative that matches it; an item that matches none becomes the next representative. -/
def seqCls (iso : α → α → Bool) (key : α → κ) : List α → List α → List Nat
  | _, [] => []
  | R, x :: l =>
    match R.findIdx? (fun r => matchB iso key r x) with
    | some c => c :: seqCls iso key R l
    | none => R.length :: seqCls iso key (R ++ [x]) l

/-- `seqCls` on indexed items, as the table index ↦ class. -/
def seqTab (iso : α → α → Bool) (key : α → κ) : List α → List (Nat × α) → List (Nat × Nat)
  | _, [] => []
  | R, (j, x) :: l =>
    match R.findIdx? (fun r => matchB iso key r x) with
    | some c => (j, c) :: seqTab iso key R l
    | none => (j, R.length) :: seqTab iso key (R ++ [x]) l

theorem seqTab_map_fst (iso : α → α → Bool) (key : α → κ) (l : List (Nat × α)) :
    ∀ R, (seqTab iso key R l).map (·.1) = l.map (·.1) := by
  induction l with
  | nil => intro R; rfl
  | cons p l ih => intro R; obtain ⟨j, x⟩ := p; unfold seqTab; split <;> simp [ih]

theorem seqTab_enumFrom (iso : α → α → Bool) (key : α → κ) (xs : List α) :
    ∀ R i, seqTab iso key R (enumFrom i xs) = enumFrom i (seqCls iso key R xs) := by
  induction xs with
  | nil => intro R i; rfl
  | cons x xs ih =>
    intro R i
    cases h : R.findIdx? (fun r => matchB iso key r x) <;> simp only [enumFrom, seqTab, seqCls, h, ih]

theorem seqCls_length (iso : α → α → Bool) (key : α → κ) (l : List α) :
    ∀ R, (seqCls iso key R l).length = l.length := by
  induction l with
  | nil => intro R; rfl
  | cons x l ih => intro R; unfold seqCls; split <;> simp [ih]

/-- Classifying against `r :: R` is: first take out everything `r` matches (class 0), then classify what is
left against `R`, one class up. An item that joins a class leaves no trace for the others, so the item-by-item
run can be read class by class, which is how the one-shot loops run. -/
theorem seqTab_cons_perm (iso : α → α → Bool) (key : α → κ) (r : α) (l : List (Nat × α)) : ∀ R,
    (seqTab iso key (r :: R) l).Perm
      ((l.filter fun p => matchB iso key r p.2).map (fun p => (p.1, 0)) ++
        (seqTab iso key R (l.filter fun p => !matchB iso key r p.2)).map fun q => (q.1, q.2 + 1)) := by
  induction l with
  | nil => intro R; exact List.Perm.refl _
  | cons p l ih =>
    obtain ⟨j, y⟩ := p
    intro R
    cases hm : matchB iso key r y with
    | true =>
      rw [List.filter_cons_of_pos (by simpa using hm), List.filter_cons_of_neg (by simp [hm])]
      simp only [seqTab, List.findIdx?_cons, hm, if_true, List.map_cons, List.cons_append]
      exact (ih R).cons _
    | false =>
      rw [List.filter_cons_of_neg (by simp [hm]), List.filter_cons_of_pos (by simp [hm])]
      simp only [seqTab, List.findIdx?_cons, hm, Bool.false_eq_true, if_false]
      cases R.findIdx? (fun r => matchB iso key r y) with
      | some c => exact ((ih R).cons _).trans List.perm_middle.symm
      | none => exact ((ih (R ++ [y])).cons _).trans List.perm_middle.symm

/-- One round of a class-by-class loop: the head opens class `c` and takes what it matches, the others are
classified from `c + 1`. -/
theorem seqTab_round (iso : α → α → Bool) (key : α → κ) (i : Nat) (x : α) (rest : List (Nat × α)) (c : Nat) :
    ((seqTab iso key [] ((i, x) :: rest)).map fun q => (q.1, q.2 + c)).Perm
      ((i, c) :: (rest.filter fun p => matchB iso key x p.2).map (fun p => (p.1, c)) ++
        (seqTab iso key [] (rest.filter fun p => !matchB iso key x p.2)).map fun q => (q.1, q.2 + (c + 1))) := by
  simp only [seqTab, List.findIdx?_nil, List.length_nil, List.nil_append, List.map_cons, Nat.zero_add,
    List.cons_append]
  refine List.Perm.cons _ (((seqTab_cons_perm iso key x rest []).map _).trans ?_)
  simp only [List.map_append, List.map_map, Function.comp_def, Nat.zero_add, Nat.add_assoc, Nat.add_comm 1 c]
  exact List.Perm.refl _

/-- The indices one run of the inner loop adds to the class of representative `xi`. -/
def pick (iso : α → α → Bool) (key : α → κ) (xi : α) (vis : List Nat) (rest : List (Nat × α)) : List Nat :=
  (rest.filter fun p => decide (key xi = key p.2) && decide (p.1 ∉ vis) && iso xi p.2).map (·.1)

theorem pick_cons (iso : α → α → Bool) (key : α → κ) (xi : α) (vis : List Nat) (j : Nat) (xj : α)
    (rest : List (Nat × α)) :
    pick iso key xi vis ((j, xj) :: rest) =
      if key xi = key xj ∧ j ∉ vis ∧ iso xi xj = true then j :: pick iso key xi vis rest
      else pick iso key xi vis rest := by
  simp only [pick, List.filter_cons, Bool.and_eq_true, decide_eq_true_eq, and_assoc]
  split <;> rfl

theorem pick_congr (iso : α → α → Bool) (key : α → κ) (xi : α) (vis : List Nat) (j : Nat)
    (rest : List (Nat × α)) (hj : j ∉ rest.map (·.1)) :
    pick iso key xi (vis ++ [j]) rest = pick iso key xi vis rest := by
  unfold pick
  congr 1
  apply List.filter_congr
  intro p hp
  have : p.1 ≠ j := fun e => hj (e ▸ List.mem_map_of_mem hp)
  simp [this]

theorem inner_cons (iso : α → α → Bool) (key : α → κ) (xi : α) (c j : Nat) (xj : α) (rest : List (Nat × α))
    (vis cl : List Nat) (r2c : List (Nat × Nat)) :
    inner iso key xi c ((j, xj) :: rest) (vis, cl, r2c) =
      if key xi = key xj ∧ j ∉ vis ∧ iso xi xj = true then
        inner iso key xi c rest (setAdd vis j, setAdd cl j, dictSet r2c j c)
      else inner iso key xi c rest (vis, cl, r2c) := by
  simp only [inner, ite_and]

theorem inner_eq (iso : α → α → Bool) (key : α → κ) (xi : α) (c : Nat) (rest : List (Nat × α)) :
    ∀ (vis cl : List Nat) (r2c : List (Nat × Nat)), (rest.map (·.1)).Nodup → r2c.map (·.1) = vis →
      (∀ x ∈ cl, x ∈ vis) →
      inner iso key xi c rest (vis, cl, r2c) =
        (vis ++ pick iso key xi vis rest, cl ++ pick iso key xi vis rest,
         r2c ++ (pick iso key xi vis rest).map fun j => (j, c)) := by
  induction rest with
  | nil => intro vis cl r2c _ _ _; simp [inner, pick]
  | cons p rest ih =>
    obtain ⟨j, xj⟩ := p
    intro vis cl r2c hnd hk hcl
    simp only [List.map_cons, List.nodup_cons] at hnd
    rw [inner_cons, pick_cons]
    split
    · rename_i h
      have hjcl : j ∉ cl := fun hj => h.2.1 (hcl j hj)
      have hjk : j ∉ r2c.map (·.1) := by rw [hk]; exact h.2.1
      rw [setAdd_of_not_mem h.2.1, setAdd_of_not_mem hjcl, dictSet_of_not_mem hjk]
      rw [ih (vis ++ [j]) (cl ++ [j]) (r2c ++ [(j, c)]) hnd.2 (by simp [hk])
        (by intro x hx; rcases List.mem_append.1 hx with h | h
            · exact List.mem_append_left _ (hcl x h)
            · exact List.mem_append_right _ h)]
      rw [pick_congr iso key xi vis j rest hnd.1]
      simp
    · exact ih vis cl r2c hnd.2 hk hcl

/-- The clusters the outer loop creates on the enumerated suffix `l` when `V` is already visited. -/
def parts (iso : α → α → Bool) (key : α → κ) : List Nat → List (Nat × α) → List (List Nat)
  | _, [] => []
  | V, (i, xi) :: rest =>
    if i ∈ V then parts iso key V rest
    else (i :: pick iso key xi (V ++ [i]) rest) ::
      parts iso key (V ++ (i :: pick iso key xi (V ++ [i]) rest)) rest

/-- `rule_to_cluster` entries of a list of clusters numbered from `c`. -/
def label : Nat → List (List Nat) → List (Nat × Nat)
  | _, [] => []
  | c, C :: Cs => (C.map fun j => (j, c)) ++ label (c + 1) Cs

theorem label_map_fst (c : Nat) (Cs : List (List Nat)) : (label c Cs).map (·.1) = Cs.flatten := by
  induction Cs generalizing c with
  | nil => rfl
  | cons C Cs ih => simp [label, ih, Function.comp_def]

theorem outer_eq (iso : α → α → Bool) (key : α → κ) (l : List (Nat × α)) :
    ∀ s : St, (l.map (·.1)).Nodup → s.r2c.map (·.1) = s.visited →
      outer iso key l s =
        { visited := s.visited ++ (parts iso key s.visited l).flatten
          clusters := s.clusters ++ parts iso key s.visited l
          r2c := s.r2c ++ label s.clusters.length (parts iso key s.visited l) } := by
  induction l with
  | nil => intro s _ _; simp [outer, parts, label]
  | cons p rest ih =>
    obtain ⟨i, xi⟩ := p
    intro s hnd hk
    simp only [List.map_cons, List.nodup_cons] at hnd
    by_cases hi : i ∈ s.visited
    · simp only [outer, parts, hi, if_true]
      exact ih s hnd.2 hk
    · have hik : i ∉ s.r2c.map (·.1) := by rw [hk]; exact hi
      simp only [outer, parts, hi, if_false]
      rw [setAdd_of_not_mem hi, dictSet_of_not_mem hik]
      rw [inner_eq iso key xi s.clusters.length rest (s.visited ++ [i]) [i]
        (s.r2c ++ [(i, s.clusters.length)]) hnd.2 (by simp [hk]) (by simp)]
      rw [ih _ hnd.2 (by simp [hk, Function.comp_def])]
      simp [label, List.append_assoc]

theorem iterState_eq (iso : α → α → Bool) (key : α → κ) (xs : List α) :
    iterState iso key xs =
      { visited := (parts iso key [] (enumFrom 0 xs)).flatten
        clusters := parts iso key [] (enumFrom 0 xs)
        r2c := label 0 (parts iso key [] (enumFrom 0 xs)) } := by
  unfold iterState
  rw [outer_eq iso key _ {} (enumFrom_nodup 0 xs) rfl]
  simp

theorem pick_eq_filter (iso : α → α → Bool) (key : α → κ) (x : α) (V : List Nat) (i : Nat) (rest : List (Nat × α))
    (hi : i ∉ rest.map (·.1)) :
    pick iso key x (V ++ [i]) rest =
      ((rest.filter fun p => decide (p.1 ∉ V)).filter fun p => matchB iso key x p.2).map (·.1) := by
  rw [pick_congr iso key x V i rest hi, pick, List.filter_filter]
  congr 2
  funext p
  exact Bool.and_right_comm ..

theorem filter_unvisited (iso : α → α → Bool) (key : α → κ) (x : α) (V : List Nat) (i : Nat) (rest : List (Nat × α))
    (hnd : (rest.map (·.1)).Nodup) (hi : i ∉ rest.map (·.1)) :
    (rest.filter fun p => decide (p.1 ∉ V ++ i :: pick iso key x (V ++ [i]) rest)) =
      (rest.filter fun p => decide (p.1 ∉ V)).filter fun p => !matchB iso key x p.2 := by
  rw [List.filter_filter, pick_eq_filter iso key x V i rest hi, List.filter_filter]
  apply List.filter_congr
  intro p hp
  have hne : p.1 ≠ i := fun e => hi (e ▸ List.mem_map_of_mem hp)
  -- indices are distinct, so an index is among the picked ones only through its own item
  rw [Bool.eq_iff_iff, decide_eq_true_eq, List.mem_append, List.mem_cons, Core.mem_map_filter_of_nodup hnd hp]
  by_cases hV : p.1 ∈ V <;> simp [hV, hne]

theorem label_parts_perm (iso : α → α → Bool) (key : α → κ) (l : List (Nat × α)) :
    ∀ (V : List Nat) (c : Nat), (l.map (·.1)).Nodup →
      (label c (parts iso key V l)).Perm
        ((seqTab iso key [] (l.filter fun p => decide (p.1 ∉ V))).map fun q => (q.1, q.2 + c)) := by
  induction l with
  | nil => intro V c _; exact List.Perm.refl _
  | cons p rest ih =>
    obtain ⟨i, x⟩ := p
    intro V c hnd
    simp only [List.map_cons, List.nodup_cons] at hnd
    by_cases hi : i ∈ V
    · rw [List.filter_cons_of_neg (by simpa using hi)]
      simp only [parts, hi, if_true]
      exact ih V c hnd.2
    · rw [List.filter_cons_of_pos (by simpa using hi)]
      refine List.Perm.trans ?_ (seqTab_round iso key i x _ c).symm
      simp only [parts, hi, if_false, label, List.cons_append, List.map_cons]
      -- picked now (class `c`), or left unvisited: the two parts of the round
      rw [← filter_unvisited iso key x V i rest hnd.2 hnd.1, pick_eq_filter iso key x V i rest hnd.1, List.map_map]
      exact List.Perm.cons _ ((ih _ (c + 1) hnd.2).append_left _)

theorem r2c_perm_seqTab (iso : α → α → Bool) (key : α → κ) (xs : List α) :
    (iterState iso key xs).r2c.Perm (seqTab iso key [] (enumFrom 0 xs)) := by
  have h := label_parts_perm iso key (enumFrom 0 xs) [] 0 (enumFrom_nodup 0 xs)
  simp only [List.not_mem_nil, not_false_eq_true, decide_true, List.filter_true, Nat.add_zero, List.map_id'] at h
  rwa [iterState_eq]

theorem dictGet_of_perm_seqTab (iso : α → α → Bool) (key : α → κ) (xs : List α) {T : List (Nat × Nat)}
    (h : T.Perm (seqTab iso key [] (enumFrom 0 xs))) (j : Nat) : dictGet T j = (seqCls iso key [] xs)[j]? := by
  rw [seqTab_enumFrom] at h
  rw [dictGet_perm h (enumFrom_nodup 0 _)]
  simpa using dictGet_enumFrom (seqCls iso key [] xs) 0 j

theorem classOf_eq_seqCls (iso : α → α → Bool) (key : α → κ) (xs : List α) (j : Nat) :
    classOf iso key xs j = (seqCls iso key [] xs)[j]? :=
  dictGet_of_perm_seqTab iso key xs (r2c_perm_seqTab iso key xs) j

theorem gcClasses_eq_seqCls (iso : α → α → Bool) (key : α → κ) (xs : List α) :
    gcClasses iso key xs = (seqCls iso key [] xs).map some := by
  unfold gcClasses
  simp only [classOf_eq_seqCls, ← seqCls_length iso key xs []]
  apply List.ext_getElem <;> simp

theorem clusters_flatten_perm (iso : α → α → Bool) (key : α → κ) (xs : List α) :
    (iterState iso key xs).clusters.flatten.Perm (List.range' 0 xs.length) := by
  have h := (r2c_perm_seqTab iso key xs).map (·.1)
  rw [seqTab_map_fst, enumFrom_map_fst, iterState_eq, label_map_fst] at h
  rwa [iterState_eq]

theorem parts_ne_nil (iso : α → α → Bool) (key : α → κ) (l : List (Nat × α)) :
    ∀ V, ∀ C ∈ parts iso key V l, C ≠ [] := by
  induction l with
  | nil => intro V C h; simp [parts] at h
  | cons p rest ih =>
    obtain ⟨i, xi⟩ := p
    intro V C h
    simp only [parts] at h
    split at h
    · exact ih V C h
    · rcases List.mem_cons.1 h with rfl | h
      · simp
      · exact ih _ C h

theorem clusters_ne_nil (iso : α → α → Bool) (key : α → κ) (xs : List α) :
    ∀ C ∈ (iterState iso key xs).clusters, C ≠ [] := by
  rw [iterState_eq]
  exact parts_ne_nil iso key _ []

theorem dictGet_label (j : Nat) : ∀ (Cs : List (List Nat)) (c : Nat),
    dictGet (label c Cs) j = (Cs.findIdx? (fun C => decide (j ∈ C))).map (· + c)
  | [], _ => rfl
  | C :: Cs, c => by
    rw [label, dictGet_append, List.findIdx?_cons]
    by_cases hj : j ∈ C
    · rw [dictGet_map_const hj, if_pos (decide_eq_true hj)]
      simp
    · rw [dictGet_eq_none (by simpa using hj), if_neg (by simpa using hj), Option.none_or, dictGet_label j Cs,
        Option.map_map]
      congr 1
      funext i
      show i + (c + 1) = i + 1 + c
      omega

/-- In a family of pairwise disjoint lists the first list that holds `j` is the only one. -/
theorem findIdx?_mem_iff {Cs : List (List Nat)} (h : Cs.flatten.Nodup) (j c : Nat) :
    Cs.findIdx? (fun C => decide (j ∈ C)) = some c ↔ ∃ C, Cs[c]? = some C ∧ j ∈ C := by
  rw [List.findIdx?_eq_some_iff_getElem]
  constructor
  · rintro ⟨hc, hj, _⟩
    exact ⟨_, List.getElem?_eq_getElem hc, of_decide_eq_true hj⟩
  · rintro ⟨C, hC, hj⟩
    obtain ⟨hc, rfl⟩ := List.getElem?_eq_some_iff.1 hC
    have hd := List.pairwise_iff_getElem.1 (List.nodup_flatten.1 h).2
    exact ⟨hc, decide_eq_true hj, fun k hk hjk =>
      List.disjoint_left.1 (hd k c (Nat.lt_trans hk hc) hc hk) (of_decide_eq_true hjk) hj⟩

theorem classOf_eq_findIdx? (iso : α → α → Bool) (key : α → κ) (xs : List α) (j : Nat) :
    classOf iso key xs j = (iterState iso key xs).clusters.findIdx? (fun C => decide (j ∈ C)) := by
  unfold classOf
  rw [iterState_eq, dictGet_label]
  exact Option.map_id'

theorem lt_newClass (ts : List (Tmpl α)) (t : Tmpl α) (h : t ∈ ts) : t.cls < newClass ts := by
  unfold newClass
  have := Core.le_foldl_max (m := -1) (.inl (List.mem_map_of_mem (f := (·.cls)) h))
  omega

theorem libCheck_eq (iso : α → α → Bool) (key : α → κ) (x : α) (ts : List (Tmpl α)) :
    libCheck iso key x ts =
      match ts.find? (fun t => matchB iso key t.item x) with
      | some t => (t.cls, ts)
      | none => (newClass ts, ts ++ [⟨x, newClass ts⟩]) := by
  unfold libCheck
  rw [List.find?_filter]
  have : (fun a : Tmpl α => decide (decide (key a.item = key x) = true ∧ iso a.item x = true)) =
      (fun t => matchB iso key t.item x) := by
    funext a; simp [matchB]
  rw [this]
  cases List.find? (fun t => matchB iso key t.item x) ts <;> rfl

theorem libCheck_cases (iso : α → α → Bool) (key : α → κ) (x : α) (ts : List (Tmpl α)) :
    (∃ pre t post, ts = pre ++ t :: post ∧ (key t.item = key x ∧ iso t.item x = true) ∧
        (∀ u ∈ pre, ¬ (key u.item = key x ∧ iso u.item x = true)) ∧ libCheck iso key x ts = (t.cls, ts)) ∨
    ((∀ t ∈ ts, ¬ (key t.item = key x ∧ iso t.item x = true)) ∧
        libCheck iso key x ts = (newClass ts, ts ++ [⟨x, newClass ts⟩]) ∧ ∀ t ∈ ts, t.cls ≠ newClass ts) := by
  rw [libCheck_eq]
  cases h : ts.find? (fun t => matchB iso key t.item x) with
  | some t =>
    left
    obtain ⟨hp, pre, post, hts, hpre⟩ := List.find?_eq_some_iff_append.1 h
    refine ⟨pre, t, post, hts, (matchB_iff iso key _ _).1 hp, ?_, rfl⟩
    intro u hu hm
    have := hpre u hu
    rw [(matchB_iff iso key _ _).2 hm] at this
    simp at this
  | none =>
    right
    rw [List.find?_eq_none] at h
    refine ⟨fun t ht hm => h t ht ((matchB_iff iso key _ _).2 hm), rfl, ?_⟩
    intro t ht e
    have := lt_newClass ts t ht
    omega

/-- Template classes are `0, 1, …, n-1` in order (the state reached from empty templates). -/
def Contig (ts : List (Tmpl α)) : Prop := ts.map (·.cls) = (List.range ts.length).map Int.ofNat

theorem foldl_max_range (k : Nat) : ((List.range k).map Int.ofNat).foldl max (-1) = (k : Int) - 1 := by
  induction k with
  | zero => rfl
  | succ k ih =>
    rw [List.range_succ, List.map_append, List.foldl_append, ih]
    simp only [List.map_cons, List.map_nil, List.foldl_cons, List.foldl_nil, Int.ofNat_eq_natCast]
    omega

theorem newClass_contig (ts : List (Tmpl α)) (h : Contig ts) : newClass ts = ts.length := by
  unfold newClass
  rw [h, foldl_max_range]; omega

theorem contig_append (ts : List (Tmpl α)) (h : Contig ts) (x : α) :
    Contig (ts ++ [⟨x, (ts.length : Int)⟩]) := by
  unfold Contig at *
  simp [List.range_succ, h]

theorem clusterRun_contig (iso : α → α → Bool) (key : α → κ) (l : List α) :
    ∀ ts : List (Tmpl α), Contig ts →
      (clusterRun iso key l ts).1 = (seqCls iso key (ts.map (·.item)) l).map Int.ofNat := by
  induction l with
  | nil => intro ts _; rfl
  | cons x l ih =>
    intro ts h
    have hidx : (ts.map (·.item)).findIdx? (fun r => matchB iso key r x) =
        ts.findIdx? (fun t => matchB iso key t.item x) := by
      rw [List.findIdx?_map]; rfl
    simp only [clusterRun, libCheck_eq, seqCls, hidx]
    rw [List.find?_eq_bind_findIdx?_getElem?]
    cases hf : ts.findIdx? (fun t => matchB iso key t.item x) with
    | some c =>
      obtain ⟨hc, _, _⟩ := List.findIdx?_eq_some_iff_getElem.1 hf
      have hcls : ts[c].cls = Int.ofNat c := by
        have := congrArg (·[c]?) h
        simp only [List.getElem?_map, List.getElem?_eq_getElem hc, List.getElem?_range hc,
          Option.map_some, Option.some.injEq] at this
        exact this
      simp only [Option.bind_some, List.getElem?_eq_getElem hc]
      simp [ih ts h, hcls]
    | none =>
      simp only [Option.bind_none]
      rw [newClass_contig ts h]
      have h1 := ih _ (contig_append ts h x)
      simp only [List.map_append, List.map_cons, List.map_nil] at h1
      simp [h1]

/-- From empty templates the incremental run and one-shot clustering both read `seqCls`. -/
theorem incremental_same_class_iff_oneshot (iso : α → α → Bool) (key : α → κ) (ys : List α) (a b : Nat) :
    (clusterRun iso key ys []).1[a]? = (clusterRun iso key ys []).1[b]? ↔
      classOf iso key ys a = classOf iso key ys b := by
  rw [classOf_eq_seqCls, classOf_eq_seqCls, clusterRun_contig iso key ys [] rfl, List.map_nil, List.getElem?_map,
    List.getElem?_map]
  exact ⟨fun h => Option.map_injective (fun _ _ => Int.ofNat_inj.1) h, congrArg _⟩

theorem clusterRun_length (iso : α → α → Bool) (key : α → κ) (l : List α) :
    ∀ ts : List (Tmpl α), (clusterRun iso key l ts).1.length = l.length := by
  induction l with
  | nil => intro ts; rfl
  | cons x l ih => intro ts; simp [clusterRun, ih]

theorem clusterRun_append (iso : α → α → Bool) (key : α → κ) (xs ys : List α) :
    ∀ ts : List (Tmpl α), clusterRun iso key (xs ++ ys) ts =
      ((clusterRun iso key xs ts).1 ++ (clusterRun iso key ys (clusterRun iso key xs ts).2).1,
       (clusterRun iso key ys (clusterRun iso key xs ts).2).2) := by
  induction xs with
  | nil => intro ts; simp [clusterRun]
  | cons x xs ih => intro ts; simp [clusterRun, ih]

theorem fitBatches_eq (iso : α → α → Bool) (key : α → κ) (bs : List (List α)) :
    ∀ ts : List (Tmpl α), fitBatches iso key bs ts = clusterRun iso key bs.flatten ts := by
  induction bs with
  | nil => intro ts; rfl
  | cons b bs ih => intro ts; simp [fitBatches, ih, clusterRun_append]

theorem chunks_flatten (k : Nat) (hk : 1 ≤ k) : ∀ (fuel : Nat) (l : List α), l.length ≤ fuel →
    (chunks k fuel l).flatten = l := by
  intro fuel
  induction fuel with
  | zero => intro l h; have : l = [] := List.length_eq_zero_iff.1 (by omega); subst this; rfl
  | succ fuel ih =>
    intro l h
    cases l with
    | nil => rfl
    | cons x l =>
      simp only [chunks, List.flatten_cons]
      rw [ih _ (by simp only [List.length_drop, List.length_cons] at h ⊢; omega)]
      exact List.take_append_drop k (x :: l)

structure IsEquiv (iso : α → α → Bool) : Prop where
  refl : ∀ x, iso x x = true
  symm : ∀ x y, iso x y = true → iso y x = true
  trans : ∀ x y z, iso x y = true → iso y z = true → iso x z = true

def KeyInv (iso : α → α → Bool) (key : α → κ) : Prop := ∀ x y, iso x y = true → key x = key y

/-- The oracle of the real code is an equivalence on well-formed graphs only (`clIso_equivOn`), so the theorems
ask for an equivalence on a carrier `P` and for lists and templates inside `P`. -/
structure IsEquivOn (P : α → Prop) (iso : α → α → Bool) : Prop where
  refl : ∀ x, P x → iso x x = true
  symm : ∀ x y, P x → P y → iso x y = true → iso y x = true
  trans : ∀ x y z, P x → P y → P z → iso x y = true → iso y z = true → iso x z = true

def KeyInvOn (P : α → Prop) (iso : α → α → Bool) (key : α → κ) : Prop :=
  ∀ x y, P x → P y → iso x y = true → key x = key y

theorem IsEquiv.on {iso : α → α → Bool} (h : IsEquiv iso) : IsEquivOn (fun _ => True) iso :=
  ⟨fun x _ => h.refl x, fun x y _ _ => h.symm x y, fun x y z _ _ _ => h.trans x y z⟩

omit [DecidableEq κ] in
theorem KeyInv.on {iso : α → α → Bool} {key : α → κ} (h : KeyInv iso key) : KeyInvOn (fun _ => True) iso key :=
  fun x y _ _ => h x y

theorem IsEquivOn.congr {P : α → Prop} {iso : α → α → Bool} (hE : IsEquivOn P iso) {a b x y : α} (ha : P a)
    (hb : P b) (hx : P x) (hy : P y) (hax : iso a x = true) (hby : iso b y = true) :
    iso a b = true ↔ iso x y = true :=
  ⟨fun h => hE.trans x a y hx ha hy (hE.symm a x ha hx hax) (hE.trans a b y ha hb hy h hby),
    fun h => hE.trans a x b ha hx hb hax (hE.trans x y b hx hy hb h (hE.symm b y hb hy hby))⟩

/-- One representative per class: templates at different positions are not isomorphic and carry different
class numbers. -/
def TInv (iso : α → α → Bool) (ts : List (Tmpl α)) : Prop :=
  ∀ (i j : Nat) (a b : Tmpl α), ts[i]? = some a → ts[j]? = some b → i ≠ j →
    iso a.item b.item = false ∧ a.cls ≠ b.cls

theorem tinv_iff_pairwise (iso : α → α → Bool) (ts : List (Tmpl α)) :
    TInv iso ts ↔ ts.Pairwise fun a b =>
      (iso a.item b.item = false ∧ a.cls ≠ b.cls) ∧ (iso b.item a.item = false ∧ b.cls ≠ a.cls) := by
  rw [List.pairwise_iff_getElem]
  constructor
  · intro h i j hi hj hij
    exact ⟨h i j _ _ (List.getElem?_eq_getElem hi) (List.getElem?_eq_getElem hj) (Nat.ne_of_lt hij),
      h j i _ _ (List.getElem?_eq_getElem hj) (List.getElem?_eq_getElem hi) (Nat.ne_of_gt hij)⟩
  · intro h i j a b ha hb hij
    obtain ⟨hi, rfl⟩ := List.getElem?_eq_some_iff.1 ha
    obtain ⟨hj, rfl⟩ := List.getElem?_eq_some_iff.1 hb
    rcases Nat.lt_or_gt_of_ne hij with hlt | hgt
    · exact (h i j hi hj hlt).1
    · exact (h j i hj hi hgt).2

theorem tinv_unique {iso : α → α → Bool} {ts : List (Tmpl α)} (hT : TInv iso ts) (t u : Tmpl α)
    (ht : t ∈ ts) (hu : u ∈ ts) (h : iso t.item u.item = true ∨ t.cls = u.cls) : t = u := by
  obtain ⟨p, hp⟩ := List.mem_iff_getElem?.1 ht
  obtain ⟨q, hq⟩ := List.mem_iff_getElem?.1 hu
  by_cases e : p = q
  · subst e; rw [hp] at hq; exact Option.some.inj hq
  · obtain ⟨h1, h2⟩ := hT p q t u hp hq e
    rcases h with h | h
    · rw [h] at h1; exact absurd h1 (by simp)
    · exact absurd h h2

theorem tinv_cls_iff {P : α → Prop} {iso : α → α → Bool} (hE : IsEquivOn P iso) {ts : List (Tmpl α)}
    (hPt : ∀ t ∈ ts, P t.item) (hT : TInv iso ts) {t u : Tmpl α} (ht : t ∈ ts) (hu : u ∈ ts) :
    t.cls = u.cls ↔ iso t.item u.item = true :=
  ⟨fun h => tinv_unique hT t u ht hu (Or.inr h) ▸ hE.refl _ (hPt t ht),
    fun h => tinv_unique hT t u ht hu (Or.inl h) ▸ rfl⟩

theorem tinv_append {P : α → Prop} {iso : α → α → Bool} (hE : IsEquivOn P iso) (ts : List (Tmpl α))
    (hPt : ∀ t ∈ ts, P t.item) (hT : TInv iso ts) (x : α) (hx : P x) (c : Int)
    (hn : ∀ t ∈ ts, iso t.item x = false) (hc : ∀ t ∈ ts, t.cls ≠ c) : TInv iso (ts ++ [⟨x, c⟩]) := by
  rw [tinv_iff_pairwise] at hT ⊢
  rw [List.pairwise_append]
  refine ⟨hT, List.pairwise_singleton _ _, fun a ha b hb => ?_⟩
  rw [List.mem_singleton] at hb
  subst hb
  refine ⟨⟨hn a ha, hc a ha⟩, Bool.eq_false_iff.2 fun h => ?_, fun e => hc a ha e.symm⟩
  have := hE.symm _ _ hx (hPt a ha) h
  rw [hn a ha] at this
  cases this

/-- **C13, "puts each into the class of its isomorphic representative or into a fresh class when none
exists"**, on a carrier `P` (templates and the item lie in `P`; the new templates do too). -/
theorem libCheck_joins_representative_on {P : α → Prop} {iso : α → α → Bool} {key : α → κ} (hE : IsEquivOn P iso)
    (hK : KeyInvOn P iso key) (ts : List (Tmpl α)) (hPt : ∀ t ∈ ts, P t.item) (hT : TInv iso ts) (x : α) (hx : P x) :
    (∀ t ∈ ts, iso t.item x = true → libCheck iso key x ts = (t.cls, ts)) ∧
    ((∀ t ∈ ts, iso t.item x = false) →
        (libCheck iso key x ts).1 ∉ ts.map (·.cls) ∧
        (libCheck iso key x ts).2 = ts ++ [⟨x, (libCheck iso key x ts).1⟩]) ∧
    TInv iso (libCheck iso key x ts).2 ∧ (∀ t ∈ (libCheck iso key x ts).2, P t.item) := by
  rcases libCheck_cases iso key x ts with ⟨pre, t0, post, hts, hm, _, hres⟩ | ⟨hno, hres, hfresh⟩
  · have ht0 : t0 ∈ ts := by rw [hts]; simp
    rw [hres]
    refine ⟨fun t ht hiso => ?_, fun hall => ?_, hT, hPt⟩
    · have hP0 := hPt t0 ht0
      rw [tinv_unique hT t t0 ht ht0 (Or.inl (hE.trans _ _ _ (hPt t ht) hx hP0 hiso (hE.symm _ _ hP0 hx hm.2)))]
    · rw [hall t0 ht0] at hm; exact absurd hm.2 (by simp)
  · have hno' : ∀ t ∈ ts, iso t.item x = false := fun t ht =>
      Bool.eq_false_iff.2 fun h => hno t ht ⟨hK _ _ (hPt t ht) hx h, h⟩
    rw [hres]
    refine ⟨fun t ht hiso => ?_, fun _ => ⟨?_, rfl⟩, tinv_append hE ts hPt hT x hx _ hno' hfresh, ?_⟩
    · rw [hno' t ht] at hiso; cases hiso
    · simp only [List.mem_map, not_exists, not_and]
      exact hfresh
    · intro t ht
      rcases List.mem_append.1 ht with ht | ht
      · exact hPt t ht
      · rw [List.mem_singleton.1 ht]; exact hx

theorem clusterRun_tinv {P : α → Prop} {iso : α → α → Bool} {key : α → κ} (hE : IsEquivOn P iso)
    (hK : KeyInvOn P iso key) (l : List α) (hPl : ∀ x ∈ l, P x) :
    ∀ ts : List (Tmpl α), (∀ t ∈ ts, P t.item) → TInv iso ts →
      TInv iso (clusterRun iso key l ts).2 ∧ (∀ t ∈ (clusterRun iso key l ts).2, P t.item) ∧
      (∃ E, (clusterRun iso key l ts).2 = ts ++ E) ∧
      ∀ (k : Nat) (x : α) (c : Int), l[k]? = some x → (clusterRun iso key l ts).1[k]? = some c →
        ∃ t ∈ (clusterRun iso key l ts).2, iso t.item x = true ∧ t.cls = c := by
  induction l with
  | nil => intro ts hPt hT; exact ⟨hT, hPt, ⟨[], by simp [clusterRun]⟩, by intro k x c h; simp at h⟩
  | cons y l ih =>
    intro ts hPt hT
    have hy := hPl y List.mem_cons_self
    obtain ⟨_, _, hT0, hP0⟩ := libCheck_joins_representative_on hE hK ts hPt hT y hy
    obtain ⟨hT', hP', ⟨E', hE'⟩, hcl⟩ := ih (fun x hx => hPl x (List.mem_cons_of_mem _ hx)) _ hP0 hT0
    have h0 : ∃ E0, (libCheck iso key y ts).2 = ts ++ E0 ∧
        ∃ t ∈ (libCheck iso key y ts).2, iso t.item y = true ∧ t.cls = (libCheck iso key y ts).1 := by
      rcases libCheck_cases iso key y ts with ⟨pre, t0, post, hts, hm, _, hres⟩ | ⟨_, hres, _⟩
      · rw [hres]; exact ⟨[], by simp, t0, by rw [hts]; simp, hm.2, rfl⟩
      · rw [hres]; exact ⟨_, rfl, ⟨y, newClass ts⟩, by simp, hE.refl y hy, rfl⟩
    obtain ⟨E0, hE0, t0, ht0, hiso0, hcls0⟩ := h0
    simp only [clusterRun]
    refine ⟨hT', hP', ⟨E0 ++ E', by rw [hE', hE0, List.append_assoc]⟩, ?_⟩
    intro k x c hk hc
    cases k with
    | zero =>
      simp only [List.getElem?_cons_zero, Option.some.injEq] at hk hc
      subst hk; subst hc
      exact ⟨t0, by rw [hE']; exact List.mem_append_left _ ht0, hiso0, hcls0⟩
    | succ k =>
      simp only [List.getElem?_cons_succ] at hk hc
      exact hcl k x c hk hc

/-- **C13, classification of a whole arrival sequence against existing representatives**, on a carrier `P`:
the classes follow isomorphism, among the arrivals and between arrivals and the templates given at the start. -/
theorem cluster_with_templates_spec_on {P : α → Prop} {iso : α → α → Bool} {key : α → κ} (hE : IsEquivOn P iso)
    (hK : KeyInvOn P iso key) (l : List α) (hPl : ∀ x ∈ l, P x) (ts : List (Tmpl α)) (hPt : ∀ t ∈ ts, P t.item)
    (hT : TInv iso ts) :
    TInv iso (clusterRun iso key l ts).2 ∧ (∃ E, (clusterRun iso key l ts).2 = ts ++ E) ∧
    (clusterRun iso key l ts).1.length = l.length ∧
    (∀ (i j : Nat) (xi xj : α) (ci cj : Int), l[i]? = some xi → l[j]? = some xj →
      (clusterRun iso key l ts).1[i]? = some ci → (clusterRun iso key l ts).1[j]? = some cj →
      (ci = cj ↔ iso xi xj = true)) ∧
    (∀ t ∈ ts, ∀ (k : Nat) (x : α) (c : Int), l[k]? = some x → (clusterRun iso key l ts).1[k]? = some c →
      (c = t.cls ↔ iso t.item x = true)) := by
  obtain ⟨hT', hP', ⟨E, hE'⟩, hcl⟩ := clusterRun_tinv hE hK l hPl ts hPt hT
  refine ⟨hT', ⟨E, hE'⟩, clusterRun_length iso key l ts, ?_, ?_⟩
  · intro i j xi xj ci cj hi hj hci hcj
    obtain ⟨ti, hti, hisoi, rfl⟩ := hcl i xi ci hi hci
    obtain ⟨tj, htj, hisoj, rfl⟩ := hcl j xj cj hj hcj
    exact (tinv_cls_iff hE hP' hT' hti htj).trans (hE.congr (hP' ti hti) (hP' tj htj)
      (hPl _ (List.mem_of_getElem? hi)) (hPl _ (List.mem_of_getElem? hj)) hisoi hisoj)
  · intro t ht k x c hk hc
    obtain ⟨tk, htk, hisok, rfl⟩ := hcl k x c hk hc
    have ht' : t ∈ (clusterRun iso key l ts).2 := by rw [hE']; exact List.mem_append_left _ ht
    have hPx := hPl _ (List.mem_of_getElem? hk)
    rw [eq_comm, tinv_cls_iff hE hP' hT' ht' htk]
    exact hE.congr (hP' t ht') (hP' tk htk) (hP' t ht') hPx (hE.refl _ (hP' t ht')) hisok

/-- **C13, "two items share a class iff their graphs are isomorphic"**, on a carrier `P`: one-shot clustering
co-classifies like the incremental run from no templates, whose classes follow `iso`. -/
theorem same_class_iff_on {P : α → Prop} {iso : α → α → Bool} {key : α → κ} (hE : IsEquivOn P iso)
    (hK : KeyInvOn P iso key) (l : List α) (hl : ∀ x ∈ l, P x) (i j : Nat) (hi : i < l.length) (hj : j < l.length) :
    classOf iso key l i = classOf iso key l j ↔ iso l[i] l[j] = true := by
  obtain ⟨_, _, hlen, h, _⟩ := cluster_with_templates_spec_on hE hK l hl [] (by simp) (by intro i j a b h; simp at h)
  rw [← incremental_same_class_iff_oneshot iso key l i j, List.getElem?_eq_getElem (hlen ▸ hi),
    List.getElem?_eq_getElem (hlen ▸ hj), Option.some.injEq]
  exact h i j _ _ _ _ (List.getElem?_eq_getElem hi) (List.getElem?_eq_getElem hj)
    (List.getElem?_eq_getElem (hlen ▸ hi)) (List.getElem?_eq_getElem (hlen ▸ hj))

theorem cluster_perm_invariant_on {P : α → Prop} {iso : α → α → Bool} {key : α → κ} (hE : IsEquivOn P iso)
    (hK : KeyInvOn P iso key) (xs ys : List α) (hPx : ∀ x ∈ xs, P x) (hPy : ∀ y ∈ ys, P y) (σ : Nat → Nat)
    (hσ : ∀ a, a < ys.length → σ a < xs.length ∧ ys[a]? = xs[σ a]?)
    (a b : Nat) (ha : a < ys.length) (hb : b < ys.length) :
    classOf iso key ys a = classOf iso key ys b ↔ classOf iso key xs (σ a) = classOf iso key xs (σ b) := by
  obtain ⟨ha', ea⟩ := hσ a ha
  obtain ⟨hb', eb⟩ := hσ b hb
  rw [same_class_iff_on hE hK ys hPy a b ha hb, same_class_iff_on hE hK xs hPx (σ a) (σ b) ha' hb']
  rw [List.getElem?_eq_getElem ha, List.getElem?_eq_getElem ha'] at ea
  rw [List.getElem?_eq_getElem hb, List.getElem?_eq_getElem hb'] at eb
  rw [Option.some.inj ea, Option.some.inj eb]

theorem incremental_perm_invariant_on {P : α → Prop} {iso : α → α → Bool} {key : α → κ} (hE : IsEquivOn P iso)
    (hK : KeyInvOn P iso key) (xs ys : List α) (hPx : ∀ x ∈ xs, P x) (hPy : ∀ y ∈ ys, P y) (σ : Nat → Nat)
    (hσ : ∀ a, a < ys.length → σ a < xs.length ∧ ys[a]? = xs[σ a]?)
    (a b : Nat) (ha : a < ys.length) (hb : b < ys.length) :
    (clusterRun iso key ys []).1[a]? = (clusterRun iso key ys []).1[b]? ↔
      classOf iso key xs (σ a) = classOf iso key xs (σ b) :=
  (incremental_same_class_iff_oneshot iso key ys a b).trans
    (cluster_perm_invariant_on hE hK xs ys hPx hPy σ hσ a b ha hb)

end

section Pull
variable {α β : Type} {κ : Type} [DecidableEq κ]

def pull (iso : α → α → Bool) (f : β → α) (a b : β) : Bool := iso (f a) (f b)

theorem seqCls_map (iso : α → α → Bool) (key : α → κ) (f : β → α) (l : List β) :
    ∀ R, seqCls iso key (R.map f) (l.map f) = seqCls (pull iso f) (key ∘ f) R l := by
  induction l with
  | nil => intro R; rfl
  | cons x l ih =>
    intro R
    have hidx : (R.map f).findIdx? (fun r => matchB iso key r (f x)) =
        R.findIdx? (fun r => matchB (pull iso f) (key ∘ f) r x) := by rw [List.findIdx?_map]; rfl
    simp only [List.map_cons, seqCls, hidx, List.length_map]
    cases R.findIdx? (fun r => matchB (pull iso f) (key ∘ f) r x) with
    | some c => simp only [ih]
    | none => have := ih (R ++ [x]); rw [List.map_append] at this; exact congrArg _ this

theorem gcClasses_map (iso : α → α → Bool) (key : α → κ) (f : β → α) (xs : List β) :
    gcClasses iso key (xs.map f) = gcClasses (pull iso f) (key ∘ f) xs := by
  rw [gcClasses_eq_seqCls, gcClasses_eq_seqCls, ← seqCls_map iso key f xs []]; rfl

end Pull

end SynKit.Cluster
