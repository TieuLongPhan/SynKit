import SynKitModel.Store
import SynKitProofs.Core.Dict
import SynKitProofs.StoreSides
import SynKitProofs.ViewsLemmas.Str
import Std.Data.String.ToNat
import SynKitProofs.Core.List
/-!
# The store invariant of C15 and its preservation

`Store.Inv`: the hand-maintained secondary structures of `CRNHyperGraph` (species set, in- and out-index,
molecule labels) are what the reaction table determines. Both indices are handled by one set of lemmas
(`IdxExact`, with the side of an edge as a parameter). Every way of adding a reaction is described by the
relation `Appends`, one `…_appends` per operation; that the invariant is kept, that the new ids were free, the
table afterwards and the look-ups are read off the relation. `remove` and `removeSpecies` go through `InvP` (the
invariant with orphan tests pending, each settled by `InvP.dropIfOrphan` or `InvP.keep`); `removeSpecies_eq`
replaces the code's walk along the two index entries by `stripAll`. `step_ind` is the case principle of `step`,
which is unfolded there and nowhere else: a property of worlds follows from what the store operations preserve
(`Preserved`), for the invariant as for the frame property.
-/
namespace SynKit.Store

structure Store.Inv (s : Store) : Prop where
  ids_nodup : s.ids.Nodup
  species_iff : ∀ sp, sp ∈ s.species ↔ (∃ e ∈ s.edges, sp ∈ e.speciesOf) ∨ sp ∈ s.kept
  in_iff : ∀ sp i, i ∈ s.inIdx.getD sp [] ↔ ∃ e ∈ s.edges, e.id = i ∧ sp ∈ e.products.keys
  out_iff : ∀ sp i, i ∈ s.outIdx.getD sp [] ↔ ∃ e ∈ s.edges, e.id = i ∧ sp ∈ e.reactants.keys
  mol_sub : ∀ sp ∈ s.mol.keys, sp ∈ s.species
  sides_wf : ∀ e ∈ s.edges, e.reactants.keys.Nodup ∧ e.products.keys.Nodup
  nonempty : ∀ e ∈ s.edges, e.isEmpty = false

def Op.target : Op → Nat
  | .add k .. => k
  | .remove k _ => k
  | .removeSpecies k .. => k
  | .merge k .. => k
  | .mergeEdges k .. => k
  | .copy _ j => j
  | .assignMol k .. => k
  | .setMolMap k .. => k
  | .addFromStr k .. => k
  | .parseRxns k .. => k
  | .parseRxnsRules k .. => k

theorem mkId_inj (rule : String) (a b : Nat) (h : mkId rule a = mkId rule b) : a = b :=
  Nat.repr_injective ((String.append_right_inj _).mp h)

theorem firstFreeAux_spec (rule : String) : ∀ (fuel : Nat) (ids : List String) (c : Nat),
    ids.length < fuel →
    mkId rule (firstFreeAux fuel ids rule c) ∉ ids ∧ c ≤ firstFreeAux fuel ids rule c := by
  intro fuel
  induction fuel with
  | zero => intro ids c h; omega
  | succ fuel ih =>
    intro ids c h
    unfold firstFreeAux
    split
    · rename_i hm
      have hl : (ids.erase (mkId rule c)).length < fuel := by
        rw [List.length_erase_of_mem hm]
        have : 0 < ids.length := List.length_pos_of_mem hm
        omega
      obtain ⟨h1, h2⟩ := ih (ids.erase (mkId rule c)) (c + 1) hl
      refine ⟨fun hmem => h1 ((List.mem_erase_of_ne ?_).2 hmem), by omega⟩
      intro heq
      have := mkId_inj _ _ _ heq
      omega
    · rename_i hm
      exact ⟨hm, Nat.le_refl _⟩

@[simp] theorem nextId_edges (s : Store) (rule : String) : (s.nextId rule).1.edges = s.edges := rfl
@[simp] theorem nextId_ids (s : Store) (rule : String) : (s.nextId rule).1.ids = s.ids := rfl

theorem nextId_fresh (s : Store) (rule : String) : (s.nextId rule).2 ∉ s.ids :=
  (firstFreeAux_spec rule _ s.ids _ (Nat.lt_succ_self _)).1

theorem findEdge_eq_none_of_not_mem (s : Store) (i : String) (h : i ∉ s.ids) :
    s.findEdge i = none := by
  simp only [Store.findEdge, List.find?_eq_none, decide_eq_true_eq]
  intro e he heq
  exact h (heq ▸ List.mem_map.2 ⟨e, he, rfl⟩)

theorem findEdge_some (s : Store) (i : String) (e : Edge) (h : s.findEdge i = some e) :
    e ∈ s.edges ∧ e.id = i :=
  ⟨List.mem_of_find?_eq_some h, by simpa using List.find?_some h⟩

/-- `true`: the products, which the in-index lists. -/
def Edge.side (e : Edge) : Bool → Side
  | true => e.products
  | false => e.reactants

theorem mem_speciesOf (e : Edge) (sp : String) : sp ∈ e.speciesOf ↔ ∃ b, sp ∈ (e.side b).keys := by
  simp [Edge.speciesOf, Edge.side]

def IdxExact (b : Bool) (idx : Dict (List String)) (edges : List Edge) : Prop :=
  ∀ sp i, i ∈ idx.getD sp [] ↔ ∃ e ∈ edges, e.id = i ∧ sp ∈ (e.side b).keys

theorem mem_idxAdd (sps : List String) (id sp i : String) : ∀ (idx : Dict (List String)),
    i ∈ (idxAdd idx sps id).getD sp [] ↔ i ∈ idx.getD sp [] ∨ (id = i ∧ sp ∈ sps) := by
  induction sps with
  | nil => intro idx; simp [idxAdd]
  | cons a rest ih =>
    intro idx
    have := ih (idx.set a (setAdd (idx.getD a []) id))
    simp only [idxAdd, List.foldl_cons] at this ⊢
    rw [this]
    by_cases h : sp = a
    · subst h
      simp only [Dict.getD_set_self, mem_setAdd, List.mem_cons, true_or, and_true, or_assoc, eq_comm,
        or_iff_left_of_imp And.left]
    · simp [Dict.getD_set_other h, h]

theorem mem_idxDiscard (sps : List String) (id sp i : String) : ∀ (idx : Dict (List String)),
    i ∈ (idxDiscard idx sps id).getD sp [] ↔ i ∈ idx.getD sp [] ∧ ¬(i = id ∧ sp ∈ sps) := by
  induction sps with
  | nil => intro idx; simp [idxDiscard]
  | cons a rest ih =>
    intro idx
    have := ih (idx.set a (setDiscard (idx.getD a []) id))
    simp only [idxDiscard, List.foldl_cons] at this ⊢
    rw [this]
    by_cases h : sp = a
    · subst h
      simp only [Dict.getD_set_self, mem_setDiscard, List.mem_cons, true_or, and_true]
      exact ⟨fun h => h.1, fun h => ⟨h, fun h' => h.2 h'.1⟩⟩
    · simp [Dict.getD_set_other h, h]

theorem getD_idxTouch (sps : List String) (sp : String) (idx : Dict (List String)) :
    (idxTouch idx sps).getD sp [] = idx.getD sp [] := by
  refine Core.foldl_inv (P := fun d : Dict (List String) => d.getD sp [] = idx.getD sp []) (fun d a _ hd => ?_) rfl
  split
  · exact hd
  · rename_i hc
    by_cases h : sp = a
    · subst h
      rw [Dict.getD_set_self, ← hd, Dict.getD_of_not_mem (mt Dict.contains_iff.2 hc)]
    · rw [Dict.getD_set_other h]
      exact hd

namespace IdxExact
variable {b : Bool} {idx : Dict (List String)} {edges : List Edge}

theorem mem_iff (h : IdxExact b idx edges) (hnd : (edges.map (·.id)).Nodup) {e : Edge}
    (he : e ∈ edges) (sp : String) : e.id ∈ idx.getD sp [] ↔ sp ∈ (e.side b).keys := by
  rw [h sp e.id]
  constructor
  · rintro ⟨e', he', h1, h2⟩
    rwa [List.inj_on_of_nodup_map hnd he' he h1] at h2
  · exact fun h2 => ⟨e, he, rfl, h2⟩

theorem insert (h : IdxExact b idx edges) (e : Edge) (sps : List String) :
    IdxExact b (idxAdd (idxTouch idx sps) (e.side b).keys e.id) (edges ++ [e]) := by
  intro sp i
  rw [mem_idxAdd, getD_idxTouch, h sp i, Core.exists_mem_concat]

theorem remove (h : IdxExact b idx edges) (hnd : (edges.map (·.id)).Nodup) {e : Edge}
    (he : e ∈ edges) :
    IdxExact b (idxDiscard idx (e.side b).keys e.id) (edges.filter (·.id ≠ e.id)) := by
  intro sp i
  rw [mem_idxDiscard, h sp i]
  simp only [List.mem_filter, decide_eq_true_eq]
  constructor
  · rintro ⟨⟨e', he', rfl, h2⟩, h3⟩
    refine ⟨e', ⟨he', fun h' => h3 ⟨h', ?_⟩⟩, rfl, h2⟩
    rwa [← List.inj_on_of_nodup_map hnd he' he h']
  · rintro ⟨e', ⟨he', hne⟩, rfl, h2⟩
    exact ⟨⟨e', he', rfl, h2⟩, fun h3 => hne h3.1⟩

theorem erase (h : IdxExact b idx edges) (sp : String)
    (hno : ¬∃ e ∈ edges, sp ∈ e.speciesOf) : IdxExact b (idx.erase sp) edges := by
  intro sp' i
  by_cases hs : sp' = sp
  · subst hs
    rw [Dict.getD_erase_self]
    exact ⟨fun h => absurd h List.not_mem_nil,
      fun ⟨e, he, _, h2⟩ => absurd ⟨e, he, (mem_speciesOf e sp').2 ⟨b, h2⟩⟩ hno⟩
  · rw [Dict.getD_erase_other hs]
    exact h sp' i

theorem isEmpty_iff (h : IdxExact b idx edges) (sp : String) :
    (idx.getD sp []).isEmpty = true ↔ ∀ e ∈ edges, sp ∉ (e.side b).keys := by
  rw [List.isEmpty_iff, List.eq_nil_iff_forall_not_mem]
  constructor
  · exact fun h0 e he hs => h0 e.id ((h sp e.id).2 ⟨e, he, rfl, hs⟩)
  · exact fun h0 i hi => let ⟨e, he, _, hs⟩ := (h sp i).1 hi; h0 e he hs

end IdxExact

theorem Store.Inv.counters {s : Store} (h : s.Inv) (c : Dict Nat) :
    ({ s with counters := c } : Store).Inv :=
  ⟨h.ids_nodup, h.species_iff, h.in_iff, h.out_iff, h.mol_sub, h.sides_wf, h.nonempty⟩

theorem insertEdge_inv (s : Store) (e : Edge) (h : s.Inv) (hid : e.id ∉ s.ids)
    (hr : e.reactants.keys.Nodup) (hp : e.products.keys.Nodup) (hne : e.isEmpty = false) :
    (s.insertEdge e).Inv where
  ids_nodup := by
    show ((s.edges ++ [e]).map (·.id)).Nodup
    rw [List.map_append, List.map_singleton, ← List.concat_eq_append]
    exact List.Nodup.concat hid h.ids_nodup
  species_iff sp := by
    show sp ∈ e.speciesOf.foldl setAdd s.species ↔ (∃ e' ∈ s.edges ++ [e], sp ∈ e'.speciesOf) ∨ sp ∈ s.kept
    rw [mem_foldl_setAdd, h.species_iff, Core.exists_mem_concat, or_right_comm]
  in_iff := IdxExact.insert (b := true) h.in_iff e _
  out_iff := IdxExact.insert (b := false) h.out_iff e _
  mol_sub sp hsp := mem_foldl_setAdd.2 (Or.inl (h.mol_sub sp hsp))
  sides_wf := List.forall_mem_append.2 ⟨h.sides_wf, List.forall_mem_singleton.2 ⟨hr, hp⟩⟩
  nonempty := List.forall_mem_append.2 ⟨h.nonempty, List.forall_mem_singleton.2 hne⟩

/-- `s'` is `s` after counters were advanced and the edges `added` were inserted, in this order, each under an
id that was free when it was inserted, none of them empty. -/
inductive Appends (s : Store) : List Edge → Store → Prop
  | refl : Appends s [] s
  | counters {added s'} (c : Dict Nat) : Appends s added s' → Appends s added { s' with counters := c }
  | insert {added s'} (e : Edge) : Appends s added s' → e.id ∉ s'.ids → e.isEmpty = false →
      Appends s (added ++ [e]) (s'.insertEdge e)

namespace Appends
variable {s s' s'' : Store} {added added' : List Edge}

theorem edges (h : Appends s added s') : s'.edges = s.edges ++ added := by
  induction h with
  | refl => exact (List.append_nil _).symm
  | counters c _ ih => exact ih
  | @insert _ s₁ e _ _ _ ih => show s₁.edges ++ [e] = _; rw [ih, List.append_assoc]

theorem trans (h : Appends s added s') (h' : Appends s' added' s'') : Appends s (added ++ added') s'' := by
  induction h' with
  | refl => rwa [List.append_nil]
  | counters c _ ih => exact ih.counters c
  | insert e _ hid hne ih => rw [← List.append_assoc]; exact ih.insert e hid hne

theorem inv (h : Appends s added s') (hs : s.Inv)
    (hw : ∀ e ∈ added, e.reactants.keys.Nodup ∧ e.products.keys.Nodup) : s'.Inv := by
  induction h with
  | refl => exact hs
  | counters c _ ih => exact (ih hw).counters c
  | insert e _ hid hne ih =>
    have he := hw e (List.mem_append_right _ (List.mem_singleton_self e))
    exact insertEdge_inv _ e (ih fun e' he' => hw e' (List.mem_append_left _ he')) hid he.1 he.2 hne

theorem fresh (h : Appends s added s') : ∀ e ∈ added, e.id ∉ s.ids := by
  induction h with
  | refl => exact fun _ he => nomatch he
  | counters c _ ih => exact ih
  | @insert _ s₁ e h₁ hid _ ih =>
    intro e' he' hmem
    rcases List.mem_append.1 he' with he' | he'
    · exact ih e' he' hmem
    · rw [List.mem_singleton.1 he'] at hmem
      exact hid (by rw [Store.ids, h₁.edges, List.map_append]; exact List.mem_append_left _ hmem)

theorem findEdge_other (h : Appends s added s') (j : String) (hj : ∀ e ∈ added, j ≠ e.id) :
    s'.findEdge j = s.findEdge j := by
  have : added.find? (·.id = j) = none :=
    List.find?_eq_none.2 fun e he => by simpa using Ne.symm (hj e he)
  rw [Store.findEdge, h.edges, List.find?_append, this, Option.or_none]; rfl

theorem findEdge_self {e : Edge} (h : Appends s [e] s') : s'.findEdge e.id = some e := by
  have := findEdge_eq_none_of_not_mem s e.id (h.fresh e (List.mem_singleton_self e))
  rw [Store.findEdge] at this
  simp [Store.findEdge, h.edges, List.find?_append, this]

end Appends

def okEdge (rule : Option String) (r p : Side) : Except Err String → List Edge
  | .ok i => [⟨i, normRule rule, r, p⟩]
  | .error _ => []

theorem okEdge_wf {rule : Option String} {r p : Side} (hr : r.keys.Nodup) (hp : p.keys.Nodup) (res) :
    ∀ e ∈ okEdge rule r p res, e.reactants.keys.Nodup ∧ e.products.keys.Nodup := by
  cases res with
  | error _ => exact fun _ he => nomatch he
  | ok i => intro e he; rw [List.mem_singleton.1 he]; exact ⟨hr, hp⟩

theorem addNorm_appends (s : Store) (r p : Side) (rule eid) :
    Appends s (okEdge rule r p (s.addNorm r p rule eid).2) (s.addNorm r p rule eid).1 := by
  have ins (c) (i) (hi : i ∉ s.ids) (hne : ¬(r.isEmpty && p.isEmpty) = true) :
      Appends s [⟨i, normRule rule, r, p⟩] (({ s with counters := c } : Store).insertEdge ⟨i, normRule rule, r, p⟩) :=
    (Appends.refl.counters c).insert ⟨i, normRule rule, r, p⟩ hi (Bool.eq_false_iff.2 hne)
  unfold Store.addNorm
  cases eid with
  | some i =>
    simp only
    split
    · exact .refl
    · rename_i hi
      split
      · exact .refl
      · rename_i hne; exact ins s.counters i hi hne
  | none =>
    simp only
    split
    · exact .counters _ .refl
    · rename_i hne; exact ins _ _ (nextId_fresh s _) hne

theorem merge_appends (other : List Edge) (pfx : Bool) : ∀ s : Store,
    ∃ added, Appends s added (s.merge other pfx).1 ∧
      added.map (fun e => (e.rule, e.reactants, e.products)) <+:
        other.map (fun e => (normRule (some e.rule), e.reactants, e.products)) ∧
      ((s.merge other pfx).2 = .ok () → added.length = other.length) := by
  induction other with
  | nil => exact fun s => ⟨[], .refl, List.prefix_rfl, fun _ => rfl⟩
  | cons e rest ih =>
    intro s
    unfold Store.merge
    have h1 : Appends s [] (if pfx || e.id ∈ s.ids then s.nextId e.rule else (s, e.id)).1 := by
      split
      · exact .counters _ .refl
      · exact .refl
    generalize (if pfx || e.id ∈ s.ids then s.nextId e.rule else (s, e.id)) = q at h1 ⊢
    have h2 := h1.trans (addNorm_appends q.1 e.reactants e.products (some e.rule) (some q.2))
    dsimp only
    split <;> rename_i heq <;> rw [heq] at h2
    · obtain ⟨added, h3, hpre, hlen⟩ := ih _
      exact ⟨_, h2.trans h3, (List.prefix_cons_inj _).2 hpre, fun hok => congrArg (· + 1) (hlen hok)⟩
    · exact ⟨_, h2, List.nil_prefix, fun hok => nomatch hok⟩

theorem mergeForeign_appends (other : List FEdge) (pfx : Bool) : ∀ s : Store,
    ∃ added, Appends s added (s.mergeForeign other pfx).1 ∧
      added.map (fun e => (e.rule, e.reactants, e.products)) <+:
        other.map (fun e => (normRule (some e.rule), normSide (rawOfItems e.reactants),
          normSide (rawOfItems e.products))) ∧
      ((s.mergeForeign other pfx).2 = .ok () → added.length = other.length) := by
  induction other with
  | nil => exact fun s => ⟨[], .refl, List.prefix_rfl, fun _ => rfl⟩
  | cons e rest ih =>
    intro s
    unfold Store.mergeForeign
    obtain ⟨a1, h1, hp1, hl1⟩ := merge_appends [e.toEdge] (pfx || e.id.isNone) s
    split <;> rename_i heq <;> rw [heq] at h1 hl1
    · obtain ⟨a2, h2, hp2, hl2⟩ := ih _
      have h1eq := hp1.eq_of_length (by simpa using hl1 rfl)
      refine ⟨_, h1.trans h2, ?_, fun hok => ?_⟩
      · rw [List.map_append, h1eq]; exact (List.prefix_cons_inj _).2 hp2
      · rw [List.length_append, hl2 hok, hl1 rfl]; exact Nat.add_comm _ _
    · exact ⟨a1, h1, hp1.trans (List.prefix_append [_] _), fun hok => nomatch hok⟩

theorem sides_of_prefix {α} {added : List Edge} {other : List α} {g : α → String × Side × Side}
    (h : added.map (fun e => (e.rule, e.reactants, e.products)) <+: other.map g)
    (P : Side → Side → Prop) (hw : ∀ o ∈ other, P (g o).2.1 (g o).2.2) :
    ∀ e ∈ added, P e.reactants e.products := by
  intro e he
  obtain ⟨o, ho, heq⟩ := List.mem_map.1 (h.subset (List.mem_map_of_mem he))
  have := hw o ho
  rwa [heq] at this

theorem addFromStr_appends (s : Store) (line : List Char) (rule : Option String) (sfx : Bool) :
    ∃ added, Appends s added (s.addFromStr line rule sfx).1 ∧
      ∀ e ∈ added, e.reactants.keys.Nodup ∧ e.products.keys.Nodup := by
  unfold Store.addFromStr
  split
  · exact ⟨[], .refl, fun _ he => nomatch he⟩
  · rename_i pl hpl
    obtain ⟨hr, hp⟩ := Views.Str.parseLine_nodup _ _ _ _ hpl
    exact ⟨_, addNorm_appends s _ _ pl.rule none, okEdge_wf hr hp _⟩

theorem parseRxns_appends (items : List (List Char × Option String)) (dr : String) (sfx pref : Bool) :
    ∀ s : Store, ∃ added, Appends s added (s.parseRxns items dr sfx pref).1 ∧
      ∀ e ∈ added, e.reactants.keys.Nodup ∧ e.products.keys.Nodup := by
  induction items with
  | nil => exact fun s => ⟨[], .refl, fun _ he => nomatch he⟩
  | cons it rest ih =>
    intro s
    obtain ⟨line, ex⟩ := it
    obtain ⟨a1, h1, w1⟩ :=
      addFromStr_appends s line (lineArgs dr sfx pref line ex).1 (lineArgs dr sfx pref line ex).2
    unfold Store.parseRxns
    dsimp only
    split <;> rename_i heq <;> rw [heq] at h1
    · obtain ⟨a2, h2, w2⟩ := ih _
      exact ⟨_, h1.trans h2, fun e he => (List.mem_append.1 he).elim (w1 e) (w2 e)⟩
    · exact ⟨a1, h1, w1⟩

theorem keys_set_sub {m : Dict String} {species : List String} (hm : ∀ sp ∈ m.keys, sp ∈ species)
    {k : String} (hk : k ∈ species) (v : String) : ∀ sp ∈ (m.set k v).keys, sp ∈ species :=
  fun sp hsp => ((Dict.mem_keys_set _ _ _ _).1 hsp).elim (hm sp) fun heq => heq ▸ hk

theorem assignMol_inv (s : Store) (sp m : String) (h : s.Inv) : (s.assignMol sp m).1.Inv := by
  unfold Store.assignMol
  split
  · rename_i hsp
    exact { h with mol_sub := keys_set_sub h.mol_sub hsp m }
  · exact h

theorem setMolMap_inv (s : Store) (mapping : List (String × String)) (strict clear : Bool) (h : s.Inv) :
    (s.setMolMap mapping strict clear).1.Inv := by
  unfold Store.setMolMap
  split
  · exact h
  · refine { h with mol_sub := ?_ }
    refine Core.foldl_inv (P := fun m : Dict String => ∀ sp ∈ m.keys, sp ∈ s.species) (fun m kv _ hm => ?_) ?_
    · split
      · rename_i hk
        exact keys_set_sub hm hk kv.2
      · exact hm
    · split
      · exact fun sp hsp => nomatch hsp
      · exact h.mol_sub

/-- `Inv` where the species in `P` (whose orphan test is still pending) may be in `species` without an
edge or a `kept` entry to account for them. -/
structure Store.InvP (s : Store) (P : List String) : Prop where
  ids_nodup : s.ids.Nodup
  sp_fwd : ∀ sp ∈ s.species, sp ∉ P → (∃ e ∈ s.edges, sp ∈ e.speciesOf) ∨ sp ∈ s.kept
  sp_bwd : ∀ sp, (∃ e ∈ s.edges, sp ∈ e.speciesOf) ∨ sp ∈ s.kept → sp ∈ s.species
  in_iff : IdxExact true s.inIdx s.edges
  out_iff : IdxExact false s.outIdx s.edges
  mol_sub : ∀ sp ∈ s.mol.keys, sp ∈ s.species
  sides_wf : ∀ e ∈ s.edges, e.reactants.keys.Nodup ∧ e.products.keys.Nodup
  nonempty : ∀ e ∈ s.edges, e.isEmpty = false

namespace Store.InvP
variable {s : Store} {sp : String} {P : List String}

theorem toInv (h : s.InvP []) : s.Inv :=
  { h with
    in_iff := h.in_iff
    out_iff := h.out_iff
    species_iff := fun sp => ⟨fun hsp => h.sp_fwd sp hsp List.not_mem_nil, h.sp_bwd sp⟩ }

theorem orphan_iff (h : s.InvP P) (sp : String) :
    ((s.inIdx.getD sp []).isEmpty && (s.outIdx.getD sp []).isEmpty) = true ↔
      ¬∃ e ∈ s.edges, sp ∈ e.speciesOf := by
  rw [Bool.and_eq_true, h.in_iff.isEmpty_iff, h.out_iff.isEmpty_iff]
  simp only [mem_speciesOf, not_exists, not_and]
  exact ⟨fun ht e he b => by cases b <;> [exact ht.2 e he; exact ht.1 e he],
    fun hno => ⟨fun e he => hno e he true, fun e he => hno e he false⟩⟩

theorem dropIfOrphan (h : s.InvP (sp :: P)) : (s.dropIfOrphan sp).InvP P := by
  unfold Store.dropIfOrphan
  split
  · rename_i ht
    have hno := (h.orphan_iff sp).1 ht
    refine { h with sp_fwd := ?_, sp_bwd := ?_, mol_sub := ?_
                    in_iff := h.in_iff.erase sp hno, out_iff := h.out_iff.erase sp hno }
    · intro sp' hsp' hP
      obtain ⟨hsp', hne⟩ := (mem_setDiscard _ _ _).1 hsp'
      exact (h.sp_fwd sp' hsp' (List.not_mem_cons_of_ne_of_not_mem hne hP)).imp_right
        fun hk => (mem_setDiscard _ _ _).2 ⟨hk, hne⟩
    · intro sp' hsp'
      refine (mem_setDiscard _ _ _).2 ⟨h.sp_bwd sp' (hsp'.imp_right fun hk => ((mem_setDiscard _ _ _).1 hk).1), ?_⟩
      rintro rfl
      exact hsp'.elim hno fun hk => ((mem_setDiscard _ _ _).1 hk).2 rfl
    · intro sp' hsp'
      obtain ⟨h1, hne⟩ := (Dict.mem_keys_erase _ _ _).1 hsp'
      exact (mem_setDiscard _ _ _).2 ⟨h.mol_sub sp' h1, hne⟩
  · -- an edge mentions `sp`, so it need not be pending
    rename_i ht
    have hu := Classical.not_not.1 (mt (h.orphan_iff sp).2 ht)
    refine { h with sp_fwd := fun sp' hsp' hP => ?_ }
    by_cases hne : sp' = sp
    · exact Or.inl (hne ▸ hu)
    · exact h.sp_fwd sp' hsp' (List.not_mem_cons_of_ne_of_not_mem hne hP)

theorem keep (h : s.InvP (sp :: P)) (hsp : sp ∈ s.species) :
    ({ s with kept := setAdd s.kept sp } : Store).InvP P :=
  { h with
    sp_fwd := fun sp' hsp' hP => by
      by_cases hne : sp' = sp
      · exact Or.inr ((mem_setAdd _ _ _).2 (Or.inr hne))
      · exact (h.sp_fwd sp' hsp' (List.not_mem_cons_of_ne_of_not_mem hne hP)).imp_right fun hk => (mem_setAdd _ _ _).2 (Or.inl hk)
    sp_bwd := fun sp' hsp' => hsp'.elim (fun hu => h.sp_bwd sp' (Or.inl hu)) fun hk =>
      ((mem_setAdd _ _ _).1 hk).elim (fun hk => h.sp_bwd sp' (Or.inr hk)) fun heq => heq ▸ hsp }

end Store.InvP

theorem dropIfOrphan_edges (s : Store) (sp : String) : (s.dropIfOrphan sp).edges = s.edges := by
  unfold Store.dropIfOrphan
  split <;> rfl

theorem foldl_dropIfOrphan_inv (P : List String) : ∀ (s : Store), s.InvP P →
    (P.foldl Store.dropIfOrphan s).Inv := by
  induction P with
  | nil => exact fun s h => h.toInv
  | cons a P ih => exact fun s h => ih _ h.dropIfOrphan

theorem remove_inv (s : Store) (i : String) (h : s.Inv) : (s.remove i).1.Inv := by
  unfold Store.remove
  split
  · exact h
  · rename_i e hf
    obtain ⟨he, rfl⟩ := findEdge_some s _ e hf
    -- the species of the removed edge are the ones whose orphan test is pending
    refine foldl_dropIfOrphan_inv _ _
      { ids_nodup := List.Nodup.sublist (List.filter_sublist.map _) h.ids_nodup
        sp_fwd := fun sp hsp hP => ((h.species_iff sp).1 hsp).imp_left fun ⟨e', he', hs⟩ => ?_
        sp_bwd := fun sp hsp => (h.species_iff sp).2 (hsp.imp_left
          fun ⟨e', he', hs⟩ => ⟨e', (List.mem_filter.1 he').1, hs⟩)
        in_iff := IdxExact.remove (b := true) h.in_iff h.ids_nodup he
        out_iff := IdxExact.remove (b := false) h.out_iff h.ids_nodup he
        mol_sub := h.mol_sub
        sides_wf := fun e' he' => h.sides_wf e' (List.mem_filter.1 he').1
        nonempty := fun e' he' => h.nonempty e' (List.mem_filter.1 he').1 }
    refine ⟨e', List.mem_filter.2 ⟨he', decide_eq_true fun h' => hP ?_⟩, hs⟩
    rwa [← List.inj_on_of_nodup_map h.ids_nodup he' he h']

theorem remove_edges (s : Store) (i : String) : (s.remove i).1.edges = s.edges.filter (·.id ≠ i) := by
  unfold Store.remove
  split
  · rename_i hf
    exact (List.filter_eq_self.2 fun e he => by simpa using List.find?_eq_none.1 hf e he).symm
  · exact Core.foldl_inv (P := fun t : Store => t.edges = s.edges.filter (·.id ≠ i))
      (fun t sp _ ht => (dropIfOrphan_edges t sp).trans ht) rfl

def stripAll (edges : List Edge) (sp : String) : List Edge :=
  (edges.map (·.strip sp)).filter (fun e => !e.isEmpty)

/-- The store `remove_species` reaches before the orphan test / the `kept` entry. -/
def rsStore (s : Store) (sp : String) : Store :=
  { s with edges := stripAll s.edges sp, inIdx := s.inIdx.set sp [], outIdx := s.outIdx.set sp [] }

theorem mem_stripAll (edges : List Edge) (sp : String) (e' : Edge) :
    e' ∈ stripAll edges sp ↔ ∃ e ∈ edges, e.strip sp = e' ∧ e'.isEmpty = false := by
  simp only [stripAll, List.mem_filter, List.mem_map, Bool.not_eq_eq_eq_not, Bool.not_true,
    ← exists_and_right, and_assoc]

theorem stripAll_congr {edges : List Edge} {sp : String} {g : Edge → Edge} {q : Edge → Bool}
    (h : ∀ e ∈ edges, g e = e.strip sp ∧ q (e.strip sp) = !(e.strip sp).isEmpty) :
    (edges.map g).filter q = stripAll edges sp := by
  rw [List.map_congr_left fun e he => (h e he).1]
  exact List.filter_congr fun x hx => let ⟨e, he, hxe⟩ := List.mem_map.1 hx; hxe ▸ (h e he).2

theorem mem_side_strip (e : Edge) (sp sp' : String) (b : Bool) :
    sp' ∈ ((e.strip sp).side b).keys ↔ sp' ∈ (e.side b).keys ∧ sp' ≠ sp := by
  cases b <;> exact Dict.mem_keys_erase _ _ _

theorem strip_of_not_mem (e : Edge) (sp : String) (h : sp ∉ e.speciesOf) : e.strip sp = e := by
  cases e
  simp only [Edge.speciesOf, List.mem_append, not_or] at h
  simp only [Edge.strip, Dict.erase_of_not_mem h.1, Dict.erase_of_not_mem h.2]

theorem strip_mem_stripAll {edges : List Edge} {e : Edge} (he : e ∈ edges) {sp sp' : String} {b : Bool}
    (h : sp' ∈ (e.side b).keys) (hne : sp' ≠ sp) : e.strip sp ∈ stripAll edges sp := by
  refine (mem_stripAll _ _ _).2 ⟨e, he, rfl, ?_⟩
  have := Dict.isEmpty_false_of_mem_keys ((mem_side_strip e sp sp' b).2 ⟨h, hne⟩)
  cases b
  · exact Bool.and_eq_false_iff.2 (Or.inl this)
  · exact Bool.and_eq_false_iff.2 (Or.inr this)

theorem IdxExact.strip {b : Bool} {idx : Dict (List String)} {edges : List Edge}
    (h : IdxExact b idx edges) (sp : String) : IdxExact b (idx.set sp []) (stripAll edges sp) := by
  intro sp' i
  by_cases hs : sp' = sp
  · subst hs
    rw [Dict.getD_set_self]
    refine ⟨fun h => absurd h List.not_mem_nil, ?_⟩
    rintro ⟨e', he', _, h2⟩
    obtain ⟨e, _, rfl, _⟩ := (mem_stripAll _ _ _).1 he'
    exact absurd rfl ((mem_side_strip e sp' sp' b).1 h2).2
  · rw [Dict.getD_set_other hs, h sp' i]
    constructor
    · rintro ⟨e, he, h1, h2⟩
      exact ⟨e.strip sp, strip_mem_stripAll he h2 hs, h1, (mem_side_strip e sp sp' b).2 ⟨h2, hs⟩⟩
    · rintro ⟨e', he', h1, h2⟩
      obtain ⟨e, he, rfl, _⟩ := (mem_stripAll _ _ _).1 he'
      exact ⟨e, he, h1, ((mem_side_strip e sp sp' b).1 h2).1⟩

theorem rsStore_invP (s : Store) (sp : String) (h : s.Inv) : (rsStore s sp).InvP [sp] where
  ids_nodup := by
    refine List.Nodup.sublist (List.filter_sublist.map _) ?_
    rw [List.map_map]
    exact h.ids_nodup
  sp_fwd sp' hsp' hP := by
    have hne : sp' ≠ sp := fun heq => hP (List.mem_singleton.2 heq)
    refine ((h.species_iff sp').1 hsp').imp_left fun ⟨e, he, hs⟩ => ?_
    obtain ⟨b, hb⟩ := (mem_speciesOf e sp').1 hs
    exact ⟨e.strip sp, strip_mem_stripAll he hb hne,
      (mem_speciesOf _ sp').2 ⟨b, (mem_side_strip e sp sp' b).2 ⟨hb, hne⟩⟩⟩
  sp_bwd sp' hsp' := by
    refine (h.species_iff sp').2 (hsp'.imp_left fun ⟨e', he', hs⟩ => ?_)
    obtain ⟨e, he, rfl, _⟩ := (mem_stripAll _ _ _).1 he'
    obtain ⟨b, hb⟩ := (mem_speciesOf _ sp').1 hs
    exact ⟨e, he, (mem_speciesOf e sp').2 ⟨b, ((mem_side_strip e sp sp' b).1 hb).1⟩⟩
  in_iff := IdxExact.strip (b := true) h.in_iff sp
  out_iff := IdxExact.strip (b := false) h.out_iff sp
  mol_sub := h.mol_sub
  sides_wf e' he' := by
    obtain ⟨e, he, rfl, _⟩ := (mem_stripAll _ _ _).1 he'
    exact ⟨Dict.nodup_keys_erase (h.sides_wf e he).1, Dict.nodup_keys_erase (h.sides_wf e he).2⟩
  nonempty e' he' := by
    obtain ⟨_, _, _, hne⟩ := (mem_stripAll _ _ _).1 he'
    exact hne

/-- The code strips `sp` from the edges listed under `sp` in the two indices and drops those of them
that became empty; by the invariant that is `stripAll`: an edge is listed iff it mentions `sp`, and one that
is not listed stays as it is, hence non-empty. -/
theorem removeSpecies_eq (s : Store) (sp : String) (prune : Bool) (h : s.Inv)
    (hsp : sp ∈ s.species) :
    s.removeSpecies sp prune =
      (if prune then (rsStore s sp).dropIfOrphan sp
        else { rsStore s sp with kept := setAdd s.kept sp }, .ok ()) := by
  unfold Store.removeSpecies
  simp only [hsp, not_true_eq_false, if_false]
  rw [stripAll_congr (sp := sp)]
  · cases prune <;> rfl
  · intro e he
    have hin := IdxExact.mem_iff (b := true) h.in_iff h.ids_nodup he sp
    have hout := IdxExact.mem_iff (b := false) h.out_iff h.ids_nodup he sp
    constructor
    · simp only [hin, hout]
      cases e with
      | mk id rule r p =>
        simp only [Edge.strip, Edge.side]
        by_cases h1 : sp ∈ Dict.keys p <;> by_cases h2 : sp ∈ Dict.keys r <;>
          simp [h1, h2, Dict.erase_of_not_mem]
    · rw [show (e.strip sp).id = e.id from rfl]
      by_cases ht : sp ∈ e.speciesOf
      · obtain ⟨b, hb⟩ := (mem_speciesOf e sp).1 ht
        cases b
        · simp [hout.2 hb]
        · simp [hin.2 hb]
      · rw [strip_of_not_mem e sp ht, h.nonempty e he]
        simp

theorem removeSpecies_of_not_mem (s : Store) (sp : String) (prune : Bool) (h : sp ∉ s.species) :
    s.removeSpecies sp prune = (s, .error .keyError) := by
  unfold Store.removeSpecies
  rw [if_pos h]

theorem removeSpecies_inv (s : Store) (sp : String) (prune : Bool) (h : s.Inv) :
    (s.removeSpecies sp prune).1.Inv := by
  by_cases hsp : sp ∈ s.species
  · rw [removeSpecies_eq s sp prune h hsp]
    cases prune
    · exact ((rsStore_invP s sp h).keep hsp).toInv
    · exact foldl_dropIfOrphan_inv [sp] _ (rsStore_invP s sp h)
  · rw [removeSpecies_of_not_mem s sp prune hsp]
    exact h

structure Preserved (P : Store → Prop) : Prop where
  add : ∀ s r p rule eid, P s → P (s.add r p rule eid).1
  remove : ∀ s id, P s → P (s.remove id).1
  removeSpecies : ∀ s sp prune, P s → P (s.removeSpecies sp prune).1
  merge : ∀ s o pfx, P s → P o → P (s.merge o.edges pfx).1
  mergeForeign : ∀ s es pfx, P s → P (s.mergeForeign es pfx).1
  assignMol : ∀ s sp m, P s → P (s.assignMol sp m).1
  setMolMap : ∀ s mapping strict clear, P s → P (s.setMolMap mapping strict clear).1
  addFromStr : ∀ s line rule sfx, P s → P (s.addFromStr line rule sfx).1
  parseRxns : ∀ s items dr sfx pref, P s → P (s.parseRxns items dr sfx pref).1
  parseRxnsRules : ∀ s lines rules dr sfx pref, P s → P (s.parseRxnsRules lines rules dr sfx pref).1

/-- Ten of the eleven branches of `step` open by reading one slot. -/
theorem slot_cases (w : World) (k : Nat) (Q : World → Prop) (body : Store → World × Out) (h0 : Q w)
    (h1 : ∀ s, w[k]? = some s → Q (body s).1) :
    Q (match w[k]? with
      | none => (w, Out.badOp)
      | some s => body s).1 := by
  split
  · exact h0
  · exact h1 _ ‹_›

/-- Case principle for `step`: the world stays as it is, or the target slot receives a store that a
store operation made of stores of the world. -/
theorem step_ind {P : Store → Prop} (hP : Preserved P) (w : World) (op : Op) (hw : ∀ s ∈ w, P s)
    (Q : World → Prop) (h0 : Q w) (h1 : ∀ s', P s' → Q (w.put op.target s')) : Q (step w op).1 := by
  have get {k : Nat} {s : Store} (hk : w[k]? = some s) : P s := hw s (List.mem_of_getElem? hk)
  unfold step
  cases op with
  | add k r p rule eid =>
    refine slot_cases w k Q _ h0 fun s hk => ?_
    have := hP.add s r p rule eid (get hk)
    split <;> rename_i heq <;> rw [heq] at this <;> exact h1 _ this
  | remove k id => exact slot_cases w k Q _ h0 fun s hk => h1 _ (hP.remove s id (get hk))
  | removeSpecies k sp prune =>
    exact slot_cases w k Q _ h0 fun s hk => h1 _ (hP.removeSpecies s sp prune (get hk))
  | merge k j pfx =>
    simp only
    split
    · rename_i s o hk hj
      exact h1 _ (hP.merge s o pfx (get hk) (get hj))
    · exact h0
  | mergeEdges k other pfx =>
    refine slot_cases w k Q _ h0 fun s hk => ?_
    cases other with
    | none => exact h0
    | some es => exact h1 _ (hP.mergeForeign s es pfx (get hk))
  | copy k j =>
    refine slot_cases w k Q _ h0 fun s hk => ?_
    split
    · exact h1 _ (get hk)
    · exact h0
  | assignMol k sp m => exact slot_cases w k Q _ h0 fun s hk => h1 _ (hP.assignMol s sp m (get hk))
  | setMolMap k mapping strict clear =>
    exact slot_cases w k Q _ h0 fun s hk => h1 _ (hP.setMolMap s mapping strict clear (get hk))
  | addFromStr k line rule sfx =>
    refine slot_cases w k Q _ h0 fun s hk => ?_
    have := hP.addFromStr s line rule sfx (get hk)
    split <;> rename_i heq <;> rw [heq] at this <;> exact h1 _ this
  | parseRxns k items dr sfx pref =>
    exact slot_cases w k Q _ h0 fun s hk => h1 _ (hP.parseRxns s items dr sfx pref (get hk))
  | parseRxnsRules k lines rules dr sfx pref =>
    exact slot_cases w k Q _ h0 fun s hk => h1 _ (hP.parseRxnsRules s lines rules dr sfx pref (get hk))

theorem inv_preserved : Preserved Store.Inv where
  add s r p rule eid h :=
    (addNorm_appends s _ _ rule eid).inv h (okEdge_wf (normSide_nodup r) (normSide_nodup p) _)
  remove := remove_inv
  removeSpecies := removeSpecies_inv
  merge s o pfx h ho :=
    let ⟨_, ha, hpre, _⟩ := merge_appends o.edges pfx s
    ha.inv h (sides_of_prefix hpre (fun r p => r.keys.Nodup ∧ p.keys.Nodup) ho.sides_wf)
  mergeForeign s es pfx h :=
    let ⟨_, ha, hpre, _⟩ := mergeForeign_appends es pfx s
    ha.inv h (sides_of_prefix hpre (fun r p => r.keys.Nodup ∧ p.keys.Nodup)
      fun _ _ => ⟨normSide_nodup _, normSide_nodup _⟩)
  assignMol := assignMol_inv
  setMolMap := setMolMap_inv
  addFromStr s line rule sfx h := let ⟨_, ha, hw⟩ := addFromStr_appends s line rule sfx; ha.inv h hw
  parseRxns s items dr sfx pref h := let ⟨_, ha, hw⟩ := parseRxns_appends items dr sfx pref s; ha.inv h hw
  parseRxnsRules s lines rules dr sfx pref h := by
    unfold Store.parseRxnsRules
    split
    · exact h
    · exact let ⟨_, ha, hw⟩ := parseRxns_appends _ dr sfx pref s; ha.inv h hw

theorem step_inv (w : World) (op : Op) (h : ∀ s ∈ w, s.Inv) : ∀ s ∈ (step w op).1, s.Inv :=
  step_ind inv_preserved w op h (fun w' => ∀ s ∈ w', s.Inv) h fun s' hs' s hs =>
    (List.mem_or_eq_of_mem_set hs).elim (h s) fun heq => heq ▸ hs'

theorem initWorld_inv (n : Nat) : ∀ s ∈ initWorld n, s.Inv := by
  intro s hs
  rw [List.eq_of_mem_replicate hs]
  constructor
  · exact List.nodup_nil
  · intro sp; simp
  · intro sp i; simp [Dict.getD, Dict.get?]
  · intro sp i; simp [Dict.getD, Dict.get?]
  · exact fun sp hsp => nomatch hsp
  · exact fun e he => nomatch he
  · exact fun e he => nomatch he

theorem inv_run (w : World) (ops : List Op) (h : ∀ s ∈ w, s.Inv) : ∀ s ∈ run w ops, s.Inv :=
  Core.foldl_inv (P := fun w : World => ∀ s ∈ w, s.Inv) (fun w op _ hw => step_inv w op hw) h

end SynKit.Store
