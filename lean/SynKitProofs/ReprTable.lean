import SynKitModel.ReprOpt
import Mathlib.Data.List.Nodup
import SynKitProofs.Core.List
/-!
C10, the molecule table: `graph_to_mol ∘ mol_to_graph` restores the table (everything but the aromatic flag), and
`MolToGraph.transform` with its flags is `molToGraph` renumbered (`use_index_as_atom_map`), or its induced subgraph on
the mapped atoms (`drop_non_aam`).
-/
namespace SynKit.Repr

theorem mapM_map_ok {α β γ} (F : γ → α) (f : α → Except Err β) (g : γ → β) (l : List γ)
    (h : ∀ x ∈ l, f (F x) = .ok (g x)) : (l.map F).mapM f = .ok (l.map g) := by
  induction l with
  | nil => rfl
  | cons x xs ih =>
    rw [List.map_cons, List.mapM_cons, h x List.mem_cons_self, ih fun y hy => h y (List.mem_cons_of_mem _ hy)]
    rfl

theorem mapM_ok {α β} (f : α → Except Err β) (g : α → β) (l : List α) (h : ∀ x ∈ l, f x = .ok (g x)) :
    l.mapM f = .ok (l.map g) := by
  have := mapM_map_ok id f g l h
  rwa [List.map_id] at this

theorem intAttr_num (a : Attrs) (k : String) (d x : Int) (h : Dict.get? a k = some (.num (2 * x))) :
    intAttr a k d = .ok x := by
  unfold intAttr
  rw [h]
  show (if 2 * x % 2 = 0 then Except.ok (2 * x / 2) else _) = _
  rw [if_pos (by omega), show 2 * x / 2 = x by omega]

theorem atomOfAttrs_atomAttrs (M : Mol) (i : Nat) (a : Atom) :
    atomOfAttrs (atomAttrs M i a) =
      .ok { element := a.element, charge := a.charge, atomMap := a.atomMap, hcount := some a.hcount } := by
  have he : Dict.get? (atomAttrs M i a) "element" = some (.str a.element) := rfl
  have hk : Dict.get? (atomAttrs M i a) "hcount" = some (.num (2 * a.hcount)) := rfl
  have hc := intAttr_num (atomAttrs M i a) "charge" 0 a.charge rfl
  have hm := intAttr_num (atomAttrs M i a) "atom_map" 0 a.atomMap rfl
  have hh := intAttr_num (atomAttrs M i a) "hcount" 0 a.hcount rfl
  unfold atomOfAttrs
  rw [he, hc, hm, hk, hh]
  have e7 : ¬ ((a.atomMap : Int) < 0) := by omega
  have e8 : ¬ ((a.hcount : Int) < 0) := by omega
  simp only [bind, Except.bind, pure, Except.pure, e7, e8, if_false, Int.toNat_natCast]

theorem atomNodes_eq_zipIdx (M : Mol) (as : List Atom) : ∀ i : Nat,
    atomNodes M as i = (as.zipIdx i).map fun p => (p.2 + 1, atomAttrs M p.2 p.1) := by
  induction as with
  | nil => intro i; rfl
  | cons a as ih => intro i; rw [List.zipIdx_cons, List.map_cons, atomNodes, ih]

theorem atomNodes_ids (M : Mol) (as : List Atom) (i : Nat) :
    (atomNodes M as i).map (·.1) = List.range' (i + 1) as.length := by
  rw [atomNodes_eq_zipIdx, List.map_map, Nat.add_comm, ← List.map_add_range', ← List.zipIdx_map_snd, List.map_map]
  exact List.map_congr_left fun p _ => Nat.add_comm _ _

theorem molToGraph_ids (M : Mol) : (molToGraph M).ids = List.range' 1 M.atoms.length :=
  atomNodes_ids M M.atoms 0

theorem molToGraph_atoms (M : Mol) : (molToGraph M).nodes.mapM (fun p => atomOfAttrs p.2) = .ok M.out.atoms := by
  rw [molToGraph, atomNodes_eq_zipIdx,
    mapM_map_ok (fun p : Atom × Nat => (p.2 + 1, atomAttrs M p.2 p.1)) (fun q => atomOfAttrs q.2) _ _
      fun p _ => atomOfAttrs_atomAttrs M p.2 p.1]
  exact congrArg Except.ok ((List.map_map (f := Prod.fst)
    (g := fun x : Atom => (⟨x.element, x.charge, x.atomMap, some x.hcount⟩ : AtomOut))).symm.trans
    (congrArg _ (List.zipIdx_map_fst 0 M.atoms)))

theorem idxOf_range' (s n a : Nat) (h : a < n) : (List.range' s n).idxOf (s + a) = a := by
  have := List.get_idxOf (List.nodup_range' (s := s) (n := n) 1 (by omega)) ⟨a, by simpa using h⟩
  simpa using this

theorem bondTypeOf_std (o : Int) (h : o = 2 ∨ o = 3 ∨ o = 4 ∨ o = 6) : bondTypeOf o = o := by
  rcases h with rfl | rfl | rfl | rfl <;> decide

theorem molToGraph_bonds (M : Mol) (h : M.WF) :
    (molToGraph M).edges.mapM (bondOfEdge (molToGraph M).ids) = .ok M.out.bonds := by
  rw [molToGraph_ids, molToGraph]
  refine mapM_map_ok _ _ (fun b : Bond => (b.a, b.b, b.order)) _ fun b hb => ?_
  obtain ⟨ha, hb', ho⟩ := h b hb
  have i1 := idxOf_range' 1 M.atoms.length b.a ha
  have i2 := idxOf_range' 1 M.atoms.length b.b hb'
  rw [Nat.add_comm] at i1 i2
  simp [bondOfEdge, Dict.get?, i1, i2, bondTypeOf_std b.order ho, bind, Except.bind, pure, Except.pure]

end SynKit.Repr

namespace SynKit.ReprOpt
open SynKit.Repr

def keptBase (useIdx : Bool) (M : Mol) : List (Nat × Nat × Atom) :=
  M.atoms.zipIdx.map fun p => (p.2, atomId useIdx p.2 p.1, p.1)

theorem kept_false (useIdx : Bool) (M : Mol) : kept useIdx false M = keptBase useIdx M := by
  unfold kept keptBase
  rw [List.filter_eq_self]
  intro t _; simp

theorem kept_true (useIdx : Bool) (M : Mol) :
    kept useIdx true M = (keptBase useIdx M).filter fun t => !(t.2.2.atomMap == 0) := by
  unfold kept keptBase
  apply List.filter_congr
  intro t _; simp

theorem keptBase_idx (useIdx : Bool) (M : Mol) : (keptBase useIdx M).map (·.1) = List.range M.atoms.length := by
  unfold keptBase
  rw [List.map_map]
  have : ((fun t : Nat × Nat × Atom => t.1) ∘ fun p : Atom × Nat => (p.2, atomId useIdx p.2 p.1, p.1)) = Prod.snd := rfl
  rw [this, List.zipIdx_map_snd]
  simp [List.range_eq_range']

/-- The entries of `keptBase` are keyed by the atom indices `0..n-1`, each once: the look-up of `x` finds the `x`-th atom. -/
theorem idOf_keptBase (useIdx : Bool) (M : Mol) (x : Nat) :
    idOf (keptBase useIdx M) x = (M.atoms[x]?).map (atomId useIdx x) := by
  have hkeys := keptBase_idx useIdx M
  unfold idOf
  cases hx : M.atoms[x]? with
  | none =>
    have : (keptBase useIdx M).find? (fun t => t.1 == x) = none := List.find?_eq_none.2 fun t ht hk => by
      have hm : t.1 ∈ List.range M.atoms.length := hkeys ▸ List.mem_map.2 ⟨t, ht, rfl⟩
      rw [beq_iff_eq.1 hk, List.mem_range] at hm
      rw [List.getElem?_eq_getElem hm] at hx
      cases hx
    rw [this]; rfl
  | some a =>
    have hm : (x, atomId useIdx x a, a) ∈ keptBase useIdx M :=
      List.mem_map.2 ⟨(a, x), List.mem_zipIdx_iff_getElem?.2 (by simpa using hx), rfl⟩
    have := Core.find?_of_nodup_map (f := (·.1)) (hkeys ▸ List.nodup_range) hm rfl
    simp only [← beq_eq_decide] at this
    rw [this]; rfl

def graphOf (M : Mol) (ks : List (Nat × Nat × Atom)) : LGraph :=
  { nodes := ks.map fun t => (t.2.1, atomAttrs M t.1 t.2.2)
    edges := M.bonds.filterMap fun b =>
      match idOf ks b.a, idOf ks b.b with
      | some u, some v => some (u, v, [("order", .num b.order)])
      | _, _ => none }

theorem molToGraphOpt_eq (useIdx drop : Bool) (M : Mol) (h : (drop && !useIdx) = false) :
    molToGraphOpt useIdx drop M =
      if ((kept useIdx drop M).map (·.2.1)).Nodup then .ok (graphOf M (kept useIdx drop M)) else .error .collision := by
  unfold molToGraphOpt
  rw [h, if_neg Bool.false_ne_true]
  dsimp only
  by_cases hnd : ((kept useIdx drop M).map (·.2.1)).Nodup
  · rw [if_pos hnd, decide_eq_true hnd, if_neg (by decide)]; rfl
  · rw [if_neg hnd, decide_eq_false hnd, if_pos (by decide)]

theorem molToGraphOpt_relabel (useIdx : Bool) (M : Mol) (h : M.WF) (f : Nat → Nat)
    (hf : ∀ p ∈ M.atoms.zipIdx, f (p.2 + 1) = atomId useIdx p.2 p.1)
    (hnd : ((molToGraph M).ids.map f).Nodup) :
    molToGraphOpt useIdx false M = .ok ((molToGraph M).relabel f) := by
  have hget : ∀ i (hi : i < M.atoms.length), f (i + 1) = atomId useIdx i M.atoms[i] := fun i hi =>
    hf (M.atoms[i], i) (List.mem_zipIdx_iff_getElem?.2 (by simp [hi]))
  have hnodes : (keptBase useIdx M).map (fun t => (t.2.1, atomAttrs M t.1 t.2.2)) =
      (atomNodes M M.atoms 0).map fun p => (f p.1, p.2) := by
    rw [atomNodes_eq_zipIdx, keptBase, List.map_map, List.map_map]
    apply List.map_congr_left
    intro p hp; simp only [Function.comp, hf p hp]
  have hids : (keptBase useIdx M).map (·.2.1) = (molToGraph M).ids.map f := by
    have := congrArg (List.map (·.1)) hnodes
    rw [List.map_map, List.map_map] at this
    rw [LGraph.ids, molToGraph, List.map_map]
    exact this
  rw [molToGraphOpt_eq useIdx false M (Bool.false_and _), kept_false, hids, if_pos hnd, graphOf, hnodes,
    molToGraph, LGraph.relabel, List.map_map]
  congr 2
  apply List.filterMap_eq_map_iff_forall_eq_some.2
  intro b hb
  obtain ⟨ha, hb', _⟩ := h b hb
  rw [idOf_keptBase, idOf_keptBase, List.getElem?_eq_getElem ha, List.getElem?_eq_getElem hb']
  simp only [Option.map_some, Function.comp, hget _ ha, hget _ hb']

/-- `atom_map if atom_map != 0 else idx + 1`, as a renumbering of the default ids `idx + 1`. -/
def aamMap (M : Mol) (n : Nat) : Nat :=
  match M.atoms[n - 1]? with
  | some a => if a.atomMap ≠ 0 then a.atomMap else n
  | none => n

theorem find?_filter_unique {T : Type} (ks : List T) (key : T → Nat) (q : T → Bool) (hn : (ks.map key).Nodup) (x : Nat) :
    (ks.filter q).find? (fun t => key t == x) = (ks.find? (fun t => key t == x)).filter q := by
  cases ht : ks.find? (fun t => key t == x) with
  | none =>
    rw [Option.filter_none, List.find?_eq_none]
    exact fun r hr => List.find?_eq_none.1 ht r (List.mem_filter.1 hr).1
  | some t =>
    -- `t` is the only entry of `ks` with key `x`: it is found among the kept entries iff it is kept
    have htm := List.mem_of_find?_eq_some ht
    have htx : key t = x := by simpa using List.find?_some ht
    rw [Option.filter_some]
    by_cases hq : q t = true
    · rw [if_pos hq]
      have := Core.find?_of_nodup_map (hn.sublist (List.filter_sublist.map key)) (List.mem_filter.2 ⟨htm, hq⟩) htx
      simpa only [beq_eq_decide] using this
    · rw [if_neg hq, List.find?_eq_none]
      intro r hr hrx
      obtain ⟨hr1, hr2⟩ := List.mem_filter.1 hr
      exact hq (List.inj_on_of_nodup_map hn hr1 htm ((by simpa using hrx : key r = x).trans htx.symm) ▸ hr2)

theorem idOf_filter (ks : List (Nat × Nat × Atom)) (q : Nat × Nat × Atom → Bool) (hidx : (ks.map (·.1)).Nodup)
    (hnd : (ks.map (·.2.1)).Nodup) (x : Nat) :
    idOf (ks.filter q) x = (idOf ks x).filter fun u => decide (u ∈ (ks.filter q).map (·.2.1)) := by
  unfold idOf
  rw [find?_filter_unique ks (·.1) q hidx x]
  cases ht : ks.find? (fun t => t.1 == x) with
  | none => rfl
  | some t =>
    have htm := List.mem_of_find?_eq_some ht
    have : decide (t.2.1 ∈ (ks.filter q).map (·.2.1)) = q t :=
      Bool.eq_iff_iff.2 (decide_eq_true_iff.trans (Core.mem_map_filter_of_nodup hnd htm))
    simp only [Option.filter_some, Option.map_some, this]
    cases q t <;> rfl

def dropUnmapped (G : LGraph) : LGraph :=
  let N := G.nodes.filter fun p => decide (Dict.get? p.2 "atom_map" ≠ some (.num 0))
  { nodes := N
    edges := G.edges.filter fun e => decide (e.1 ∈ N.map (·.1)) && decide (e.2.1 ∈ N.map (·.1)) }

theorem atomAttrs_atomMap (M : Mol) (i : Nat) (a : Atom) :
    Dict.get? (atomAttrs M i a) "atom_map" = some (.num (2 * (a.atomMap : Int))) := by
  simp [atomAttrs, Dict.get?]

theorem graphOf_filter (M : Mol) (ks : List (Nat × Nat × Atom)) (hidx : (ks.map (·.1)).Nodup)
    (hnd : (ks.map (·.2.1)).Nodup) :
    graphOf M (ks.filter fun t => !(t.2.2.atomMap == 0)) = dropUnmapped (graphOf M ks) := by
  obtain ⟨q, hqdef⟩ : ∃ q : Nat × Nat × Atom → Bool, q = fun t => !(t.2.2.atomMap == 0) := ⟨_, rfl⟩
  rw [← hqdef]
  have hN : (ks.filter q).map (fun t => (t.2.1, atomAttrs M t.1 t.2.2)) =
      (ks.map fun t => (t.2.1, atomAttrs M t.1 t.2.2)).filter
        fun p => decide (Dict.get? p.2 "atom_map" ≠ some (.num 0)) := by
    rw [List.filter_map]
    congr 1
    apply List.filter_congr
    intro t _
    simp only [Function.comp, atomAttrs_atomMap, hqdef]
    by_cases h0 : t.2.2.atomMap = 0
    · simp [h0]
    · have : (2 * (t.2.2.atomMap : Int)) ≠ 0 := by omega
      simp [h0, this]
  have hNids : ((ks.filter q).map (fun t => (t.2.1, atomAttrs M t.1 t.2.2))).map (·.1) = (ks.filter q).map (·.2.1) := by
    rw [List.map_map]; rfl
  unfold dropUnmapped graphOf
  simp only
  rw [← hN, hNids]
  congr 1
  rw [List.filter_filterMap]
  apply List.filterMap_congr
  intro b _
  rw [idOf_filter ks q hidx hnd, idOf_filter ks q hidx hnd]
  cases idOf ks b.a with
  | none => cases idOf ks b.b <;> rfl
  | some u =>
    cases idOf ks b.b with
    | none =>
      simp only [Option.filter_some]
      cases decide (u ∈ (ks.filter q).map (·.2.1)) <;> rfl
    | some v =>
      simp only [Option.filter_some]
      cases decide (u ∈ (ks.filter q).map (·.2.1)) <;> cases decide (v ∈ (ks.filter q).map (·.2.1)) <;> rfl

theorem molToGraphOpt_valueError (M : Mol) : molToGraphOpt false true M = .error .valueError := rfl

end SynKit.ReprOpt
