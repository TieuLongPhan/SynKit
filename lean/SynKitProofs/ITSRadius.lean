import SynKitModel.ITS
import SynKitProofs.Core.Graph
import SynKitProofs.Core.Fold
import Mathlib.Data.List.Perm.Subperm
/-!
# Radius expansion on any graph

`expand I S k` (`find_nearest_neighbors`: `k` rounds of neighbour union) reaches exactly the nodes at walk distance at
most `k` from a seed (`DistLE`, `mem_expand_iff`).  `Lvl I S n d` says `d` is the least such distance; a node at level `d`
has `d + 1` distinct nodes on its way (`Lvl.witnesses`), so on a simple graph `|V|` rounds reach all that can be reached
(`mem_expand_card_iff`), as does any radius that bounds every level (`mem_expand_iff_reach`).
-/
namespace SynKit.ITS

/-- `DistLE I s k n`: there is a walk of length at most `k` from `s` to `n` in `I`. -/
inductive DistLE (I : LGraph) (s : Nat) : Nat → Nat → Prop
  | refl (k : Nat) : DistLE I s k s
  | step {k m n : Nat} : DistLE I s k m → I.hasEdge m n = true → DistLE I s (k + 1) n

theorem DistLE.mono {I : LGraph} {s k n : Nat} (h : DistLE I s k n) : ∀ {k' : Nat}, k ≤ k' → DistLE I s k' n := by
  induction h with
  | refl k => intro k' _; exact DistLE.refl k'
  | step _ hE ih =>
    intro k' hk
    cases k' with
    | zero => exact absurd hk (Nat.not_succ_le_zero _)
    | succ j => exact DistLE.step (ih (Nat.le_of_succ_le_succ hk)) hE

theorem DistLE.cons {I : LGraph} {a b k x : Nat} (hE : I.hasEdge a b = true) (h : DistLE I b k x) :
    DistLE I a (k + 1) x := by
  induction h with
  | refl k => exact DistLE.step (DistLE.refl k) hE
  | step _ hE' ih => exact DistLE.step ih hE'

theorem DistLE.mem_ids {I : LGraph} (hI : I.WF) {s k n : Nat} (h : DistLE I s k n) (hs : s ∈ I.ids) : n ∈ I.ids := by
  induction h with
  | refl k => exact hs
  | step _ hE _ => exact (LGraph.hasEdge_mem_ids hI hE).2

def Near (I : LGraph) (S : List Nat) (k n : Nat) : Prop := ∃ s ∈ S, DistLE I s k n

theorem Near.mono {I : LGraph} {S : List Nat} {k k' n : Nat} (h : Near I S k n) (hk : k ≤ k') : Near I S k' n := by
  obtain ⟨s, hs, hd⟩ := h; exact ⟨s, hs, hd.mono hk⟩

theorem Near.step {I : LGraph} {S : List Nat} {k m n : Nat} (h : Near I S k m) (hE : I.hasEdge m n = true) :
    Near I S (k + 1) n := by
  obtain ⟨s, hs, hd⟩ := h; exact ⟨s, hs, DistLE.step hd hE⟩

theorem Near.mem_ids {I : LGraph} (hI : I.WF) {S : List Nat} (hS : ∀ s ∈ S, s ∈ I.ids) {k n : Nat}
    (h : Near I S k n) : n ∈ I.ids := by
  obtain ⟨s, hs, hd⟩ := h; exact hd.mem_ids hI (hS s hs)

theorem near_zero {I : LGraph} {S : List Nat} {n : Nat} : Near I S 0 n ↔ n ∈ S := by
  constructor
  · rintro ⟨s, hs, hd⟩
    cases hd
    exact hs
  · intro h; exact ⟨n, h, DistLE.refl 0⟩

theorem near_succ {I : LGraph} {S : List Nat} {k n : Nat} :
    Near I S (k + 1) n ↔ Near I S k n ∨ ∃ m, Near I S k m ∧ I.hasEdge m n = true := by
  constructor
  · rintro ⟨s, hs, hd⟩
    cases hd with
    | refl => exact Or.inl ⟨_, hs, DistLE.refl k⟩
    | step hd hE => exact Or.inr ⟨_, ⟨s, hs, hd⟩, hE⟩
  · rintro (h | ⟨m, h, hE⟩)
    · exact h.mono (Nat.le_succ k)
    · exact h.step hE

theorem unionL_eq (s xs : List Nat) : unionL s xs = xs.foldl Core.pushNew s := by
  unfold unionL Core.pushNew
  congr

theorem mem_unionL (s xs : List Nat) (x : Nat) : x ∈ unionL s xs ↔ x ∈ s ∨ x ∈ xs := by
  rw [unionL_eq]
  exact Core.mem_foldl_pushNew

theorem mem_expand_zero (I : LGraph) (S : List Nat) (n : Nat) : n ∈ expand I S 0 ↔ n ∈ S := by
  unfold expand; rw [mem_unionL]; simp

theorem mem_expand_succ (I : LGraph) (S : List Nat) (k n : Nat) :
    n ∈ expand I S (k + 1) ↔ n ∈ expand I S k ∨ ∃ m ∈ expand I S k, I.hasEdge m n = true := by
  rw [expand, mem_unionL, List.mem_flatMap]
  simp only [LGraph.mem_neighbors_iff]

theorem expand_mono (I : LGraph) (S : List Nat) (k n : Nat) (h : n ∈ expand I S k) : n ∈ expand I S (k + 1) :=
  (mem_expand_succ I S k n).2 (Or.inl h)

theorem mem_expand_iff (I : LGraph) (S : List Nat) (k n : Nat) :
    n ∈ expand I S k ↔ ∃ s ∈ S, DistLE I s k n := by
  induction k generalizing n with
  | zero => exact (mem_expand_zero I S n).trans near_zero.symm
  | succ k ih =>
    rw [mem_expand_succ]
    exact (or_congr (ih n) (exists_congr fun m => and_congr_left' (ih m))).trans near_succ.symm

theorem mem_expand_of_mem (I : LGraph) {S : List Nat} (k : Nat) {n : Nat} (h : n ∈ S) : n ∈ expand I S k :=
  (mem_expand_iff I S k n).2 ⟨n, h, DistLE.refl _⟩

def Reach (I : LGraph) (S : List Nat) (n : Nat) : Prop := ∃ s ∈ S, ∃ k, DistLE I s k n

def Lvl (I : LGraph) (S : List Nat) (n d : Nat) : Prop := Near I S d n ∧ ∀ k, k < d → ¬ Near I S k n

theorem exists_min (P : Nat → Prop) (h : ∃ n, P n) : ∃ n, P n ∧ ∀ k, k < n → ¬ P k := by
  obtain ⟨n, hn⟩ := h
  induction n using Nat.strongRecOn with
  | ind n ih =>
    by_cases hk : ∃ k, k < n ∧ P k
    · obtain ⟨k, hkn, hPk⟩ := hk
      exact ih k hkn hPk
    · exact ⟨n, hn, fun k hkn hPk => hk ⟨k, hkn, hPk⟩⟩

theorem exists_lvl {I : LGraph} {S : List Nat} {n : Nat} (h : Reach I S n) : ∃ d, Lvl I S n d :=
  let ⟨s, hs, k, hd⟩ := h
  exists_min (fun k => Near I S k n) ⟨k, s, hs, hd⟩

theorem Reach.near_of_le {I : LGraph} {S : List Nat} {n k : Nat} (h : Reach I S n)
    (hk : ∀ d, Lvl I S n d → d ≤ k) : Near I S k n := by
  obtain ⟨d, hd⟩ := exists_lvl h
  exact hd.1.mono (hk d hd)

theorem Lvl.le {I : LGraph} {S : List Nat} {n d k : Nat} (h : Lvl I S n d) (hk : Near I S k n) : d ≤ k :=
  Nat.le_of_not_lt fun hlt => h.2 k hlt hk

theorem Lvl.unique {I : LGraph} {S : List Nat} {n d d' : Nat} (h : Lvl I S n d) (h' : Lvl I S n d') : d = d' :=
  Nat.le_antisymm (h.le h'.1) (h'.le h.1)

theorem Lvl.not_seed {I : LGraph} {S : List Nat} {n d : Nat} (h : Lvl I S n (d + 1)) : n ∉ S :=
  fun hn => h.2 0 (Nat.succ_pos d) (near_zero.2 hn)

theorem Lvl.pred {I : LGraph} {S : List Nat} {n d : Nat} (h : Lvl I S n (d + 1)) :
    ∃ m, Lvl I S m d ∧ I.hasEdge m n = true := by
  rcases near_succ.1 h.1 with h0 | ⟨m, hm, hE⟩
  · exact absurd h0 (h.2 d (Nat.lt_succ_self d))
  · exact ⟨m, ⟨hm, fun k hk hn => h.2 (k + 1) (Nat.succ_lt_succ hk) (hn.step hE)⟩, hE⟩

theorem Lvl.witnesses {I : LGraph} {S : List Nat} : ∀ (d n : Nat), Lvl I S n d →
    ∃ L : List Nat, L.length = d + 1 ∧ L.Nodup ∧ ∀ x ∈ L, ∃ j, j ≤ d ∧ Lvl I S x j := by
  intro d
  induction d with
  | zero => intro n h; exact ⟨[n], rfl, List.nodup_singleton n, fun x hx => ⟨0, Nat.le_refl 0, by
      rw [List.mem_singleton] at hx; rw [hx]; exact h⟩⟩
  | succ d ih =>
    intro n h
    obtain ⟨m, hm, _⟩ := h.pred
    obtain ⟨L, hlen, hnd, hL⟩ := ih m hm
    refine ⟨n :: L, by rw [List.length_cons, hlen], List.nodup_cons.2 ⟨?_, hnd⟩, ?_⟩
    · intro hn
      obtain ⟨j, hj, hlv⟩ := hL n hn
      have := hlv.unique h
      omega
    · intro x hx
      rcases List.mem_cons.1 hx with rfl | hx
      · exact ⟨d + 1, Nat.le_refl _, h⟩
      · obtain ⟨j, hj, hlv⟩ := hL x hx
        exact ⟨j, Nat.le_succ_of_le hj, hlv⟩

theorem length_le_card {I : LGraph} {L : List Nat} (hnd : L.Nodup) (h : ∀ x ∈ L, x ∈ I.ids) :
    L.length ≤ I.nodes.length :=
  LGraph.ids_length (g := I) ▸ (hnd.subperm h).length_le

theorem Lvl.lt_card {I : LGraph} (hI : I.WF) {S : List Nat} (hS : ∀ s ∈ S, s ∈ I.ids) {n d : Nat}
    (h : Lvl I S n d) : d + 1 ≤ I.nodes.length := by
  obtain ⟨L, hlen, hnd, hL⟩ := Lvl.witnesses d n h
  exact hlen ▸ length_le_card hnd fun x hx => let ⟨_, _, hlv⟩ := hL x hx; hlv.1.mem_ids hI hS

theorem mem_expand_iff_reach {I : LGraph} {S : List Nat} {k n : Nat} (hk : ∀ d, Lvl I S n d → d ≤ k) :
    n ∈ expand I S k ↔ Reach I S n :=
  (mem_expand_iff I S k n).trans ⟨fun ⟨s, hs, hd⟩ => ⟨s, hs, k, hd⟩, fun h => h.near_of_le hk⟩

theorem mem_expand_card_iff {I : LGraph} (hI : I.WF) {S : List Nat} (hS : ∀ s ∈ S, s ∈ I.ids) {k : Nat}
    (hk : I.nodes.length ≤ k) {n : Nat} : n ∈ expand I S k ↔ Reach I S n :=
  mem_expand_iff_reach fun _ hd => Nat.le_trans (Nat.le_of_succ_le (hd.lt_card hI hS)) hk

end SynKit.ITS
