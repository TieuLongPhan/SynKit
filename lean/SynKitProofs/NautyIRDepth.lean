import SynKitModel.NautyIR
import SynKitProofs.NautyIRSearch
/-! The two resource bounds of the individualisation–refinement model (C08): the fuel is enough, and what a depth cap does. -/
namespace SynKit.Canon

/-!
## Adequacy of the fuel

The model recurses on fuel where the code has a `while changed` loop (`_refine`) and an unbounded
recursion (`_search`).  With the fuel the model uses, neither runs out: the refinement loop ends in
a partition that a further pass leaves unchanged, and the search tree is the same for every larger
fuel.  Both are `IRTree`'s `IRSys.refineLoop_last_pass`, `IRSys.leaves_fuel_add` at `irSys G`.
-/

theorem flatMap_eq_self_of_length {α : Type} {f : α → List α} (hpos : ∀ c, 1 ≤ (f c).length)
    (hone : ∀ c, (f c).length = 1 → f c = [c]) : ∀ l : List α, (l.flatMap f).length = l.length → l.flatMap f = l
  | [], _ => rfl
  | c :: l, h => by
    simp only [List.flatMap_cons, List.length_append, List.length_cons] at h ⊢
    have h1 := hpos c
    have h2 := Core.length_le_flatMap f l fun d _ => hpos d
    rw [hone c (by omega), flatMap_eq_self_of_length hpos hone l (by omega)]
    rfl

/-- `nauty.py` writes an unsplit cell back as it is, so a pass that adds no cell changes nothing. -/
theorem irRefineStep_eq_self_of_length (G : LGraph) (P : List (List Nat)) (h : (irRefineStep G P).length = P.length) :
    irRefineStep G P = P := by
  refine flatMap_eq_self_of_length (f := irRefineCell G P) ((irSys G).cell_length_pos P) (fun c hc => ?_) P h
  rcases (irSys G).cell_cases P c with ⟨_, e⟩ | ⟨_, h1⟩ | ⟨_, e⟩
  · exact e
  · exact absurd hc (Nat.ne_of_gt h1)
  · exact e

theorem irRefineLoop_fuel_add (G : LGraph) {ids : List Nat} (k : Nat) (P : List (List Nat)) (hok : IRPartOK ids P)
    (hk : ids.length < k + P.length) (d : Nat) : irRefineLoop G (k + d) P = irRefineLoop G k P := by
  rw [irRefineLoop_eq]
  exact IRSys.refineLoop_fuel_add (irSys_lawful G) k P hok hk d

/-- The `while changed` loop of `_refine` has terminated: a further pass changes nothing. -/
theorem irRefine_stable (G : LGraph) (P : List (List Nat)) (hok : IRPartOK G.ids P) :
    irRefineStep G (irRefine G P) = irRefine G P := by
  obtain ⟨Q, _, e, hQ⟩ := IRSys.refineLoop_last_pass (irSys_lawful G) (irSys G).passes P hok (irFuel_lt G _)
  rw [irRefine_eq, IRSys.refine, e]
  exact congrArg (irRefineStep G) (irRefineStep_eq_self_of_length G Q hQ)

theorem irRefine_idem (G : LGraph) (P : List (List Nat)) (hok : IRPartOK G.ids P) :
    irRefine G (irRefine G P) = irRefine G P := by
  have h := irRefine_stable G P hok
  show irRefineLoop G (G.nodes.length + 1) (irRefine G P) = irRefine G P
  simp only [irRefineLoop, h, if_true]

theorem irLeaves_root_fuel (G : LGraph) (hn : G.ids.Nodup) (d : Nat) :
    irLeaves G (G.nodes.length + 1 + d) (irInitialPartition G) [] = irLeaves G (G.nodes.length + 1) (irInitialPartition G) [] := by
  rw [irLeaves_eq]
  exact IRSys.leaves_fuel_add (irSys_lawful G) hn _ _ _ (irInitialPartition_ok G) (irFuel_lt G _) d

theorem irCanonWith_fuel (lt : IRLabel → IRLabel → Bool) (pgt : List (List Val) → IRLabel → Bool)
    (hlt : StrictTotal lt) (hp : IRPruneSound lt pgt) (prune : Bool) (G : LGraph) (hn : G.ids.Nodup) (d : Nat) :
    irSearch lt pgt prune G (G.nodes.length + 1 + d) (irInitialPartition G) [] none = irCanonWith lt pgt prune G := by
  rw [irSearch_eq_fold lt pgt hlt hp, irCanonWith_eq_fold lt pgt hlt hp, irLeaves_root_fuel G hn d]
  rfl

/-!
## The search with a depth cap (`max_depth`)

`irSearchCapped` is `gSearchCapped` at `irSys G` (`irSearchCapped_eq`), so the four facts of `IRSearch` hold of the root
call `irCanonCappedWith` against the uncapped `irCanonWith`: a run that returns `early_stop = False` has returned the
uncapped result (`_flag_sound`); a cap that no leaf exceeds is never hit (`_full`); the returned `best` is a leaf of depth
`≤ d` (`_leaf`); the first leaf in visiting order decides whether the run ends with `None` (`_none_iff`).
-/

theorem irDepth_le_iff (G : LGraph) (d : Nat) : irDepth G ≤ d ↔ ∀ l ∈ irRootLeaves G, l.1.length ≤ d :=
  irMaxDepth_le_iff _ d

theorem irDepth_le_nodes (G : LGraph) : irDepth G ≤ G.nodes.length := by
  rw [irDepth, irLeaves_eq]
  exact irMaxDepth_leaves_le (irSys G) _ _

theorem irPruned_none (pgt) (G : LGraph) (cp : List Nat) : irPruned pgt G cp none = false := rfl

theorem irSearchCapped_eq (lt pgt) (prune : Bool) (G : LGraph) (d : Nat) :
    irSearchCapped lt pgt prune G d =
      gSearchCapped (irSys G) (irUpd lt G) (irPr pgt prune G) d := by
  funext fuel
  induction fuel with
  | zero => rfl
  | succ fuel ih => funext depth P pfx b; simp only [irSearchCapped, gSearchCapped, ih, irRefine_eq]; rfl

theorem irCanonCappedWith_flag_sound (lt pgt) (prune : Bool) (G : LGraph) (d : Nat) (r : IRBest)
    (h : irCanonCappedWith lt pgt prune G d = (r, false)) : r = irCanonWith lt pgt prune G := by
  rw [irCanonCappedWith, irSearchCapped_eq] at h
  rw [irCanonWith, irSearch_eq]
  exact gSearchCapped_flag_false d _ _ _ _ _ _ h

theorem irCanonCappedWith_full (lt pgt) (prune : Bool) (G : LGraph) (hn : G.ids.Nodup) (d : Nat)
    (h : irDepth G ≤ d) : irCanonCappedWith lt pgt prune G d = (irCanonWith lt pgt prune G, false) := by
  have hle := (irDepth_le_iff G d).1 h
  rw [irRootLeaves, irLeaves_eq] at hle
  have hflag : (irCanonCappedWith lt pgt prune G d).2 = false := by
    rw [irCanonCappedWith, irSearchCapped_eq]
    exact gSearchCapped_no_stop (irSys_lawful G) hn d _ 0 _ [] none (irInitialPartition_ok G) (irFuel_lt G _) rfl hle
  have hc : irCanonCappedWith lt pgt prune G d = ((irCanonCappedWith lt pgt prune G d).1, false) := by rw [← hflag]
  rw [hc, ← irCanonCappedWith_flag_sound lt pgt prune G d _ hc]

theorem irCanonCappedWith_leaf (lt pgt) (prune : Bool) (G : LGraph) (d : Nat) (L : IRLabel) (o : List Nat)
    (h : (irCanonCappedWith lt pgt prune G d).1 = some (L, o)) :
    ∃ l ∈ irRootLeaves G, l.1.length ≤ d ∧ L = irLeafLabel G l ∧ o = l.2 := by
  rw [irCanonCappedWith, irSearchCapped_eq] at h
  rw [irRootLeaves, irLeaves_eq]
  refine gSearchCapped_inv d (fun st => ∀ L o, st = some (L, o) →
      ∃ l ∈ (irSys G).leaves (G.nodes.length + 1) (irInitialPartition G) [], l.1.length ≤ d ∧ L = irLeafLabel G l ∧ o = l.2)
    _ 0 _ [] none rfl ?_ (fun _ _ e => nomatch e) L o h
  intro b l hl hd hI L o e
  rcases irUpd_cases lt G b l with e' | e'
  · rw [e', Option.some.injEq, Prod.mk.injEq] at e
    exact ⟨l, hl, hd, e.1.symm, e.2.symm⟩
  · exact hI L o (e' ▸ e)

/-- `best = None` is the `RuntimeError` case of `canonical_form`.  The descent to the first leaf is never pruned, and the
first call beyond the cap ends the whole search. -/
theorem irCanonCappedWith_none_iff (lt pgt) (prune : Bool) (G : LGraph) (hn : G.ids.Nodup) (d : Nat) :
    ((irCanonCappedWith lt pgt prune G d).1 = none ↔ ∃ l rest, irRootLeaves G = l :: rest ∧ d < l.1.length) ∧
    ((irCanonCappedWith lt pgt prune G d).1 = none → irCanonCappedWith lt pgt prune G d = (none, true)) := by
  rw [irCanonCappedWith, irSearchCapped_eq, irRootLeaves, irLeaves_eq]
  refine gSearchCapped_none_iff (irSys_lawful G) hn (fun cp => by simp [irPr, irPruned_none]) (fun b l => ?_) d _ 0 _ []
    (irInitialPartition_ok G) (irFuel_lt G _) rfl
  cases b with
  | none => exact nofun
  | some p =>
    simp only [irUpd, irUpdate]
    split <;> exact nofun

/-- `canonical_form(G, max_depth=d)` answers exactly when the capped search holds a best leaf, and the answer is read off it. -/
theorem irCanonicalFormCappedWith_ok_iff (lt : IRLabel → IRLabel → Bool) (pgt : List (List Val) → IRLabel → Bool)
    (prune : Bool) (G : LGraph) (d : Nat) (cg : LGraph) (o : List Nat) (e : Bool) :
    irCanonicalFormCappedWith lt pgt prune G d = .ok (cg, o, e) ↔
      (∃ L, irCanonCappedWith lt pgt prune G d = (some (L, o), e)) ∧ cg = canonBy o G := by
  unfold irCanonicalFormCappedWith
  rcases irCanonCappedWith lt pgt prune G d with ⟨_ | ⟨L, o'⟩, f⟩
  · simp
  · simp only [Except.ok.injEq, Prod.mk.injEq, Option.some.injEq]
    constructor
    · rintro ⟨rfl, rfl, rfl⟩
      exact ⟨⟨L, ⟨rfl, rfl⟩, rfl⟩, rfl⟩
    · rintro ⟨⟨_, ⟨_, rfl⟩, rfl⟩, rfl⟩
      exact ⟨rfl, rfl, rfl⟩

theorem irCanonicalFormCappedWith_flag_sound (lt : IRLabel → IRLabel → Bool) (pgt : List (List Val) → IRLabel → Bool)
    (prune : Bool) (G : LGraph) (d : Nat) (cg : LGraph) (o : List Nat)
    (h : irCanonicalFormCappedWith lt pgt prune G d = .ok (cg, o, false)) :
    (∃ L, irCanonWith lt pgt prune G = some (L, o)) ∧ cg = canonBy o G :=
  have ⟨⟨L, hc⟩, hcg⟩ := (irCanonicalFormCappedWith_ok_iff lt pgt prune G d cg o false).1 h
  ⟨⟨L, (irCanonCappedWith_flag_sound lt pgt prune G d _ hc).symm⟩, hcg⟩

/-- `canonical_form` raises exactly when the search ended with `best["perm"]` still `None`. -/
theorem irCanonicalFormCappedWith_error_iff (lt : IRLabel → IRLabel → Bool) (pgt : List (List Val) → IRLabel → Bool)
    (prune : Bool) (G : LGraph) (d : Nat) :
    irCanonicalFormCappedWith lt pgt prune G d = .error .notFound ↔ (irCanonCappedWith lt pgt prune G d).1 = none := by
  unfold irCanonicalFormCappedWith
  cases hc : irCanonCappedWith lt pgt prune G d with
  | mk r f =>
    cases r with
    | none => simp
    | some b => obtain ⟨L, o⟩ := b; simp

end SynKit.Canon
