import SynKitModel.Deficiency
import SynKitProofs.NetGraphAlg
import SynKitProofs.DeficiencyLemmas
import Mathlib.LinearAlgebra.Matrix.Rank
import Mathlib.LinearAlgebra.FiniteDimensional.Lemmas
import Mathlib.LinearAlgebra.Dimension.Constructions
/-!
`rank S ≤ n − ℓ` for Mathlib's `Matrix.rank` over `ℚ`, and what `rank S ≤ Σ s_ℓ`
(`stoich_rank_le_sum_class_ranks` in `Props/C19.lean`) is put together from. The linear algebra is stated for any
vectors and matrices: `n` vectors of which `ℓ` vanish span at most `n − ℓ` dimensions
(`finrank_span_le_sub`), so a matrix whose columns are differences `Y v − Y u` within the classes of a key has rank at
most `n` minus the number of classes (`rank_le_sub_of_cols_diff`); and a matrix whose columns lie in the column spaces
of some matrices has at most the sum of their ranks (`rank_le_sum_ranks`). The network supplies the rest: every column
of the stoichiometric matrix is `Y v − Y u` for an arc `(u, v)` of the complex graph (`stoich_col`), both ends of an arc
lie in one linkage class, and the difference is zero or a column of that class's matrix (`arcDiff_mem_colSpan`).
-/
namespace SynKit.Deficiency
open SynKit.NetGraphAlg Module

section generic
variable {V : Type} [AddCommGroup V] [Module ℚ V]

theorem finrank_span_le_sub (g : Nat → V) (n : Nat) (R : List Nat)
    (hRn : R.Nodup) (hR : ∀ r ∈ R, r < n) (h0 : ∀ r ∈ R, g r = 0) :
    finrank ℚ (Submodule.span ℚ {w : V | ∃ c, c < n ∧ w = g c}) ≤ n - R.length := by
  classical
  let s : Finset V := ((Finset.range n) \ R.toFinset).image g
  have hle : Submodule.span ℚ {w : V | ∃ c, c < n ∧ w = g c} ≤ Submodule.span ℚ (s : Set V) := by
    apply Submodule.span_le.2
    rintro w ⟨c, hc, rfl⟩
    by_cases hcR : c ∈ R
    · rw [h0 c hcR]; exact Submodule.zero_mem _
    · apply Submodule.subset_span
      simp only [s, Finset.coe_image, Set.mem_image, Finset.mem_coe, Finset.mem_sdiff, Finset.mem_range,
        List.mem_toFinset]
      exact ⟨c, ⟨hc, hcR⟩, rfl⟩
  calc finrank ℚ (Submodule.span ℚ {w : V | ∃ c, c < n ∧ w = g c})
      ≤ finrank ℚ (Submodule.span ℚ (s : Set V)) := Submodule.finrank_mono hle
    _ ≤ s.card := finrank_span_finset_le_card s
    _ ≤ ((Finset.range n) \ R.toFinset).card := Finset.card_image_le
    _ = n - R.length := by
      rw [Finset.card_sdiff_of_subset, Finset.card_range, List.toFinset_card_of_nodup hRn]
      intro r hr
      exact Finset.mem_range.2 (hR r (List.mem_toFinset.1 hr))

/-- Sub-additivity over the join of a list of subspaces, the join written as the supremum of the list as a multiset. -/
theorem finrank_sup_le [FiniteDimensional ℚ V] (Ls : List (Submodule ℚ V)) :
    finrank ℚ (Ls : Multiset (Submodule ℚ V)).sup ≤ (Ls.map fun W : Submodule ℚ V => finrank ℚ W).sum := by
  induction Ls with
  | nil => rw [Multiset.coe_nil, Multiset.sup_zero, finrank_bot]; exact Nat.zero_le _
  | cons a rest ih =>
    rw [← Multiset.cons_coe, Multiset.sup_cons, List.map_cons, List.sum_cons]
    exact (Submodule.finrank_add_le_finrank_add_finrank a _).trans (Nat.add_le_add_left ih _)

end generic

theorem rank_le_of_cols {m k : Nat} (A : Matrix (Fin m) (Fin k) ℚ) (W : Submodule ℚ (Fin m → ℚ))
    (h : ∀ j, A.col j ∈ W) : A.rank ≤ finrank ℚ W := by
  rw [Matrix.rank_eq_finrank_span_cols]
  apply Submodule.finrank_mono
  apply Submodule.span_le.2
  rintro _ ⟨j, rfl⟩
  exact h j

/-- The column space of `A` lies in the join of those of the `B i`, and the dimension is sub-additive over a join. -/
theorem rank_le_sum_ranks {ι : Type} {m k : Nat} (A : Matrix (Fin m) (Fin k) ℚ) (L : List ι) {n : ι → Nat}
    (B : ∀ i, Matrix (Fin m) (Fin (n i)) ℚ)
    (h : ∀ j, ∃ i ∈ L, A.col j ∈ Submodule.span ℚ (Set.range (B i).col)) :
    A.rank ≤ (L.map fun i => (B i).rank).sum := by
  refine le_trans (rank_le_of_cols A
    (Multiset.sup ↑(L.map fun i => Submodule.span ℚ (Set.range (B i).col))) fun j => ?_) ?_
  · obtain ⟨i, hi, hj⟩ := h j
    exact Multiset.le_sup (a := Submodule.span ℚ (Set.range (B i).col))
      (Multiset.mem_coe.2 (List.mem_map.2 ⟨i, hi, rfl⟩)) hj
  · refine le_trans (finrank_sup_le _) (le_of_eq ?_)
    rw [List.map_map]
    exact congrArg List.sum (List.map_congr_left fun i _ => (Matrix.rank_eq_finrank_span_cols _).symm)

/-- Every column lies in the span of the `n` vectors `Y c − Y (rep c)`, `rep c` the representative with the key of
`c`, of which those at the representatives vanish. -/
theorem rank_le_sub_of_cols_diff {m k : Nat} (A : Matrix (Fin m) (Fin k) ℚ) (Y : Nat → Fin m → ℚ) (f : Nat → Nat)
    (n : Nat) (R : List Nat) (hR : Core.Partition.Reps f (List.range n) R)
    (h : ∀ j, ∃ u v, u < n ∧ v < n ∧ f u = f v ∧ A.col j = Y v - Y u) : A.rank ≤ n - R.length := by
  choose! rep hmem hkey using fun c (hc : c < n) => hR.cover c (List.mem_range.2 hc)
  have huniq : ∀ r ∈ R, ∀ c < n, f r = f c → rep c = r := fun r hr c hc e =>
    List.inj_on_of_nodup_map hR.nodup (hmem c hc) hr ((hkey c hc).trans e.symm)
  have hlt : ∀ r ∈ R, r < n := fun r hr => List.mem_range.1 (hR.sub r hr)
  refine le_trans (rank_le_of_cols A (Submodule.span ℚ {w | ∃ c, c < n ∧ w = Y c - Y (rep c)}) fun j => ?_)
    (finrank_span_le_sub (fun c => Y c - Y (rep c)) n R (List.Nodup.of_map _ hR.nodup) hlt fun r hr =>
      sub_eq_zero.2 (congrArg Y (huniq r hr r (hlt r hr) rfl).symm))
  obtain ⟨u, v, hu, hv, huv, hcol⟩ := h j
  have hrep : rep u = rep v := huniq _ (hmem v hv) u hu ((hkey v hv).trans huv.symm)
  have : A.col j = (Y v - Y (rep v)) - (Y u - Y (rep u)) := by rw [hcol, hrep]; abel
  rw [this]
  exact Submodule.sub_mem _ (Submodule.subset_span ⟨v, hv, rfl⟩) (Submodule.subset_span ⟨u, hu, rfl⟩)

noncomputable def cvec (N : Net) (c : Nat) : Fin N.species.length → ℚ :=
  fun i => ((((complexes N).getD c []).getD i 0 : Nat) : ℚ)

noncomputable def stoichMatrix (N : Net) : Matrix (Fin N.species.length) (Fin N.reactions.length) ℚ :=
  Matrix.of fun i j => (((stoichRows N).getD i []).getD j 0 : ℚ)

noncomputable def classMatrix (N : Net) (C : List Nat) :
    Matrix (Fin N.species.length) (Fin (classDiffs N C).length) ℚ :=
  Matrix.of fun i j => ((((classDiffs N C).getD j []).getD i 0 : Int) : ℚ)

theorem vecOf_getD (N : Net) (d : Dict Nat) (i : Nat) (hi : i < N.species.length) :
    (vecOf N d).getD i 0 = d.sumOf (N.species[i]) := by
  simp [vecOf, List.getD_eq_getElem?_getD, hi]

theorem cvec_of_getElem? (N : Net) (c : Nat) (d : Dict Nat) (h : (complexes N)[c]? = some (vecOf N d))
    (i : Fin N.species.length) : cvec N c i = ((d.sumOf (N.species[i]) : Nat) : ℚ) := by
  have hc : (complexes N).getD c [] = vecOf N d := by
    rw [List.getD_eq_getElem?_getD, h, Option.getD_some]
  unfold cvec
  rw [hc, vecOf_getD N d i i.2]
  rfl

theorem exists_arc_of_rxn (N : Net) (r : Rxn) (hr : r ∈ N.reactions) :
    ∃ a ∈ complexArcs N, (complexes N)[a.1]? = some (vecOf N r.reactants) ∧
      (complexes N)[a.2]? = some (vecOf N r.products) := by
  obtain ⟨_, hmem, harcs⟩ := complexes_inv N
  obtain ⟨u, hu⟩ := List.mem_iff_getElem?.1 ((hmem _).2 ⟨r, hr, Or.inl rfl⟩)
  obtain ⟨v, hv⟩ := List.mem_iff_getElem?.1 ((hmem _).2 ⟨r, hr, Or.inr rfl⟩)
  exact ⟨(u, v), (harcs (u, v)).2 ⟨r, hr, hu, hv⟩, hu, hv⟩

theorem stoich_col (N : Net) (j : Fin N.reactions.length) :
    ∃ a ∈ complexArcs N, (stoichMatrix N).col j = cvec N a.2 - cvec N a.1 := by
  obtain ⟨a, ha, h1, h2⟩ := exists_arc_of_rxn N (N.reactions[j]) (List.getElem_mem _)
  refine ⟨a, ha, ?_⟩
  funext i
  rw [Pi.sub_apply, cvec_of_getElem? N a.2 _ h2 i, cvec_of_getElem? N a.1 _ h1 i]
  simp [Matrix.col, stoichMatrix, stoichRows, List.getD_eq_getElem?_getD]

theorem linkageClasses_length (N : Net) :
    (linkageClasses N).length =
      (reps (labelling (complexArcs N)) (List.range (complexes N).length)).length := by
  simp [linkageClasses, components, classesOf]

/-- Both ends of an arc carry the same label. -/
theorem rank_stoich_le (N : Net) :
    (stoichMatrix N).rank ≤ (complexes N).length - (linkageClasses N).length := by
  rw [linkageClasses_length]
  refine rank_le_sub_of_cols_diff _ (cvec N) (labelling (complexArcs N)) _ _ (reps_reps _ _) fun j => ?_
  obtain ⟨a, ha, hcol⟩ := stoich_col N j
  obtain ⟨h1, h2⟩ := complexArcs_lt N a ha
  exact ⟨a.1, a.2, h1, h2, (labelling_spec _ _ _).2 (.edge ha), hcol⟩

theorem linkage_le_complexes (N : Net) : (linkageClasses N).length ≤ (complexes N).length := by
  rw [linkageClasses_length]
  have hnd : (reps (labelling (complexArcs N)) (List.range (complexes N).length)).Nodup :=
    List.Nodup.of_map _ (reps_reps _ _).nodup
  have := (hnd.subperm (reps_reps _ _).sub).length_le
  simpa using this

theorem getD_zero_of_all_zero (d : List Int) (h : ∀ x ∈ d, x = 0) (i : Nat) : d.getD i 0 = 0 := by
  rw [List.getD_eq_getElem?_getD]
  cases hi : d[i]? with
  | none => rfl
  | some x => exact h x (List.mem_of_getElem? hi)

theorem arcDiff_getD (N : Net) (a : Nat × Nat) (ha : a ∈ complexArcs N) :
    (fun i : Fin N.species.length => ((((List.zipWith (fun (y' y : Nat) => (y' : Int) - (y : Int))
        ((complexes N).getD a.2 []) ((complexes N).getD a.1 [])).getD i 0 : Int)) : ℚ)) =
      cvec N a.2 - cvec N a.1 := by
  obtain ⟨r, _, h1, h2⟩ := ((complexes_inv N).2.2 a).1 ha
  have e1 : (complexes N).getD a.1 [] = vecOf N r.reactants := by
    rw [List.getD_eq_getElem?_getD, h1, Option.getD_some]
  have e2 : (complexes N).getD a.2 [] = vecOf N r.products := by
    rw [List.getD_eq_getElem?_getD, h2, Option.getD_some]
  funext i
  rw [Pi.sub_apply, cvec_of_getElem? N a.2 _ h2 i, cvec_of_getElem? N a.1 _ h1 i, e1, e2]
  simp [vecOf, List.getD_eq_getElem?_getD]

/-- The difference vector of an arc inside `C` is zero or a column of the class matrix. -/
theorem arcDiff_mem_colSpan (N : Net) (C : List Nat) (a : Nat × Nat) (ha : a ∈ restrict (complexArcs N) C) :
    cvec N a.2 - cvec N a.1 ∈ Submodule.span ℚ (Set.range (classMatrix N C).col) := by
  rw [← arcDiff_getD N a ((mem_restrict _ _ _).1 ha).1]
  set d := List.zipWith (fun (y' y : Nat) => (y' : Int) - (y : Int))
        ((complexes N).getD a.2 []) ((complexes N).getD a.1 [])
  by_cases hnz : d.any (· != 0) = true
  · have hmem : d ∈ classDiffs N C := by
      unfold classDiffs
      rw [List.mem_filter]
      exact ⟨List.mem_map.2 ⟨a, ha, rfl⟩, hnz⟩
    obtain ⟨j, hj, hjd⟩ := List.mem_iff_getElem.1 hmem
    refine Submodule.subset_span ⟨⟨j, hj⟩, funext fun i => ?_⟩
    simp [Matrix.col, classMatrix, List.getD_eq_getElem?_getD, hjd]
  · have hz : ∀ x ∈ d, x = 0 := fun x hx =>
      by_contra fun hx0 => hnz (List.any_eq_true.2 ⟨x, hx, bne_iff_ne.2 hx0⟩)
    have : (fun i : Fin N.species.length => ((d.getD i 0 : Int) : ℚ)) = 0 :=
      funext fun i => by rw [getD_zero_of_all_zero d hz]; rfl
    rw [this]; exact Submodule.zero_mem _

theorem sum_class_lengths (N : Net) :
    ((linkageClasses N).map List.length).sum = (complexes N).length := by
  rw [← List.length_flatten]
  exact (components_flatten_perm _ (complexArcs N) List.nodup_range).length_eq.trans List.length_range

theorem sum_deficiencies_list (L : List (List Nat)) (s : List Nat → Nat) :
    (List.zipWith (fun (C : List Nat) (k : Nat) => (C.length : Int) - 1 - (k : Int)) L (L.map s)).sum =
      ((L.map List.length).sum : Int) - (L.length : Int) - ((L.map s).sum : Int) := by
  induction L with
  | nil => simp
  | cons C rest ih =>
    simp only [List.map_cons, List.zipWith_cons_cons, List.sum_cons, List.length_cons, ih]
    push_cast; ring

theorem sum_linkageDeficiencies (N : Net) (s : List Nat → Nat) :
    (linkageDeficiencies N ((linkageClasses N).map s)).sum =
      ((complexes N).length : Int) - ((linkageClasses N).length : Int) -
        (((linkageClasses N).map s).sum : Int) := by
  unfold linkageDeficiencies
  rw [sum_deficiencies_list, sum_class_lengths]

end SynKit.Deficiency
