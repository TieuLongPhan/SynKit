import SynKitModel.Gml
import SynKitProofs.GmlLemmas
import SynKitProofs.GmlIsoLemmas
import SynKitProofs.GmlReaderLemmas
import SynKitProofs.GmlReindexLemmas
/-! The route through the reaction string (`smart_to_gml`, full export) against the route through the ITS graph: the rule
written from two molecule graphs (`MolShape`) reads back as their ITS graph (`smart_roundtrip'`), so the two routes read
back as isomorphic rules (`two_ways_full'`; with re-indexing, both are the plain export of the renumbered graphs). -/
namespace SynKit.Gml
open SynKit.Match

def molNodeShape (a : Attrs) : Bool :=
  match Dict.get? a "element", Dict.get? a "charge" with
  | some (.str e), some (.num c) => decide (alpha e.toList) && c % 2 = 0
  | _, _ => false

/-- `order` is one of 1, 1.5, 2, 3 (half-units). -/
def molEdgeShape (a : Attrs) : Bool :=
  match Dict.get? a "order" with
  | some (.num x) => x = 2 || x = 3 || x = 4 || x = 6
  | _ => false

/-- Shape of the two graphs `rsmi_to_graph` hands to `smart_to_gml`: a NetworkX graph (no parallel
edges, edges join existing nodes) whose nodes carry an `element` over `[A-Za-z*]` and an integer `charge`
and whose bonds carry a standard `order`. -/
def MolShape (g : LGraph) : Prop :=
  g.WF ∧ (∀ q ∈ g.nodes, molNodeShape q.2 = true) ∧ (∀ e ∈ g.edges, molEdgeShape e.2.2 = true)
instance (g : LGraph) : Decidable (MolShape g) := by unfold MolShape; infer_instance

theorem molNodeShape_unpack (a : Attrs) (h : molNodeShape a = true) :
    ∃ e c, Dict.get? a "element" = some (.str e) ∧ Dict.get? a "charge" = some (.num c) ∧
      alpha e.toList ∧ c % 2 = 0 := by
  unfold molNodeShape at h
  split at h
  · rename_i e c h1 h2
    simp only [Bool.and_eq_true, decide_eq_true_eq] at h
    exact ⟨e, c, h1, h2, h.1, h.2⟩
  · simp at h

theorem molEdgeShape_unpack (a : Attrs) (h : molEdgeShape a = true) :
    ∃ x, Dict.get? a "order" = some (.num x) ∧ (x = 2 ∨ x = 3 ∨ x = 4 ∨ x = 6) := by
  unfold molEdgeShape at h
  split at h
  · rename_i x h1
    exact ⟨x, h1, by simpa only [Bool.or_eq_true, decide_eq_true_eq, or_assoc] using h⟩
  · simp at h

theorem sideOk_mol (g : LGraph) (h : MolShape g) : SideOk g := by
  obtain ⟨⟨h1, h2, h3⟩, _, he⟩ := h
  refine ⟨h1, fun e he' => ⟨(h2 e he').1, (h2 e he').2.1⟩, h3, ?_⟩
  intro e he'
  obtain ⟨x, hx, hstd⟩ := molEdgeShape_unpack _ (he e he')
  exact ⟨x, by simp [edgeOrderVal, Dict.getD, hx], hstd⟩

theorem mol_node_views (g : LGraph) (h : MolShape g) (n : Nat) (hn : n ∈ g.ids) :
    alpha (elemOf (g.attrs n)) ∧ ∃ e c, Attrs.get (g.attrs n) "charge" = .num c ∧
      labView (g.attrs n) = [.str e, .num c] ∧
      tupGet (nodeRow g n) 0 = .str e ∧ tupGet (nodeRow g n) 3 = .num c := by
  obtain ⟨q, hq, rfl⟩ := List.mem_map.1 hn
  obtain ⟨e, c, h1, h2, ha, hc⟩ := molNodeShape_unpack _ (h.2.1 q hq)
  have hattr : g.attrs q.1 = q.2 := LGraph.attrs_of_mem h.1.1 hq
  have he : elemOf q.2 = e.toList := by simp [elemOf, h1]
  refine ⟨hattr ▸ he ▸ ha, e, c, ?_, hattr ▸ labView_of q.2 e c he (by simp [chargeOf, h2]) hc, ?_, ?_⟩
  · simp [hattr, Attrs.get, Dict.getD, h2]
  · simp [nodeRow, LGraph.hasNode_iff.2 hn, hattr, Dict.getD, h1, tupGet]
  · simp [nodeRow, LGraph.hasNode_iff.2 hn, hattr, Dict.getD, h2, tupGet]

theorem mol_orderIn (g : LGraph) (h : MolShape g) (u v : Nat) : orderIn g u v = ordOf (g.edge? u v) := by
  unfold orderIn
  cases he : g.edge? u v with
  | none => rfl
  | some a =>
    obtain ⟨e, he', rfl, _⟩ := LGraph.edge?_some_mem he
    obtain ⟨x, hx, _⟩ := molEdgeShape_unpack _ (h.2.2 e he')
    simp [ordOf, edgeOrderVal, Dict.getD, hx]

theorem smart_roundtrip' (r p : LGraph) (hr : MolShape r) (hp : MolShape p) (hid : r.ids = p.ids)
    (hs : ItsShape (construct r p)) : RuleEq (gmlToIts (smartToGml false false r p)) (construct r p) := by
  have hrule : smartToGml false false r p = ruleOf r p (construct r p) := writeRule_false r p _
  have hKids : ∀ n, n ∈ (construct r p).ids ↔ n ∈ r.ids := fun n => by
    rw [construct_ids_of_same r p hr.1.1 hp.1.1 hid]
  obtain ⟨r1, r2, r3⟩ := reader_spec r p (construct r p) (sideOk_mol r hr) (sideOk_mol p hp) hs.1.1
    (fun n => (hKids n).symm) (fun n => by rw [hKids n, hid])
    (fun n hn =>
      have hnr : n ∈ r.ids := Rd.mem_findChanged_left _ _ n hn
      ⟨(mol_node_views r hr n hnr).1, (mol_node_views p hp n (hid ▸ hnr)).1⟩)
    (fun n hn _ => itsShape_alpha _ hs hn)
  rw [hrule]
  refine ⟨r1, ?_, ?_⟩
  · intro n hn
    have hnr : n ∈ r.ids := (hKids n).1 hn
    obtain ⟨-, er, cr, hgr, hlr, hr0, hr3⟩ := mol_node_views r hr n hnr
    obtain ⟨-, ep, cp, hgp, hlp, hp0, hp3⟩ := mol_node_views p hp n (hid ▸ hnr)
    obtain ⟨q, hq, rfl⟩ := List.mem_map.1 hn
    obtain ⟨e, c, c', v⟩ := shaped_views q (hs.2.1 q hq)
    have hattr := LGraph.attrs_of_mem hs.1.1 hq
    -- the ITS node carries the two molecule rows: compare its view with theirs
    have hview := v.view _ q.1 hattr
    rw [Rd.construct_nodeView r p q.1 hn, hr0, hr3, hp0, hp3] at hview
    simp only [List.cons_append, List.nil_append, Val.tup.injEq, List.cons.injEq, Val.str.injEq, Val.num.injEq,
      and_true] at hview
    obtain ⟨rfl, rfl, rfl, rfl⟩ := hview
    rw [r2 q.1 hn, Rd.construct_nodeView r p q.1 hn, hr0, hr3, hp0, hp3]
    by_cases hch : q.1 ∈ findChanged r p
    · rw [if_pos hch, hlr, hlp]
    · have hget : Attrs.get (r.attrs q.1) "charge" = Attrs.get (p.attrs q.1) "charge" :=
        Decidable.of_not_not fun hne => hch ((mem_findChanged_iff r p q.1).2 ⟨hnr, hid ▸ hnr, hne⟩)
      rw [hgr, hgp] at hget
      rw [if_neg hch, hattr, labView_of q.2 _ _ v.elem v.charge v.even, Val.num.inj hget]
  · intro u v
    rw [r3 u v, Rd.construct_edgeView, mol_orderIn r hr, mol_orderIn p hp]
    rfl

theorem indexMap_congr (g g' : LGraph) (h : g.ids = g'.ids) : indexMap g = indexMap g' := by
  funext v; simp [indexMap, LGraph.hasNode, h]

theorem molShape_relabel (g : LGraph) (h : MolShape g) (f : Nat → Nat) (hf : InjOnIds g f) :
    MolShape (g.relabel f) :=
  ⟨LGraph.wf_relabel h.1 hf, forall_relabel g f (molNodeShape · = true) (molEdgeShape · = true) h.2.1 h.2.2⟩

theorem ruleEq_of_common (A B K : LGraph) (hA : RuleEq A K) (hB : RuleEq B K) : RuleEq B A := by
  obtain ⟨a1, a2, a3⟩ := hA
  obtain ⟨b1, b2, b3⟩ := hB
  refine ⟨fun n => (b1 n).trans (a1 n).symm, ?_, fun u v => (b3 u v).trans (a3 u v).symm⟩
  intro n hn
  have hk := (a1 n).1 hn
  rw [b2 n hk, a2 n hk]

theorem two_ways_full_plain (r p : LGraph) (hr : MolShape r) (hp : MolShape p) (hid : r.ids = p.ids)
    (hs : ItsShape (construct r p)) :
    ∃ m, IsIso viewSel (viewGraph (gmlToIts (smartToGml false false r p)))
      (viewGraph (gmlToIts (itsToGml false false (construct r p)))) m := by
  have h1 := smart_roundtrip' r p hr hp hid hs
  have h2 := gml_roundtrip_full' (construct r p) hs
  exact ⟨_, isIso_of_ruleEq _ _ (ruleEq_of_common _ _ _ h1 h2) (closed_gmlToIts _).1 (closed_gmlToIts _)
    (fun e he a ha => construct_order_consistent _ _ e he a ha)⟩

theorem two_ways_full' (r p : LGraph) (ri : Bool) (hr : MolShape r) (hp : MolShape p) (hid : r.ids = p.ids)
    (hs : ItsShape (construct r p)) :
    ∃ m, IsIso viewSel (viewGraph (gmlToIts (smartToGml false ri r p)))
      (viewGraph (gmlToIts (itsToGml false ri (construct r p)))) m := by
  cases ri with
  | false => exact two_ways_full_plain r p hr hp hid hs
  | true =>
    have hf := indexMap_injOn r
    have hKids : (construct r p).ids = r.ids := construct_ids_of_same r p hr.1.1 hp.1.1 hid
    have hfK : InjOnIds (construct r p) (indexMap r) := hf.of_ids_eq hKids
    -- C01 (5): the ITS of the renumbered molecule graphs is the renumbered ITS
    have hK := construct_relabel_on r p hr.1 hp.1 (indexMap r) r.ids hf (fun _ h => h) fun _ h => hid ▸ h
    have h1 : smartToGml false true r p = smartToGml false false (r.relabel (indexMap r)) (p.relabel (indexMap r)) := by
      show writeRule true r p (construct r p) = writeRule false _ _ (construct _ _)
      rw [hK, writeRule_reindex]
    have h2 : itsToGml false true (construct r p) =
        itsToGml false false (construct (r.relabel (indexMap r)) (p.relabel (indexMap r))) := by
      rw [itsToGml_reindex _ hs, hK]
      rw [indexMap_congr (side 0 (construct r p)) r (by rw [side_ids 0 _ hs.2.1, hKids])]
    rw [h1, h2]
    apply two_ways_full_plain _ _ (molShape_relabel r hr _ hf)
      (molShape_relabel p hp _ (hf.of_ids_eq hid.symm))
      (by rw [LGraph.ids_relabel, LGraph.ids_relabel, hid])
    rw [hK]
    exact itsShape_relabel _ hs _ hfK

end SynKit.Gml
