import SynKitModel.FindIso
import SynKitProofs.GraphMatcherEngineLemmas
/-! C07: the search-free certificate checkers, the invariants of isomorphic graphs and `find_graph_isomorphism`
(`SynKitModel/FindIso.lean`). -/
namespace SynKit.GME
open SynKit.Match

theorem nonEdgesB_iff (H P : LGraph) (m : Mapping) :
    nonEdgesB H P m = true ↔
      ∀ p q hp hq, m.get? p = some hp → m.get? q = some hq → P.hasEdge p q = false → H.hasEdge hp hq = false := by
  unfold nonEdgesB
  rw [List.all_eq_true]
  constructor
  · intro h p q hp hq g1 g2 hne
    have h1 := h (p, hp) (Mapping.mem_of_get? g1)
    simp only [g1] at h1
    rw [List.all_eq_true] at h1
    have h2 := h1 (q, hq) (Mapping.mem_of_get? g2)
    simp only [g2, hne, Bool.false_or, Bool.not_eq_true'] at h2
    exact h2
  · intro h a _
    cases g1 : m.get? a.1 with
    | none => rfl
    | some hp =>
      simp only
      rw [List.all_eq_true]
      intro b _
      cases g2 : m.get? b.1 with
      | none => rfl
      | some hq =>
        simp only
        cases hpe : P.hasEdge a.1 b.1 with
        | true => rfl
        | false => rw [h a.1 b.1 hp hq g1 g2 hpe]; rfl

theorem isIso_inv_noH (sel : Sel) (H P : LGraph) (m : Mapping) (hH : H.WF) (hP : P.WF) (hm : IsIso sel H P m) :
    IsIso { sel with hcountRule := false } P H (invMapping H m) :=
  isIso_symm _ H P m hH hP
    (hm.of_nodeOk rfl rfl rfl rfl rfl fun _ _ h => (nodeOk_iff rfl _ _).2 (nodeOk_eq_true_iff.1 h).1)
    fun _ _ hok => nodeOk_symm_of_noH _ rfl _ _ hok

/-- `≤` both ways; the inverse is an isomorphism only without the hydrogen rule, which edge counts do not see. -/
theorem iso_edges_eq (sel : Sel) (H P : LGraph) (m : Mapping) (hH : H.WF) (hP : P.WF) (hm : IsIso sel H P m) :
    H.edges.length = P.edges.length := by
  have h1 := mono_edges_le hH (isIso_inv_noH sel H P m hH hP hm).mono
  have h2 := mono_edges_le hP hm.mono
  omega

theorem iso_degreeSeq_perm (sel : Sel) (H P : LGraph) (m : Mapping) (hH : H.WF) (hP : P.WF) (hm : IsIso sel H P m) :
    (degreeSeq P).Perm (degreeSeq H) := by
  have hf := hm.isoFn
  have := (hf.ids_perm hP.1).map fun v => (H.neighbors v).length
  rw [List.map_map] at this
  refine (List.Perm.of_eq (List.map_congr_left fun p hp => ?_)).trans this
  rw [Function.comp, ← (hf.neighbors_perm hH hP hp).length_eq, List.length_map]

theorem isoInvariants_of_iso (sel : Sel) (H P : LGraph) (m : Mapping) (hH : H.WF) (hP : P.WF) (hm : IsIso sel H P m) :
    isoInvariants sel H P = true := by
  unfold isoInvariants
  simp only [Bool.and_eq_true, decide_eq_true_eq, List.isPerm_iff]
  exact ⟨⟨⟨⟨hm.2, iso_edges_eq sel H P m hH hP hm⟩, iso_degreeSeq_perm sel H P m hH hP hm⟩,
    baseContained_of_mono sel H P m hP.1 hm.mono⟩, wlContained_of_iso sel H P m hH hP hm⟩

theorem containInvariants_of_mono (sel : Sel) (H P : LGraph) (m : Mapping) (hP : P.WF) (hm : IsMono sel H P m) :
    containInvariants sel H P = true := by
  unfold containInvariants
  simp only [Bool.and_eq_true, decide_eq_true_eq]
  exact ⟨⟨hm.nodes_le, mono_edges_le hP hm⟩, baseContained_of_mono sel H P m hP.1 hm⟩

/-! `findPrep` rewrites attribute dicts only (`LGraph.mapAttrs`); the quick invariants do not read them. -/

theorem findPrep_true (G : LGraph) : findPrep true G =
    G.mapAttrs (fun _ => withDefaults findNames findDefaults) fun a => [("order", Dict.getD a "order" (.num 2))] := rfl

theorem findPrep_WF (d : Bool) (G : LGraph) (h : G.WF) : (findPrep d G).WF := by
  cases d
  · exact h
  · exact findPrep_true G ▸ LGraph.wf_mapAttrs h

theorem findPrep_nodes_length (d : Bool) (G : LGraph) : (findPrep d G).nodes.length = G.nodes.length := by
  cases d
  · rfl
  · exact List.length_map _

theorem fastInvariants_findPrep (d : Bool) (g1 g2 : LGraph) :
    fastInvariants (findPrep d g1) (findPrep d g2) = fastInvariants g1 g2 := by
  cases d
  · rfl
  · simp only [findPrep_true, fastInvariants, degreeSeq, LGraph.ids_mapAttrs, LGraph.neighbors_mapAttrs]
    simp only [LGraph.mapAttrs, List.length_map]

theorem fastInvariants_of_iso (d : Bool) (sel : Sel) (g1 g2 : LGraph) (h1 : g1.WF) (h2 : g2.WF) (m : Mapping)
    (hm : IsIso sel (findPrep d g2) (findPrep d g1) m) : fastInvariants g1 g2 = true := by
  have hH := findPrep_WF d g2 h2
  have hP := findPrep_WF d g1 h1
  rw [← fastInvariants_findPrep d]
  unfold fastInvariants
  simp only [Bool.and_eq_true, decide_eq_true_eq, List.isPerm_iff]
  exact ⟨⟨hm.2.symm, (iso_edges_eq sel _ _ m hH hP hm).symm⟩, iso_degreeSeq_perm sel _ _ m hH hP hm⟩

end SynKit.GME
