import SynKitModel.ITS
import SynKitProofs.Core.Graph
import SynKitProofs.Core.Fold
/-! Lemmas for C01.  `construct o G H` is a closed form (`construct_nodes_eq`, `construct_edges_eq`): each of its two lists is
one side's, then what the other side has on a key (atom id, unordered pair) that the first lacks (`mem_union_by_key`,
`nodup_union_by_key`).  It is read through `construct_mem_ids`, `construct_typesGH'`, `construct_edge?` and `construct_wf'`;
relabelling (5) and reversal (6) are read off these.  `its_decompose` is not a closed form: `IsSide i sel I g` says that `g` is the
side of `decompose I` for the half `i` of `typesGH` and the component `sel` of `order`, holds of both sides of every typed `I`
(`decompose_isSide`), and has the same four readings.  The two round trips (`IsSide.molEq_of_construct`,
`IsSide.itsEq_construct` in Props/C01) compose the readings of one with those of the other. -/
namespace SynKit.ITS.C01L

theorem get_def (a : Attrs) (k : String) : a.get k = (a.get? k).getD .none := rfl

/-! ## `l₁`, then what of `l₂` has a key that `l₁` lacks

How `construct` builds both of its lists: the atoms by id, the bonds by unordered pair.  `c x` stands for `k x ∈ l₁.map k`;
each lemma asks for the direction it uses. -/

theorem mem_union_by_key {α κ : Type} {k : α → κ} {c : α → Bool} {l₁ l₂ : List α}
    (hc : ∀ x ∈ l₂, c x = true → k x ∈ l₁.map k) (y : κ) :
    y ∈ (l₁ ++ l₂.filter fun x => !c x).map k ↔ y ∈ l₁.map k ∨ y ∈ l₂.map k := by
  rw [List.map_append, List.mem_append]
  refine ⟨Or.imp_right fun h => (List.filter_sublist.map k).subset h, fun h => ?_⟩
  by_cases h1 : y ∈ l₁.map k
  · exact Or.inl h1
  · obtain ⟨x, hx, rfl⟩ := List.mem_map.1 (h.resolve_left h1)
    refine Or.inr (List.mem_map.2 ⟨x, List.mem_filter.2 ⟨hx, ?_⟩, rfl⟩)
    rw [Bool.not_eq_true', ← Bool.not_eq_true]
    exact fun h => h1 (hc x hx h)

theorem nodup_union_by_key {α κ : Type} {k : α → κ} {c : α → Bool} {l₁ l₂ : List α} (h₁ : (l₁.map k).Nodup)
    (h₂ : (l₂.map k).Nodup) (hc : ∀ x ∈ l₂, k x ∈ l₁.map k → c x = true) :
    ((l₁ ++ l₂.filter fun x => !c x).map k).Nodup := by
  rw [List.map_append, List.nodup_append]
  refine ⟨h₁, h₂.sublist (List.filter_sublist.map _), fun a ha b hb hab => ?_⟩
  obtain ⟨x, hx, rfl⟩ := List.mem_map.1 hb
  obtain ⟨hx2, hcx⟩ := List.mem_filter.1 hx
  rw [hc x hx2 (hab ▸ ha)] at hcx
  cases hcx

theorem orderOf_comm (g : LGraph) (u v : Nat) : orderOf g u v = orderOf g v u := by
  unfold orderOf; rw [LGraph.edge?_comm]

theorem edge?_spec (g : LGraph) (F : Nat → Nat → Attrs) (hF : ∀ u v, F u v = F v u)
    (h1 : ∀ e ∈ g.edges, e.2.2 = F e.1 e.2.1) (u v : Nat) :
    g.edge? u v = if g.hasEdge u v then some (F u v) else none := by
  unfold LGraph.hasEdge
  cases h : g.edge? u v with
  | none => rfl
  | some a =>
    obtain ⟨e, he, rfl, hj⟩ := LGraph.edge?_some_mem h
    rw [Option.isSome_some, if_pos rfl, h1 e he, LGraph.sym_of_joins F hF hj]

def pairsOf (G H : LGraph) : List (Nat × Nat) :=
  G.edges.map (fun e => (e.1, e.2.1)) ++
    (H.edges.filter fun e => !G.hasEdge e.1 e.2.1).map (fun e => (e.1, e.2.1))

def itsF (o : Opts) (G H : LGraph) (u v : Nat) : Attrs :=
  itsEdgeAttrs o.ignoreArom (orderOf G u v) (orderOf H u v)

theorem itsF_comm (o : Opts) (G H : LGraph) (u v : Nat) : itsF o G H u v = itsF o G H v u := by
  unfold itsF; rw [orderOf_comm G, orderOf_comm H]

theorem construct_edges_eq (o : Opts) (G H : LGraph) :
    (construct o G H).edges = (pairsOf G H).map fun uv => (uv.1, uv.2, itsF o G H uv.1 uv.2) := rfl

theorem forall_mem_pairsOf {G H : LGraph} {P : Nat → Nat → Prop} (hG : ∀ e ∈ G.edges, P e.1 e.2.1)
    (hH : ∀ e ∈ H.edges, P e.1 e.2.1) : ∀ p ∈ pairsOf G H, P p.1 p.2 := by
  intro p hp
  rcases List.mem_append.1 hp with h | h
  · obtain ⟨e, he, rfl⟩ := List.mem_map.1 h
    exact hG e he
  · obtain ⟨e, he, rfl⟩ := List.mem_map.1 h
    exact hH e (List.mem_of_mem_filter he)

theorem construct_keys (o : Opts) (G H : LGraph) :
    ((construct o G H).edges.map fun e => (min e.1 e.2.1, max e.1 e.2.1)) =
      (G.edges ++ H.edges.filter fun e => !G.hasEdge e.1 e.2.1).map fun e => (min e.1 e.2.1, max e.1 e.2.1) := by
  rw [construct_edges_eq, List.map_map, pairsOf, ← List.map_append, List.map_map]
  rfl

theorem construct_hasEdge (o : Opts) (G H : LGraph) (u v : Nat) :
    (construct o G H).hasEdge u v = (G.hasEdge u v || H.hasEdge u v) := by
  rw [Bool.eq_iff_iff, Bool.or_eq_true, LGraph.hasEdge_iff_key, LGraph.hasEdge_iff_key, LGraph.hasEdge_iff_key,
    construct_keys]
  exact mem_union_by_key (c := fun e : Nat × Nat × Attrs => G.hasEdge e.1 e.2.1) (fun _ _ => LGraph.hasEdge_iff_key.1) _

theorem construct_edge? (o : Opts) (G H : LGraph) (u v : Nat) :
    (construct o G H).edge? u v =
      if G.hasEdge u v || H.hasEdge u v then some (itsF o G H u v) else none := by
  rw [← construct_hasEdge o]
  refine edge?_spec _ (itsF o G H) (itsF_comm o G H) (fun e he => ?_) u v
  rw [construct_edges_eq] at he
  obtain ⟨p, _, rfl⟩ := List.mem_map.1 he
  rfl

theorem construct_edge?_some (o : Opts) (G H : LGraph) (u v : Nat) (a : Attrs)
    (h : (construct o G H).edge? u v = some a) :
    (G.hasEdge u v || H.hasEdge u v) = true ∧ a = itsEdgeAttrs o.ignoreArom (orderOf G u v) (orderOf H u v) := by
  rw [construct_edge?] at h
  split at h
  · next hc => exact ⟨hc, (Option.some.inj h).symm⟩
  · cases h

theorem itsEdgeAttrs_order (ia : Bool) (og oh : Val) :
    (itsEdgeAttrs ia og oh).get "order" = .tup [og, oh] := by
  simp [itsEdgeAttrs, get_def, Dict.get?]

theorem itsEdgeAttrs_std (ia : Bool) (og oh : Val) :
    (itsEdgeAttrs ia og oh).get "standard_order" = standardOrder ia og oh := by
  simp [itsEdgeAttrs, get_def, Dict.get?]

theorem standardOrder_num_false (a b : Int) : standardOrder false (.num a) (.num b) = .num (a - b) := by
  simp [standardOrder, vsub]

theorem orderPair_itsF (o : Opts) (G H : LGraph) (u v : Nat) :
    orderPair (itsF o G H u v) = some (orderOf G u v, orderOf H u v) := by
  simp [orderPair, itsF, itsEdgeAttrs, Dict.get?]

theorem nodeAttrs_typesGH (store : Bool) (G H : LGraph) (n : Nat) (a : Attrs) :
    (nodeAttrs store G H n a).get? "typesGH" = some (.tup [.tup (sideTuple G n), .tup (sideTuple H n)]) := by
  -- `typesGH` is written first; the fold after it writes only keys of `typesKeys`
  refine Core.foldl_inv (P := fun acc : Attrs => acc.get? "typesGH" = some _) (fun acc kgh hk hacc => ?_)
    (Dict.get?_set_self a _ _)
  have hne : ∀ k ∈ typesKeys, "typesGH" ≠ k := by decide
  rw [Dict.get?_set_other _ _ _ _ (hne _ (List.of_mem_zip hk).1)]
  exact hacc

def unionNodes (A B : LGraph) : List (Nat × Attrs) :=
  A.nodes ++ B.nodes.filter (fun p => !A.hasNode p.1)

def rawOf (o : Opts) (G H : LGraph) : List (Nat × Attrs) :=
  let base := if baseIsG o G H then G else H
  let other := if baseIsG o G H then H else G
  base.nodes ++ other.nodes.filter (fun p => !base.hasNode p.1)

theorem rawOf_eq (o : Opts) (G H : LGraph) :
    rawOf o G H = if baseIsG o G H then unionNodes G H else unionNodes H G := by
  unfold rawOf; cases baseIsG o G H <;> rfl

theorem construct_nodes_eq (o : Opts) (G H : LGraph) :
    (construct o G H).nodes = (rawOf o G H).map fun p => (p.1, nodeAttrs o.store G H p.1 p.2) := rfl

theorem construct_ids_eq (o : Opts) (G H : LGraph) :
    (construct o G H).ids = (rawOf o G H).map (·.1) := by
  unfold LGraph.ids; rw [construct_nodes_eq, List.map_map]; rfl

theorem mem_unionNodes_ids (A B : LGraph) (n : Nat) :
    n ∈ (unionNodes A B).map (·.1) ↔ n ∈ A.ids ∨ n ∈ B.ids :=
  mem_union_by_key (fun _ _ => LGraph.hasNode_iff.1) n

theorem unionNodes_nodup (A B : LGraph) (hA : A.ids.Nodup) (hB : B.ids.Nodup) :
    ((unionNodes A B).map (·.1)).Nodup :=
  nodup_union_by_key hA hB fun _ _ h => LGraph.hasNode_iff.2 h

theorem unionNodes_eq_left {A B : LGraph} (h : ∀ n ∈ B.ids, n ∈ A.ids) : unionNodes A B = A.nodes := by
  have : B.nodes.filter (fun p => !A.hasNode p.1) = [] :=
    List.filter_eq_nil_iff.2 fun p hp => by simp [LGraph.hasNode_iff.2 (h _ (LGraph.mem_ids_of_mem hp))]
  rw [unionNodes, this, List.append_nil]

theorem construct_mem_ids (o : Opts) (G H : LGraph) (n : Nat) :
    n ∈ (construct o G H).ids ↔ n ∈ G.ids ∨ n ∈ H.ids := by
  rw [construct_ids_eq, rawOf_eq]
  split
  · exact mem_unionNodes_ids G H n
  · rw [mem_unionNodes_ids, Or.comm]

theorem construct_nodup (o : Opts) (G H : LGraph) (hG : G.ids.Nodup) (hH : H.ids.Nodup) :
    (construct o G H).ids.Nodup := by
  rw [construct_ids_eq, rawOf_eq]
  split
  · exact unionNodes_nodup G H hG hH
  · exact unionNodes_nodup H G hH hG

theorem baseIsG_of_len (o : Opts) (G H : LGraph) (h : G.nodes.length = H.nodes.length) : baseIsG o G H = true := by
  unfold baseIsG
  cases o.balance <;> simp [h]

theorem construct_ids_of_same (o : Opts) {G H : LGraph} (hG : G.ids.Nodup) (hH : H.ids.Nodup)
    (hs : ∀ n, n ∈ G.ids ↔ n ∈ H.ids) : (construct o G H).ids = G.ids := by
  have hlen : G.nodes.length = H.nodes.length := by
    simpa [LGraph.ids] using ((List.perm_ext_iff_of_nodup hG hH).2 hs).length_eq
  rw [construct_ids_eq, rawOf_eq, baseIsG_of_len o G H hlen, if_pos rfl, unionNodes_eq_left fun n hn => (hs n).2 hn]
  rfl

theorem construct_typesGH' (o : Opts) (G H : LGraph) (n : Nat) (h : n ∈ (construct o G H).ids) :
    ((construct o G H).attrs n).get? "typesGH" =
      some (.tup [.tup (sideTuple G n), .tup (sideTuple H n)]) := by
  rw [construct_ids_eq] at h
  rw [LGraph.attrs_map_nodes (g := ⟨rawOf o G H, []⟩) (construct_nodes_eq o G H) (fun _ _ => rfl) h]
  dsimp only
  rw [nodeAttrs_typesGH]

theorem construct_wf' (o : Opts) (G H : LGraph) (hG : G.WF) (hH : H.WF) : (construct o G H).WF := by
  refine ⟨construct_nodup o G H hG.1 hH.1, fun e he => ?_, ?_⟩
  · rw [construct_edges_eq] at he
    obtain ⟨p, hp, rfl⟩ := List.mem_map.1 he
    simp only [construct_mem_ids]
    exact forall_mem_pairsOf (P := fun a b => (a ∈ G.ids ∨ a ∈ H.ids) ∧ (b ∈ G.ids ∨ b ∈ H.ids) ∧ a ≠ b)
      (fun e he => ⟨Or.inl (hG.2.1 e he).1, Or.inl (hG.2.1 e he).2.1, (hG.2.1 e he).2.2⟩)
      (fun e he => ⟨Or.inr (hH.2.1 e he).1, Or.inr (hH.2.1 e he).2.1, (hH.2.1 e he).2.2⟩) p hp
  · -- a bond of `H` is listed only if `G` has none on its pair
    have h := nodup_union_by_key (c := fun e => G.hasEdge e.1 e.2.1) hG.2.2 hH.2.2 fun e _ he =>
      LGraph.hasEdge_iff_key.2 he
    rw [construct_keys]
    exact h

section Relabel
variable {π : Nat → Nat} (hπ : Function.Injective π)
include hπ

theorem relabel_orderOf (g : LGraph) (u v : Nat) : orderOf (g.relabel π) (π u) (π v) = orderOf g u v := by
  unfold orderOf; rw [LGraph.edge?_relabel_of_injective hπ]

theorem relabel_sideTuple (g : LGraph) (n : Nat) : sideTuple (g.relabel π) (π n) = sideTuple g n := by
  unfold sideTuple; rw [LGraph.attrs_relabel_of_injective hπ]

theorem relabel_nodeAttrs (store : Bool) (G H : LGraph) (n : Nat) (a : Attrs) :
    nodeAttrs store (G.relabel π) (H.relabel π) (π n) a = nodeAttrs store G H n a := by
  unfold nodeAttrs; rw [relabel_sideTuple hπ, relabel_sideTuple hπ]

theorem relabel_itsF (o : Opts) (G H : LGraph) (u v : Nat) :
    itsF o (G.relabel π) (H.relabel π) (π u) (π v) = itsF o G H u v := by
  unfold itsF; rw [relabel_orderOf hπ, relabel_orderOf hπ]

theorem relabel_unionNodes (A B : LGraph) :
    unionNodes (A.relabel π) (B.relabel π) = (unionNodes A B).map fun p => (π p.1, p.2) := by
  have hB : (B.relabel π).nodes = B.nodes.map fun p => (π p.1, p.2) := rfl
  have hA : (A.relabel π).nodes = A.nodes.map fun p => (π p.1, p.2) := rfl
  unfold unionNodes
  rw [List.map_append, hB, List.filter_map, ← hA]
  congr 2
  apply List.filter_congr
  intro p _
  simp only [Function.comp, LGraph.hasNode_relabel hπ]

theorem relabel_rawOf (o : Opts) (G H : LGraph) :
    rawOf o (G.relabel π) (H.relabel π) = (rawOf o G H).map fun p => (π p.1, p.2) := by
  have hb : baseIsG o (G.relabel π) (H.relabel π) = baseIsG o G H := by
    simp only [baseIsG, LGraph.relabel, List.length_map]
  rw [rawOf_eq, rawOf_eq, hb]
  split
  · exact relabel_unionNodes hπ G H
  · exact relabel_unionNodes hπ H G

theorem relabel_pairsOf (G H : LGraph) :
    pairsOf (G.relabel π) (H.relabel π) = (pairsOf G H).map fun p => (π p.1, π p.2) := by
  have hG : (G.relabel π).edges = G.edges.map fun e => (π e.1, π e.2.1, e.2.2) := rfl
  have hH : (H.relabel π).edges = H.edges.map fun e => (π e.1, π e.2.1, e.2.2) := rfl
  unfold pairsOf
  rw [List.map_append, hG, hH, List.filter_map, List.map_map, List.map_map, List.map_map, List.map_map]
  congr 2
  apply List.filter_congr
  intro e _
  simp only [Function.comp, LGraph.hasEdge_relabel_of_injective hπ]

theorem construct_relabel' (o : Opts) (G H : LGraph) :
    construct o (G.relabel π) (H.relabel π) = (construct o G H).relabel π := by
  refine LGraph.ext ?_ ?_
  · show _ = (construct o G H).nodes.map fun p => (π p.1, p.2)
    rw [construct_nodes_eq, construct_nodes_eq, relabel_rawOf hπ, List.map_map, List.map_map]
    apply List.map_congr_left
    intro p _
    simp only [Function.comp, relabel_nodeAttrs hπ]
  · show _ = (construct o G H).edges.map fun e => (π e.1, π e.2.1, e.2.2)
    rw [construct_edges_eq, construct_edges_eq, relabel_pairsOf hπ, List.map_map, List.map_map]
    apply List.map_congr_left
    intro p _
    simp only [Function.comp, relabel_itsF hπ]

end Relabel

def vneg : Val → Val
  | .num a => .num (-a)
  | v => v

def vswap : Val → Val
  | .tup [a, b] => .tup [b, a]
  | v => v

theorem standardOrder_swap (ia : Bool) (a b : Int) :
    standardOrder ia (.num b) (.num a) = vneg (standardOrder ia (.num a) (.num b)) := by
  have h : (b - a).natAbs = (a - b).natAbs := by omega
  simp only [standardOrder, vsub, h]
  split
  · simp [vneg]
  · simp only [vneg]; congr 1; omega

/-- The bond clause of `MolWF` (Props/C01). -/
def EdgePos (S : LGraph) : Prop :=
  ∀ e ∈ S.edges, ∃ h : Int, 0 < h ∧ e.2.2.get? "order" = some (.num h)

theorem EdgePos.orderOf_cases {S : LGraph} (hS : EdgePos S) (u v : Nat) :
    (S.edge? u v = none ∧ orderOf S u v = .num 0) ∨
    ∃ a n, S.edge? u v = some a ∧ a.get? "order" = some (.num n) ∧ 0 < n ∧ orderOf S u v = .num n := by
  unfold orderOf
  cases h : S.edge? u v with
  | none => exact Or.inl ⟨rfl, rfl⟩
  | some a =>
    obtain ⟨e, he, rfl, _⟩ := LGraph.edge?_some_mem h
    obtain ⟨n, hn, ho⟩ := hS e he
    exact Or.inr ⟨_, n, rfl, ho, hn, congrArg (·.getD (.num 0)) ho⟩

theorem positive_orderOf (S : LGraph) (hS : EdgePos S) (u v : Nat) :
    positive (orderOf S u v) = S.hasEdge u v := by
  unfold LGraph.hasEdge
  rcases hS.orderOf_cases u v with ⟨h, ho⟩ | ⟨a, n, h, _, hn, ho⟩ <;> rw [h, ho]
  · rfl
  · exact decide_eq_true hn

theorem orderOf_num (S : LGraph) (hS : EdgePos S) (u v : Nat) :
    ∃ n : Int, 0 ≤ n ∧ orderOf S u v = .num n ∧ (S.hasEdge u v = true → 0 < n) ∧ (S.hasEdge u v = false → n = 0) := by
  unfold LGraph.hasEdge
  rcases hS.orderOf_cases u v with ⟨h, ho⟩ | ⟨a, n, h, _, hn, ho⟩ <;> rw [h]
  · exact ⟨0, Int.le_refl 0, ho, fun h => (by cases h), fun _ => rfl⟩
  · exact ⟨n, Int.le_of_lt hn, ho, fun _ => hn, fun h => (by cases h)⟩

theorem ensureBare_of_mem (ns : List (Nat × Attrs)) (n : Nat) (h : n ∈ ns.map (·.1)) :
    ensureBare ns n = ns := by
  unfold ensureBare
  have : ns.any (fun p => decide (p.1 = n)) = true := by
    obtain ⟨p, hp, rfl⟩ := List.mem_map.1 h
    exact List.any_eq_true.2 ⟨p, hp, by simp⟩
  simp [this]

theorem addMissing_eq (ns : List (Nat × Attrs)) (es : List (Nat × Nat × Attrs))
    (h : ∀ e ∈ es, e.1 ∈ ns.map (·.1) ∧ e.2.1 ∈ ns.map (·.1)) : addMissing ns es = ns :=
  Core.foldl_eq_self fun e he => by
    rw [ensureBare_of_mem ns e.1 (h e he).1, ensureBare_of_mem ns e.2.1 (h e he).2]

/-- What `its_decompose` keeps of a bond's attributes on the side `sel` picks. -/
def decAttr (sel : Val × Val → Val) (a : Attrs) : Option Attrs :=
  (orderPair a).bind fun pr => if positive (sel pr) then some [("order", sel pr)] else none

def decEdges (sel : Val × Val → Val) (I : LGraph) : List (Nat × Nat × Attrs) :=
  I.edges.filterMap fun e => (decAttr sel e.2.2).map fun a => (e.1, e.2.1, a)

theorem decompose_edges (I : LGraph) :
    (decompose I).1.edges = decEdges Prod.fst I ∧ (decompose I).2.edges = decEdges Prod.snd I := by
  constructor <;> exact List.filterMap_congr fun e _ => by
    unfold decAttr
    cases orderPair e.2.2 with
    | none => rfl
    | some pr => cases pr; dsimp only [Option.bind_some]; split <;> rfl

theorem decEdges_sub (sel : Val × Val → Val) (I : LGraph) {x : Nat × Nat × Attrs} (hx : x ∈ decEdges sel I) :
    ∃ e ∈ I.edges, x.1 = e.1 ∧ x.2.1 = e.2.1 := by
  obtain ⟨e, he, h⟩ := List.mem_filterMap.1 hx
  obtain ⟨a, -, rfl⟩ := Option.map_eq_some_iff.1 h
  exact ⟨e, he, rfl, rfl⟩

/-- The atom clause of `ITSWF` (Props/C01): both halves of `typesGH` are there, so neither side loses a node. -/
def NodeTyped (I : LGraph) : Prop :=
  ∀ p ∈ I.nodes, ∃ g h : List Val,
    p.2.get? "typesGH" = some (.tup [.tup g, .tup h]) ∧ 4 ≤ g.length ∧ 4 ≤ h.length

def halfOf (i : Nat) (a : Attrs) : Val := idx (a.get "typesGH") i

theorem gHalf_typed (a : Attrs) (g h : List Val)
    (ha : a.get? "typesGH" = some (.tup [.tup g, .tup h])) : gHalf a = some (halfOf 0 a) := by
  unfold gHalf halfOf
  rw [get_def, ha]; rfl

theorem hHalf_typed (a : Attrs) (g h : List Val)
    (ha : a.get? "typesGH" = some (.tup [.tup g, .tup h])) (hl : 4 ≤ h.length) :
    hHalf a = some (halfOf 1 a) := by
  unfold hHalf halfOf
  rw [get_def, ha]
  cases h with
  | nil => simp at hl
  | cons x xs => rfl

def decNodes (i : Nat) (I : LGraph) : List (Nat × Attrs) :=
  I.nodes.map fun p => (p.1, sideNode p.1 (halfOf i p.2))

theorem decNodes_ids (i : Nat) (I : LGraph) : (decNodes i I).map (·.1) = I.ids := by
  unfold decNodes LGraph.ids; rw [List.map_map]; rfl

/-- `g` is what `its_decompose` returns for the half `i` of `typesGH` and the component `sel` of `order` of the simple
graph `I`. -/
structure IsSide (i : Nat) (sel : Val × Val → Val) (I g : LGraph) : Prop where
  simple : I.WF
  nodes : g.nodes = decNodes i I
  edges : g.edges = decEdges sel I

/-- The twin clauses of `decompose` in one: `half` is `gHalf` or `hHalf`, and on a typed graph it is `halfOf i`. -/
theorem isSide_of {i : Nat} {sel : Val × Val → Val} {I g : LGraph} (hI : I.WF) (half : Attrs → Option Val)
    (hhalf : ∀ p ∈ I.nodes, half p.2 = some (halfOf i p.2)) (he : g.edges = decEdges sel I)
    (hn : g.nodes = addMissing (I.nodes.filterMap fun p => (half p.2).map fun t => (p.1, sideNode p.1 t)) g.edges) :
    IsSide i sel I g := by
  refine ⟨hI, ?_, he⟩
  rw [hn, he, (List.filterMap_eq_map_iff_forall_eq_some (g := fun p => (p.1, sideNode p.1 (halfOf i p.2)))).2
    fun p hp => by rw [hhalf p hp]; rfl]
  refine addMissing_eq (decNodes i I) _ fun x hx => ?_
  obtain ⟨e, he, h1, h2⟩ := decEdges_sub sel I hx
  rw [decNodes_ids, h1, h2]
  exact ⟨(hI.2.1 e he).1, (hI.2.1 e he).2.1⟩

theorem decompose_isSide (I : LGraph) (hI : I.WF) (hn : NodeTyped I) :
    IsSide 0 Prod.fst I (decompose I).1 ∧ IsSide 1 Prod.snd I (decompose I).2 :=
  ⟨isSide_of hI gHalf (fun p hp => by obtain ⟨g, h, hgh, _, _⟩ := hn p hp; exact gHalf_typed p.2 g h hgh)
      (decompose_edges I).1 rfl,
    isSide_of hI hHalf (fun p hp => by obtain ⟨g, h, hgh, _, hl⟩ := hn p hp; exact hHalf_typed p.2 g h hgh hl)
      (decompose_edges I).2 rfl⟩

namespace IsSide
variable {i : Nat} {sel : Val × Val → Val} {I g : LGraph}

theorem ids (h : IsSide i sel I g) : g.ids = I.ids := by
  unfold LGraph.ids; rw [h.nodes]; exact decNodes_ids i I

theorem attrs (h : IsSide i sel I g) {n : Nat} (hn : n ∈ I.ids) : g.attrs n = sideNode n (halfOf i (I.attrs n)) :=
  LGraph.attrs_map_nodes h.nodes (fun _ _ => rfl) hn

theorem edge? (h : IsSide i sel I g) (u v : Nat) : g.edge? u v = (I.edge? u v).bind (decAttr sel) := by
  rw [LGraph.edge?_congr (g' := ⟨[], decEdges sel I⟩) h.edges]
  exact LGraph.edge?_filterMap_attrs _ [] I.nodes u v h.simple.2.2

/-- On a bond of `I` whose order pair has the number `c ≥ 0` at `sel`, the side has the bond iff `c` is positive, and its
order there is `c` either way: a bond that is not kept reads as `0`. -/
theorem orderOf_eq (h : IsSide i sel I g) {u v : Nat} {a : Attrs} (ha : I.edge? u v = some a)
    {pr : Val × Val} (hp : orderPair a = some pr) {c : Int} (hc : sel pr = .num c) (h0 : 0 ≤ c) :
    orderOf g u v = .num c ∧ g.hasEdge u v = decide (0 < c) := by
  unfold orderOf LGraph.hasEdge
  rw [h.edge?, ha, Option.bind_some, decAttr, hp, Option.bind_some, hc]
  by_cases hpos : 0 < c
  · rw [if_pos (by exact decide_eq_true hpos), decide_eq_true hpos]
    exact ⟨rfl, rfl⟩
  · rw [if_neg (by exact fun h => hpos (of_decide_eq_true h)), decide_eq_false hpos, show c = 0 by omega]
    exact ⟨rfl, rfl⟩

theorem wf (h : IsSide i sel I g) : g.WF := by
  refine ⟨h.ids ▸ h.simple.1, fun x hx => ?_, ?_⟩
  · obtain ⟨e, he, h1, h2⟩ := decEdges_sub sel I (h.edges ▸ hx)
    rw [h.ids, h1, h2]; exact h.simple.2.1 e he
  · rw [h.edges]
    refine h.simple.2.2.sublist (Core.filterMap_map_sublist (fun x y hxy => ?_) _)
    obtain ⟨a, -, rfl⟩ := Option.map_eq_some_iff.1 hxy
    rfl

end IsSide

theorem nodeTyped_construct (o : Opts) (G H : LGraph) : NodeTyped (construct o G H) := by
  intro p hp
  rw [construct_nodes_eq] at hp
  obtain ⟨q, _, rfl⟩ := List.mem_map.1 hp
  refine ⟨sideTuple G q.1, sideTuple H q.1, ?_, Nat.le_succ 4, Nat.le_succ 4⟩
  -- `(_, a).2` is reduced first: given `Dict.get? (_, a).2 k =?= Dict.get? a k` the unifier opens `nodeAttrs` instead
  dsimp only
  exact nodeAttrs_typesGH _ G H q.1 q.2

theorem decompose_construct_wf (o : Opts) (G H : LGraph) (hG : G.WF) (hH : H.WF) :
    (decompose (construct o G H)).1.WF ∧ (decompose (construct o G H)).2.WF :=
  have h := decompose_isSide _ (construct_wf' o G H hG hH) (nodeTyped_construct o G H)
  ⟨h.1.wf, h.2.wf⟩

theorem sideNode_get? (n : Nat) (t : Val) :
    (sideNode n t).get? "element" = some (idx t 0) ∧ (sideNode n t).get? "aromatic" = some (idx t 1) ∧
    (sideNode n t).get? "hcount" = some (idx t 2) ∧ (sideNode n t).get? "charge" = some (idx t 3) ∧
    (sideNode n t).get? "atom_map" = some (.num (2 * (n : Int))) ∧
    (sideNode n t).get? "neighbors" = none := by
  simp [sideNode, Dict.get?]

theorem sideNode_get (S : LGraph) (n : Nat)
    (hk : ∀ k ∈ ["element", "aromatic", "hcount", "charge"], ((S.attrs n).get? k).isSome = true)
    (hm : (S.attrs n).get? "atom_map" = some (.num (2 * (n : Int)))) :
    ∀ k ∈ molKeys, (sideNode n (.tup (sideTuple S n))).get k = (S.attrs n).get k := by
  obtain ⟨h0, h1, h2, h3, h4, _⟩ := sideNode_get? n (.tup (sideTuple S n))
  have hd : ∀ k ∈ ["element", "aromatic", "hcount", "charge"],
      ((S.attrs n).get? k).getD (nodeDefault k) = (S.attrs n).get k := fun k hk' => by
    obtain ⟨v, hv⟩ := Option.isSome_iff_exists.1 (hk k hk')
    rw [get_def, hv]; rfl
  intro k hk'
  simp only [molKeys, List.mem_cons, List.not_mem_nil, or_false] at hk'
  rcases hk' with rfl | rfl | rfl | rfl | rfl
  · rw [get_def, h0]; exact hd _ (.head _)
  · rw [get_def, h1]; exact hd _ (.tail _ (.head _))
  · rw [get_def, h2]; exact hd _ (.tail _ (.tail _ (.head _)))
  · rw [get_def, h3]; exact hd _ (.tail _ (.tail _ (.tail _ (.head _))))
  · rw [get_def, get_def, h4, hm]

theorem sideTuple_of_sideNode (S : LGraph) (n : Nat) (t : Val) (h : S.attrs n = sideNode n t) :
    sideTuple S n = [idx t 0, idx t 1, idx t 2, idx t 3, nodeDefault "neighbors"] := by
  obtain ⟨h0, h1, h2, h3, _, h5⟩ := sideNode_get? n t
  simp only [sideTuple, typesKeys, List.map, h, h0, h1, h2, h3, h5, Option.getD]

theorem sideTuple_sideNode_idx (S : LGraph) (n : Nat) (t : Val) (h : S.attrs n = sideNode n t)
    (i : Nat) (hi : i < 4) : idx (.tup (sideTuple S n)) i = idx t i := by
  rw [sideTuple_of_sideNode S n t h]
  match i, hi with
  | 0, _ | 1, _ | 2, _ | 3, _ => rfl

/-! `hasEdge` as a search of the bond list: `LGraph.hasEdge_iff` with the test as a `Bool`. -/

def ematch (u v : Nat) (e : Nat × Nat × Attrs) : Bool :=
  decide ((e.1 = u ∧ e.2.1 = v) ∨ (e.1 = v ∧ e.2.1 = u))

theorem ematch_iff (u v : Nat) (e : Nat × Nat × Attrs) :
    ematch u v e = true ↔ (e.1 = u ∧ e.2.1 = v) ∨ (e.1 = v ∧ e.2.1 = u) := by
  simp [ematch]

theorem hasEdge_eq_any (g : LGraph) (u v : Nat) : g.hasEdge u v = g.edges.any (ematch u v) := by
  rw [Bool.eq_iff_iff, LGraph.hasEdge_iff, List.any_eq_true]
  exact exists_congr fun e => and_congr_right fun _ => (ematch_iff u v e).symm

end SynKit.ITS.C01L
