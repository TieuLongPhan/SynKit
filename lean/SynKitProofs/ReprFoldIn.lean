import SynKitProofs.ReprLemmas
import SynKitProofs.Core.Sum
import SynKitProofs.Core.Graph
/-!
C10: the folded form of a molecule graph.  `foldInW w g D` is `g` without the nodes `D`, every heavy atom's count raised
by the number of its neighbours in `D` (`absorbed`) and written back by `w`; it is `LGraph.keep` followed by `mapAttrs`,
whence its ids, dicts, bonds and well-formedness.  `foldIn` is the case one `bump` per hydrogen: over distinct hydrogens
the loop of `h_to_implicit` folds in exactly those with a heavy neighbour (`foldl_implStep_foldIn`), so
`hToImplicit g = foldIn g (foldable g)`, with no guard.  The hydrogen total of any `foldInW` by a double count over the
edge list (`totalH_foldInW`, also the total of `implicit_hydrogen`).  `h_to_explicit` leaves the folded form alone
(`foldIn_explicitOn`: pendant hydrogens fold back into their parents, `foldIn_pendant`); the round trip is the case that
nothing else is foldable.
-/
namespace SynKit.Repr
open SynKit.Core

def absorbed (g : LGraph) (D : List Nat) (v : Nat) : Nat := ((g.neighbors v).filter (· ∈ D)).length

def foldNodeW (w : Nat → Attrs → Attrs) (g : LGraph) (D : List Nat) (p : Nat × Attrs) : Nat × Attrs :=
  if isH p.2 then p else (p.1, w (absorbed g D p.1) p.2)

/-- `g` after the hydrogens `D` were folded into their heavy neighbours; `w k` is how a count raised by `k` is written
back.  `h_to_implicit` and `implicit_hydrogen` differ in `w` only (`foldIn`, `wset`). -/
def foldInW (w : Nat → Attrs → Attrs) (g : LGraph) (D : List Nat) : LGraph :=
  { nodes := (g.nodes.filter fun p => p.1 ∉ D).map (foldNodeW w g D)
    edges := g.edges.filter fun e => e.1 ∉ D ∧ e.2.1 ∉ D }

structure AddsH (w : Nat → Attrs → Attrs) : Prop where
  isH : ∀ k a, isH (w k a) = isH a
  hcnt : ∀ k a, hcnt (w k a) = hcnt a + k

/-- `h_to_implicit`: one `bump` per folded hydrogen, so nothing is written on an atom that absorbs none. -/
def foldIn (g : LGraph) (D : List Nat) : LGraph := foldInW (fun k => bump^[k]) g D

/-- `implicit_hydrogen`: `hcount` is written on every heavy atom. -/
def wset (k : Nat) (a : Attrs) : Attrs := Dict.set a "hcount" (.num (hraw a + 2 * (k : Int)))

theorem hcnt_iterate_bump (k : Nat) (a : Attrs) : hcnt (bump^[k] a) = hcnt a + k := by
  induction k generalizing a with
  | zero => simp
  | succ k ih => rw [Function.iterate_succ_apply, ih, hcnt_bump]; push_cast; omega

theorem addsH_bump : AddsH fun k => bump^[k] := ⟨isH_iterate bump isH_bump, hcnt_iterate_bump⟩

theorem addsH_wset : AddsH wset :=
  ⟨fun _ _ => isH_set_hcount _ _, fun k a => hcnt_set_add a k⟩

theorem foldNodeW_fst (w : Nat → Attrs → Attrs) (g : LGraph) (D : List Nat) (p : Nat × Attrs) :
    (foldNodeW w g D p).1 = p.1 := by
  unfold foldNodeW; split <;> rfl

theorem isH_foldNodeW {w : Nat → Attrs → Attrs} (hw : AddsH w) (g : LGraph) (D : List Nat) (p : Nat × Attrs) :
    isH (foldNodeW w g D p).2 = isH p.2 := by
  unfold foldNodeW; split
  · rfl
  · exact hw.isH _ _

theorem foldInW_eq_keep (w : Nat → Attrs → Attrs) (g : LGraph) (D : List Nat) :
    foldInW w g D = (g.keep fun v => decide (v ∉ D)).mapAttrs (fun v a => (foldNodeW w g D (v, a)).2) id := by
  refine LGraph.ext (List.map_congr_left fun p _ => Prod.ext (foldNodeW_fst w g D p) rfl) ?_
  exact (List.filter_congr fun e _ => Bool.decide_and _ _).trans (List.map_id' _).symm

section
variable {w : Nat → Attrs → Attrs} {g : LGraph} {D : List Nat} {n u v : Nat}

theorem mem_foldInW_ids : n ∈ (foldInW w g D).ids ↔ n ∈ g.ids ∧ n ∉ D := by
  rw [foldInW_eq_keep, LGraph.ids_mapAttrs, LGraph.mem_ids_keep, decide_eq_true_eq]

theorem foldInW_attrs (hn : n ∈ g.ids) (hD : n ∉ D) : (foldInW w g D).attrs n = (foldNodeW w g D (n, g.attrs n)).2 := by
  rw [foldInW_eq_keep, LGraph.attrs_mapAttrs (LGraph.mem_ids_keep.2 ⟨hn, decide_eq_true hD⟩),
    LGraph.attrs_keep (decide_eq_true hD)]

theorem isH_attrs_foldInW (hw : AddsH w) (hD : n ∉ D) : isH ((foldInW w g D).attrs n) = isH (g.attrs n) := by
  by_cases hn : n ∈ g.ids
  · rw [foldInW_attrs hn hD, isH_foldNodeW hw]
  · rw [LGraph.attrs_of_not_mem hn, LGraph.attrs_of_not_mem fun h => hn (mem_foldInW_ids.1 h).1]

theorem foldInW_edge? : (foldInW w g D).edge? u v = if u ∉ D ∧ v ∉ D then g.edge? u v else none := by
  rw [foldInW_eq_keep, LGraph.edge?_mapAttrs, LGraph.edge?_keep, Option.map_id, id]
  exact if_congr (by rw [Bool.and_eq_true, decide_eq_true_eq, decide_eq_true_eq]) rfl rfl

theorem foldInW_ids_nodup (hn : g.ids.Nodup) : (foldInW w g D).ids.Nodup := by
  rw [foldInW_eq_keep, LGraph.ids_mapAttrs, LGraph.ids_keep]; exact hn.sublist List.filter_sublist

theorem foldInW_wf (hwf : g.WF) : (foldInW w g D).WF := by
  rw [foldInW_eq_keep]; exact LGraph.wf_mapAttrs (LGraph.wf_keep hwf _)

end

theorem foldIn_nil (g : LGraph) : foldIn g [] = g := by
  cases g with
  | mk N E =>
    have : N.map (foldNodeW (fun k => bump^[k]) ⟨N, E⟩ []) = N :=
      Core.map_eq_self fun p _ => by simp [foldNodeW, absorbed]
    simp [foldIn, foldInW, this]

theorem foldl_bumpIfHeavy (l : List Nat) (g : LGraph) :
    l.foldl bumpIfHeavy g = { g with nodes := bumpAll g.nodes (l.filter fun n => !(isH (g.attrs n))) } :=
  foldl_updIfHeavy bump isH_bump l g

theorem count_nbrs_symm (g : LGraph) (h v : Nat) : (g.neighbors h).count v = (g.neighbors v).count h := by
  show (nbrsOf g.edges h).count v = (nbrsOf g.edges v).count h
  induction g.edges with
  | nil => rfl
  | cons e E ih =>
    -- one edge contributes at most one neighbour, so counting is membership, and membership is symmetric
    have hnd : ∀ w, (nbrsOf [e] w).Nodup := fun w => by
      rw [nbrsOf, List.filterMap_cons, List.filterMap_nil]
      split
      · exact List.nodup_nil
      · exact List.nodup_singleton _
    show (nbrsOf ([e] ++ E) h).count v = (nbrsOf ([e] ++ E) v).count h
    rw [nbrsOf_append, nbrsOf_append, List.count_append, List.count_append, ih, (hnd h).count, (hnd v).count]
    congr 1
    exact if_congr (LGraph.mem_neighbors_comm (g := ⟨[], [e]⟩)) rfl rfl

theorem heavy_nbrs_foldIn (g : LGraph) (D : List Nat) (hD : ∀ d ∈ D, isH (g.attrs d) = true) (h : Nat) (hh : h ∉ D) :
    ((foldIn g D).neighbors h).filter (fun n => !(isH ((foldIn g D).attrs n))) =
      (g.neighbors h).filter fun n => !(isH (g.attrs n)) := by
  have hnb : (foldIn g D).neighbors h = (g.neighbors h).filter fun v => decide (v ∉ D) := by
    rw [foldIn, foldInW_eq_keep, LGraph.neighbors_mapAttrs, LGraph.neighbors_keep (decide_eq_true hh)]
  rw [hnb, List.filter_filter]
  apply List.filter_congr
  intro n _
  by_cases hn : n ∈ D
  · simp [hn, hD n hn]
  · simp [hn, foldIn, isH_attrs_foldInW addsH_bump hn]

theorem absorbed_snoc (g : LGraph) (D : List Nat) (h : Nat) (hh : h ∉ D) (v : Nat) :
    absorbed g (D ++ [h]) v = absorbed g D v + (g.neighbors v).count h := by
  -- the neighbours in `D ++ [h]` are those in `D` and, outside `D`, the copies of `h`
  rw [absorbed, absorbed, filter_split (· ∈ D ++ [h]) (· ∈ D), List.count_eq_length_filter]
  congr 2 <;> apply List.filter_congr <;> intro a _
  · simpa using Or.inl
  · by_cases h1 : a = h <;> simp [h1, hh]

theorem hasHeavyNbr_foldIn (g : LGraph) (D : List Nat) (hD : ∀ d ∈ D, isH (g.attrs d) = true) (h : Nat) (hh : h ∉ D) :
    hasHeavyNbr (foldIn g D) h = hasHeavyNbr g h := by
  rw [Bool.eq_iff_iff, hasHeavyNbr_iff, hasHeavyNbr_iff, heavyNbrs, heavyNbrs, heavy_nbrs_foldIn g D hD h hh]

/-- One iteration of `h_to_implicit` on a graph of the form `foldIn g D`: the hydrogen `h` joins `D` iff it has a
heavy neighbour in `g`. -/
theorem implStep_foldIn (g : LGraph) (hn : g.ids.Nodup) (D : List Nat) (hD : ∀ d ∈ D, isH (g.attrs d) = true)
    (h : Nat) (hh : h ∉ D) :
    implStep (foldIn g D) h = foldIn g (if hasHeavyNbr g h then D ++ [h] else D) := by
  rw [implStep_eq, hasHeavyNbr_foldIn g D hD h hh]
  by_cases hv : hasHeavyNbr g h = true
  · rw [if_pos hv, if_pos hv, foldl_bumpIfHeavy, heavy_nbrs_foldIn g D hD h hh, bumpAll_eq]
    -- heavy `v` is bumped once per occurrence among the neighbours of `h`, i.e. of `h` among its own (`count_nbrs_symm`)
    have hcount : ∀ q ∈ g.nodes, foldNodeW (fun k => bump^[k]) g (D ++ [h]) q =
        (q.1, bump^[((g.neighbors h).filter fun n => !(isH (g.attrs n))).count q.1] (foldNodeW (fun k => bump^[k]) g D q).2) := by
      intro q hq
      have hattr := LGraph.attrs_of_mem hn hq
      by_cases hqH : isH q.2 = true
      · have : ((g.neighbors h).filter fun n => !(isH (g.attrs n))).count q.1 = 0 :=
          List.count_eq_zero.2 fun hm => by simpa [hattr, hqH] using (List.mem_filter.1 hm).2
        rw [this]; simp [foldNodeW, hqH]
      · have hqH' : isH q.2 = false := by simpa using hqH
        simp only [foldNodeW, hqH', Bool.false_eq_true, if_false]
        rw [← Function.iterate_add_apply, List.count_filter (by simp [hattr, hqH']), absorbed_snoc g D h hh,
          count_nbrs_symm g h q.1, Nat.add_comm]
    unfold removeNode foldIn foldInW
    simp only [LGraph.mk.injEq]
    refine ⟨?_, ?_⟩
    · rw [List.map_map, List.filter_map, List.filter_filter]
      refine (congrArg _ (List.filter_congr fun q _ => ?_)).trans (List.map_congr_left fun q hq => ?_)
      · simp [foldNodeW_fst, and_comm]
      · simp only [Function.comp, foldNodeW_fst, hcount q (List.mem_filter.1 hq).1]
    · rw [List.filter_filter]
      refine List.filter_congr fun e _ => Bool.eq_iff_iff.2 ?_
      simp only [Bool.and_eq_true, decide_eq_true_eq, List.mem_append, List.mem_singleton, not_or]
      exact ⟨fun ⟨⟨a, b⟩, c, d⟩ => ⟨⟨c, a⟩, d, b⟩, fun ⟨⟨c, a⟩, d, b⟩ => ⟨⟨a, b⟩, c, d⟩⟩
  · rw [if_neg hv, if_neg hv]

theorem foldl_implStep_foldIn (g : LGraph) (hn : g.ids.Nodup) (l : List Nat) : ∀ D : List Nat,
    (D ++ l).Nodup → (∀ x ∈ D ++ l, isH (g.attrs x) = true) →
    l.foldl implStep (foldIn g D) = foldIn g (D ++ l.filter (hasHeavyNbr g)) := by
  induction l with
  | nil => intro D _ _; simp
  | cons h l ih =>
    intro D hnd hH
    have hmid := List.nodup_cons.1 (List.nodup_middle.1 hnd)
    rw [List.foldl_cons, implStep_foldIn g hn D (fun d hd => hH d (List.mem_append_left _ hd)) h
      fun hd => hmid.1 (List.mem_append_left _ hd), List.filter_cons]
    by_cases hv : hasHeavyNbr g h = true
    · rw [if_pos hv, if_pos hv, ih (D ++ [h]) (by rwa [List.append_assoc]) (by rwa [List.append_assoc]), List.append_assoc]
      rfl
    · rw [if_neg hv, if_neg hv]
      exact ih D hmid.2 fun x hx => hH x (List.mem_append.2 ((List.mem_append.1 hx).imp_right (List.mem_cons_of_mem _)))

theorem hNodes_spec (g : LGraph) (hn : g.ids.Nodup) :
    (hNodes g).Nodup ∧ ∀ h ∈ hNodes g, h ∈ g.ids ∧ isH (g.attrs h) = true :=
  ⟨hn.sublist (List.filter_sublist.map _), fun _ => (mem_filter_ids hn isH).1⟩

/-- the hydrogens `h_to_implicit` folds in. -/
def foldable (g : LGraph) : List Nat := (hNodes g).filter (hasHeavyNbr g)

theorem hToImplicit_eq_foldIn (g : LGraph) (hn : g.ids.Nodup) : hToImplicit g = foldIn g (foldable g) := by
  have := foldl_implStep_foldIn g hn (hNodes g) [] (hNodes_spec g hn).1 fun h hh => ((hNodes_spec g hn).2 h hh).2
  rwa [foldIn_nil, List.nil_append] at this

/-- Double counting over the edge list: the pairs (`P`-node, `Q`-neighbour) are the pairs
(`Q`-node, `P`-neighbour). -/
theorem double_count (g : LGraph) (hwf : g.WF) (P Q : Nat → Bool) :
    (g.nodes.map fun p => if P p.1 then (((g.neighbors p.1).filter Q).length : Int) else 0).sum =
      (g.nodes.map fun p => if Q p.1 then (((g.neighbors p.1).filter P).length : Int) else 0).sum := by
  suffices ∀ E : List (Nat × Nat × Attrs), (∀ e ∈ E, e.1 ∈ g.ids ∧ e.2.1 ∈ g.ids ∧ e.1 ≠ e.2.1) →
      (g.ids.map fun v => if P v then (((nbrsOf E v).filter Q).length : Int) else 0).sum =
        (g.ids.map fun v => if Q v then (((nbrsOf E v).filter P).length : Int) else 0).sum by
    have := this g.edges hwf.2.1
    rw [LGraph.ids, List.map_map, List.map_map] at this
    exact this
  intro E hE
  have hn := hwf.1
  generalize g.ids = ids at hn hE ⊢
  induction E with
  | nil => simp [nbrsOf]
  | cons e E ih =>
    obtain ⟨he1, he2, hne⟩ := hE e List.mem_cons_self
    -- a new edge adds the ordered pairs (e.1, e.2.1) and (e.2.1, e.1)
    have key : ∀ (A B : Nat → Bool),
        (ids.map fun v => if A v then (((nbrsOf (e :: E) v).filter B).length : Int) else 0).sum =
          ((if A e.1 && B e.2.1 then 1 else 0) + (if A e.2.1 && B e.1 then 1 else 0)) +
          (ids.map fun v => if A v then (((nbrsOf E v).filter B).length : Int) else 0).sum := by
      intro A B
      rw [← sum_single ids hn e.1 he1 (fun v => if A v && B e.2.1 then 1 else 0),
        ← sum_single ids hn e.2.1 he2 (fun v => if A v && B e.1 then 1 else 0), ← List.sum_map_add, ← List.sum_map_add]
      congr 1
      apply List.map_congr_left
      intro v _
      rw [nbrsOf_cons, List.filter_append, List.length_append, Nat.cast_add]
      cases hA : A v
      · simp
      · simp only [if_true, Bool.true_and]
        congr 1
        by_cases h1 : e.1 = v
        · rw [if_pos h1, if_pos h1, if_neg (show ¬ e.2.1 = v from fun h2 => hne (h1.trans h2.symm)),
            length_filter_singleton, Int.add_zero]
        · rw [if_neg h1, if_neg h1, Int.zero_add]
          by_cases h2 : e.2.1 = v
          · rw [if_pos h2, if_pos h2, length_filter_singleton]
          · rw [if_neg h2, if_neg h2]; rfl
    rw [key P Q, key Q P, ih fun x hx => hE x (List.mem_cons_of_mem _ hx),
      Int.add_comm (if (Q e.1 && P e.2.1) = true then (1 : Int) else 0), Bool.and_comm (Q e.1), Bool.and_comm (Q e.2.1)]

/-- Folding in keeps the hydrogen total when every folded node is a hydrogen without a count of its own and with
exactly one heavy neighbour: per node, worth afterwards + (heavy neighbours, if folded) = worth before +
(`absorbed`, if heavy), and the two extra terms have the same sum by `double_count`. -/
theorem totalH_foldInW {w : Nat → Attrs → Attrs} (hw : AddsH w) (g : LGraph) (hwf : g.WF) (D : List Nat)
    (hD : ∀ d ∈ D, isH (g.attrs d) = true ∧ hcnt (g.attrs d) = 0 ∧ heavyNbrs g d = 1) :
    totalH (foldInW w g D) = totalH g := by
  have hn := hwf.1
  rw [totalH_eq, totalH_eq]
  show (((g.nodes.filter _).map _).map hval).sum = _
  rw [List.map_map, sum_map_filter]
  have hpt : ∀ p ∈ g.nodes,
      (if decide (p.1 ∉ D) then (hval ∘ foldNodeW w g D) p else 0) +
        (if decide (p.1 ∈ D) then ((((g.neighbors p.1).filter fun n => !(isH (g.attrs n))).length : Nat) : Int) else 0) =
      hval p + (if !(isH (g.attrs p.1)) then ((((g.neighbors p.1).filter fun n => decide (n ∈ D)).length : Nat) : Int) else 0) := by
    intro p hp
    have hattr := LGraph.attrs_of_mem hn hp
    by_cases hpD : p.1 ∈ D
    · obtain ⟨h1, h2, h3⟩ := hD p.1 hpD
      unfold heavyNbrs at h3
      rw [hattr] at h1 h2
      simp [hpD, hattr, h1, h3, hval, h2]
    · by_cases hH : isH p.2 = true
      · simp [hpD, hattr, hH, foldNodeW]
      · have hH' : isH p.2 = false := by simpa using hH
        simp [hpD, hattr, hH', foldNodeW, absorbed, hval, hw.isH, hw.hcnt]
  have hsum := congrArg List.sum (List.map_congr_left hpt)
  rw [List.sum_map_add, List.sum_map_add, double_count g hwf (fun n => decide (n ∈ D)) fun n => !(isH (g.attrs n))] at hsum
  omega

theorem absorbed_pendant (l : List Nat) (v : Nat) (P : List (Nat × Nat)) (hv : v ∉ P.map (·.1)) (hl : ∀ q ∈ P, q.1 ∈ l) :
    ((nbrsOf (P.map freshEdge) v).filter (· ∈ l)).length = (P.map (·.2)).count v := by
  induction P with
  | nil => rfl
  | cons q P ih =>
    rw [List.map_cons, List.mem_cons, not_or] at hv
    have h1 : ¬ q.1 = v := fun e => hv.1 e.symm
    rw [List.map_cons, nbrsOf_cons, List.filter_append, List.length_append, ih hv.2 fun x hx => hl x (List.mem_cons_of_mem _ hx),
      List.map_cons, List.count_cons]
    by_cases h2 : q.2 = v
    · simp [freshEdge, h2, hl q List.mem_cons_self, Nat.add_comm]
    · simp [freshEdge, h1, h2]

theorem foldIn_pendant {P : List (Nat × Nat)} {N : List (Nat × Attrs)} {Eg : List (Nat × Nat × Attrs)}
    (h : Pend N Eg P) (h4 : HeavyParents N P) (D : List Nat) :
    foldIn (pend N Eg P) (D ++ P.map (·.1)) = foldIn ⟨bumpAll N (P.map (·.2)), Eg⟩ D := by
  have hold : ∀ x, x ∉ P.map (·.1) → (x ∈ D ++ P.map (·.1) ↔ x ∈ D) := fun x hx => by
    rw [List.mem_append, or_iff_left hx]
  unfold foldIn foldInW pend
  rw [LGraph.mk.injEq]
  refine ⟨?_, ?_⟩
  · simp only
    rw [List.filter_append, (List.filter_eq_nil_iff (l := P.map freshNode)).2 (fun x hx => by
        obtain ⟨q, hq, rfl⟩ := List.mem_map.1 hx
        exact fun hc' => of_decide_eq_true hc' (List.mem_append_right _ (List.mem_map.2 ⟨q, hq, rfl⟩))), List.append_nil,
      List.filter_congr (fun p hp => by rw [decide_eq_decide, hold p.1 (h.old_not_new hp)] :
        ∀ p ∈ N, decide (p.1 ∉ D ++ P.map (·.1)) = decide (p.1 ∉ D)), bumpAll_eq, List.filter_map, List.map_map]
    apply List.map_congr_left
    intro p hp'
    have hp := (List.mem_filter.1 hp').1
    simp only [Function.comp, foldNodeW, isH_iterate bump isH_bump]
    by_cases hH : isH p.2 = true
    · have : (P.map (·.2)).count p.1 = 0 := List.count_eq_zero.2 fun hm => by
        obtain ⟨q, hq, e⟩ := List.mem_map.1 hm
        exact Bool.false_ne_true ((h.heavy_parent h4 hp hq e).symm.trans hH)
      rw [this]; simp [hH]
    · have hH' : isH p.2 = false := by simpa using hH
      have habs : absorbed ⟨N ++ P.map freshNode, Eg ++ P.map freshEdge⟩ (D ++ P.map (·.1)) p.1 =
          absorbed ⟨bumpAll N (P.map (·.2)), Eg⟩ D p.1 + (P.map (·.2)).count p.1 := by
        rw [absorbed, neighbors_eq, nbrsOf_append, List.filter_append, List.length_append,
          absorbed_pendant _ _ _ (h.old_not_new hp) (fun q hq => List.mem_append_right _ (List.mem_map.2 ⟨q, hq, rfl⟩)),
          absorbed, neighbors_eq]
        congr 2
        apply List.filter_congr
        intro n hn
        rw [decide_eq_decide, hold n (h.nbr_not_new hn)]
      simp only [hH', Bool.false_eq_true, if_false, habs, Function.iterate_add_apply]
      rfl
  · simp only
    rw [List.filter_append, (List.filter_eq_nil_iff (l := P.map freshEdge)).2 (fun x hx => by
        obtain ⟨q, hq, rfl⟩ := List.mem_map.1 hx
        simp only [decide_eq_true_eq, not_and, not_not]
        exact fun _ => List.mem_append_right _ (List.mem_map.2 ⟨q, hq, rfl⟩)), List.append_nil]
    apply List.filter_congr
    intro e he
    rw [decide_eq_decide, hold _ (h.ends_not_new he).1, hold _ (h.ends_not_new he).2]

/-- Pendant hydrogens `P` on a graph `⟨N, Eg⟩` are all folded back into their parents. -/
theorem collapse (P : List (Nat × Nat)) : ∀ (N : List (Nat × Attrs)) (Eg : List (Nat × Nat × Attrs)),
    (P.map (·.1)).Nodup → (N.map (·.1)).Nodup →
    (∀ q ∈ P, q.1 ∉ N.map (·.1)) →
    (∀ q ∈ P, ∀ e ∈ Eg, e.1 ≠ q.1 ∧ e.2.1 ≠ q.1) →
    (∀ q ∈ P, ∃ p ∈ N, p.1 = q.2 ∧ isH p.2 = false) →
    (P.map (·.1)).foldl implStep ⟨N ++ P.map freshNode, Eg ++ P.map freshEdge⟩ = ⟨bumpAll N (P.map (·.2)), Eg⟩ := by
  intro N Eg h1 hN h2 h3 hp
  have h : Pend N Eg P := ⟨hN, h1, h2, h3⟩
  -- all of `P` go, then `foldIn_pendant` at `D = []`
  have hgo : (P.map (·.1)).filter (hasHeavyNbr (pend N Eg P)) = P.map (·.1) :=
    List.filter_eq_self.2 fun x hx => by
      obtain ⟨q, hq, rfl⟩ := List.mem_map.1 hx
      exact h.heavy_new hp hq
  have := foldl_implStep_foldIn (pend N Eg P) h.nodup (P.map fun q : Nat × Nat => q.1) [] h.new fun x hx => by
    obtain ⟨q, hq, rfl⟩ := List.mem_map.1 hx
    rw [h.attrs_new hq]; exact isH_hAttrs
  rwa [foldIn_nil, hgo, foldIn_pendant h hp [], foldIn_nil] at this

/-- The new hydrogens are foldable, and no old hydrogen changes its neighbours (it is no parent) or their kind. -/
theorem Pend.foldable_eq (h : Pend N E P) (hp : HeavyParents N P) :
    foldable (pend N E P) = foldable ⟨N, E⟩ ++ P.map (·.1) := by
  have hH : hNodes (pend N E P) = hNodes ⟨N, E⟩ ++ P.map (·.1) := by
    have := hNodes_append_fresh N P id (fun _ => rfl) (fun _ => rfl)
    rwa [List.map_id] at this
  rw [foldable, foldable, hH, List.filter_append]
  congr 1
  · apply List.filter_congr
    intro v hv
    obtain ⟨p, hp', rfl⟩ := List.mem_map.1 hv
    obtain ⟨hpN, hpH⟩ := List.mem_filter.1 hp'
    have hnb : (pend N E P).neighbors p.1 = nbrsOf E p.1 := by
      show nbrsOf (E ++ _) _ = _
      rw [nbrsOf_append, nbrsOf_nil_of (P.map freshEdge) p.1, List.append_nil]
      intro e he
      obtain ⟨q, hq, rfl⟩ := List.mem_map.1 he
      exact ⟨fun e' => Bool.false_ne_true ((h.heavy_parent hp hpN hq e').symm.trans hpH),
        fun e' => h.old_not_new hpN (List.mem_map.2 ⟨q, hq, e'⟩)⟩
    exact hasHeavyNbr_congr hnb fun n hn => congrArg isH (pend_attrs_away N E P n (h.nbr_not_new hn))
  · rw [List.filter_eq_self]
    intro x hx
    obtain ⟨q, hq, rfl⟩ := List.mem_map.1 hx
    exact h.heavy_new hp hq

theorem foldable_map (N : List (Nat × Attrs)) (E : List (Nat × Nat × Attrs)) (z : Nat × Attrs → Nat × Attrs)
    (hz1 : ∀ p, (z p).1 = p.1) (hz2 : ∀ p, isH (z p).2 = isH p.2) : foldable ⟨N.map z, E⟩ = foldable ⟨N, E⟩ := by
  have hH : hNodes ⟨N.map z, E⟩ = hNodes ⟨N, E⟩ := by
    have := hNodes_append_fresh N [] z hz1 hz2
    simp only [List.map_nil, List.append_nil] at this
    exact this
  rw [foldable, foldable, hH]
  apply List.filter_congr
  intro v _
  exact hasHeavyNbr_congr rfl fun n _ => isH_attrs_map_nodes (g := ⟨N, E⟩) (g' := ⟨N.map z, E⟩) rfl hz1 hz2 n

/-- `bump` gives every expanded atom back what `zeroH` took. -/
theorem bumpAll_zeroH (g : LGraph) (hn : g.ids.Nodup) (ht : HTyped g) (L : List Nat) (hLn : L.Nodup) :
    bumpAll (g.nodes.map fun p => if p.1 ∈ L then zeroH p else p) (parents (atomsOf g L)) = g.nodes := by
  rw [bumpAll_eq, List.map_map]
  refine Core.map_eq_self fun p hp => ?_
  refine Prod.ext (ite_zeroH_fst L p) ?_
  simp only [Function.comp, ite_zeroH_fst]
  by_cases hpL : p.1 ∈ L
  · have := count_parents (atomsOf g L) (by rw [atomsOf_fst]; exact hLn) (p.1, g.attrs p.1)
      (List.mem_map.2 ⟨p.1, hpL, rfl⟩)
    rw [if_pos hpL, this, LGraph.attrs_of_mem hn hp, iterate_bump_zeroH p (ht p hp)]
  · rw [if_neg hpL, count_parents_notin _ _ (by rw [atomsOf_fst]; exact hpL)]; rfl

/-- `h_to_explicit` on the atoms `L` does not change the folded form: the new hydrogens are foldable and give their
parents back what `zeroH` took, and no other node changes its kind or its heavy neighbours. -/
theorem foldIn_explicitOn (g : LGraph) (hwf : g.WF) (ht : HTyped g)
    (hc : ∀ p ∈ g.nodes, isH p.2 = true → hcnt p.2 ≤ 0) (L : List Nat) (hLn : L.Nodup) (hL : ∀ v ∈ L, v ∈ g.ids) :
    (explicitOn g L).ids.Nodup ∧
      foldIn (explicitOn g L) (foldable (explicitOn g L)) = foldIn g (foldable g) := by
  have hP := plan_pend g hwf L _ (ite_zeroH_fst L)
  -- an atom that gets hydrogens has a positive count, so it is no hydrogen
  have hpar : HeavyParents (g.nodes.map fun p => if p.1 ∈ L then zeroH p else p) (plan (atomsOf g L) (maxId g)) := by
    intro q hq
    obtain ⟨_, p, hp, hp1, hp2⟩ := mem_plan _ _ q hq
    obtain ⟨v, hv, rfl⟩ := List.mem_map.1 hp
    refine ⟨_, List.mem_map.2 ⟨_, LGraph.attrs_mem (hL v hv), rfl⟩, (ite_zeroH_fst L _).trans hp1, ?_⟩
    rw [isH_ite_zeroH]
    cases hH : isH (g.attrs v)
    · rfl
    · have := hc _ (LGraph.attrs_mem (hL v hv)) hH
      simp only at hp2 this; omega
  rw [explicitOn]
  refine ⟨hP.nodup, ?_⟩
  rw [hP.foldable_eq hpar, foldable_map _ _ _ (ite_zeroH_fst L) (isH_ite_zeroH L), foldIn_pendant hP hpar, plan_snd,
    bumpAll_zeroH g hwf.1 ht L hLn]

theorem foldable_nil_of_noXH (g : LGraph) (hn : g.ids.Nodup) (hx : hasXH g = false) : foldable g = [] := by
  rw [foldable, List.filter_eq_nil_iff]
  intro h hh hv
  obtain ⟨n, hn1, hn2⟩ := List.any_eq_true.1 hv
  obtain ⟨e, he, hcase⟩ := mem_nbrsOf.1 hn1
  have hsame := isH_ends_of_noXH g hx e he
  have hH := ((hNodes_spec g hn).2 h hh).2
  rcases hcase with ⟨e1, e2⟩ | ⟨e2, e1⟩
  · rw [← e2, ← hsame, e1, hH] at hn2; cases hn2
  · rw [← e2, hsame, e1, hH] at hn2; cases hn2

/-- Without a hydrogen bonded to a heavy atom nothing but the new hydrogens is foldable, and `foldIn g [] = g`. -/
theorem hToImplicit_explicitOn (g : LGraph) (hwf : g.WF) (ht : HTyped g) (hg : NoHeavyBoundH g)
    (L : List Nat) (hLn : L.Nodup) (hL : ∀ v ∈ L, v ∈ g.ids) : hToImplicit (explicitOn g L) = g := by
  obtain ⟨hid, hfold⟩ := foldIn_explicitOn g hwf ht hg.2 L hLn hL
  rw [hToImplicit_eq_foldIn _ hid, hfold, foldable_nil_of_noXH g hwf.1 hg.1, foldIn_nil]

end SynKit.Repr
