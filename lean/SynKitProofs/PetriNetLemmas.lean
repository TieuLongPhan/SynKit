import SynKitModel.Petri
import SynKitProofs.Core.Fold
import Mathlib.Data.List.Basic
import Mathlib.Data.List.Nodup
import Mathlib.Data.List.Induction
import SynKitProofs.Core.List
/-!
Petri nets with dict markings (`Petri/net.py`) and the extended net of a pathway (`Path/realizability.py`). Firing is read
on dict markings and on place-indexed tuples (`mget_fire`, `valT_succT`); `buildNet` has the transitions of the edges
(`buildNet_transitions`) and, as places, the species and the places its edges name (`mem_buildNet_places`), off which the
initial and the target marking are both 0; runs are taken apart from the end (`runT_induction`); along a run of the extended
net the target place of an edge counts its firings (`runT_target_count`), which is what makes a valid certificate say
something, and no species count goes negative (`runT_nonneg`).
-/
namespace SynKit.Petri

section Generic
variable {κ : Type} [DecidableEq κ]

theorem mget_mset (m : Marking κ) (p q : κ) (v : Int) :
    mget (mset m p v) q = if p = q then v else mget m q := by
  induction m with
  | nil => rfl
  | cons rw rest ih =>
    obtain ⟨r, w⟩ := rw
    by_cases h : r = p
    · subst h; simp only [mset, mget, if_true]; split <;> rfl
    · simp only [mset, mget, h, if_false, ih]
      split
      · subst ‹r = q›; rw [if_neg (Ne.symm h)]
      · rfl

/-- Both halves of `fire`: a pass `m[p] = op(m.get(p, 0), w)` over a weight list acts on each place with the
total weight there, for `op` subtraction or addition. -/
theorem mget_foldl_op (op : Int → Int → Int) (h0 : ∀ a, op a 0 = a) (hop : ∀ a b c, op (op a b) c = op a (b + c))
    (d : List (κ × Int)) (m : Marking κ) (p : κ) :
    mget (d.foldl (fun m pw => mset m pw.1 (op (mget m pw.1) pw.2)) m) p = op (mget m p) (weightAt d p) := by
  induction d generalizing m with
  | nil => exact (h0 _).symm
  | cons qw rest ih =>
    simp only [List.foldl_cons, ih, mget_mset, weightAt]
    split
    · subst ‹qw.1 = p›; exact hop _ _ _
    · rw [Int.zero_add]

theorem mget_fire (t : Transition κ) (m : Marking κ) (p : κ) :
    mget (fire t m) p = mget m p - weightAt t.pre p + weightAt t.post p := by
  simp only [fire, mget_foldl_op (· + ·) Int.add_zero Int.add_assoc,
    mget_foldl_op (· - ·) Int.sub_zero fun a b c => by omega]

theorem enabled_iff (t : Transition κ) (m : Marking κ) :
    enabled t m = true ↔ ∀ pw ∈ t.pre, pw.2 ≤ mget m pw.1 := by
  simp [enabled, List.all_eq_true, Int.not_lt]

theorem mget_foldl_mset {α : Type} (xs : List α) (key : α → κ) (val : α → Int) (m : Marking κ)
    (p : κ) (v : Int) (h0 : (∀ x ∈ xs, key x ≠ p) → mget m p = v)
    (hv : ∀ x ∈ xs, key x = p → val x = v) :
    mget (xs.foldl (fun m x => mset m (key x) (val x)) m) p = v := by
  induction xs generalizing m with
  | nil => exact h0 (by simp)
  | cons x rest ih =>
    refine ih _ (fun hr => ?_) (fun y hy => hv y (List.mem_cons_of_mem _ hy))
    rw [mget_mset]
    split
    · exact hv x List.mem_cons_self ‹_›
    · exact h0 (by simpa [*] using hr)

theorem mget_of_not_mem_keys (m : Marking κ) (p : κ) (h : p ∉ m.map (·.1)) : mget m p = 0 := by
  induction m with
  | nil => rfl
  | cons qv rest ih =>
    simp only [List.map_cons, List.mem_cons, not_or] at h
    simp [mget, Ne.symm h.1, ih h.2]

theorem weightAt_of_not_mem (d : List (κ × Int)) (p : κ) (h : p ∉ d.map (·.1)) : weightAt d p = 0 := by
  induction d with
  | nil => rfl
  | cons qv rest ih =>
    simp only [List.map_cons, List.mem_cons, not_or] at h
    simp [weightAt, Ne.symm h.1, ih h.2]

theorem weightAt_of_mem (d : List (κ × Int)) (hn : (d.map (·.1)).Nodup) (p : κ) (w : Int)
    (h : (p, w) ∈ d) : weightAt d p = w := by
  induction d with
  | nil => simp at h
  | cons qv rest ih =>
    obtain ⟨q, v⟩ := qv
    simp only [List.map_cons, List.nodup_cons] at hn
    rcases List.mem_cons.1 h with h | h
    · cases h; simp [weightAt, weightAt_of_not_mem rest p hn.1]
    · have hq : q ≠ p := fun hh => hn.1 (hh ▸ List.mem_map.2 ⟨(p, w), h, rfl⟩)
      simp [weightAt, hq, ih hn.2 h]

theorem weightAt_append (d e : List (κ × Int)) (p : κ) :
    weightAt (d ++ e) p = weightAt d p + weightAt e p := by
  induction d with
  | nil => simp [weightAt]
  | cons qv rest ih => simp only [List.cons_append, weightAt, ih]; omega

theorem weightAt_nonneg (d : List (κ × Int)) (p : κ) (h : ∀ pw ∈ d, 0 ≤ pw.2) : 0 ≤ weightAt d p := by
  induction d with
  | nil => simp [weightAt]
  | cons qv rest ih =>
    have h1 := h qv List.mem_cons_self
    have h2 := ih fun pw hpw => h pw (List.mem_cons_of_mem _ hpw)
    simp only [weightAt]
    split <;> omega

theorem mget_ofTuple_toTuple (places : List κ) (m : Marking κ) (p : κ) (hp : p ∈ places) :
    mget (ofTuple places (toTuple places m)) p = mget m p := by
  induction places with
  | nil => simp at hp
  | cons q rest ih =>
    simp only [ofTuple, toTuple, List.map_cons, List.zip_cons_cons, mget]
    split
    · subst ‹q = p›; rfl
    · exact ih ((List.mem_cons.1 hp).resolve_left (Ne.symm ‹_›))

theorem mget_ofTuple_not_mem (places : List κ) (t : List Int) (p : κ) (hp : p ∉ places) :
    mget (ofTuple places t) p = 0 :=
  mget_of_not_mem_keys _ _ fun h => by
    obtain ⟨⟨a, b⟩, hab, rfl⟩ := List.mem_map.1 h
    exact hp (List.of_mem_zip hab).1

/-- `hk`: off the net's places the two markings agree (both are 0 there), so the quick exit, which looks at the
keys of the dicts, and the tuple comparison, which looks at the places, decide the same thing. -/
theorem quickEqual_iff (places : List Place) (M0 MT : Marking Place)
    (hk : ∀ p, p ∉ places → mget M0 p = mget MT p) :
    quickEqual M0 MT = true ↔ toTuple places M0 = toTuple places MT := by
  simp only [quickEqual, List.all_eq_true, beq_iff_eq, toTuple]
  constructor
  · intro h
    refine List.map_congr_left fun p _ => ?_
    by_cases hp : p ∈ MT.map (·.1) ++ M0.map (·.1)
    · exact h p hp
    · rw [List.mem_append, not_or] at hp
      rw [mget_of_not_mem_keys M0 p hp.2, mget_of_not_mem_keys MT p hp.1]
  · intro h p _
    by_cases hp : p ∈ places
    · exact List.map_inj_left.1 h p hp
    · exact hk p hp

omit [DecidableEq κ] in
theorem setTransition_tids (ts : List (Transition κ)) (t : Transition κ) :
    (setTransition ts t).map (·.tid) = Core.pushNew (ts.map (·.tid)) t.tid := by
  induction ts with
  | nil => rfl
  | cons t' rest ih =>
    by_cases h : t'.tid = t.tid
    · simp [setTransition, Core.pushNew, h]
    · simp only [setTransition, h, if_false, List.map_cons, ih, Core.pushNew, List.mem_cons, Ne.symm h, false_or]
      split <;> rfl

omit [DecidableEq κ] in
theorem setTransition_fresh (ts : List (Transition κ)) (t : Transition κ)
    (h : t.tid ∉ ts.map (·.tid)) : setTransition ts t = ts ++ [t] := by
  induction ts with
  | nil => rfl
  | cons t' rest ih =>
    simp only [List.map_cons, List.mem_cons, not_or] at h
    simp [setTransition, Ne.symm h.1, ih h.2]

theorem addPlace_transitions (n : PNet κ) (p : κ) : (n.addPlace p).transitions = n.transitions := by
  unfold PNet.addPlace; split <;> rfl

theorem foldl_addPlace_transitions (ps : List κ) (n : PNet κ) :
    (ps.foldl PNet.addPlace n).transitions = n.transitions :=
  Core.foldl_inv (P := fun n' => n'.transitions = n.transitions)
    (fun b a _ h => (addPlace_transitions b a).trans h) rfl

theorem addTransition_transitions (n : PNet κ) (t : Transition κ) :
    (n.addTransition t).transitions = setTransition n.transitions t := by
  simp only [PNet.addTransition, foldl_addPlace_transitions]

theorem mem_addPlace (n : PNet κ) (p q : κ) : q ∈ (n.addPlace p).places ↔ q ∈ n.places ∨ q = p := by
  unfold PNet.addPlace
  split
  · exact ⟨Or.inl, fun h => h.elim id fun e => e ▸ List.contains_iff_mem.1 ‹_›⟩
  · simp

theorem mem_foldl_addPlace (ps : List κ) (n : PNet κ) (q : κ) :
    q ∈ (ps.foldl PNet.addPlace n).places ↔ q ∈ n.places ∨ q ∈ ps :=
  (Core.foldl_or_iff (Q := fun n => q ∈ n.places) (C := (q = ·)) fun n p => mem_addPlace n p q).trans
    (or_congr_right ⟨fun ⟨_, h, e⟩ => e ▸ h, fun h => ⟨q, h, rfl⟩⟩)

theorem mem_addTransition_places (n : PNet κ) (t : Transition κ) (q : κ) :
    q ∈ (n.addTransition t).places ↔ q ∈ n.places ∨ q ∈ t.pre.map (·.1) ∨ q ∈ t.post.map (·.1) := by
  simp only [PNet.addTransition, mem_foldl_addPlace, List.mem_append]

end Generic

def buildStep (n : PNet Place) (r : Rxn) : PNet Place :=
  ((n.addPlace (Place.ext r.id)).addPlace (Place.target r.id)).addTransition (transitionOf r)

theorem buildNet_eq (P : Pathway) :
    buildNet P = P.edges.foldl buildStep ((P.vertices.map Place.sp).foldl PNet.addPlace {}) := by
  rw [List.foldl_map]; rfl

theorem buildStep_transitions (n : PNet Place) (r : Rxn) :
    (buildStep n r).transitions = setTransition n.transitions (transitionOf r) := by
  simp only [buildStep, addTransition_transitions, addPlace_transitions]

theorem buildNet_tids_nodup (P : Pathway) : ((buildNet P).transitions.map (·.tid)).Nodup := by
  rw [buildNet_eq]
  refine Core.foldl_inv (P := fun n : PNet Place => (n.transitions.map (·.tid)).Nodup)
    (fun n r _ h => by rw [buildStep_transitions, setTransition_tids]; exact Core.nodup_pushNew h) ?_
  rw [foldl_addPlace_transitions]
  exact List.nodup_nil

/-- `h` holds of every input: the edges come from a dict. -/
theorem buildNet_transitions (P : Pathway) (h : (P.edges.map (·.id)).Nodup) :
    (buildNet P).transitions = P.edges.map transitionOf := by
  have := Core.foldl_proj_eq_append (π := (·.transitions)) (g := transitionOf) (r := fun y x => y.tid ≠ x.tid)
    (l := P.edges) (f := buildStep) (fun n r _ hy => ?_) ((P.vertices.map Place.sp).foldl PNet.addPlace {})
    (fun _ _ y hy => ?_) (List.pairwise_map.2 (List.pairwise_map.1 h))
  · rwa [foldl_addPlace_transitions, ← buildNet_eq] at this
  · rw [buildStep_transitions, setTransition_fresh]
    intro hm
    obtain ⟨y, hy', e⟩ := List.mem_map.1 hm
    exact hy y hy' e
  · rw [foldl_addPlace_transitions] at hy
    cases hy

theorem mem_buildNet_places (P : Pathway) (q : Place) :
    q ∈ (buildNet P).places ↔ q ∈ P.vertices.map Place.sp ∨ ∃ r ∈ P.edges,
      q = Place.ext r.id ∨ q = Place.target r.id ∨
        q ∈ (transitionOf r).pre.map (·.1) ∨ q ∈ (transitionOf r).post.map (·.1) := by
  rw [buildNet_eq]
  refine (Core.foldl_or_iff (f := buildStep) (Q := fun n => q ∈ n.places) fun n r => ?_).trans
    (or_congr_left ((mem_foldl_addPlace _ {} q).trans (or_iff_right List.not_mem_nil)))
  simp only [buildStep, mem_addTransition_places, mem_addPlace, or_assoc]

theorem buildNet_places_edge (P : Pathway) (r : Rxn) (hr : r ∈ P.edges) :
    Place.ext r.id ∈ (buildNet P).places ∧ Place.target r.id ∈ (buildNet P).places :=
  ⟨(mem_buildNet_places P _).2 (Or.inr ⟨r, hr, Or.inl rfl⟩),
    (mem_buildNet_places P _).2 (Or.inr ⟨r, hr, Or.inr (Or.inl rfl)⟩)⟩

/-- Both markings are built the same way — species set to 0, then one place per edge set to its
flow — so a place that is not among those of the edges holds 0. -/
theorem mget_marking_zero (vs : List String) (es : List Rxn) (key : Rxn → Place) (val : Rxn → Int)
    (p : Place) (hp : ∀ r ∈ es, key r ≠ p) :
    mget (es.foldl (fun m r => mset m (key r) (val r))
      (vs.foldl (fun m v => mset m (Place.sp v) 0) ([] : Marking Place))) p = 0 :=
  mget_foldl_mset _ _ _ _ _ 0
    (fun _ => mget_foldl_mset _ _ _ [] _ 0 (fun _ => rfl) (fun _ _ _ => rfl))
    (fun r hr h => absurd h (hp r hr))

theorem initialMarking_sp (P : Pathway) (v : String) : mget (initialMarking P) (Place.sp v) = 0 :=
  mget_marking_zero _ _ _ _ _ fun _ _ => nofun

theorem initialMarking_target (P : Pathway) (e : String) :
    mget (initialMarking P) (Place.target e) = 0 :=
  mget_marking_zero _ _ _ _ _ fun _ _ => nofun

theorem targetMarking_sp (P : Pathway) (v : String) : mget (targetMarking P) (Place.sp v) = 0 :=
  mget_marking_zero _ _ _ _ _ fun _ _ => nofun

theorem targetMarking_target (P : Pathway) (r : Rxn) (hr : r ∈ P.edges) :
    mget (targetMarking P) (Place.target r.id) = P.flowOf r.id :=
  mget_foldl_mset _ _ _ _ _ _ (fun h => absurd rfl (h r hr))
    (fun _ _ h => by rw [Place.target.inj h])

theorem markings_off_places (P : Pathway) (p : Place) (hp : p ∉ (buildNet P).places) :
    mget (initialMarking P) p = mget (targetMarking P) p := by
  rw [initialMarking, targetMarking, mget_marking_zero, mget_marking_zero]
  · exact fun r hr h => hp (h ▸ (buildNet_places_edge P r hr).2)
  · exact fun r hr h => hp (h ▸ (buildNet_places_edge P r hr).1)

def valT (net : PNet Place) (m : Tuple) (p : Place) : Int := mget (ofTuple net.places m) p

def succT (net : PNet Place) (m : Tuple) (t : Transition Place) : Tuple :=
  toTuple net.places (fire t (ofTuple net.places m))

theorem valT_toTuple (net : PNet Place) (m : Marking Place) (p : Place) (hp : p ∈ net.places) :
    valT net (toTuple net.places m) p = mget m p := mget_ofTuple_toTuple _ _ _ hp

theorem valT_of_not_mem (net : PNet Place) (m : Tuple) (p : Place) (h : p ∉ net.places) :
    valT net m p = 0 := mget_ofTuple_not_mem _ _ _ h

theorem valT_toTuple_zero (net : PNet Place) (m : Marking Place) (p : Place) (h : mget m p = 0) :
    valT net (toTuple net.places m) p = 0 := by
  by_cases hp : p ∈ net.places
  · rw [valT_toTuple _ _ _ hp, h]
  · exact valT_of_not_mem _ _ _ hp

theorem valT_succT (net : PNet Place) (m : Tuple) (t : Transition Place) (p : Place)
    (hp : p ∈ net.places) :
    valT net (succT net m t) p = valT net m p - weightAt t.pre p + weightAt t.post p := by
  rw [succT, valT_toTuple net _ p hp, mget_fire]; rfl

theorem find?_some {net : PNet Place} {tid : String} {t : Transition Place}
    (h : net.find? tid = some t) : t ∈ net.transitions ∧ t.tid = tid :=
  ⟨List.mem_of_find?_eq_some h, by simpa using List.find?_some h⟩

theorem find?_of_mem {net : PNet Place} (hn : (net.transitions.map (·.tid)).Nodup)
    {t : Transition Place} (ht : t ∈ net.transitions) : net.find? t.tid = some t :=
  Core.find?_of_nodup_map hn ht rfl

theorem stepT_some {net : PNet Place} {m m' : Tuple} {tid : String} (h : stepT net m tid = some m') :
    ∃ t ∈ net.transitions, t.tid = tid ∧ enabled t (ofTuple net.places m) = true ∧
      succT net m t = m' := by
  unfold stepT at h
  split at h
  · cases h
  · split at h
    · exact ⟨_, (find?_some ‹_›).1, (find?_some ‹_›).2, ‹_›, Option.some.inj h⟩
    · cases h

theorem stepT_of_mem {net : PNet Place} (hn : (net.transitions.map (·.tid)).Nodup) {m : Tuple}
    {t : Transition Place} (ht : t ∈ net.transitions) (hen : enabled t (ofTuple net.places m) = true) :
    stepT net m t.tid = some (succT net m t) := by
  simp only [stepT, find?_of_mem hn ht, hen, if_true, succT]

theorem runT_append (net : PNet Place) (m : Tuple) (a b : List String) :
    runT net m (a ++ b) = (runT net m a).bind fun m' => runT net m' b := by
  induction a generalizing m with
  | nil => rfl
  | cons x rest ih =>
    simp only [List.cons_append, runT]
    cases stepT net m x with
    | none => rfl
    | some m' => exact ih m'

theorem runT_snoc {net : PNet Place} (hn : (net.transitions.map (·.tid)).Nodup) {s0 m : Tuple}
    {seq : List String} {t : Transition Place} (ht : t ∈ net.transitions)
    (hrun : runT net s0 seq = some m) (hen : enabled t (ofTuple net.places m) = true) :
    runT net s0 (seq ++ [t.tid]) = some (succT net m t) := by
  simp [runT_append, hrun, runT, stepT_of_mem hn ht hen]

theorem runT_induction {net : PNet Place} {s0 : Tuple} {motive : List String → Tuple → Prop}
    (nil : motive [] s0)
    (snoc : ∀ σ m t, runT net s0 σ = some m → motive σ m → t ∈ net.transitions →
      enabled t (ofTuple net.places m) = true → motive (σ ++ [t.tid]) (succT net m t))
    {σ : List String} {m : Tuple} (h : runT net s0 σ = some m) : motive σ m := by
  induction σ using List.reverseRecOn generalizing m with
  | nil => cases h; exact nil
  | append_singleton σ tid ih =>
    rw [runT_append] at h
    obtain ⟨m', hm', hstep⟩ := Option.bind_eq_some_iff.1 h
    simp only [runT] at hstep
    split at hstep
    · cases hstep
    · obtain ⟨t, ht, rfl, hen, rfl⟩ := stepT_some ‹_›
      cases hstep
      exact snoc σ m' t hm' (ih hm') ht hen

theorem weightAt_sideWeights_nonsp (d : Dict Nat) (p : Place) (h : ∀ s, p ≠ Place.sp s) :
    weightAt (sideWeights d) p = 0 := by
  apply weightAt_of_not_mem
  simp only [sideWeights, List.map_map, List.mem_map, not_exists, not_and]
  exact fun kv _ hk => h kv.1 hk.symm

theorem transitionOf_target (r : Rxn) (e : String) :
    weightAt (transitionOf r).pre (Place.target e) = 0 ∧
    weightAt (transitionOf r).post (Place.target e) = if r.id = e then 1 else 0 := by
  simp [transitionOf, weightAt_append, weightAt_sideWeights_nonsp, weightAt]

theorem transitionOf_sp (r : Rxn) (v : String) :
    weightAt (transitionOf r).pre (Place.sp v) = weightAt (sideWeights r.reactants) (Place.sp v) ∧
    weightAt (transitionOf r).post (Place.sp v) = weightAt (sideWeights r.products) (Place.sp v) := by
  simp [transitionOf, weightAt_append, weightAt]

theorem runT_target_count (P : Pathway) (hid : (P.edges.map (·.id)).Nodup) (e : Rxn) (he : e ∈ P.edges)
    (seq : List String) (m m' : Tuple) (h : runT (buildNet P) m seq = some m') :
    valT (buildNet P) m' (Place.target e.id) =
      valT (buildNet P) m (Place.target e.id) + (seq.count e.id : Int) := by
  refine runT_induction (motive := fun σ m' => valT (buildNet P) m' (Place.target e.id) =
    valT (buildNet P) m (Place.target e.id) + (σ.count e.id : Int)) (by simp) (fun σ m1 t _ ih ht _ => ?_) h
  rw [buildNet_transitions P hid] at ht
  obtain ⟨r, _, rfl⟩ := List.mem_map.1 ht
  rw [valT_succT _ _ _ _ (buildNet_places_edge P e he).2, ih, (transitionOf_target r e.id).1,
    (transitionOf_target r e.id).2, List.count_append]
  show _ = _ + (((σ.count e.id + [r.id].count e.id : Nat)) : Int)
  by_cases hre : r.id = e.id <;> simp [hre]
  omega

theorem sideWeights_nonneg (d : Dict Nat) : ∀ pw ∈ sideWeights d, 0 ≤ pw.2 := by
  intro pw h
  obtain ⟨kv, _, rfl⟩ := List.mem_map.1 h
  exact Int.natCast_nonneg _

theorem sideWeights_keys_nodup (d : Dict Nat) (h : d.keys.Nodup) : ((sideWeights d).map (·.1)).Nodup := by
  have h1 : (sideWeights d).map (·.1) = ((d.filter fun kv => decide (0 < kv.2)).map (·.1)).map Place.sp := by
    simp [sideWeights, List.map_map, Function.comp_def]
  rw [h1]
  exact (List.Nodup.sublist (List.filter_sublist.map _) h).map fun a b hab => Place.sp.inj hab

/-- Firing an enabled transition of the extended net leaves no species count negative: the input
weight at a species is the dict entry, which enabledness compares with the count. -/
theorem succT_nonneg (P : Pathway) (hid : (P.edges.map (·.id)).Nodup)
    (hkeys : ∀ r ∈ P.edges, r.reactants.keys.Nodup) (m : Tuple) (t : Transition Place)
    (ht : t ∈ (buildNet P).transitions) (hen : enabled t (ofTuple (buildNet P).places m) = true)
    (v : String) (h0 : 0 ≤ valT (buildNet P) m (Place.sp v)) :
    0 ≤ valT (buildNet P) (succT (buildNet P) m t) (Place.sp v) := by
  by_cases hp : Place.sp v ∈ (buildNet P).places
  · rw [buildNet_transitions P hid] at ht
    obtain ⟨r, hr, rfl⟩ := List.mem_map.1 ht
    rw [valT_succT _ _ _ _ hp, (transitionOf_sp r v).1, (transitionOf_sp r v).2]
    have hpost := weightAt_nonneg _ (Place.sp v) (sideWeights_nonneg r.products)
    have hpre : weightAt (sideWeights r.reactants) (Place.sp v) ≤ valT (buildNet P) m (Place.sp v) := by
      by_cases hk : Place.sp v ∈ (sideWeights r.reactants).map (·.1)
      · obtain ⟨⟨q, w⟩, hpw, rfl⟩ := List.mem_map.1 hk
        rw [weightAt_of_mem _ (sideWeights_keys_nodup _ (hkeys r hr)) _ w hpw]
        exact (enabled_iff _ _).1 hen (Place.sp v, w) (List.mem_append_left _ hpw)
      · rw [weightAt_of_not_mem _ _ hk]; exact h0
    omega
  · rw [valT_of_not_mem _ _ _ hp]; exact Int.le_refl 0

theorem runT_nonneg (P : Pathway) (hid : (P.edges.map (·.id)).Nodup)
    (hkeys : ∀ r ∈ P.edges, r.reactants.keys.Nodup) (seq : List String) (m m' : Tuple)
    (h : runT (buildNet P) m seq = some m') (h0 : ∀ v, 0 ≤ valT (buildNet P) m (Place.sp v)) :
    ∀ v, 0 ≤ valT (buildNet P) m' (Place.sp v) :=
  runT_induction (motive := fun _ m' => ∀ v, 0 ≤ valT (buildNet P) m' (Place.sp v)) h0
    (fun _ m1 t _ ih ht hen v => succT_nonneg P hid hkeys m1 t ht hen v (ih v)) h

end SynKit.Petri
