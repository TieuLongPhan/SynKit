import SynKitModel.ViewsClaim
import SynKitProofs.ViewsClaimBasic
import SynKitProofs.ViewsLemmas.Species
/-! # C16: the species-graph importer on degraded views (claim condition ⇒ round trip)

The raw importer returns `N` whenever the `Sp.MStep`s of its first pass say about `N` what `Sp.MSpec` asks
(`ofSpeciesGraphRaw_of_mspec`, in `ViewsLemmas/Species.lean`). On the exported graph they do (`mspec_export`), and
`arcOK` carries `Sp.MSpec` over to a degraded graph (`mspec_of_all2`). The importer of `Views.lean`
is the raw importer on `toRaw` (`ofSpeciesGraphRaw_toRaw`), so its round trip is the case "not degraded". Then:
`ArcsUniform` / `AllOnes` give the claim for the legacy-coefficient degradations (`claim_mapEdges` and its three
instances); `via` handed over as a bare id or not at all (`ofSpeciesGraphRaw_viaScalar`, `ofSpeciesGraphRaw_dropVia`).
-/
namespace SynKit.Views.Raw

/-- The arc map of `SGraph.toRaw` (there an anonymous function), named. -/
def rawArc (a : SEdge) : REdge :=
  { src := a.src, dst := a.dst, via := .seq a.via, rules := .set a.rules,
    stoichR := some a.stoichR, stoichP := some a.stoichP, rMap := some a.rMap, pMap := some a.pMap }

theorem sToRaw_edges (g : SGraph) : g.toRaw.edges = g.edgesIter.map rawArc := rfl
theorem sToRaw_nodes (g : SGraph) : g.toRaw.nodes = g.nodes := rfl
theorem sLabelOf_toRaw (g : SGraph) (i : String) : g.toRaw.labelOf i = g.labelOf i := rfl

theorem coeffFor_some (m : Dict Nat) (l : Option Nat) (eid : String) :
    coeffFor (some m) l eid = (m.get? eid).getD (l.getD 1) := by
  show (match m.get? eid with | some c => c | none => l.getD 1) = _
  cases m.get? eid <;> rfl

theorem coeffFor_of_get (m : Dict Nat) (l : Option Nat) (eid : String) (v : Nat) (h : m.get? eid = some v) :
    coeffFor (some m) l eid = v := by
  rw [coeffFor_some, h]
  rfl

theorem coeffFor_none_none (eid : String) : coeffFor none none eid = 1 := rfl

theorem coeffFor_none_some (c : Nat) (eid : String) : coeffFor none (some c) eid = c := rfl

/-- A coefficient survives the deletion of its map when the fallback (legacy value, else 1) is the same number. -/
theorem coeffFor_drop (drop : Bool) (m : Dict Nat) (l : Option Nat) (eid : String) (v : Nat)
    (hm : m.get? eid = some v) (hl : l.getD 1 = v) :
    coeffFor (if drop = true then none else some m) l eid = v := by
  cases drop
  · exact coeffFor_of_get m l eid v hm
  · exact hl

theorem eids_eq (genArc : GenArc) (a : REdge) : a.eids genArc = a.viaList?.getD [genArc a.src a.dst] := by
  unfold REdge.eids REdge.viaList?
  rcases a.via with _ | (_ | ⟨x, xs⟩) | x
  · rfl
  · rfl
  · rfl
  · show (if x = "" then _ else _) = (if x = "" then none else some [x]).getD _
    split <;> rfl

theorem eids_of_viaList (genArc : GenArc) (a : REdge) (xs : List String) (h : a.viaList? = some xs) :
    a.eids genArc = xs := by
  rw [eids_eq, h]; rfl

theorem viaList_rawArc (a : SEdge) (h : a.via ≠ []) : (rawArc a).viaList? = some a.via := by
  unfold REdge.viaList? rawArc
  cases hv : a.via with
  | nil => exact absurd hv h
  | cons x xs => rfl

theorem mspec_export (genArc : GenArc) (N : Net) (g : SGraph) (hg : Sp.ExportFacts N g) :
    Sp.MSpec N (g.toRaw.edges.flatMap (mstepsOfRaw genArc g.toRaw)) := by
  have hsteps : ∀ a ∈ g.edges, mstepsOfRaw genArc g.toRaw (rawArc a) = a.via.map fun eid =>
      ⟨eid, a.src, a.dst, coeffFor (some a.rMap) (some a.stoichR) eid, coeffFor (some a.pMap) (some a.stoichP) eid,
        a.rules⟩ := by
    intro a ha
    unfold mstepsOfRaw
    rw [eids_of_viaList genArc _ _ (viaList_rawArc a (hg.arcInv.via_ne a ha)), sLabelOf_toRaw, sLabelOf_toRaw,
      hg.label, hg.label]
    rfl
  constructor
  · intro m hm
    obtain ⟨a', ha', hma⟩ := List.mem_flatMap.1 hm
    obtain ⟨a, ha, rfl⟩ := List.mem_map.1 (sToRaw_edges g ▸ ha')
    have hae := (hg.iter a).1 ha
    rw [hsteps a hae] at hma
    obtain ⟨eid, h1, rfl⟩ := List.mem_map.1 hma
    obtain ⟨e, he, hid, rc, pc, hr, hp, er, ep⟩ := hg.coeff hae h1
    exact ⟨e, he, hid, by rw [coeffFor_of_get _ _ _ _ hr]; exact er, by rw [coeffFor_of_get _ _ _ _ hp]; exact ep⟩
  · intro e he r hr p hp
    have ht : (⟨r.1, p.1, e.id, e.rule, r.2, p.2⟩ : Sp.Step) ∈ Sp.allSteps N :=
      (Sp.mem_allSteps N _).2 ⟨e, he, rfl, rfl, hr, hp⟩
    obtain ⟨a, ha, h1, h2⟩ := hg.arcInv.cover _ ht
    have hvia : e.id ∈ a.via := (hg.arcInv.via_iff a ha e.id).2 ⟨_, ht, h1.symm, h2.symm, rfl⟩
    exact ⟨_, List.mem_flatMap.2 ⟨rawArc a, sToRaw_edges g ▸ List.mem_map_of_mem ((hg.iter a).2 ha),
      hsteps a ha ▸ List.mem_map_of_mem hvia⟩, rfl, h1, h2⟩

theorem mspec_toRaw (b : Bool) (N : Net) (genArc : GenArc) (hN : WfNet N) :
    Sp.MSpec N ((toSpeciesGraph b N).toRaw.edges.flatMap (mstepsOfRaw genArc (toSpeciesGraph b N).toRaw)) :=
  mspec_export genArc N _ (Sp.export_facts b N hN)

/-- `MSpec` does not look at the rules. -/
def Same5 (m m' : Sp.MStep) : Prop :=
  m.eid = m'.eid ∧ m.sr = m'.sr ∧ m.sp = m'.sp ∧ m.cr = m'.cr ∧ m.cp = m'.cp

theorem mspec_transfer (N : Net) (M M' : List Sp.MStep)
    (h1 : ∀ m' ∈ M', ∃ m ∈ M, Same5 m m') (h2 : ∀ m ∈ M, ∃ m' ∈ M', Same5 m m')
    (hM : Sp.MSpec N M) : Sp.MSpec N M' := by
  constructor
  · intro m' hm'
    obtain ⟨m, hm, a1, a2, a3, a4, a5⟩ := h1 m' hm'
    obtain ⟨e, he, b1, b2, b3⟩ := hM.sound m hm
    exact ⟨e, he, b1.trans a1, a2 ▸ a4 ▸ b2, a3 ▸ a5 ▸ b3⟩
  · intro e he r hr p hp
    obtain ⟨m, hm, b1, b2, b3⟩ := hM.cover e he r hr p hp
    obtain ⟨m', hm', a1, a2, a3, _, _⟩ := h2 m hm
    exact ⟨m', hm', a1.symm.trans b1, a2.symm.trans b2, a3.symm.trans b3⟩

theorem arcOK_iff (g g' : RSGraph) (a a' : REdge) : arcOK g g' a a' = true ↔
    g'.labelOf a'.src = g.labelOf a.src ∧ g'.labelOf a'.dst = g.labelOf a.dst ∧
    ∃ xs ys, a.viaList? = some xs ∧ a'.viaList? = some ys ∧ (∀ x ∈ xs, x ∈ ys) ∧ (∀ y ∈ ys, y ∈ xs) ∧
      ∀ eid ∈ xs, coeffFor a'.rMap a'.stoichR eid = coeffFor a.rMap a.stoichR eid ∧
        coeffFor a'.pMap a'.stoichP eid = coeffFor a.pMap a.stoichP eid := by
  unfold arcOK
  cases a.viaList? with
  | none => simp
  | some xs =>
    cases a'.viaList? with
    | none => simp
    | some ys =>
      simp only [Bool.and_eq_true, decide_eq_true_eq, List.all_eq_true, Option.some.injEq,
        exists_and_left, exists_eq_left']
      constructor
      · rintro ⟨⟨h1, h2⟩, ⟨h3, h4⟩, h5⟩; exact ⟨h1, h2, h3, h4, h5⟩
      · rintro ⟨h1, h2, h3, h4, h5⟩; exact ⟨⟨h1, h2⟩, ⟨h3, h4⟩, h5⟩

/-- Both graphs take one step per reaction id of the arc; `arcOK` says the ids are the same set and the two steps
under an id agree (rules aside). -/
theorem arcOK_steps (genArc genArc' : GenArc) (g g' : RSGraph) (a a' : REdge) (h : arcOK g g' a a' = true) :
    (∀ m' ∈ mstepsOfRaw genArc' g' a', ∃ m ∈ mstepsOfRaw genArc g a, Same5 m m') ∧
    (∀ m ∈ mstepsOfRaw genArc g a, ∃ m' ∈ mstepsOfRaw genArc' g' a', Same5 m m') := by
  obtain ⟨hs, hd, xs, ys, hxs, hys, hxy, hyx, hco⟩ := (arcOK_iff g g' a a').1 h
  unfold mstepsOfRaw
  rw [eids_of_viaList genArc a xs hxs, eids_of_viaList genArc' a' ys hys]
  have hsame : ∀ eid ∈ xs, Same5
      ⟨eid, g.labelOf a.src, g.labelOf a.dst, coeffFor a.rMap a.stoichR eid, coeffFor a.pMap a.stoichP eid,
        a.rules.toList⟩
      ⟨eid, g'.labelOf a'.src, g'.labelOf a'.dst, coeffFor a'.rMap a'.stoichR eid, coeffFor a'.pMap a'.stoichP eid,
        a'.rules.toList⟩ :=
    fun eid he => ⟨rfl, hs.symm, hd.symm, (hco eid he).1.symm, (hco eid he).2.symm⟩
  constructor
  · intro m' hm'
    obtain ⟨eid, he, rfl⟩ := List.mem_map.1 hm'
    exact ⟨_, List.mem_map_of_mem (hyx eid he), hsame eid (hyx eid he)⟩
  · intro m hm
    obtain ⟨eid, he, rfl⟩ := List.mem_map.1 hm
    exact ⟨_, List.mem_map_of_mem (hxy eid he), hsame eid he⟩

theorem mspec_of_all2 (N : Net) (g g' : RSGraph) (genArc genArc' : GenArc)
    (h : all2 (arcOK g g') g.edges g'.edges = true)
    (hM : Sp.MSpec N (g.edges.flatMap (mstepsOfRaw genArc g))) :
    Sp.MSpec N (g'.edges.flatMap (mstepsOfRaw genArc' g')) := by
  apply mspec_transfer N _ _ ?_ ?_ hM
  · intro m' hm'
    obtain ⟨a', ha', hma'⟩ := List.mem_flatMap.1 hm'
    obtain ⟨a, ha, hok⟩ := all2_mem_right _ _ _ h a' ha'
    obtain ⟨m, hm, hs⟩ := (arcOK_steps genArc genArc' g g' a a' hok).1 m' hma'
    exact ⟨m, List.mem_flatMap.2 ⟨a, ha, hm⟩, hs⟩
  · intro m hm
    obtain ⟨a, ha, hma⟩ := List.mem_flatMap.1 hm
    obtain ⟨a', ha', hok⟩ := all2_mem_left _ _ _ h a ha
    obtain ⟨m', hm', hs⟩ := (arcOK_steps genArc genArc' g g' a a' hok).2 m hma
    exact ⟨m', List.mem_flatMap.2 ⟨a', ha', hm'⟩, hs⟩

theorem speciesRawClaim_iff (b : Bool) (N : Net) (g' : RSGraph) : speciesRawClaim b N g' = true ↔
    WfNet N ∧ TwoSided N ∧
      all2 (arcOK (toSpeciesGraph b N).toRaw g') (toSpeciesGraph b N).toRaw.edges g'.edges = true := by
  unfold speciesRawClaim
  rw [Bool.and_eq_true, Bool.and_eq_true, wfNetB_iff, twoSidedB_iff, and_assoc]

def Uniform (L : List Sp.Step) : Prop :=
  ∀ t ∈ L, ∀ t' ∈ L, t.r = t'.r → t.p = t'.p → t.rc = t'.rc ∧ t.pc = t'.pc

/-- Under `Uniform` the running minimum `stoich_r` / `stoich_p` of an arc never moves: it is the coefficient of
every step on the arc. -/
def Leg (L : List Sp.Step) (es : List SEdge) : Prop :=
  ∀ a ∈ es, ∀ t ∈ L, t.r = a.src → t.p = a.dst → a.stoichR = t.rc ∧ a.stoichP = t.pc

theorem leg_fold (L : List Sp.Step) (hU : Uniform L) : Leg L (L.foldl Sp.stepE []) := by
  intro a ha t ht h1 h2
  -- each legacy value is the least coefficient over the steps of the arc's pair, so that of one of them: by `Uniform`, of all
  have G := Sp.grouped_arcs L
  obtain ⟨t0, ht0, e0⟩ := (G.isMinOf SEdge.stoichR Sp.Step.rc (fun _ => rfl) (fun _ _ => rfl) a ha).1
  obtain ⟨t1, ht1, e1⟩ := (G.isMinOf SEdge.stoichP Sp.Step.pc (fun _ => rfl) (fun _ _ => rfl) a ha).1
  obtain ⟨ht0, k1, k2⟩ := Sp.mem_group_arc.1 ht0
  obtain ⟨ht1, l1, l2⟩ := Sp.mem_group_arc.1 ht1
  exact ⟨e0.symm.trans (hU t0 ht0 t ht (k1.trans h1.symm) (k2.trans h2.symm)).1,
    e1.symm.trans (hU t1 ht1 t ht (l1.trans h1.symm) (l2.trans h2.symm)).2⟩

theorem uniform_allSteps (N : Net) (hu : ArcsUniform N) : Uniform (Sp.allSteps N) := by
  intro t ht t' ht' h1 h2
  obtain ⟨e, he, _, _, hr, hp⟩ := (Sp.mem_allSteps N t).1 ht
  obtain ⟨e', he', _, _, hr', hp'⟩ := (Sp.mem_allSteps N t').1 ht'
  exact hu e he e' he' _ hr _ hp _ hr' _ hp' h1 h2

theorem legacy_eq_map {N : Net} {g : SGraph} (hg : Sp.ExportFacts N g) (hu : ArcsUniform N) :
    ∀ a ∈ g.edges, ∀ eid ∈ a.via, a.rMap.get? eid = some a.stoichR ∧ a.pMap.get? eid = some a.stoichP := by
  intro a ha eid heid
  have hL : Leg (Sp.allSteps N) g.edges := by
    rw [hg.edges_eq]; exact leg_fold _ (uniform_allSteps N hu)
  obtain ⟨t, ht, k1, k2, _, m1, m2⟩ := hg.arcInv.of_via ha heid
  obtain ⟨l1, l2⟩ := hL a ha t ht k1 k2
  rw [m1, m2, l1, l2]
  exact ⟨rfl, rfl⟩

theorem labelOf_mapEdges (φ : REdge → REdge) (g : RSGraph) (i : String) :
    (g.mapEdges φ).labelOf i = g.labelOf i := rfl

theorem claim_mapEdges (b : Bool) (N : Net) (hN : WfNet N) (h2 : TwoSided N) (φ : REdge → REdge)
    (hsrc : ∀ a, (φ a).src = a.src) (hdst : ∀ a, (φ a).dst = a.dst) (hvia : ∀ a, (φ a).via = a.via)
    (hco : ∀ s ∈ (toSpeciesGraph b N).edges, ∀ eid ∈ s.via,
      coeffFor (φ (rawArc s)).rMap (φ (rawArc s)).stoichR eid = coeffFor (some s.rMap) (some s.stoichR) eid ∧
      coeffFor (φ (rawArc s)).pMap (φ (rawArc s)).stoichP eid = coeffFor (some s.pMap) (some s.stoichP) eid) :
    speciesRawClaim b N ((toSpeciesGraph b N).toRaw.mapEdges φ) = true := by
  rw [speciesRawClaim_iff]
  refine ⟨hN, h2, ?_⟩
  have hg := Sp.export_facts b N hN
  generalize toSpeciesGraph b N = g at hg hco
  show all2 (arcOK g.toRaw (g.toRaw.mapEdges φ)) g.toRaw.edges (g.toRaw.edges.map φ) = true
  apply all2_map_self
  intro a' ha'
  rw [sToRaw_edges] at ha'
  obtain ⟨s, hs, rfl⟩ := List.mem_map.1 ha'
  have hs' := (hg.iter s).1 hs
  have hv := viaList_rawArc s (hg.arcInv.via_ne s hs')
  have hv' : (φ (rawArc s)).viaList? = some s.via := by
    rw [← hv]; unfold REdge.viaList?; rw [hvia]
  rw [arcOK_iff]
  refine ⟨by rw [labelOf_mapEdges, hsrc], by rw [labelOf_mapEdges, hdst], s.via, s.via, hv, hv',
    fun _ h => h, fun _ h => h, ?_⟩
  intro eid heid
  exact hco s hs' eid heid

theorem claim_dropMaps (b : Bool) (N : Net) (hN : WfNet N) (h2 : TwoSided N) (hu : ArcsUniform N)
    (r p : Bool) :
    speciesRawClaim b N ((toSpeciesGraph b N).toRaw.mapEdges (REdge.dropMaps r p)) = true := by
  apply claim_mapEdges b N hN h2 (REdge.dropMaps r p) (fun _ => rfl) (fun _ => rfl) (fun _ => rfl)
  intro s hs eid heid
  obtain ⟨k1, k2⟩ := legacy_eq_map (Sp.export_facts b N hN) hu s hs eid heid
  rw [coeffFor_of_get _ _ _ _ k1, coeffFor_of_get _ _ _ _ k2]
  exact ⟨coeffFor_drop r _ _ _ _ k1 rfl, coeffFor_drop p _ _ _ _ k2 rfl⟩

theorem claim_dropLegacy (b : Bool) (N : Net) (hN : WfNet N) (h2 : TwoSided N) :
    speciesRawClaim b N ((toSpeciesGraph b N).toRaw.mapEdges REdge.dropLegacy) = true := by
  apply claim_mapEdges b N hN h2 REdge.dropLegacy (fun _ => rfl) (fun _ => rfl) (fun _ => rfl)
  intro s hs eid heid
  obtain ⟨_, _, _, rc, pc, k1, k2, _, _⟩ := (Sp.export_facts b N hN).coeff hs heid
  rw [coeffFor_of_get _ _ _ _ k1, coeffFor_of_get _ _ _ _ k2]
  exact ⟨coeffFor_of_get _ _ _ _ k1, coeffFor_of_get _ _ _ _ k2⟩

theorem claim_dropBoth (b : Bool) (N : Net) (hN : WfNet N) (h2 : TwoSided N) (h1 : AllOnes N)
    (r p : Bool) :
    speciesRawClaim b N
      ((toSpeciesGraph b N).toRaw.mapEdges fun a => (a.dropMaps r p).dropLegacy) = true := by
  apply claim_mapEdges b N hN h2 (fun a => (a.dropMaps r p).dropLegacy) (fun _ => rfl) (fun _ => rfl)
    (fun _ => rfl)
  intro s hs eid heid
  obtain ⟨e, he, _, rc, pc, k1, k2, e1, e2⟩ := (Sp.export_facts b N hN).coeff hs heid
  rw [coeffFor_of_get _ _ _ _ k1, coeffFor_of_get _ _ _ _ k2]
  exact ⟨coeffFor_drop r _ none _ _ k1 ((h1 e he).1 _ e1).symm, coeffFor_drop p _ none _ _ k2 ((h1 e he).2 _ e2).symm⟩

/-- `via = [""]` is excluded: the bare `""` is falsy in Python and gets a synthetic id, the list does not. -/
theorem eids_viaScalar (genArc : GenArc) (a : REdge) (h : a.via ≠ .seq [""]) :
    a.viaScalar.eids genArc = a.eids genArc := by
  unfold REdge.viaScalar REdge.eids
  cases hv : a.via with
  | absent => rfl
  | scalar x => rfl
  | seq l =>
    match l, hv with
    | [], _ => rfl
    | [x], hv =>
      have hx : x ≠ "" := fun hx => h (by rw [hv, hx])
      simp only [hx, if_false]
    | x :: y :: zs, _ => rfl

theorem mstepsOfRaw_viaScalar (genArc : GenArc) (g : RSGraph) (a : REdge) (h : a.via ≠ .seq [""]) :
    mstepsOfRaw genArc (g.mapEdges REdge.viaScalar) a.viaScalar = mstepsOfRaw genArc g a := by
  unfold mstepsOfRaw
  rw [eids_viaScalar genArc a h]
  rfl

theorem collectEntriesRaw_viaScalar (genArc : GenArc) (g : RSGraph) (h : ∀ a ∈ g.edges, a.via ≠ .seq [""]) :
    collectEntriesRaw genArc (g.mapEdges REdge.viaScalar) = collectEntriesRaw genArc g := by
  rw [collectEntriesRaw_eq, collectEntriesRaw_eq]
  congr 1
  exact (List.flatMap_map _ _ _).trans (List.flatMap_congr fun a ha => mstepsOfRaw_viaScalar genArc g a (h a ha))

theorem ofSpeciesGraphRaw_viaScalar (genArc : GenArc) (d : String) (molOn : Bool) (g : RSGraph)
    (h : ∀ a ∈ g.edges, a.via ≠ .seq [""]) :
    ofSpeciesGraphRaw genArc d molOn (g.mapEdges REdge.viaScalar) = ofSpeciesGraphRaw genArc d molOn g := by
  unfold ofSpeciesGraphRaw
  rw [collectEntriesRaw_viaScalar genArc g h]
  rfl

def synEntry (genArc : GenArc) (g : RSGraph) (a : REdge) : Entry :=
  ⟨genArc a.src a.dst, [(g.labelOf a.src, coeffFor a.rMap a.stoichR (genArc a.src a.dst))],
    [(g.labelOf a.dst, coeffFor a.pMap a.stoichP (genArc a.src a.dst))], a.rules.toList.foldl setAdd []⟩

/-- Without `via` every arc is one step under its own synthetic id. -/
theorem collectEntriesRaw_dropVia (genArc : GenArc) (g : RSGraph)
    (hnd : (g.edges.map fun a => genArc a.src a.dst).Nodup) :
    collectEntriesRaw genArc (g.mapEdges REdge.dropVia) = g.edges.map (synEntry genArc g) := by
  have hM : (g.mapEdges REdge.dropVia).edges.flatMap (mstepsOfRaw genArc (g.mapEdges REdge.dropVia)) =
      g.edges.map fun a => (⟨genArc a.src a.dst, g.labelOf a.src, g.labelOf a.dst,
        coeffFor a.rMap a.stoichR (genArc a.src a.dst), coeffFor a.pMap a.stoichP (genArc a.src a.dst),
        a.rules.toList⟩ : Sp.MStep) :=
    (List.flatMap_map _ _ _).trans List.map_eq_flatMap.symm
  rw [collectEntriesRaw_eq, hM, Sp.foldl_stepU_fresh _ (by rwa [List.map_map]), List.map_map]
  rfl

theorem ofSpeciesGraphRaw_dropVia (genArc : GenArc) (d : String) (molOn : Bool) (g : RSGraph)
    (hnd : (g.edges.map fun a => genArc a.src a.dst).Nodup)
    (hpos : ∀ a ∈ g.edges, 0 < coeffFor a.rMap a.stoichR (genArc a.src a.dst) ∧
      0 < coeffFor a.pMap a.stoichP (genArc a.src a.dst)) :
    ∃ N', ofSpeciesGraphRaw genArc d molOn (g.mapEdges REdge.dropVia) = .ok N' ∧
      N'.rxns = g.edges.map fun a =>
        (⟨genArc a.src a.dst, normRule ((a.rules.toList.foldl setAdd []).head?.getD d),
          [(g.labelOf a.src, coeffFor a.rMap a.stoichR (genArc a.src a.dst))],
          [(g.labelOf a.dst, coeffFor a.pMap a.stoichP (genArc a.src a.dst))]⟩ : Rxn) := by
  have hcol := collectEntriesRaw_dropVia genArc g hnd
  have hE : ∀ x ∈ g.edges.map (synEntry genArc g),
      WfSide x.reactants ∧ WfSide x.products ∧ x.reactants ≠ [] := by
    intro x hx
    obtain ⟨a, ha, rfl⟩ := List.mem_map.1 hx
    obtain ⟨p1, p2⟩ := hpos a ha
    have hw : ∀ (l : String) (c : Nat), 0 < c → WfSide [(l, c)] := fun l c hc =>
      ⟨List.nodup_singleton l, fun kv hkv => by rw [List.mem_singleton.1 hkv]; exact hc⟩
    exact ⟨hw _ _ p1, hw _ _ p2, List.cons_ne_nil _ _⟩
  obtain ⟨N1, hmat, hrx, _, _⟩ := Sp.materialiseRaw_ok d (g.edges.map (synEntry genArc g)) {}
    (by simpa [Net.ids, List.map_map, synEntry, Function.comp_def] using hnd) hE
  refine ⟨importMolSRaw molOn (g.mapEdges REdge.dropVia) N1, ?_, ?_⟩
  · unfold ofSpeciesGraphRaw
    rw [hcol, hmat]
  · rw [Sp.importMolSRaw_rxns, hrx, List.map_map]
    rfl

def exNonUniform : Net :=
  { species := ["A", "B"],
    rxns := [⟨"r1", "R", [("A", 1)], [("B", 1)]⟩, ⟨"r2", "R", [("A", 2)], [("B", 1)]⟩],
    mol := [] }

def exShared : Net :=
  { species := ["A", "B", "C"],
    rxns := [⟨"r1", "R", [("A", 2)], [("B", 1)]⟩, ⟨"r2", "S", [("A", 2)], [("B", 1), ("C", 3)]⟩],
    mol := [("A", "CC")] }

theorem exShared_claimed :
    speciesRawClaim true exShared (toSpeciesGraph true exShared).toRaw = true := by decide +kernel

end SynKit.Views.Raw

namespace SynKit.Views

theorem importMolSRaw_toRaw (g : SGraph) (N : Net) : importMolSRaw true g.toRaw N = importMolS g N := rfl

theorem labelOf_toRaw (g : SGraph) (i : String) : g.toRaw.labelOf i = g.labelOf i := rfl

theorem collectEntriesRaw_toRaw (genArc : GenArc) (g : SGraph) :
    collectEntriesRaw genArc g.toRaw = collectEntries genArc g := by
  unfold collectEntriesRaw collectEntries
  show List.foldl _ [] (g.edgesIter.map _) = _
  rw [List.foldl_map]
  congr 1
  funext es a
  have heids : (Raw.rawArc a).eids genArc = (if a.via.isEmpty then [genArc a.src a.dst] else a.via) := by
    cases h : a.via <;> simp [REdge.eids, Raw.rawArc, h]
  show List.foldl _ es ((Raw.rawArc a).eids genArc) = _
  rw [heids]
  congr 1
  funext es eid
  show updEntry es eid _ _ (coeffFor (some a.rMap) (some a.stoichR) eid) (coeffFor (some a.pMap) (some a.stoichP) eid)
    a.rules = _
  rw [Raw.coeffFor_some, Raw.coeffFor_some]
  rfl

/-- **Tie, species graph.** On an exported species graph, with the default `default_rule="r"` and
`mol_attr="mol"`, the raw importer is `ofSpeciesGraph`. -/
theorem ofSpeciesGraphRaw_toRaw (genArc : GenArc) (g : SGraph) :
    ofSpeciesGraphRaw genArc "r" true g.toRaw = ofSpeciesGraph genArc g := by
  unfold ofSpeciesGraphRaw ofSpeciesGraph
  rw [collectEntriesRaw_toRaw, Sp.materialiseRaw_default]
  cases materialise {} (collectEntries genArc g) <;> rfl

end SynKit.Views
