import SynKitModel.NetGraphAlg
import SynKitProofs.Core.Partition
import Mathlib.Data.List.Basic
import Mathlib.Data.List.Perm.Subperm
import Mathlib.Data.List.Nodup
import SynKitProofs.Core.Fold
/-!
The graph algorithms of `SynKitModel/NetGraphAlg.lean` meet their specifications: equal labels /
a common class ⇔ `Conn`, and the classes partition the node list; `reachSet` is sound outright and
complete once closed, and `V.length` sweeps always close it (counting argument), so `reachable_iff`
and `stronglyConnected_iff` carry no side condition on the fuel.
-/
namespace SynKit.NetGraphAlg
open Core.Partition

theorem Conn.equivalence (E : Edges) : Equivalence (Conn E) := ⟨.refl, .symm, .trans⟩

theorem Conn.minimal {E : Edges} {R : Nat → Nat → Prop} (hR : Equivalence R) (h : ∀ e ∈ E, R e.1 e.2)
    {a b : Nat} (hc : Conn E a b) : R a b := by
  induction hc with
  | refl a => exact hR.refl a
  | edge he => exact h _ he
  | symm _ ih => exact hR.symm ih
  | trans _ _ ih1 ih2 => exact hR.trans ih1 ih2

theorem Conn.mono {E E' : Edges} (h : ∀ e ∈ E, e ∈ E') {a b : Nat} (hc : Conn E a b) : Conn E' a b :=
  hc.minimal (Conn.equivalence E') fun e he => .edge (h e he)

/-- Invariant of the merging fold: equal labels ⇔ connected by the edges merged so far. -/
theorem merge_spec (f : Nat → Nat) (E : Edges) (u v : Nat)
    (h : ∀ x y, f x = f y ↔ Conn E x y) (x y : Nat) :
    merge f u v x = merge f u v y ↔ Conn (E ++ [(u, v)]) x y := by
  have hmono : ∀ {a b}, Conn E a b → Conn (E ++ [(u, v)]) a b :=
    fun hc => hc.mono (fun e he => List.mem_append_left _ he)
  have huv : Conn (E ++ [(u, v)]) u v := .edge (by simp)
  constructor
  · intro hm
    unfold merge at hm
    by_cases hx : f x = f v <;> by_cases hy : f y = f v <;> simp only [hx, hy, if_true, if_false] at hm
    · exact .trans (hmono ((h x v).1 hx)) (.symm (hmono ((h y v).1 hy)))
    · exact .trans (hmono ((h x v).1 hx)) (.trans (.symm huv) (hmono ((h u y).1 hm)))
    · exact .trans (hmono ((h x u).1 hm)) (.trans huv (.symm (hmono ((h y v).1 hy))))
    · exact hmono ((h x y).1 hm)
  · intro hc
    -- equal merged labels is an equivalence, so it is enough that the ends of every edge get equal labels
    refine hc.minimal (R := fun a b => merge f u v a = merge f u v b) ⟨fun _ => rfl, Eq.symm, Eq.trans⟩ fun e he => ?_
    rcases List.mem_append.1 he with he | he
    · unfold merge
      rw [(h _ _).2 (.edge he)]
    · rw [List.mem_singleton.1 he]
      unfold merge
      by_cases huv' : f u = f v <;> simp [huv']

theorem foldl_merge_spec (es : Edges) (f : Nat → Nat) (E : Edges)
    (h : ∀ x y, f x = f y ↔ Conn E x y) (x y : Nat) :
    (es.foldl (fun f e => merge f e.1 e.2) f) x = (es.foldl (fun f e => merge f e.1 e.2) f) y ↔
      Conn (E ++ es) x y :=
  Core.foldl_inv_prefix (P := fun s f => ∀ x y, f x = f y ↔ Conn (E ++ s) x y) (s := [])
    (fun s f e _ hs => List.append_assoc E s [e] ▸ merge_spec f (E ++ s) e.1 e.2 hs)
    (by rwa [List.append_nil]) x y

theorem conn_nil (x y : Nat) : Conn [] x y ↔ x = y :=
  ⟨fun h => h.minimal eq_equivalence fun _ he => absurd he List.not_mem_nil, fun h => h ▸ .refl x⟩

theorem labelling_spec (E : Edges) (x y : Nat) : labelling E x = labelling E y ↔ Conn E x y := by
  have := foldl_merge_spec E id [] (fun a b => by simpa using (conn_nil a b).symm) x y
  simpa [labelling] using this

theorem labelling_map {f : Nat → Nat} (hf : Function.Injective f) (E : Edges) (x : Nat) :
    labelling (E.map fun e => (f e.1, f e.2)) (f x) = f (labelling E x) := by
  unfold labelling
  rw [List.foldl_map]
  -- the two folds run in step: the label of `f x` is `f` of the label of `x`
  refine List.foldl_rel (l := E) (a := id) (b := id) (r := fun g' g => ∀ x, g' (f x) = f (g x)) (fun _ => rfl)
    (fun e _ g' g h x => ?_) x
  show (if g' (f x) = g' (f e.2) then g' (f e.1) else g' (f x)) = f (if g x = g e.2 then g e.1 else g x)
  rw [h, h, h, apply_ite f]
  exact if_congr hf.eq_iff rfl rfl

theorem sameClass_iff (E : Edges) (x y : Nat) : sameClass E x y = true ↔ Conn E x y := by
  simp [sameClass, labelling_spec]

theorem reps_reps (f : Nat → Nat) (nodes : List Nat) : Reps f nodes (reps f nodes) := by
  refine Core.foldl_inv_prefix (l := nodes) (P := Reps f) (s := []) (fun s acc n _ h => ?_) Reps.nil
  split
  · rename_i hany
    obtain ⟨r, hr, e⟩ := List.any_eq_true.1 hany
    exact h.skip ⟨r, hr, beq_iff_eq.1 e⟩
  · rename_i hany
    exact h.push fun r hr e => hany (List.any_eq_true.2 ⟨r, hr, beq_iff_eq.2 e⟩)

theorem components_eq (nodes : List Nat) (E : Edges) :
    components nodes E = classes (labelling E) nodes (reps (labelling E) nodes) := rfl

theorem components_spec (nodes : List Nat) (E : Edges) (x y : Nat) (hx : x ∈ nodes) (hy : y ∈ nodes) :
    (∃ c ∈ components nodes E, x ∈ c ∧ y ∈ c) ↔ Conn E x y := by
  rw [← labelling_spec, components_eq]
  constructor
  · rintro ⟨c, hc, hxc, hyc⟩
    exact ((mem_iff_of_mem_classes hc hyc x).1 hxc).2
  · intro h
    obtain ⟨c, hc, hyc⟩ := (reps_reps _ nodes).mem_iff.1 hy
    exact ⟨c, hc, (mem_iff_of_mem_classes hc hyc x).2 ⟨hx, h⟩, hyc⟩

theorem components_cover (nodes : List Nat) (E : Edges) :
    (∀ x ∈ nodes, ∃ c ∈ components nodes E, x ∈ c) ∧
    (∀ c ∈ components nodes E, c ≠ [] ∧ ∀ x ∈ c, x ∈ nodes) :=
  ⟨fun _ hx => (reps_reps _ nodes).mem_iff.1 hx, fun c hc =>
    ⟨ne_nil_of_mem_classes (reps_reps _ nodes).sub hc, fun _ hx => (reps_reps _ nodes).mem_iff.2 ⟨c, hc, hx⟩⟩⟩

theorem components_disjoint (nodes : List Nat) (E : Edges) (c d : List Nat)
    (hc : c ∈ components nodes E) (hd : d ∈ components nodes E) (x : Nat) (hxc : x ∈ c) (hxd : x ∈ d) :
    c = d := eq_of_mem_classes hc hd hxc hxd

theorem components_nodup (nodes : List Nat) (E : Edges) : (components nodes E).Nodup :=
  (reps_reps _ nodes).classes_nodup

theorem components_flatten_perm (nodes : List Nat) (E : Edges) (hn : nodes.Nodup) :
    (components nodes E).flatten.Perm nodes := (reps_reps _ nodes).flatten_perm hn

theorem Reach.trans {E : Edges} {a b c : Nat} (h1 : Reach E a b) (h2 : Reach E b c) : Reach E a c := by
  induction h2 with
  | refl => exact h1
  | step _ he ih => exact .step ih he

theorem Reach.mono {E E' : Edges} (h : ∀ e ∈ E, e ∈ E') {a b : Nat} (hr : Reach E a b) : Reach E' a b := by
  induction hr with
  | refl => exact .refl _
  | step _ he ih => exact .step ih (h _ he)

theorem sweep_cons (e : Nat × Nat) (es : Edges) (S : List Nat) :
    sweep (e :: es) S = sweep es (if e.1 ∈ S ∧ e.2 ∉ S then S ++ [e.2] else S) := by
  simp [sweep]

theorem sweep_induction {I : List Nat → Prop} (es : Edges)
    (hstep : ∀ T, ∀ e ∈ es, I T → e.1 ∈ T → e.2 ∉ T → I (T ++ [e.2])) (S : List Nat) (h0 : I S) :
    I (sweep es S) := by
  induction es generalizing S with
  | nil => exact h0
  | cons e es ih =>
    rw [sweep_cons]
    refine ih (fun T e' he' => hstep T e' (List.mem_cons_of_mem _ he')) _ ?_
    split
    · exact hstep S e List.mem_cons_self h0 ‹_ ∧ _›.1 ‹_ ∧ _›.2
    · exact h0

theorem reachSet_induction {I : List Nat → Prop} (E : Edges)
    (hstep : ∀ T, ∀ e ∈ E, I T → e.1 ∈ T → e.2 ∉ T → I (T ++ [e.2])) (n : Nat) (S : List Nat)
    (h0 : I S) : I (reachSet E n S) := by
  induction n generalizing S with
  | zero => exact h0
  | succ n ih => exact ih _ (sweep_induction E hstep S h0)

theorem prefix_sweep (es : Edges) (S : List Nat) : S <+: sweep es S :=
  sweep_induction es (fun _ _ _ h _ _ => h.trans (List.prefix_append _ _)) S (List.prefix_refl S)

theorem sweep_eq_self (es : Edges) (S : List Nat) : sweep es S = S ↔ ∀ e ∈ es, e.1 ∈ S → e.2 ∈ S := by
  induction es with
  | nil => exact ⟨fun _ _ he => absurd he List.not_mem_nil, fun _ => rfl⟩
  | cons e rest ih =>
    rw [sweep_cons, List.forall_mem_cons]
    split
    · rename_i h
      refine ⟨fun heq => ?_, fun hall => absurd (hall.1 h.1) h.2⟩
      have := (prefix_sweep rest (S ++ [e.2])).length_le
      rw [heq, List.length_append, List.length_singleton] at this
      omega
    · rename_i h
      rw [ih]
      exact (and_iff_right fun h1 => Decidable.not_not.1 fun h2 => h ⟨h1, h2⟩).symm

theorem closed_iff (E : Edges) (S : List Nat) : closed E S = true ↔ ∀ e ∈ E, e.1 ∈ S → e.2 ∈ S := by
  simp only [closed, List.all_eq_true, Bool.or_eq_true, Bool.not_eq_true', List.contains_iff_mem]
  refine forall₂_congr fun e _ => ?_
  by_cases h1 : e.1 ∈ S <;> simp [h1]

theorem reachSet_of_closed (E : Edges) (n : Nat) (S : List Nat) (h : closed E S = true) :
    reachSet E n S = S := by
  induction n with
  | zero => rfl
  | succ n ih =>
    rw [reachSet, (sweep_eq_self E S).2 ((closed_iff E S).1 h), ih]

theorem subset_reachSet (E : Edges) (n : Nat) (S : List Nat) : ∀ x ∈ S, x ∈ reachSet E n S :=
  reachSet_induction (I := fun T => ∀ x ∈ S, x ∈ T) E
    (fun _ _ _ h _ _ x hx => List.mem_append_left _ (h x hx)) n S fun _ h => h

theorem reachSet_sound (E : Edges) (n : Nat) (S : List Nat) :
    ∀ x ∈ reachSet E n S, ∃ a ∈ S, Reach E a x := by
  refine reachSet_induction (I := fun T => ∀ x ∈ T, ∃ a ∈ S, Reach E a x) E
    (fun T e he h h1 _ x hx => ?_) n S fun x hx => ⟨x, hx, .refl x⟩
  rcases List.mem_append.1 hx with hx | hx
  · exact h x hx
  · obtain ⟨a, ha, hr⟩ := h e.1 h1
    exact ⟨a, ha, List.mem_singleton.1 hx ▸ .step hr he⟩

theorem closed_complete (E : Edges) (T : List Nat) (hcl : closed E T = true) (a b : Nat)
    (ha : a ∈ T) (h : Reach E a b) : b ∈ T := by
  induction h with
  | refl => exact ha
  | step _ he ih => exact (closed_iff E T).1 hcl _ he ih

theorem reachSet_complete_of_closed (E : Edges) (n : Nat) (S : List Nat)
    (hcl : closed E (reachSet E n S) = true) (a b : Nat) (ha : a ∈ S) (h : Reach E a b) :
    b ∈ reachSet E n S :=
  closed_complete E _ hcl a b (subset_reachSet E n S a ha) h

/-- Each sweep that does not find the set closed adds a node. -/
theorem reachSet_closed_or_long (E : Edges) (n : Nat) (S : List Nat) :
    closed E (reachSet E n S) = true ∨ S.length + n ≤ (reachSet E n S).length := by
  induction n generalizing S with
  | zero => exact Or.inr (Nat.le_refl _)
  | succ n ih =>
    by_cases hc : closed E S = true
    · exact Or.inl (by rw [reachSet_of_closed E _ S hc]; exact hc)
    · have hlt : S.length < (sweep E S).length := Nat.lt_of_le_of_ne (prefix_sweep E S).length_le fun h =>
        hc ((closed_iff E S).2 ((sweep_eq_self E S).1 ((prefix_sweep E S).eq_of_length h).symm))
      rw [reachSet]
      exact (ih (sweep E S)).imp_right fun h => by omega

/-- The fuel bound: the set stays duplicate-free and inside `V`, so it cannot grow `V.length` times. -/
theorem reachSet_closed_of_fuel (E : Edges) (V : List Nat) (hV : ∀ e ∈ E, e.2 ∈ V) (u : Nat) (hu : u ∈ V) :
    closed E (reachSet E V.length [u]) = true := by
  refine (reachSet_closed_or_long E V.length [u]).resolve_right fun h => ?_
  have hinv := reachSet_induction (I := fun T => T.Nodup ∧ ∀ x ∈ T, x ∈ V) E
    (fun T e he h _ h2 => ⟨List.nodup_append.2 ⟨h.1, List.nodup_singleton _, fun a ha b hb hab =>
        h2 (List.mem_singleton.1 hb ▸ hab ▸ ha)⟩,
      fun x hx => (List.mem_append.1 hx).elim (h.2 x) fun hx => List.mem_singleton.1 hx ▸ hV e he⟩)
    V.length [u] ⟨List.nodup_singleton u, fun x hx => List.mem_singleton.1 hx ▸ hu⟩
  have := (hinv.1.subperm hinv.2).length_le
  simp only [List.length_singleton] at h
  omega

theorem reachable_iff (E : Edges) (V : List Nat) (hV : ∀ e ∈ E, e.2 ∈ V) (u v : Nat) (hu : u ∈ V) :
    reachable E V.length u v = true ↔ Reach E u v := by
  simp only [reachable, List.contains_iff_mem]
  constructor
  · intro h
    obtain ⟨a, ha, hr⟩ := reachSet_sound E _ _ v h
    simp only [List.mem_singleton] at ha; subst ha; exact hr
  · intro h
    exact reachSet_complete_of_closed E _ _ (reachSet_closed_of_fuel E V hV u hu) u v (by simp) h

theorem mem_restrict (E : Edges) (C : List Nat) (e : Nat × Nat) :
    e ∈ restrict E C ↔ e ∈ E ∧ e.1 ∈ C ∧ e.2 ∈ C := by
  simp [restrict, List.mem_filter]

theorem stronglyConnected_iff (E : Edges) (C : List Nat) :
    stronglyConnected E C = true ↔ ∀ u ∈ C, ∀ v ∈ C, Reach (restrict E C) u v := by
  simp only [stronglyConnected, List.all_eq_true]
  exact forall₂_congr fun u hu => forall₂_congr fun v _ =>
    reachable_iff _ C (fun e he => ((mem_restrict E C e).1 he).2.2) u v hu

theorem stronglyConnectedStable_true (E : Edges) (C : List Nat) : stronglyConnectedStable E C = true := by
  simp only [stronglyConnectedStable, List.all_eq_true]
  intro u hu
  exact reachSet_closed_of_fuel _ C (fun e he => ((mem_restrict E C e).1 he).2.2) u hu

end SynKit.NetGraphAlg
