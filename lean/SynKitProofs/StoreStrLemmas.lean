import SynKitProofs.ViewsLemmas.Str
import SynKitModel.Store
/-!
# The string entry points of the store (C15: `add_rxn_from_str`, `parse_rxns`)

What `Store.addFromStr` / `Store.parseRxns` do with a well-formed line: which rule is decided
(`decidedRule`, `parseRxnsRule`), in which mode the loop body of `parse_rxns` hands a line over
(`lineArgs_wfLine`), the one edge appended. What the text of such a line parses to is
`Views.Str.parseLine_fmtLine`, whose hypothesis on the flags is `LineMode`.
-/
namespace SynKit.Store
open SynKit.Views SynKit.Views.Str

/-- The rule `add_rxn_from_str` ends up with: the explicit `rule=` argument if it is not `None`
(also when it is `""`), else the rule of the parsed suffix (if there is one and it is parsed),
and then `add_rxn`'s `rule or "r"`. -/
def decidedRule (explicit suffixRule : Option String) : String :=
  Store.normRule (match explicit with
    | some x => some x
    | none => suffixRule)

/-- The lines `addFromStr_spec` speaks about, as combinations of printing flags and the
`parse_rule_from_suffix` argument: either the line carries a `| rule=R` suffix (possibly followed
by `id=…`) and the suffix is parsed, or the line is the bare `lhs >> rhs`. (A line with a suffix
handed over with `parse_rule_from_suffix=False` is *not* well formed for the code: the suffix
stays in the text of the right-hand side, see `suffix_unparsed_example` in `Props/C15.lean`.) -/
def LineMode (f : StrFlags) (parseSuffix : Bool) : Prop :=
  (f.includeRule = true ∧ parseSuffix = true) ∨ (f.includeRule = false ∧ f.includeId = false)

theorem addNorm_gen (s : Store) (r p : Side) (rule : Option String) (hne : r ≠ [] ∨ p ≠ []) :
    s.addNorm r p rule none =
      ((s.nextId (Store.normRule rule)).1.insertEdge
          ⟨(s.nextId (Store.normRule rule)).2, Store.normRule rule, r, p⟩,
        .ok (s.nextId (Store.normRule rule)).2) := by
  unfold Store.addNorm
  simp only [isEmpty_and_false hne, Bool.false_eq_true, if_false]

theorem addFromStr_wfLine (s : Store) (f : StrFlags) (e : Rxn) (ex : Option String) (sfx : Bool)
    (hm : LineMode f sfx)
    (hs : WfSide e.reactants ∧ WfSide e.products) (hl : WfLabels e.reactants ∧ WfLabels e.products)
    (hr : f.includeRule = true → WfRule e.rule) (hne : e.reactants ≠ [] ∨ e.products ≠ []) :
    s.addFromStr (fmtLine f e) ex sfx =
      ((s.nextId (decidedRule ex (if f.includeRule then some e.rule else none))).1.insertEdge
          ⟨(s.nextId (decidedRule ex (if f.includeRule then some e.rule else none))).2,
            decidedRule ex (if f.includeRule then some e.rule else none),
            sortSide e.reactants, sortSide e.products⟩,
        .ok (s.nextId (decidedRule ex (if f.includeRule then some e.rule else none))).2) := by
  unfold Store.addFromStr
  rw [parseLine_fmtLine f e ex sfx hm hs hl hr]
  simp only
  rw [addNorm_gen s _ _ _ (hne.imp (mt (sortSide_eq_nil_iff _).1) (mt (sortSide_eq_nil_iff _).1))]
  rfl

/-- Rule of one `(line, explicit_rule)` item of `parse_rxns`, as the loop body decides it:
`suffixRule` is the rule spelled in the line's `| rule=R` suffix, if the line has one. -/
def parseRxnsRule (defaultRule : String) (parseSuffix preferSuffix : Bool)
    (suffixRule explicit : Option String) : String :=
  match explicit with
  | some x =>
    if preferSuffix && parseSuffix then
      match suffixRule with
      | some R => Store.normRule (some R)
      | none => Store.normRule (some x)
    else Store.normRule (some x)
  | none => if parseSuffix then Store.normRule suffixRule else Store.normRule (some defaultRule)

/-- The items `parseRxns_spec` speaks about: a bare line `lhs >> rhs` is always fine; a line with
a `| rule=R` suffix needs the suffix to be parsed, i.e. `parse_rule_from_suffix=True` and either no
explicit per-line rule or `prefer_suffix=True`. (In the remaining combinations the code hands the
line over with `parse_rule_from_suffix=False` and the suffix ends up in a species label.) -/
def ItemMode (parseSuffix preferSuffix : Bool) (f : StrFlags) (explicit : Option String) : Prop :=
  (f.includeRule = false ∧ f.includeId = false) ∨
    (f.includeRule = true ∧ parseSuffix = true ∧ (explicit = none ∨ preferSuffix = true))

/-- The store's model of `re.search(r"\|\s*rule\s*=\s*[^\s]+", line)` is the one of `parse_rxns` in `ViewsRaw`. -/
theorem searchBarRule_eq (l : List Char) : searchBarRule l = hasRuleSuffix l := by
  induction l with
  | nil => rfl
  | cons c cs ih =>
    rw [searchBarRule, hasRuleSuffix, ih]
    by_cases hc : c = '|'
    · subst hc; simp [matchBarRuleAt]
    · have : matchBarRuleAt (c :: cs) = false := by
        unfold matchBarRuleAt
        split
        · rename_i heq; exact absurd (List.cons.inj heq).1 hc
        · rfl
      simp [this, hc]

theorem searchBarRule_fmtLine (f : StrFlags) (e : Rxn)
    (hl : WfLabels e.reactants ∧ WfLabels e.products) (hr : f.includeRule = true → WfRule e.rule)
    (hb : f.includeRule = false → f.includeId = false) :
    searchBarRule (fmtLine f e) = f.includeRule := by
  rw [searchBarRule_eq]
  cases hf : f.includeRule with
  | true => exact hasRuleSuffix_fmtLine f hf e (hr hf)
  | false => exact hasRuleSuffix_fmtLine_plain f hf (hb hf) e hl

theorem lineArgs_wfLine (dr : String) (sfx pref : Bool) (f : StrFlags) (e : Rxn) (ex : Option String)
    (hm : ItemMode sfx pref f ex)
    (hl : WfLabels e.reactants ∧ WfLabels e.products) (hr : f.includeRule = true → WfRule e.rule) :
    LineMode f (lineArgs dr sfx pref (fmtLine f e) ex).2 ∧
      decidedRule (lineArgs dr sfx pref (fmtLine f e) ex).1 (if f.includeRule then some e.rule else none) =
        parseRxnsRule dr sfx pref (if f.includeRule then some e.rule else none) ex := by
  have hsb := searchBarRule_fmtLine f e hl hr
  rcases hm with ⟨hf, hid⟩ | ⟨hf, rfl, hex⟩
  · have hsb := hsb (fun _ => hid)
    refine ⟨Or.inr ⟨hf, hid⟩, ?_⟩
    cases ex <;> cases sfx <;> cases pref <;>
      simp [lineArgs, hsb, hf, decidedRule, parseRxnsRule]
  · have hsb := hsb (fun h => by rw [hf] at h; cases h)
    rcases hex with rfl | rfl
    · exact ⟨Or.inl ⟨hf, rfl⟩, by simp [lineArgs, hf, decidedRule, parseRxnsRule]⟩
    · cases ex with
      | none => exact ⟨Or.inl ⟨hf, rfl⟩, by simp [lineArgs, hf, decidedRule, parseRxnsRule]⟩
      | some x =>
        exact ⟨Or.inl ⟨hf, by simp [lineArgs, hsb, hf]⟩,
          by simp [lineArgs, hsb, hf, decidedRule, parseRxnsRule]⟩

def Edge.content (e : Edge) : String × Side × Side := (e.rule, e.reactants, e.products)

/-- One input item of `parse_rxns`: the printing flags and the reaction the line spells, and the
explicit per-line rule. -/
abbrev Item := StrFlags × Rxn × Option String

def Item.line (it : Item) : List Char × Option String := (fmtLine it.1 it.2.1, it.2.2)

def Item.Wf (sfx pref : Bool) (it : Item) : Prop :=
  ItemMode sfx pref it.1 it.2.2 ∧
  (WfSide it.2.1.reactants ∧ WfSide it.2.1.products) ∧
  (WfLabels it.2.1.reactants ∧ WfLabels it.2.1.products) ∧
  (it.1.includeRule = true → WfRule it.2.1.rule) ∧
  (it.2.1.reactants ≠ [] ∨ it.2.1.products ≠ [])

def Item.expected (dr : String) (sfx pref : Bool) (it : Item) : String × Side × Side :=
  (parseRxnsRule dr sfx pref (if it.1.includeRule then some it.2.1.rule else none) it.2.2,
    sortSide it.2.1.reactants, sortSide it.2.1.products)

end SynKit.Store
