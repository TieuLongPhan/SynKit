import SynKitProofs.Core.List
import SynKitProofs.ReactorIso
/-! The explicit-hydrogen re-match path of the reactor (C03).  A turn of `h_to_explicit` that does anything turns `G`
into `expGraph G v b F`: atom `v` relabelled `b`, new hydrogens `F` bonded to it (`expandOne_eq`).  About `expGraph`, for
any `b` and `F`: it stays well formed when `F` is numbered above `G` (`expGraph_wf`), it renders as the same operation
on `hostProj G` (`hostProj_expGraph`), and it normalises like `G` when `b` gives up as many hydrogens as `F` holds
(`normH_expGraph`).  `ExpState`, indexed by the atoms visited so far, is the one invariant of the loop.  What C03 uses
of `explicitHost host nodes`, the graph `_glue_graph` hands to the re-match, are its fields: a prepared host (`HostX`, so
the glue lemmas of `ReactorGlue` apply), asymmetric labels only on expanded atoms, no hydrogen count left on the atoms
of the first match, the `normH` of the substrate.  `hostProj_explicitHost`: it renders like `h_to_explicit` of the bare
substrate. -/
namespace SynKit.Reactor
open SynKit.Match

def expAttrs (a : Attrs) (cnt : Int) : Attrs :=
  let a1 : Attrs := Dict.set a "hcount" (.num (numOf (a.get "hcount") - cnt))
  if hasKey a1 "typesGH" then
    let t := a1.get "typesGH"
    let r0 := tupList (tupGet t 0)
    Dict.set a1 "typesGH" (.tup ([.tup (r0.take 2 ++ [.num (numOf (r0.getD 2 .none) - cnt)] ++ r0.drop 3)] ++ (tupList t).drop 1))
  else a1

def freshIds (next k : Nat) : List Nat := (List.range k).map (· + next + 1)

def expGraph (G : LGraph) (v : Nat) (b : Attrs) (F : List Nat) : LGraph :=
  { nodes := (G.nodes.map fun p => if p.1 = v then (p.1, b) else p) ++ F.map fun i => (i, newH)
    edges := G.edges ++ F.map fun i => (v, i, [("order", .num 2)]) }

theorem expandOne_eq (G : LGraph) (next v : Nat) :
    expandOne G next v =
      if !G.hasNode v then (G, next) else
      if numOf (pyGet (G.attrs v) "hcount" (.num 0)) ≤ 0 then (G, next) else
      (expGraph G v (expAttrs (G.attrs v) (numOf (pyGet (G.attrs v) "hcount" (.num 0))))
          (freshIds next (numOf (pyGet (G.attrs v) "hcount" (.num 0)) / 2).toNat),
       next + (numOf (pyGet (G.attrs v) "hcount" (.num 0)) / 2).toNat) := rfl

theorem expandOne_cases (G : LGraph) (next v : Nat) :
    (expandOne G next v = (G, next) ∧ (v ∉ G.ids ∨ numOf (pyGet (G.attrs v) "hcount" (.num 0)) ≤ 0)) ∨
    (v ∈ G.ids ∧ 0 < numOf (pyGet (G.attrs v) "hcount" (.num 0)) ∧
      expandOne G next v =
        (expGraph G v (expAttrs (G.attrs v) (numOf (pyGet (G.attrs v) "hcount" (.num 0))))
            (freshIds next (numOf (pyGet (G.attrs v) "hcount" (.num 0)) / 2).toNat),
         next + (numOf (pyGet (G.attrs v) "hcount" (.num 0)) / 2).toNat)) := by
  rw [expandOne_eq]
  by_cases hv : v ∈ G.ids
  · have hn : (!G.hasNode v) = false := by rw [LGraph.hasNode_iff.2 hv]; rfl
    by_cases hc : numOf (pyGet (G.attrs v) "hcount" (.num 0)) ≤ 0
    · exact Or.inl ⟨by simp only [hn, Bool.false_eq_true, if_false, hc, if_true], Or.inr hc⟩
    · exact Or.inr ⟨hv, not_le.1 hc, by simp only [hn, Bool.false_eq_true, if_false, hc]⟩
  · have hn : (!G.hasNode v) = true := by rw [LGraph.hasNode_false_iff.2 hv]; rfl
    exact Or.inl ⟨by simp only [hn, if_true], Or.inl hv⟩

theorem mem_freshIds (next k i : Nat) : i ∈ freshIds next k ↔ next < i ∧ i ≤ next + k := by
  unfold freshIds
  simp only [List.mem_map, List.mem_range]
  constructor
  · rintro ⟨j, hj, rfl⟩; omega
  · rintro ⟨h1, h2⟩; exact ⟨i - next - 1, by omega, by omega⟩

theorem nodup_freshIds (next k : Nat) : (freshIds next k).Nodup := by
  unfold freshIds
  apply List.Nodup.map _ List.nodup_range
  intro a b h
  simp only at h
  omega

theorem length_freshIds (next k : Nat) : (freshIds next k).length = k := by
  unfold freshIds; simp

theorem pyGet_expAttrs_other (a : Attrs) (cnt : Int) (k : String) (d : Val) (h1 : k ≠ "hcount") (h2 : k ≠ "typesGH") :
    pyGet (expAttrs a cnt) k d = pyGet a k d := by
  unfold expAttrs
  simp only
  split
  · rw [pyGet_set_other _ _ _ _ _ h2, pyGet_set_other _ _ _ _ _ h1]
  · rw [pyGet_set_other _ _ _ _ _ h1]

theorem pyGet_expAttrs_hcount (a : Attrs) (cnt : Int) (d : Val) :
    pyGet (expAttrs a cnt) "hcount" d = .num (numOf (a.get "hcount") - cnt) := by
  unfold expAttrs
  simp only
  split
  · rw [pyGet_set_other _ _ _ _ _ (by decide), pyGet_set_self]
  · rw [pyGet_set_self]

theorem hcount_expAttrs (a : Attrs) :
    numOf (pyGet (expAttrs a (numOf (pyGet a "hcount" (.num 0)))) "hcount" (.num 0)) = 0 := by
  rw [pyGet_expAttrs_hcount, numOf_pyGet_zero, numOf_num, sub_self]

theorem hasKey_expAttrs_tg (a : Attrs) (cnt : Int) : hasKey (expAttrs a cnt) "typesGH" = hasKey a "typesGH" := by
  unfold expAttrs
  simp only
  split
  · rename_i h
    rw [hasKey_set_self]
    rw [hasKey_set_other _ _ _ _ (by decide)] at h
    exact h.symm
  · rw [hasKey_set_other _ _ _ _ (by decide)]

theorem get_expAttrs_tg (a : Attrs) (cnt : Int) (h : hasKey a "typesGH" = true) :
    Attrs.get (expAttrs a cnt) "typesGH" =
      .tup ([.tup ((tupList (tupGet (a.get "typesGH") 0)).take 2 ++
                    [.num (numOf ((tupList (tupGet (a.get "typesGH") 0)).getD 2 .none) - cnt)] ++
                    (tupList (tupGet (a.get "typesGH") 0)).drop 3)] ++ (tupList (a.get "typesGH")).drop 1) := by
  unfold expAttrs
  have h' : hasKey (Dict.set a "hcount" (Val.num (numOf (a.get "hcount") - cnt))) "typesGH" = true := by
    rw [hasKey_set_other _ _ _ _ (by decide)]; exact h
  simp only [h', if_true]
  rw [Attrs.get_set_self, Attrs.get_set_other (by decide)]

theorem getD_drop_one (L : List Val) (d : Val) : (L.drop 1).getD 0 d = L.getD 1 d := by
  cases L <;> simp

theorem sideOf_expAttrs (a : Attrs) (cnt : Int) :
    sideOf (expAttrs a cnt) =
      [pyGet a "element" (.str "*"), pyGet a "aromatic" (.bool false), .num (numOf (a.get "hcount") - cnt),
       pyGet a "charge" (.num 0), pyGet a "neighbors" (.tup [])] := by
  unfold sideOf
  rw [pyGet_expAttrs_other _ _ "element" _ (by decide) (by decide), pyGet_expAttrs_other _ _ "aromatic" _ (by decide) (by decide),
    pyGet_expAttrs_other _ _ "charge" _ (by decide) (by decide), pyGet_expAttrs_other _ _ "neighbors" _ (by decide) (by decide),
    pyGet_expAttrs_hcount]

theorem tgOK_expAttrs (a : Attrs) (cnt : Int) (h : TgOK a) : TgOK (expAttrs a cnt) := by
  rcases h with h | ⟨h, h0, h1, h4⟩
  · left; rw [hasKey_expAttrs_tg]; exact h
  · right
    have hg := get_expAttrs_tg a cnt h
    rw [h0] at hg
    have s1 : tupGet (Attrs.get (expAttrs a cnt) "typesGH") 1 = tupGet (a.get "typesGH") 1 := by
      rw [hg]
      unfold tupGet
      simp only [tupList, List.singleton_append, List.getD_cons_succ]
      exact getD_drop_one _ _
    refine ⟨by rw [hasKey_expAttrs_tg]; exact h, ?_, ?_, ?_⟩
    · rw [hg, sideOf_expAttrs]
      simp [tupGet, tupList, sideOf, numOf_pyGet_zero]
    · rw [s1, h1, sideOf_expAttrs]; rfl
    · rw [s1, h4, sideOf_expAttrs]; rfl

theorem newH_hcount : numOf (pyGet newH "hcount" (.num 0)) ≤ 0 := by decide +kernel
theorem newH_tgOK : TgOK newH := by decide +kernel
theorem newH_sym : SymTg newH := by decide +kernel

theorem defaultTg_set_tg (a : Attrs) (x : Val) : defaultTg (Dict.set a "typesGH" x) = defaultTg a := by
  unfold defaultTg
  simp only [pyGet_set_other _ _ _ _ _ (show "element" ≠ "typesGH" by decide),
    pyGet_set_other _ _ _ _ _ (show "aromatic" ≠ "typesGH" by decide),
    pyGet_set_other _ _ _ _ _ (show "hcount" ≠ "typesGH" by decide),
    pyGet_set_other _ _ _ _ _ (show "charge" ≠ "typesGH" by decide),
    pyGet_set_other _ _ _ _ _ (show "neighbors" ≠ "typesGH" by decide)]

theorem projAttrs_expAttrs (n : Nat) (a : Attrs) (cnt : Int) :
    projAttrs n (expAttrs a cnt) =
      [("element", pyGet a "element" (.str "*")), ("aromatic", pyGet a "aromatic" (.bool false)),
       ("hcount", .num (numOf (pyGet a "hcount" (.num 0)) - cnt)), ("charge", pyGet a "charge" (.num 0)),
       ("atom_map", Val.num (2 * (n : Int)))] := by
  unfold projAttrs
  rw [pyGet_expAttrs_other _ _ "element" _ (by decide) (by decide), pyGet_expAttrs_other _ _ "aromatic" _ (by decide) (by decide),
    pyGet_expAttrs_other _ _ "charge" _ (by decide) (by decide), pyGet_expAttrs_hcount, numOf_pyGet_zero]

theorem hostProj_expGraph (G : LGraph) (v : Nat) (b : Attrs) (F : List Nat) :
    hostProj (expGraph G v b F) =
      { nodes := ((hostProj G).nodes.map fun q => if q.1 = v then (q.1, projAttrs q.1 b) else q) ++
          F.map fun i => (i, projAttrs i newH)
        edges := (hostProj G).edges ++ F.map fun i => (v, i, [("order", .num 2)]) } := by
  rw [hostProj_eq, hostProj_eq]
  unfold expGraph
  simp only [LGraph.mapAttrs, List.map_append, List.map_map]
  congr 2
  apply List.map_congr_left
  intro p _
  simp only [Function.comp]
  split <;> rfl

/-- A turn of the loop reads the graph only through `hostProj`: whether `v` is there, and its four rendered labels. -/
theorem hostProj_expandOne (G G' : LGraph) (next v : Nat) (h : hostProj G = hostProj G') :
    hostProj (expandOne G next v).1 = hostProj (expandOne G' next v).1 ∧
    (expandOne G next v).2 = (expandOne G' next v).2 := by
  have hids : G.ids = G'.ids := by rw [← hostProj_ids G, ← hostProj_ids G', h]
  have hhas : G.hasNode v = G'.hasNode v := by unfold LGraph.hasNode; rw [hids]
  rw [expandOne_eq, expandOne_eq, hhas]
  by_cases hn : (!G'.hasNode v) = true
  · simp only [hn, if_true]; exact ⟨h, trivial⟩
  · simp only [hn]
    have hvG' : v ∈ G'.ids := LGraph.hasNode_iff.1 (by simpa using hn)
    have hvG : v ∈ G.ids := by rw [hids]; exact hvG'
    have hpa : projAttrs v (G.attrs v) = projAttrs v (G'.attrs v) := by
      rw [← hostProj_attrs G v hvG, ← hostProj_attrs G' v hvG', h]
    simp only [projAttrs, List.cons.injEq, Prod.mk.injEq, true_and, and_true] at hpa
    obtain ⟨q1, q2, q3, q4⟩ := hpa
    rw [q3]
    by_cases hc : numOf (pyGet (G'.attrs v) "hcount" (.num 0)) ≤ 0
    · simp only [hc, if_true]; exact ⟨h, rfl⟩
    · simp only [hc, if_false, Bool.false_eq_true]
      refine ⟨?_, trivial⟩
      rw [hostProj_expGraph, hostProj_expGraph, h]
      simp only [projAttrs_expAttrs, q1, q2, q3, q4]

theorem projAttrs_prepNode (p : Nat × Attrs) : projAttrs p.1 (prepNode p).2 = projAttrs p.1 p.2 := by
  unfold projAttrs
  rw [pyGet_prepNode p "element" _ (by decide), pyGet_prepNode p "aromatic" _ (by decide),
    pyGet_prepNode p "hcount" _ (by decide), pyGet_prepNode p "charge" _ (by decide)]

theorem isH_prepNode (p : Nat × Attrs) : isH (prepNode p).2 = isH p.2 :=
  congrArg (fun v => decide (v = Val.str "H")) (pyGet_prepNode p "element" Val.none (by decide))

theorem hostProj_prep (host : LGraph) :
    hostProj { host with nodes := host.nodes.map prepNode } = hostProj host := by
  rw [hostProj_eq, hostProj_eq]
  simp only [LGraph.mapAttrs, List.map_map]
  congr 1
  apply List.map_congr_left
  intro p _
  simp only [Function.comp]
  have : (prepNode p).1 = p.1 := rfl
  rw [this, projAttrs_prepNode]

def foldableB (G : LGraph) (v : Nat) : Bool := isH (G.attrs v) && (G.neighbors v).any fun w => !isH (G.attrs w)

def gainH (G : LGraph) (v : Nat) : Int := 2 * ((G.neighbors v).filter (foldableB G)).length

def normNode (gain : Int) (p : Nat × Attrs) : Nat × Attrs :=
  (p.1, [("element", pyGet p.2 "element" (.str "*")), ("aromatic", pyGet p.2 "aromatic" (.bool false)),
         ("hcount", .num (numOf (pyGet p.2 "hcount" (.num 0)) + (if isH p.2 then 0 else gain))),
         ("charge", pyGet p.2 "charge" (.num 0))])

theorem normH_eq (G : LGraph) :
    normH G =
      { nodes := (G.nodes.filter fun p => !foldableB G p.1).map fun p => normNode (gainH G p.1) p
        edges := (G.edges.filter fun e => !foldableB G e.1 && !foldableB G e.2.1).map fun e =>
          (e.1, e.2.1, [("order", pyGet e.2.2 "order" (.num 2))]) } := rfl

theorem normNode_congr (n : Nat) (a b : Attrs) (g g' : Int)
    (h1 : pyGet b "element" (.str "*") = pyGet a "element" (.str "*"))
    (h2 : pyGet b "aromatic" (.bool false) = pyGet a "aromatic" (.bool false))
    (h3 : pyGet b "charge" (.num 0) = pyGet a "charge" (.num 0)) (hH : isH b = isH a)
    (hc : numOf (pyGet b "hcount" (.num 0)) + (if isH a then 0 else g') =
      numOf (pyGet a "hcount" (.num 0)) + (if isH a then 0 else g)) :
    normNode g' (n, b) = normNode g (n, a) := by
  unfold normNode
  simp only [h1, h2, h3, hH, hc]

theorem filter_map_append_dead {α β γ : Type} {l : List α} {l₁ d : List β} {u : α → β} {p : β → Bool} {q : α → Bool}
    {f : β → γ} {g : α → γ} (h₁ : l₁ = l.map u) (hd : ∀ y ∈ d, p y = false) (hp : ∀ x ∈ l, p (u x) = q x)
    (hf : ∀ x ∈ l, f (u x) = g x) : ((l₁ ++ d).filter p).map f = (l.filter q).map g := by
  have hd' : d.filter p = [] := List.filter_eq_nil_iff.2 fun y hy => by rw [hd y hy]; exact Bool.false_ne_true
  rw [h₁, List.filter_append, hd', List.append_nil, List.filter_map, List.map_map,
    List.filter_congr (p := p ∘ u) (q := q) hp]
  exact List.map_congr_left fun x hx => hf x (List.mem_filter.1 hx).1

theorem expGraph_ids (G : LGraph) (v : Nat) (b : Attrs) (F : List Nat) : (expGraph G v b F).ids = G.ids ++ F := by
  show ((updNode G v fun _ => b).nodes ++ F.map fun i => (i, newH)).map (·.1) = _
  rw [List.map_append, List.map_map]
  exact congrArg₂ (· ++ ·) (updNode_ids G v _) (Core.map_eq_self fun i _ => rfl)

/-- A bond from an old atom `v ≤ n` to a fresh atom `i > n` is parallel to no bond between old atoms … -/
theorem key_fresh_ne {v i a b n : Nat} (hv : v ≤ n) (hi : n < i) (ha : a ≤ n) (hb : b ≤ n) :
    (min a b, max a b) ≠ (min v i, max v i) := by
  intro h
  have := congrArg Prod.snd h
  simp only at this
  omega

/-- … and to no other such bond. -/
theorem key_fresh_inj {v i j n : Nat} (hv : v ≤ n) (hi : n < i) (hj : n < j)
    (h : (min v i, max v i) = (min v j, max v j)) : i = j := by
  have := congrArg Prod.snd h
  simp only at this
  omega

section ExpGraph
variable (G : LGraph) (v : Nat) (b : Attrs) (F : List Nat)

theorem forall_mem_expGraph_nodes {Q : Nat × Attrs → Prop} (h1 : ∀ p ∈ G.nodes, p.1 ≠ v → Q p) (h2 : Q (v, b))
    (h3 : ∀ i ∈ F, Q (i, newH)) : ∀ p ∈ (expGraph G v b F).nodes, Q p := by
  intro p hp
  simp only [expGraph, List.mem_append, List.mem_map] at hp
  rcases hp with ⟨p0, hp0, rfl⟩ | ⟨i, hi, rfl⟩
  · by_cases hpv : p0.1 = v
    · rw [if_pos hpv, hpv]; exact h2
    · rw [if_neg hpv]; exact h1 p0 hp0 hpv
  · exact h3 i hi

theorem expGraph_wf {n : Nat} (hG : G.WF) (hv : v ∈ G.ids) (hn : ∀ i ∈ G.ids, i ≤ n) (hF : F.Nodup)
    (hnF : ∀ i ∈ F, n < i) : (expGraph G v b F).WF := by
  have hids := expGraph_ids G v b F
  have hvn : v ≤ n := hn v hv
  unfold expGraph at hids ⊢
  refine ⟨?_, ?_, ?_⟩
  · rw [hids]
    exact List.nodup_append.2 ⟨hG.1, hF, fun a ha i hi hai => absurd (hn a ha) (Nat.not_le.2 (hai ▸ hnF i hi))⟩
  · intro e he
    rw [hids]
    simp only [List.mem_append, List.mem_map] at he ⊢
    rcases he with he | ⟨i, hi, rfl⟩
    · obtain ⟨a, b, c⟩ := hG.2.1 e he
      exact ⟨Or.inl a, Or.inl b, c⟩
    · exact ⟨Or.inl hv, Or.inr hi, Nat.ne_of_lt (Nat.lt_of_le_of_lt hvn (hnF i hi))⟩
  · simp only [List.map_append, List.map_map]
    refine List.nodup_append.2 ⟨hG.2.2, ?_, ?_⟩
    · exact List.Nodup.map_on (fun i hi j hj hij => key_fresh_inj hvn (hnF i hi) (hnF j hj) hij) hF
    · intro x hx y hy hxy
      obtain ⟨e, he, rfl⟩ := List.mem_map.1 hx
      obtain ⟨i, hi, rfl⟩ := List.mem_map.1 hy
      obtain ⟨a, b, _⟩ := hG.2.1 e he
      exact key_fresh_ne hvn (hnF i hi) (hn _ a) (hn _ b) hxy

theorem exp_attrs_old (w : Nat) (hw : w ∈ G.ids) :
    (expGraph G v b F).attrs w = if w = v then b else G.attrs w := by
  rw [LGraph.attrs_append_left (g' := updNode G v fun _ => b) rfl ((updNode_ids G v _).symm ▸ hw),
    updNode_attrs G v _ w hw]
  exact if_congr eq_comm rfl rfl

theorem exp_attrs_new (i : Nat) (hi : i ∈ F) (hni : i ∉ G.ids) : (expGraph G v b F).attrs i = newH := by
  rw [LGraph.attrs_append_right (g' := ⟨F.map fun i => (i, newH), G.edges⟩) (ns := (updNode G v fun _ => b).nodes) rfl
    (show i ∉ (updNode G v fun _ => b).ids from (updNode_ids G v _).symm ▸ hni)]
  have hmem : i ∈ (LGraph.mk (F.map fun i => (i, newH)) G.edges).ids :=
    LGraph.mem_ids.2 ⟨newH, List.mem_map.2 ⟨i, hi, rfl⟩⟩
  obtain ⟨j, _, h⟩ := List.mem_map.1 (LGraph.attrs_mem hmem)
  exact (congrArg Prod.snd h).symm

theorem exp_nbrs (w : Nat) :
    (expGraph G v b F).neighbors w =
      G.neighbors w ++ F.filterMap fun i => if v = w then some i else if i = w then some v else none := by
  unfold expGraph LGraph.neighbors
  rw [List.filterMap_append, List.filterMap_map]
  rfl

theorem exp_nbrs_old (w : Nat) (hwv : w ≠ v) (hwF : w ∉ F) :
    (expGraph G v b F).neighbors w = G.neighbors w := by
  rw [exp_nbrs, List.filterMap_eq_nil_iff.2, List.append_nil]
  intro i hi
  rw [if_neg (Ne.symm hwv), if_neg fun e : i = w => hwF (e ▸ hi)]

theorem exp_nbrs_v : (expGraph G v b F).neighbors v = G.neighbors v ++ F := by
  rw [exp_nbrs]
  simp only [if_true, List.filterMap_some]

theorem mem_nbrs_new (i : Nat) (hi : i ∈ F) : v ∈ (expGraph G v b F).neighbors i :=
  LGraph.mem_neighbors_iff.2 (LGraph.hasEdge_of_mem (e := (v, i, [("order", .num 2)]))
    (List.mem_append_right _ (List.mem_map.2 ⟨i, hi, rfl⟩)) (Or.inr ⟨rfl, rfl⟩))

end ExpGraph

theorem isH_get (a b : Attrs) (h : Attrs.get b "element" = Attrs.get a "element") : isH b = isH a := by
  unfold isH; rw [h]

section ExpStep
variable {G : LGraph} {v : Nat} {b : Attrs} {F : List Nat}

theorem exp_isH_old (hel : Attrs.get b "element" = Attrs.get (G.attrs v) "element") {w : Nat} (hw : w ∈ G.ids) :
    isH ((expGraph G v b F).attrs w) = isH (G.attrs w) := by
  rw [exp_attrs_old G v b F w hw]
  split
  · rename_i h; subst h; exact isH_get _ _ hel
  · rfl

theorem exp_fold_old (hG : G.WF) (hF : ∀ i ∈ F, i ∉ G.ids)
    (hel : Attrs.get b "element" = Attrs.get (G.attrs v) "element") (hnotH : isH (G.attrs v) = false)
    {w : Nat} (hw : w ∈ G.ids) : foldableB (expGraph G v b F) w = foldableB G w := by
  unfold foldableB
  rw [exp_isH_old hel hw]
  by_cases hwv : w = v
  · subst hwv; rw [hnotH]; rfl
  · rw [exp_nbrs_old G v b F w hwv (fun h => hF w h hw)]
    exact congrArg _ (Core.any_congr fun u hu => by rw [exp_isH_old hel (LGraph.neighbors_subset_ids hG hu)])

theorem exp_fold_new (hv : v ∈ G.ids) (hF : ∀ i ∈ F, i ∉ G.ids)
    (hel : Attrs.get b "element" = Attrs.get (G.attrs v) "element") (hnotH : isH (G.attrs v) = false)
    {i : Nat} (hi : i ∈ F) : foldableB (expGraph G v b F) i = true := by
  unfold foldableB
  rw [exp_attrs_new G v b F i hi (hF i hi), show isH newH = true from rfl, Bool.true_and, List.any_eq_true]
  refine ⟨v, mem_nbrs_new G v b F i hi, ?_⟩
  rw [exp_isH_old hel hv, hnotH]; rfl

theorem exp_gain (hG : G.WF) (hF : ∀ i ∈ F, i ∉ G.ids)
    (hel : Attrs.get b "element" = Attrs.get (G.attrs v) "element") (hnotH : isH (G.attrs v) = false)
    {w : Nat} (hw : w ∈ G.ids) :
    gainH (expGraph G v b F) w = gainH G w + (if w = v then 2 * (F.length : Int) else 0) := by
  have hold : ∀ u ∈ G.neighbors w, foldableB (expGraph G v b F) u = foldableB G u :=
    fun u hu => exp_fold_old hG hF hel hnotH (LGraph.neighbors_subset_ids hG hu)
  unfold gainH
  by_cases hwv : w = v
  · subst hwv
    rw [exp_nbrs_v, List.filter_append, List.filter_congr hold,
      List.filter_eq_self.2 fun i hi => exp_fold_new hw hF hel hnotH hi, List.length_append, if_pos rfl]
    push_cast; ring
  · rw [exp_nbrs_old G v b F w hwv (fun h => hF w h hw), List.filter_congr hold, if_neg hwv, add_zero]

end ExpStep

theorem normH_expGraph (G : LGraph) (v : Nat) (b : Attrs) (F : List Nat)
    (hG : G.WF) (hv : v ∈ G.ids) (hF : ∀ i ∈ F, i ∉ G.ids)
    (hb : ∀ k d, k ≠ "hcount" → k ≠ "typesGH" → pyGet b k d = pyGet (G.attrs v) k d)
    (hnotH : isH (G.attrs v) = false)
    (hcnt : numOf (pyGet b "hcount" (.num 0)) + 2 * (F.length : Int) = numOf (pyGet (G.attrs v) "hcount" (.num 0))) :
    normH (expGraph G v b F) = normH G := by
  have hel : Attrs.get b "element" = Attrs.get (G.attrs v) "element" := hb _ Val.none (by decide) (by decide)
  have fold_old := fun w hw => exp_fold_old (b := b) (F := F) hG hF hel hnotH (w := w) hw
  have fold_new := fun i hi => exp_fold_new (b := b) hv hF hel hnotH (i := i) hi
  have upd_fst : ∀ p : Nat × Attrs, (if p.1 = v then (p.1, b) else p).1 = p.1 := fun p => by split <;> rfl
  rw [normH_eq, normH_eq]
  refine LGraph.ext ?_ ?_
  · refine filter_map_append_dead (u := fun p => if p.1 = v then (p.1, b) else p) rfl ?_ ?_ ?_
    · intro y hy
      obtain ⟨i, hi, rfl⟩ := List.mem_map.1 hy
      rw [fold_new i hi]; rfl
    · intro p hp
      rw [upd_fst, fold_old p.1 (List.mem_map.2 ⟨p, hp, rfl⟩)]
    · intro p hp
      rw [upd_fst, exp_gain (b := b) (F := F) hG hF hel hnotH (List.mem_map.2 ⟨p, hp, rfl⟩)]
      by_cases hpv : p.1 = v
      · -- the hydrogens taken off the count of `v` come back as its gain
        have hpa : G.attrs v = p.2 := by rw [← hpv]; exact LGraph.attrs_of_mem hG.1 hp
        rw [hpa] at hb hel hnotH hcnt
        rw [if_pos hpv, if_pos hpv]
        exact normNode_congr p.1 p.2 b _ _ (hb _ _ (by decide) (by decide)) (hb _ _ (by decide) (by decide))
          (hb _ _ (by decide) (by decide)) (isH_get _ _ hel) (by rw [hnotH]; simp only [Bool.false_eq_true, if_false]; omega)
      · rw [if_neg hpv, if_neg hpv, add_zero]
  · refine filter_map_append_dead (u := id) (List.map_id _).symm ?_ ?_ fun _ _ => rfl
    · intro y hy
      obtain ⟨i, hi, rfl⟩ := List.mem_map.1 hy
      rw [fold_new i hi, Bool.not_true, Bool.and_false]
    · intro e he
      rw [id, fold_old _ (hG.2.1 e he).1, fold_old _ (hG.2.1 e he).2.1]

/-- Hydrogen counts of the substrate are whole numbers (even in half-units) and hydrogen atoms carry
no hydrogen count — true of every graph `smiles_to_graph` builds. -/
def WholeH (host : LGraph) : Prop :=
  ∀ p ∈ host.nodes, numOf (pyGet p.2 "hcount" (.num 0)) % 2 = 0 ∧
    (isH p.2 = true → numOf (pyGet p.2 "hcount" (.num 0)) ≤ 0)

instance (host : LGraph) : Decidable (WholeH host) := by unfold WholeH; infer_instance

/-- The accumulator `(G, next)` of `h_to_explicit`, run on the prepared substrate, after the atoms `done`: a prepared
host with ids up to `next`, whose only asymmetric labels sit on visited atoms that carried hydrogens, where a count still
positive is the substrate's (`hcb`) and none is left on a visited atom, and which normalises to a `WholeH` substrate. -/
structure ExpState (host : LGraph) (done : List Nat) (G : LGraph) (next : Nat) : Prop where
  wf : G.WF
  bound : ∀ i ∈ G.ids, i ≤ next
  tg : ∀ p ∈ G.nodes, TgOK p.2
  ord : ∀ e ∈ G.edges, numOf (pyGet e.2.2 "order" (.num 2)) > 0
  sym : ∀ p ∈ G.nodes, SymTg p.2 ∨ (p.1 ∈ done ∧ 0 < numOf (pyGet (host.attrs p.1) "hcount" (.num 0)))
  hcb : ∀ p ∈ G.nodes, 0 < numOf (pyGet p.2 "hcount" (.num 0)) →
    numOf (pyGet p.2 "hcount" (.num 0)) = numOf (pyGet (host.attrs p.1) "hcount" (.num 0))
  zero : ∀ p ∈ G.nodes, p.1 ∈ done → numOf (pyGet p.2 "hcount" (.num 0)) ≤ 0
  norm : WholeH host → normH G = normH host ∧
    ∀ p ∈ G.nodes, isH p.2 = true → numOf (pyGet p.2 "hcount" (.num 0)) ≤ 0

theorem wholeH_even {host : LGraph} (hw : WholeH host) (w : Nat) :
    numOf (pyGet (host.attrs w) "hcount" (.num 0)) % 2 = 0 := by
  by_cases hw' : w ∈ host.ids
  · exact (hw _ (LGraph.attrs_mem hw')).1
  · rw [LGraph.attrs_of_not_mem hw']; rfl

theorem expState_step {host : LGraph} {done : List Nat} {G : LGraph} {next : Nat} (h : ExpState host done G next)
    (v : Nat) : ExpState host (done ++ [v]) (expandOne G next v).1 (expandOne G next v).2 := by
  have hdone : ∀ {w : Nat}, w ∈ done → w ∈ done ++ [v] := fun hw => List.mem_append_left _ hw
  have hvd : v ∈ done ++ [v] := List.mem_append_right _ List.mem_cons_self
  rcases expandOne_cases G next v with ⟨he, hv⟩ | ⟨hvG, hcpos, he⟩
  · rw [he]
    refine { h with sym := fun p hp => (h.sym p hp).imp_right fun x => ⟨hdone x.1, x.2⟩, zero := ?_ }
    intro p hp hpd
    rcases List.mem_append.1 hpd with hpd | hpv
    · exact h.zero p hp hpd
    · rcases hv with hv | hc
      · exact absurd (List.mem_singleton.1 hpv ▸ List.mem_map.2 ⟨p, hp, rfl⟩) hv
      · rw [← LGraph.attrs_of_mem h.wf.1 hp, List.mem_singleton.1 hpv]; exact hc
  · rw [he]
    have hvmem := LGraph.attrs_mem hvG
    have hnew : ∀ i ∈ freshIds next (numOf (pyGet (G.attrs v) "hcount" (.num 0)) / 2).toNat, next < i :=
      fun i hi => ((mem_freshIds _ _ _).1 hi).1
    have hnorm : WholeH host → normH (expGraph G v (expAttrs (G.attrs v) (numOf (pyGet (G.attrs v) "hcount" (.num 0))))
        (freshIds next (numOf (pyGet (G.attrs v) "hcount" (.num 0)) / 2).toNat)) = normH host := by
      intro hw
      obtain ⟨n1, n2⟩ := h.norm hw
      have hnotH : isH (G.attrs v) = false := by
        cases hh : isH (G.attrs v) with
        | false => rfl
        | true => exact absurd (n2 _ hvmem hh) (not_le.2 hcpos)
      have heven : numOf (pyGet (G.attrs v) "hcount" (.num 0)) % 2 = 0 := by
        rw [h.hcb _ hvmem hcpos]; exact wholeH_even hw v
      rw [← n1]
      refine normH_expGraph G v _ _ h.wf hvG (fun i hi hiG => absurd (h.bound i hiG) (Nat.not_le.2 (hnew i hi)))
        (pyGet_expAttrs_other _ _) hnotH ?_
      rw [hcount_expAttrs, length_freshIds]; omega
    generalize (numOf (pyGet (G.attrs v) "hcount" (.num 0)) / 2).toNat = k at hnew hnorm ⊢
    have hnodes := @forall_mem_expGraph_nodes G v (expAttrs (G.attrs v) (numOf (pyGet (G.attrs v) "hcount" (.num 0))))
      (freshIds next k)
    refine { wf := expGraph_wf G v _ _ h.wf hvG h.bound (nodup_freshIds _ _) hnew, bound := ?_, ord := ?_,
             tg := hnodes (fun p0 hp0 _ => h.tg p0 hp0) (tgOK_expAttrs _ _ (h.tg _ hvmem)) fun _ _ => newH_tgOK,
             sym := ?_, hcb := ?_, zero := ?_, norm := ?_ }
    · intro i hi
      rw [expGraph_ids] at hi
      rcases List.mem_append.1 hi with hi | hi
      · exact Nat.le_trans (h.bound i hi) (Nat.le_add_right _ _)
      · exact ((mem_freshIds _ _ _).1 hi).2
    · intro e he
      rcases List.mem_append.1 he with he | he
      · exact h.ord e he
      · obtain ⟨i, _, rfl⟩ := List.mem_map.1 he
        show numOf (pyGet [("order", Val.num 2)] "order" (Val.num 2)) > 0
        decide
    · exact hnodes (fun p0 hp0 _ => (h.sym p0 hp0).imp_right fun x => ⟨hdone x.1, x.2⟩)
        (Or.inr ⟨hvd, by rw [← h.hcb _ hvmem hcpos]; exact hcpos⟩) fun _ _ => Or.inl newH_sym
    · exact hnodes (fun p0 hp0 _ => h.hcb p0 hp0)
        (fun hpos => absurd hpos (not_lt.2 (le_of_eq (hcount_expAttrs _)))) fun _ _ hpos => absurd hpos (not_lt.2 newH_hcount)
    · exact hnodes (fun p0 hp0 hpv hpd => h.zero p0 hp0 ((List.mem_append.1 hpd).resolve_right
          fun e => hpv (List.mem_singleton.1 e)))
        (fun _ => le_of_eq (hcount_expAttrs _)) fun _ _ _ => newH_hcount
    · intro hw
      exact ⟨hnorm hw, hnodes (fun p0 hp0 _ => (h.norm hw).2 p0 hp0) (fun _ => le_of_eq (hcount_expAttrs _))
        fun _ _ _ => newH_hcount⟩

theorem expState_init (host : LGraph) (hH : WFHost host) :
    ExpState host [] { host with nodes := host.nodes.map prepNode } (maxId { host with nodes := host.nodes.map prepNode }) := by
  have hids : (LGraph.mk (host.nodes.map prepNode) host.edges).ids = host.ids :=
    LGraph.ids_map_nodes rfl fun _ _ => rfl
  have hprep : ∀ p0 ∈ host.nodes, (prepNode p0).2 = Dict.set p0.2 "typesGH" (defaultTg p0.2) :=
    fun p0 hp0 => prepNode_of_not_hasKey p0.1 p0.2 (hH.2.1 p0 hp0)
  have hsym : ∀ p0 ∈ host.nodes, SymTg (prepNode p0).2 := by
    intro p0 hp0
    right
    rw [hprep p0 hp0, Attrs.get_set_self, defaultTg_set_tg]
  refine ⟨⟨?_, ?_, hH.1.2.2⟩, ?_, List.forall_mem_map.2 fun p0 hp0 => symTg_tgOK _ (hsym p0 hp0), hH.2.2,
    List.forall_mem_map.2 fun p0 hp0 => Or.inl (hsym p0 hp0), List.forall_mem_map.2 fun p0 hp0 _ => ?_,
    fun _ _ h => absurd h List.not_mem_nil, fun hw => ⟨?_, List.forall_mem_map.2 fun p0 hp0 => ?_⟩⟩
  · rw [hids]; exact hH.1.1
  · intro e he; rw [hids]; exact hH.1.2.1 e he
  · intro i hi
    unfold maxId
    exact Core.le_foldl_max (Or.inl hi)
  · rw [pyGet_prepNode p0 "hcount" _ (by decide), show (prepNode p0).1 = p0.1 from rfl, LGraph.attrs_of_mem hH.1.1 hp0]
  · rw [← normH_hostProj, hostProj_prep, normH_hostProj]
  · rw [isH_prepNode, pyGet_prepNode p0 "hcount" _ (by decide)]
    exact (hw p0 hp0).2

theorem explicitHost_state (host : LGraph) (nodes : List Nat) (hH : WFHost host) :
    ∃ next, ExpState host nodes (explicitHost host nodes) next :=
  ⟨_, Core.foldl_inv_prefix (f := fun acc v => expandOne acc.1 acc.2 v) (P := fun s acc => ExpState host s acc.1 acc.2)
    (l := nodes) (s := [])
    (b := ({ host with nodes := host.nodes.map prepNode }, maxId { host with nodes := host.nodes.map prepNode }))
    (fun _ _ a _ hb => expState_step hb a) (expState_init host hH)⟩

theorem explicitHost_hostX (host : LGraph) (nodes : List Nat) (hH : WFHost host) : HostX (explicitHost host nodes) :=
  (explicitHost_state host nodes hH).elim fun _ h => ⟨h.wf, h.tg, h.ord⟩

theorem rematchCovers_of_expanded_matched (host : LGraph) (nodes : List Nat) (m : Mapping) (hH : WFHost host)
    (h : ∀ v ∈ nodes, 0 < numOf (pyGet (host.attrs v) "hcount" (.num 0)) → v ∈ m.map (·.2)) :
    RematchCovers (explicitHost host nodes) m := by
  obtain ⟨_, hs⟩ := explicitHost_state host nodes hH
  intro p hp hpre
  exact (hs.sym p hp).resolve_right fun x => (preimage_eq_none_iff m p.1).1 hpre (h p.1 x.1 x.2)

/-- The same loop on the bare substrate visits the same atoms and hands out the same ids. -/
theorem hostProj_explicitHost (host : LGraph) (nodes : List Nat) :
    hostProj (explicitHost host nodes) = hostProj (hToExplicit host nodes) := by
  have hmax : maxId { host with nodes := host.nodes.map prepNode } = maxId host := by
    unfold maxId; rw [← hostProj_ids, hostProj_prep, hostProj_ids]
  exact (List.foldl_rel (r := fun x y : LGraph × Nat => hostProj x.1 = hostProj y.1 ∧ x.2 = y.2)
    ⟨hostProj_prep host, hmax⟩ fun v _ x y h => h.2 ▸ hostProj_expandOne x.1 y.1 x.2 v h.1).1

theorem normH_explicitHost (host : LGraph) (nodes : List Nat) (hH : WFHost host) (hw : WholeH host) :
    normH (explicitHost host nodes) = normH host :=
  (explicitHost_state host nodes hH).elim fun _ h => (h.norm hw).1

theorem explicitHost_count_zero (host : LGraph) (nodes : List Nat) (hH : WFHost host) :
    ∀ p ∈ (explicitHost host nodes).nodes, p.1 ∈ nodes → numOf (pyGet p.2 "hcount" (.num 0)) ≤ 0 :=
  (explicitHost_state host nodes hH).elim fun _ h => h.zero

/-- The ITS graphs of the explicit path for one first match (whose images are `nodes`) along a
list of re-matches (`_glue_graph(..., pattern_has_explicit_H=True)`; the exhaustive strategy uses
`allMonos monoSel (explicitHost host nodes) (left T)`). -/
def explicitResults (host T : LGraph) (nodes : List Nat) (ms : List Mapping) : List LGraph :=
  ms.map (glue (explicitHost host nodes) T)

end SynKit.Reactor
