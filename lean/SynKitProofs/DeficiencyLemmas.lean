import SynKitModel.Deficiency
import Mathlib.Data.List.Basic
import Mathlib.Data.List.Nodup
import SynKitProofs.Core.Fold
import SynKitProofs.Core.List
/-!
One pass of the reaction loop of `_complex_vectors` gives each of two vectors its number, a new one when
the vector has not been seen, and records the pair of numbers. The pass is stated for any type
(`internStep`: `Deficiency.complexStep` on vectors of naturals and `BipGraph.complexStepOn` on vectors of
Python ints are instances by unfolding), with its closed form (`internStep_eq`), the invariant of a fold of
passes (`IInv`, indices written with `idxOf`, which appending does not disturb) and what an injective
map does to such a fold (`foldl_internStep_map`).
-/
namespace SynKit.Deficiency
open SynKit.NetGraphAlg

section Intern
variable {ι α β : Type} [BEq α] [LawfulBEq α] [BEq β] [LawfulBEq β]

/-- `add_complex`. -/
def intern (cs : List α) (v : α) : List α × Nat :=
  if cs.contains v then (cs, cs.idxOf v) else (cs ++ [v], cs.length)

def internStep (st : List α × Edges) (p : α × α) : List α × Edges :=
  let (cs1, u) := intern st.1 p.1
  let (cs2, v) := intern cs1 p.2
  (cs2, addArc st.2 (u, v))

theorem intern_map {F : α → β} (hF : Function.Injective F) (cs : List α) (v : α) :
    intern (cs.map F) (F v) = ((intern cs v).1.map F, (intern cs v).2) := by
  have hc : (cs.map F).contains (F v) = cs.contains v := by
    rw [Bool.eq_iff_iff, List.contains_iff_mem, List.contains_iff_mem, List.mem_map_of_injective hF]
  unfold intern
  rw [hc, Core.idxOf_map_of_injOn fun a _ h => hF h]
  split
  · rfl
  · rw [List.map_append, List.length_map]; rfl

theorem foldl_internStep_map {F : α → β} (hF : Function.Injective F) (f : ι → α × α) (l : List ι)
    (st : List α × Edges) :
    l.foldl (fun st r => internStep st (F (f r).1, F (f r).2)) (st.1.map F, st.2) =
      ((l.foldl (fun st r => internStep st (f r)) st).1.map F,
        (l.foldl (fun st r => internStep st (f r)) st).2) := by
  induction l generalizing st with
  | nil => rfl
  | cons r l ih =>
    rw [List.foldl_cons, List.foldl_cons, ← ih]
    simp only [internStep, intern_map hF]

open Core (pushNew mem_pushNew nodup_pushNew idxOf_pushNew)

theorem intern_eq (cs : List α) (v : α) : intern cs v = (pushNew cs v, (pushNew cs v).idxOf v) := by
  unfold intern pushNew
  by_cases h : v ∈ cs
  · rw [if_pos (List.contains_iff_mem.2 h), if_pos h]
  · rw [if_neg (fun hc => h (List.contains_iff_mem.1 hc)), if_neg h, List.idxOf_append_of_notMem h,
      List.idxOf_cons_self, Nat.add_zero]

theorem addArc_eq (arcs : Edges) (a : Nat × Nat) : addArc arcs a = pushNew arcs a := by
  unfold addArc pushNew; simp only [List.contains_iff_mem]

theorem internStep_eq (st : List α × Edges) (p : α × α) :
    internStep st p = (pushNew (pushNew st.1 p.1) p.2,
      pushNew st.2 ((pushNew (pushNew st.1 p.1) p.2).idxOf p.1, (pushNew (pushNew st.1 p.1) p.2).idxOf p.2)) := by
  simp only [internStep, intern_eq, addArc_eq, idxOf_pushNew (mem_pushNew.2 (Or.inr rfl))]

/-- After the passes for `seen` (pass `r` handles the pair `f r`): the members of the pairs are listed
once each, and the arcs are their index pairs. -/
structure IInv (f : ι → α × α) (seen : List ι) (st : List α × Edges) : Prop where
  nodup : st.1.Nodup
  mem : ∀ v, v ∈ st.1 ↔ ∃ r ∈ seen, v = (f r).1 ∨ v = (f r).2
  arcs : ∀ a, a ∈ st.2 ↔ ∃ r ∈ seen, a = (st.1.idxOf (f r).1, st.1.idxOf (f r).2)

theorem iinv_step (f : ι → α × α) (seen : List ι) (st : List α × Edges) (r : ι) (h : IInv f seen st) :
    IInv f (seen ++ [r]) (internStep st (f r)) := by
  rw [internStep_eq]
  -- members of `st.1` keep their index
  have hold : ∀ w ∈ st.1, (pushNew (pushNew st.1 (f r).1) (f r).2).idxOf w = st.1.idxOf w := fun w hw => by
    rw [idxOf_pushNew (mem_pushNew.2 (Or.inl hw)), idxOf_pushNew hw]
  refine ⟨nodup_pushNew (nodup_pushNew h.nodup), fun w => ?_, fun a => ?_⟩
  · simp only [mem_pushNew, h.mem, Core.exists_mem_concat, or_assoc]
  · simp only [mem_pushNew, h.arcs, Core.exists_mem_concat]
    refine or_congr_left (exists_congr fun r' => and_congr_right fun hr' => ?_)
    rw [hold _ ((h.mem _).2 ⟨r', hr', Or.inl rfl⟩), hold _ ((h.mem _).2 ⟨r', hr', Or.inr rfl⟩)]

theorem iinv_foldl (f : ι → α × α) (l : List ι) :
    IInv f l (l.foldl (fun st r => internStep st (f r)) ([], [])) :=
  Core.foldl_inv_prefix (P := IInv f) (s := []) (fun s st r _ h => iinv_step f s st r h)
    ⟨List.nodup_nil, fun _ => ⟨nofun, nofun⟩, fun _ => ⟨nofun, nofun⟩⟩

/-- The arcs with indices read by position, as `complexes_spec` states them. -/
theorem iinv_arcs_getElem? {f : ι → α × α} {seen : List ι} {st : List α × Edges} (h : IInv f seen st)
    (a : Nat × Nat) :
    a ∈ st.2 ↔ ∃ r ∈ seen, st.1[a.1]? = some (f r).1 ∧ st.1[a.2]? = some (f r).2 := by
  rw [h.arcs]
  refine exists_congr fun r => and_congr_right fun hr => ?_
  have h1 : (f r).1 ∈ st.1 := (h.mem _).2 ⟨r, hr, Or.inl rfl⟩
  have h2 : (f r).2 ∈ st.1 := (h.mem _).2 ⟨r, hr, Or.inr rfl⟩
  constructor
  · rintro rfl; exact ⟨List.getElem?_idxOf h1, List.getElem?_idxOf h2⟩
  · rintro ⟨g1, g2⟩
    obtain ⟨i1, e1⟩ := List.getElem?_eq_some_iff.1 g1
    obtain ⟨i2, e2⟩ := List.getElem?_eq_some_iff.1 g2
    exact Prod.ext (e1 ▸ (h.nodup.idxOf_getElem _ _).symm) (e2 ▸ (h.nodup.idxOf_getElem _ _).symm)

end Intern

theorem complexes_inv (N : Net) :
    (complexes N).Nodup ∧
    (∀ v, v ∈ complexes N ↔ ∃ r ∈ N.reactions, v = vecOf N r.reactants ∨ v = vecOf N r.products) ∧
    (∀ a, a ∈ complexArcs N ↔ ∃ r ∈ N.reactions, (complexes N)[a.1]? = some (vecOf N r.reactants) ∧
        (complexes N)[a.2]? = some (vecOf N r.products)) :=
  have inv : IInv (fun r : Rxn => (vecOf N r.reactants, vecOf N r.products)) N.reactions (complexVectors N) :=
    iinv_foldl _ N.reactions
  ⟨inv.nodup, inv.mem, iinv_arcs_getElem? inv⟩

theorem complexArcs_lt (N : Net) (a : Nat × Nat) (h : a ∈ complexArcs N) :
    a.1 < (complexes N).length ∧ a.2 < (complexes N).length := by
  obtain ⟨r, _, h1, h2⟩ := ((complexes_inv N).2.2 a).1 h
  exact ⟨(List.getElem?_eq_some_iff.1 h1).1, (List.getElem?_eq_some_iff.1 h2).1⟩

end SynKit.Deficiency
