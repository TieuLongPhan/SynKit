import SynKitProofs.AutomorphismGroup
import SynKitProofs.AutomorphismComponents
import SynKitProofs.Core.Graph
import SynKitProofs.Core.Upsert
import SynKitProofs.Core.Dict
import SynKitProofs.AutomorphismLemmas
/-! The exact analysis (C11).  One component: the orbit bookkeeping of `_analyze_component` is a group-by of its steps
(`orbitSets_spec`) and the steps are the pairs of the orbit relation (`mem_steps_auts`), so its result is the orbits of the
automorphism group and the number of automorphisms (`orbits_component`, `analyzeComponent_eq`).
The whole graph: what `_analyze` makes of the components (`analyze_connected`, `analyze_disconnected`).  For the comparison
with the estimate: a component's automorphism extends by the identity (`extend_aut`, `orbits_sound`), and on graphs that
carry every selected attribute the matcher's defaults change nothing (`autFn_of_normalize`). -/
namespace SynKit.Aut
open SynKit.Match

/-- `orbit_sets[t.1].add(t.2)` on the entry that has the key -/
def addUpd (t : Nat × Nat) (kv : Nat × List Nat) : Nat × List Nat := (kv.1, Core.pushNew kv.2 t.2)

theorem addTo_eq (s : OrbitSets) (u v : Nat) :
    addTo s u v = Core.upsertBy (·.1) u (addUpd (u, v)) (u, [v]) s := by
  induction s with
  | nil => rfl
  | cons kv rest ih => simp only [addTo, Core.upsertBy, addUpd, Core.pushNew, ih]

/-- the steps `orbit_sets[u].add(v)` of the double loop, in order -/
def steps (autos : List Mapping) : List (Nat × Nat) := autos.flatMap fun auto => auto.flatMap fun p => [p, (p.2, p.1)]

theorem mem_steps {autos : List Mapping} {u v : Nat} :
    (u, v) ∈ steps autos ↔ ∃ auto ∈ autos, (u, v) ∈ auto ∨ (v, u) ∈ auto := by
  simp only [steps, List.mem_flatMap, List.mem_cons, List.not_mem_nil, or_false]
  exact exists_congr fun auto => and_congr_right fun _ =>
    ⟨fun ⟨p, hp, h⟩ => h.imp (fun e => by rwa [e]) (fun e => by obtain ⟨rfl, rfl⟩ := Prod.mk.inj e; exact hp),
     fun h => h.elim (fun h => ⟨_, h, .inl rfl⟩) (fun h => ⟨_, h, .inr rfl⟩)⟩

theorem orbitSets_eq (autos : List Mapping) : orbitSets autos = (steps autos).foldl (fun s t => addTo s t.1 t.2) [] := by
  simp only [steps, orbitSets, List.foldl_flatMap, List.foldl_cons, List.foldl_nil]
  rfl

theorem orbitSets_spec (autos : List Mapping) :
    (∀ kv ∈ orbitSets autos, ∀ x, x ∈ kv.2 ↔ (kv.1, x) ∈ steps autos) ∧
    ∀ t ∈ steps autos, ∃ kv ∈ orbitSets autos, kv.1 = t.1 := by
  have hG := Core.grouped_foldl (key := fun kv : Nat × List Nat => kv.1) (kf := fun t : Nat × Nat => t.1)
    (upd := addUpd) (new := fun t => (t.1, [t.2])) (fun s t _ => addTo_eq s t.1 t.2) (fun _ => rfl) (fun _ _ => rfl)
    (steps autos)
  rw [← orbitSets_eq] at hG
  refine ⟨fun kv hkv x => ?_, fun t ht => List.mem_map.1 (hG.cover t ht)⟩
  have := hG.forall_built (P := fun ts a => ∀ x, x ∈ a.2 ↔ x ∈ ts.map (·.2)) (fun _ _ _ => Iff.rfl)
    (fun ts a t _ _ ih x => by
      rw [List.map_append, List.mem_append, ← ih]; exact Core.mem_pushNew.trans (or_congr_right List.mem_singleton.symm))
    kv hkv x
  simp only [this, List.mem_map, Core.mem_group]
  exact ⟨fun ⟨t, ⟨ht, e1⟩, e2⟩ => by rwa [← e1, ← e2], fun h => ⟨_, ⟨h, rfl⟩, rfl⟩⟩

/-- what the general branch of `_analyze_component` returns as orbits -/
def orbitsOfSets (s : OrbitSets) : List (List Nat) := dedupR (s.map fun kv => sortDedup kv.2)

/-- The short cuts of `_analyze_component` for no node and one node give what the general branch gives; its
guards for an empty dictionary and a zero count never fire, since the identity is enumerated. -/
theorem analyzeComponent_eq (sel : Sel) {g : LGraph} (hwf : g.WF) :
    analyzeComponent sel g = (orbitsOfSets (orbitSets (auts sel g)), (auts sel g).length) := by
  have hidm := id_mem_auts sel hwf
  rcases hN : g.nodes with _ | ⟨p, _ | ⟨q, rest⟩⟩
  · have hids : g.ids = [] := by rw [LGraph.ids, hN]; rfl
    have : auts sel g = [[]] := by rw [auts, allInduced, hids]; rfl
    rw [this, analyzeComponent, hN]
    rfl
  · have hids : g.ids = [p.1] := by rw [LGraph.ids, hN]; rfl
    -- the enumerator offers the one pair, and takes it since the identity is enumerated
    have h : auts sel g = if extendOk sel true g g [] p.1 p.1 then [[(p.1, p.1)]] else [] := by
      simp only [auts, allInduced, extend, hids, List.flatMap_cons, List.flatMap_nil, List.append_nil]; rfl
    by_cases hc : extendOk sel true g g [] p.1 p.1 = true
    · rw [h, if_pos hc, analyzeComponent, hN]
      simp [orbitsOfSets, orbitSets, addPair, addTo, sortDedup, insertSorted, dedupR]
    · rw [h, if_neg hc] at hidm; cases hidm
  · have hne : (orbitSets (auts sel g)).isEmpty = false := by
      obtain ⟨kv, hkv, _⟩ := (orbitSets_spec (auts sel g)).2 (p.1, p.1) (mem_steps.2 ⟨_, hidm, .inl
        (List.mem_map.2 ⟨_, by rw [LGraph.ids, hN]; exact List.mem_cons_self .., rfl⟩)⟩)
      exact List.isEmpty_eq_false_iff.2 (List.ne_nil_of_mem hkv)
    simp only [analyzeComponent, hN, hne, Bool.false_eq_true, if_false, gt_iff_lt, List.length_pos_of_mem hidm,
      if_true, orbitsOfSets]

theorem mem_steps_auts {sel : Sel} (hh : sel.hcountRule = false) {g : LGraph} (hwf : g.WF) {w z : Nat} :
    (w, z) ∈ steps (auts sel g) ↔ Core.Orb g.ids (IsAutFn sel g) w z := by
  rw [mem_steps]
  constructor
  · rintro ⟨m, hm, hp⟩
    have hiso := (mem_auts_iff hwf m).1 hm
    have hget : ∀ {a b}, (a, b) ∈ m → Core.Orb g.ids (IsAutFn sel g) a b := fun h =>
      (iso_iff_autFn hwf).1 ⟨m, hiso, hiso.mono.get?_of_mem hwf h⟩
    exact hp.elim hget fun h => (mapGroup_autFn hh hwf).symm (hget h)
  · rintro ⟨hw, f, hf, rfl⟩
    exact ⟨_, (mem_auts_iff hwf _).2 (hf.isIso hwf), Or.inl (List.mem_map.2 ⟨_, hw, rfl⟩)⟩

theorem orbits_component {sel : Sel} (hh : sel.hcountRule = false) {g : LGraph} (hwf : g.WF) :
    (∀ O ∈ (analyzeComponent sel g).1, ∃ a, ∀ x, x ∈ O ↔ Core.Orb g.ids (IsAutFn sel g) a x) ∧
    ∀ a ∈ g.ids, ∃ O ∈ (analyzeComponent sel g).1, ∀ x, x ∈ O ↔ Core.Orb g.ids (IsAutFn sel g) a x := by
  obtain ⟨hset, hkey⟩ := orbitSets_spec (auts sel g)
  have hcls : ∀ kv ∈ orbitSets (auts sel g), ∀ x, x ∈ sortDedup kv.2 ↔ Core.Orb g.ids (IsAutFn sel g) kv.1 x :=
    fun kv hkv x => by rw [mem_sortDedup, hset kv hkv, mem_steps_auts hh hwf]
  rw [analyzeComponent_eq sel hwf]
  refine ⟨fun O hO => ?_, fun a ha => ?_⟩
  · obtain ⟨kv, hkv, rfl⟩ := List.mem_map.1 ((mem_dedupR _ _).1 hO)
    exact ⟨kv.1, hcls kv hkv⟩
  · obtain ⟨kv, hkv, rfl⟩ := hkey (a, a) ((mem_steps_auts hh hwf).2 ((mapGroup_autFn hh hwf).refl ha))
    exact ⟨_, (mem_dedupR _ _).2 (List.mem_map_of_mem hkv), hcls kv hkv⟩

theorem sameClass_component {sel : Sel} (hh : sel.hcountRule = false) {g : LGraph} (hwf : g.WF) (x y : Nat) :
    SameClass (analyzeComponent sel g).1 x y ↔ Core.Orb g.ids (IsAutFn sel g) x y :=
  (mapGroup_autFn hh hwf).sameClass_iff (orbits_component hh hwf).1 (orbits_component hh hwf).2

theorem normalize_eq (c : Cfg) (G : LGraph) :
    normalize c G = G.mapAttrs (fun _ => fill c.nodeKeys nodeDefault) (fill c.edgeKeys edgeDefault) := rfl

theorem normalize_ids (c : Cfg) (G : LGraph) : (normalize c G).ids = G.ids :=
  (normalize_eq c G).symm ▸ LGraph.ids_mapAttrs

theorem normalize_wf (c : Cfg) {G : LGraph} (hwf : G.WF) : (normalize c G).WF :=
  (normalize_eq c G).symm ▸ LGraph.wf_mapAttrs hwf

theorem induce_eq (G : LGraph) (S : List Nat) : induce G S = G.induce S := rfl

theorem analyze_connected (c : Cfg) {G : LGraph} (hwf : G.WF) (hconn : (components G).length ≤ 1) :
    (∀ u v, SameClass (analyze c G).orbits u v ↔ Core.Orb (normalize c G).ids (IsAutFn c.sel (normalize c G)) u v) ∧
    (analyze c G).nAut = (auts c.sel (normalize c G)).length ∧
    (analyze c G).anchor = none := by
  have h : analyze c G = ⟨(analyzeComponent c.sel (normalize c G)).1, (analyzeComponent c.sel (normalize c G)).2, none,
      components G⟩ := by
    unfold analyze
    by_cases hE : G.nodes.isEmpty = true
    · simp [analyzeComponent, normalize, List.isEmpty_iff.1 hE]
    · simp [hE, hconn]
  rw [h]
  exact ⟨sameClass_component rfl (normalize_wf c hwf),
    congrArg Prod.snd (analyzeComponent_eq _ (normalize_wf c hwf)), rfl⟩

theorem analyze_disconnected (c : Cfg) {G : LGraph} (hwf : G.WF) (hdis : 1 < (components G).length) :
    (∀ u v, SameClass (analyze c G).orbits u v ↔ ∃ comp ∈ components G,
        Core.Orb (induce (normalize c G) comp).ids (IsAutFn c.sel (induce (normalize c G) comp)) u v) ∧
    (analyze c G).nAut =
      ((components G).map fun comp => (auts c.sel (induce (normalize c G) comp)).length).foldl (· * ·) 1 ∧
    (analyze c G).anchor = chooseAnchor c (components G) := by
  have hwi := fun comp => LGraph.wf_induce (normalize_wf c hwf) comp
  have hE : ¬ G.nodes.isEmpty = true := by
    intro h; rw [components, LGraph.ids, List.isEmpty_iff.1 h] at hdis; exact Nat.not_lt_zero _ (Nat.lt_of_succ_lt hdis)
  have hlen : ¬ (components G).length ≤ 1 := by omega
  have hcount : ((components G).map fun comp => analyzeComponent c.sel (induce (normalize c G) comp)).map (·.2) =
      (components G).map fun comp => (auts c.sel (induce (normalize c G) comp)).length := by
    rw [List.map_map]
    exact List.map_congr_left fun comp _ => congrArg Prod.snd (analyzeComponent_eq _ (hwi comp))
  have hpos : 0 < ((components G).map fun comp => (auts c.sel (induce (normalize c G) comp)).length).foldl (· * ·) 1 :=
    Core.foldl_inv (P := (0 < ·)) (fun _ x hx hb => by
      obtain ⟨comp, _, rfl⟩ := List.mem_map.1 hx
      exact Nat.mul_pos hb (List.length_pos_of_mem (id_mem_auts _ (hwi comp)))) Nat.one_pos
  unfold analyze
  simp only [hE, hlen, if_false, hcount, hpos, if_true, Bool.false_eq_true]
  refine ⟨fun u v => Iff.trans ?_ (exists_congr fun comp => and_congr_right fun _ =>
    sameClass_component rfl (hwi comp) u v), trivial, trivial⟩
  simp only [SameClass, mem_dedupR, List.mem_flatMap, List.mem_map]
  exact ⟨fun ⟨O, ⟨_, ⟨comp, hcomp, e⟩, hO⟩, h⟩ => ⟨comp, hcomp, O, e ▸ hO, h⟩,
    fun ⟨comp, hcomp, O, hO, h⟩ => ⟨O, ⟨_, ⟨comp, hcomp, rfl⟩, hO⟩, h⟩⟩

theorem extend_aut {sel : Sel} {G : LGraph} (hwf : G.WF) {S : List Nat} (hcl : Closed G S) {f F : Nat → Nat}
    (hf : IsAutFn sel (induce G S) f) (hin : ∀ x ∈ S, F x = f x) (hout : ∀ x, x ∉ S → F x = x) :
    IsAutFn sel G F := by
  rw [induce_eq] at hf
  have hind : ∀ {x}, x ∈ G.ids → x ∈ S → x ∈ (G.induce S).ids := fun hx hs => LGraph.mem_ids_induce.2 ⟨hx, hs⟩
  have hS : ∀ {x}, x ∈ G.ids → x ∈ S → f x ∈ G.ids ∧ f x ∈ S := fun hx hs =>
    LGraph.mem_ids_induce.1 (hf.node _ (hind hx hs)).1
  -- `F` keeps either side of the closed set and a bond stays on one side, so equal images, bonds and bonds between
  -- images only occur between nodes of one side; there `F` is `f` or the identity, which have the three properties
  have hFS : ∀ {x}, x ∈ G.ids → (F x ∈ S ↔ x ∈ S) := fun {x} hx => by
    by_cases hs : x ∈ S
    · rw [hin x hs]; exact iff_of_true (hS hx hs).2 hs
    · rw [hout x hs]
  have hside : ∀ {x y}, G.hasEdge x y = true → (x ∈ S ↔ y ∈ S) := fun hE =>
    ⟨fun hx => hcl _ hx _ (LGraph.mem_neighbors_iff.2 hE),
     fun hy => hcl _ hy _ (LGraph.mem_neighbors_iff.2 (LGraph.hasEdge_comm.trans hE))⟩
  have hsame : ∀ {u v}, u ∈ G.ids → v ∈ G.ids → (u ∈ S ↔ v ∈ S) → (F u = F v → u = v) ∧
      (∀ a, G.edge? u v = some a → ∃ b, G.edge? (F u) (F v) = some b ∧ edgeOk sel b a = true) ∧
      (G.hasEdge u v = false → G.hasEdge (F u) (F v) = false) := fun {u v} hu hv hsv => by
    by_cases hsu : u ∈ S
    · have hsv := hsv.1 hsu
      rw [hin u hsu, hin v hsv, ← LGraph.edge?_induce_of_mem hsu hsv, ← LGraph.hasEdge_induce_of_mem hsu hsv,
        ← LGraph.edge?_induce_of_mem (hS hu hsu).2 (hS hv hsv).2, ← LGraph.hasEdge_induce_of_mem (hS hu hsu).2 (hS hv hsv).2]
      exact ⟨hf.inj u (hind hu hsu) v (hind hv hsv), fun a => hf.edge?_image, hf.nonedge u (hind hu hsu) v (hind hv hsv)⟩
    · rw [hout u hsu, hout v (mt hsv.2 hsu)]
      exact ⟨id, fun a ha => ⟨a, ha, edgeOk_refl sel a⟩, id⟩
  refine ⟨⟨fun u hu v hv h => (hsame hu hv (by rw [← hFS hu, ← hFS hv, h])).1 h, fun v hv => ?_, fun e he => ?_⟩, rfl,
    fun u hu v hv hne => ?_⟩
  · by_cases hs : v ∈ S
    · have hn := (hf.node v (hind hv hs)).2
      rw [LGraph.attrs_induce (hS hv hs).2, LGraph.attrs_induce hs, ← hin v hs] at hn
      exact ⟨hin v hs ▸ (hS hv hs).1, hn⟩
    · rw [hout v hs]; exact ⟨hv, nodeOk_refl sel _⟩
  · have ha := LGraph.edge?_of_mem hwf he (.inl ⟨rfl, rfl⟩)
    exact (hsame (hwf.2.1 e he).1 (hwf.2.1 e he).2.1 (hside (LGraph.hasEdge_of_edge? ha))).2.1 _ ha
  · by_cases hsv : u ∈ S ↔ v ∈ S
    · exact (hsame hu hv hsv).2.2 hne
    · exact Bool.eq_false_iff.2 fun hE => hsv (by rw [← hFS hu, ← hFS hv]; exact hside hE)

theorem closed_normalize (c : Cfg) {G : LGraph} {S : List Nat} (h : Closed G S) : Closed (normalize c G) S :=
  fun s hs w hw => h s hs w (by rwa [normalize_eq, LGraph.neighbors_mapAttrs] at hw)

theorem orbits_sound (c : Cfg) {G : LGraph} (hwf : G.WF) {u v : Nat} (h : SameClass (analyze c G).orbits u v) :
    u ∈ G.ids ∧ ∃ f, IsAutFn c.sel (normalize c G) f ∧ f u = v := by
  have hn := normalize_wf c hwf
  rw [← normalize_ids c G]
  by_cases hconn : (components G).length ≤ 1
  · exact ((analyze_connected c hwf hconn).1 u v).1 h
  · obtain ⟨comp, hcomp, hui, f, hf, rfl⟩ := ((analyze_disconnected c hwf (by omega)).1 u v).1 h
    obtain ⟨hu1, hu2⟩ := LGraph.mem_ids_induce.1 hui
    obtain ⟨w, hw, rfl⟩ := mem_components hcomp
    -- the automorphism of their component, extended by the identity
    exact ⟨hu1, fun x => if x ∈ compOf G w then f x else x,
      extend_aut hn (closed_normalize c (compOf_closed hwf hw)) hf (fun _ hx => if_pos hx) (fun _ hx => if_neg hx),
      if_pos hu2⟩

theorem fill_get? (keys : List String) (d : String → Val) (a : Attrs) {k : String} (hk : k ∈ keys) :
    Dict.get? (fill keys d a) k = some (match Dict.get? a k with | some v => v | none => d k) :=
  (Dict.get?_map_graph keys _ k).trans (if_pos hk)

def AttrComplete (nodeKeys edgeKeys : List String) (G : LGraph) : Prop :=
  (∀ p ∈ G.nodes, ∀ k ∈ nodeKeys, Dict.get? p.2 k ≠ none) ∧
  (∀ e ∈ G.edges, ∀ k ∈ edgeKeys, Dict.get? e.2.2 k ≠ none)

theorem fill_agree (keys : List String) (d : String → Val) {a b : Attrs}
    (ha : ∀ k ∈ keys, Dict.get? a k ≠ none) (hb : ∀ k ∈ keys, Dict.get? b k ≠ none) :
    (∀ k ∈ keys, (fill keys d a).get k = (fill keys d b).get k) ↔ ∀ k ∈ keys, a.get k = b.get k := by
  have key : ∀ x : Attrs, (∀ k ∈ keys, Dict.get? x k ≠ none) → ∀ k ∈ keys, (fill keys d x).get k = x.get k := by
    intro x hx k hk
    unfold Attrs.get Dict.getD
    rw [fill_get? keys d x hk]
    cases h : Dict.get? x k with
    | none => exact absurd h (hx k hk)
    | some v => rfl
  exact forall₂_congr fun k hk => by rw [key a ha k hk, key b hb k hk]

theorem autFn_of_normalize (c : Cfg) {G : LGraph} (hwf : G.WF) (hc : AttrComplete c.nodeKeys c.edgeKeys G)
    {f : Nat → Nat} (hf : IsAutFn c.sel (normalize c G) f) : IsAutFn c.sel G f := by
  rw [normalize_eq] at hf
  have hids : ∀ {v}, v ∈ G.ids → v ∈ (G.mapAttrs (fun _ => fill c.nodeKeys nodeDefault) (fill c.edgeKeys edgeDefault)).ids :=
    fun hv => LGraph.ids_mapAttrs.symm ▸ hv
  have hattr : ∀ v ∈ G.ids, ∀ k ∈ c.nodeKeys, Dict.get? (G.attrs v) k ≠ none := fun v hv =>
    let ⟨a, ha⟩ := LGraph.mem_ids.1 hv
    LGraph.attrs_of_mem hwf.1 ha ▸ hc.1 _ ha
  have hbond : ∀ {u v a}, G.edge? u v = some a → ∀ k ∈ c.edgeKeys, Dict.get? a k ≠ none := fun h =>
    let ⟨e, he, ha, _⟩ := LGraph.edge?_some_mem h
    ha ▸ hc.2 e he
  refine ⟨⟨fun u hu v hv => hf.inj u (hids hu) v (hids hv), fun v hv => ?_, fun e he => ?_⟩, rfl,
    fun u hu v hv hne => ?_⟩
  · obtain ⟨hm, hn⟩ := hf.node v (hids hv)
    rw [LGraph.ids_mapAttrs] at hm
    rw [LGraph.attrs_mapAttrs hv, LGraph.attrs_mapAttrs hm, nodeOk_iff rfl] at hn
    exact ⟨hm, (nodeOk_iff rfl _ _).2 ((fill_agree _ _ (hattr _ hm) (hattr v hv)).1 hn)⟩
  · have ha := LGraph.edge?_of_mem hwf he (.inl ⟨rfl, rfl⟩)
    obtain ⟨b', hb1, hb2⟩ := hf.edge?_image (LGraph.edge?_mapAttrs.trans (congrArg _ ha))
    rw [LGraph.edge?_mapAttrs] at hb1
    obtain ⟨b, hb, rfl⟩ := Option.map_eq_some_iff.1 hb1
    exact ⟨b, hb, (edgeOk_iff _ _).2 ((fill_agree _ _ (hbond hb) (hbond ha)).1 ((edgeOk_iff _ _).1 hb2))⟩
  · have := hf.nonedge u (hids hu) v (hids hv) (LGraph.hasEdge_mapAttrs.trans hne)
    rwa [LGraph.hasEdge_mapAttrs] at this

end SynKit.Aut
