import SynKitModel.Automorphism
import SynKitProofs.Core.Sort
import SynKitProofs.Core.Graph
/-! The list-as-set helpers of the C11 model and the `seen` loop of the de-duplication (`dedupLoop_spec`). -/
namespace SynKit.Aut
open SynKit.Match

theorem insertSorted_eq (x : Nat) (l : List Nat) : insertSorted x l = Core.insertDedup (· < ·) x l := by
  induction l with
  | nil => rfl
  | cons y ys ih => simp only [insertSorted, Core.insertDedup, ih]

theorem sortDedup_eq (l : List Nat) : sortDedup l = Core.sortDedup (· < ·) l :=
  congrArg (fun f => l.foldr f []) (funext fun x => funext (insertSorted_eq x))

theorem mem_sortDedup (x : Nat) (l : List Nat) : x ∈ sortDedup l ↔ x ∈ l := by
  rw [sortDedup_eq]; exact Core.mem_sortDedup

theorem dedupR_eq {α : Type} [DecidableEq α] (l : List α) : dedupR l = l.dedup :=
  Core.eq_dedup_of_rec rfl (fun _ _ => rfl) l

theorem mem_dedupR {α : Type} [DecidableEq α] (l : List α) (x : α) : x ∈ dedupR l ↔ x ∈ l := by
  rw [dedupR_eq]
  exact List.mem_dedup

theorem edgeKey_eq {a b c d : Nat} (h : (min a b, max a b) = (min c d, max c d)) :
    (a = c ∧ b = d) ∨ (a = d ∧ b = c) :=
  LGraph.pair_eq_of_key_eq h

theorem dedupLoop_spec (sig : Mapping → Except Err Sig) (ms : List Mapping) (seen : List Sig) :
    ∀ r, dedupLoop sig ms seen = .ok r →
      r.Sublist ms ∧ (∀ m ∈ r, ∃ s, sig m = .ok s ∧ s ∉ seen) ∧ r.Pairwise (fun a b => sig a ≠ sig b) ∧
      ∀ m ∈ ms, ∃ s, sig m = .ok s ∧ (s ∈ seen ∨ ∃ m' ∈ r, sig m' = .ok s) := by
  fun_induction dedupLoop sig ms seen with
  | case1 seen =>
    rintro r ⟨⟩
    exact ⟨.slnil, nofun, .nil, nofun⟩
  | case2 m₀ ms seen e he => exact nofun
  | case3 m₀ ms seen s hs hin ih =>
    intro r h
    obtain ⟨h1, h2, h3, h4⟩ := ih r h
    exact ⟨h1.cons _, h2, h3, List.forall_mem_cons.2 ⟨⟨s, hs, .inl hin⟩, h4⟩⟩
  | case4 m₀ ms seen s hs hnot e he ih => exact nofun
  | case5 m₀ ms seen s hs hnot r' hr' ih =>
    rintro r ⟨⟩
    obtain ⟨h1, h2, h3, h4⟩ := ih r' hr'
    refine ⟨h1.cons_cons _, List.forall_mem_cons.2 ⟨⟨s, hs, hnot⟩, fun m hm => ?_⟩,
      List.Pairwise.cons (fun m hm hEq => ?_) h3,
      List.forall_mem_cons.2 ⟨⟨s, hs, .inr ⟨m₀, List.mem_cons_self, hs⟩⟩, fun m hm => ?_⟩⟩
    · obtain ⟨t, ht, htn⟩ := h2 m hm
      exact ⟨t, ht, fun hh => htn (List.mem_cons_of_mem _ hh)⟩
    · obtain ⟨t, ht, htn⟩ := h2 m hm
      rw [← hEq, hs] at ht
      cases ht
      exact htn List.mem_cons_self
    · obtain ⟨t, ht, hc | ⟨m', hm', hs'⟩⟩ := h4 m hm
      · rcases List.mem_cons.1 hc with rfl | hc
        · exact ⟨t, ht, .inr ⟨m₀, List.mem_cons_self, hs⟩⟩
        · exact ⟨t, ht, .inl hc⟩
      · exact ⟨t, ht, .inr ⟨m', List.mem_cons_of_mem _ hm', hs'⟩⟩

end SynKit.Aut
