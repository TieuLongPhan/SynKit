import SynKitModel.CrnIR
import SynKitProofs.CrnIREquiv
import SynKitProofs.CrnIRSearch
import SynKitProofs.CrnCanonLemmas
/-!
Two leaves of one search tree with the same label give a structure-preserving self-map (position `i` of the first
permutation ↦ position `i` of the second).  `_label` skips the diagonal, so self-loops (a catalyst: `A → A` in the
species view) are recovered from the refinement: cells are split in place, hence all leaves list, position by
position, nodes with equal `crnInv`; and equal out-arc multisets with equal off-diagonal parts have equal diagonals.
-/
namespace SynKit.CrnCanon
open SynKit.Canon (sortBy_perm irNormEdgeVal)
open SynKit.Core (filterMap_perm_cancel option_map_congr_of_map_eq option_map_congr_of_mem)

/-- The partition-independent part of the signature: node attributes, both degrees, the sorted out-arc attributes. -/
def crnInv (sel : SelD) (G : LGraph) (v : Nat) : CrnSig := crnSig sel G [] v

theorem crnInv_of_sig {sel : SelD} {G : LGraph} {P : List (List Nat)} {v w : Nat}
    (h : crnSig sel G P v = crnSig sel G P w) : crnInv sel G v = crnInv sel G w := by
  simp only [crnSig, CrnSig.mk.injEq] at h
  simp only [crnInv, crnSig, CrnSig.mk.injEq, List.map_nil]
  exact ⟨h.1, h.2.1, h.2.2.1, trivial, h.2.2.2.2⟩

/-- Cells are split in place (`IRSys.leaves_map`), and `crnInv` is read off the signature. -/
theorem crnRootLeaves_inv (sel : SelD) (G : LGraph) (hn : G.ids.Nodup) :
    ∀ l ∈ crnRootLeaves sel G, ∀ l' ∈ crnRootLeaves sel G, l.2.map (crnInv sel G) = l'.2.map (crnInv sel G) := by
  have key := Canon.IRSys.leaves_map (crnSys_lawful sel G) (f := crnInv sel G) (fun _ _ _ => crnInv_of_sig)
    (Nat.succ_pos _) hn (G.nodes.length + 1) _ [] (crnInitPart_ok sel G)
  rw [← crnLeaves_eq] at key
  exact fun l hl l' hl' => (key l hl).trans (key l' hl').symm

def NodeOK (sel : SelD) (a : Attrs) : Prop :=
  ∀ k ∈ sel.nodeKeys, Dict.get? a k ≠ some Val.none ∧ Dict.get? a k ≠ some (.str "")

def EdgeOK (sel : SelD) (a : Attrs) : Prop :=
  ∀ k ∈ sel.edgeKeys, Dict.get? a k ≠ some Val.none ∧ Dict.get? a k ≠ some (.str "") ∧
    (k = "order" → valIsTup (Dict.get? a k) = false)

theorem CrnAttrOK.node {sel : SelD} {G : LGraph} (h : CrnAttrOK sel G) {v : Nat} (hv : v ∈ G.ids) :
    NodeOK sel (G.attrs v) := h.1 _ (LGraph.attrs_mem hv)

theorem CrnAttrOK.arc {sel : SelD} {G : LGraph} (h : CrnAttrOK sel G) {u v : Nat} {a : Attrs}
    (ha : G.arc? u v = some a) : EdgeOK sel a := h.2 _ (LGraph.arc?_some_mem ha)

/-- A look-up that never yields the default is recovered from its reading with that default (`.get`: `None`,
`_label`: `""`). -/
theorem getD_inj {α : Type} {o o' : Option α} {d : α} (ho : o ≠ some d) (ho' : o' ≠ some d)
    (h : o.getD d = o'.getD d) : o = o' := by
  cases o <;> cases o' <;> simp_all

theorem get?_of_map_getD {keys : List String} {a b : Attrs} {d : Val}
    (ha : ∀ k ∈ keys, Dict.get? a k ≠ some d) (hb : ∀ k ∈ keys, Dict.get? b k ≠ some d)
    (h : (keys.map fun k => Dict.getD a k d) = keys.map fun k => Dict.getD b k d) :
    ∀ k ∈ keys, Dict.get? a k = Dict.get? b k :=
  fun k hk => getD_inj (ha k hk) (hb k hk) (List.map_inj_left.1 h k hk)

theorem irNormEdgeVal_get {a : Attrs} {k : String} (h : k = "order" → valIsTup (Dict.get? a k) = false) :
    irNormEdgeVal k (a.get k) = a.get k := by
  unfold Attrs.get Dict.getD
  cases hx : Dict.get? a k with
  | none => rfl
  | some w =>
    cases w with
    | tup xs =>
      rw [hx] at h
      exact if_neg fun hk => Bool.noConfusion (h hk)
    | _ => rfl

theorem crnEdgeGet_of_sigKey {sel : SelD} {a b : Attrs} (ha : EdgeOK sel a) (hb : EdgeOK sel b)
    (h : crnEdgeSigKey sel a = crnEdgeSigKey sel b) : crnEdgeGet sel a = crnEdgeGet sel b := by
  unfold crnEdgeSigKey at h
  rw [List.map_inj_left] at h
  rw [crnEdgeGet_eq_iff]
  intro k hk
  have hk' := h k hk
  rw [irNormEdgeVal_get (ha k hk).2.2, irNormEdgeVal_get (hb k hk).2.2] at hk'
  exact getD_inj (ha k hk).1 (hb k hk).1 hk'

theorem crnEdgeGet_of_labKey {sel : SelD} {a b : Attrs} (ha : EdgeOK sel a) (hb : EdgeOK sel b)
    (h : crnEdgeLabKey sel a = crnEdgeLabKey sel b) : crnEdgeGet sel a = crnEdgeGet sel b :=
  (crnEdgeGet_eq_iff sel a b).2 (get?_of_map_getD (fun k hk => (ha k hk).2.1) (fun k hk => (hb k hk).2.1) h)

theorem node_get?_of_labKey {sel : SelD} {a b : Attrs} (ha : NodeOK sel a) (hb : NodeOK sel b)
    (h : crnNodeLabKey sel a = crnNodeLabKey sel b) : ∀ k ∈ sel.nodeKeys, Dict.get? a k = Dict.get? b k :=
  get?_of_map_getD (fun k hk => (ha k hk).2) (fun k hk => (hb k hk).2) h

theorem arc_of_crnBit {sel : SelD} {G : LGraph} (hok : CrnAttrOK sel G) {u v u' v' : Nat}
    (h : crnBit sel G u' v' = crnBit sel G u v) :
    (G.arc? u' v').map (crnEdgeGet sel) = (G.arc? u v).map (crnEdgeGet sel) :=
  option_map_congr_of_mem (fun _ ha _ hb => crnEdgeGet_of_labKey (hok.arc ha) (hok.arc hb)) ((crnBit_eq_iff ..).1 h)

theorem diag_of_offdiag (sel : SelD) (G : LGraph) (hn : G.ids.Nodup) (hok : CrnAttrOK sel G) (f : Nat → Nat)
    (hperm : (G.ids.map f).Perm G.ids)
    (hoff : ∀ p ∈ G.ids, ∀ q ∈ G.ids, p ≠ q →
      (G.arc? (f p) (f q)).map (crnEdgeGet sel) = (G.arc? p q).map (crnEdgeGet sel))
    (p : Nat) (hp : p ∈ G.ids) (hinv : crnInv sel G (f p) = crnInv sel G p) :
    (G.arc? (f p) (f p)).map (crnEdgeGet sel) = (G.arc? p p).map (crnEdgeGet sel) := by
  -- the out-arc multisets of `f p` and `p` agree; re-index the first along `f`
  have hedges : (G.ids.filterMap fun w => (G.arc? (f p) (f w)).map (crnEdgeSigKey sel)).Perm
      (G.ids.filterMap fun w => (G.arc? p w).map (crnEdgeSigKey sel)) := by
    have := congrArg CrnSig.edges hinv
    simp only [crnInv, crnSig, crnSuccs_keys] at this
    refine .trans (.trans (.of_eq ?_) (hperm.filterMap _))
      ((sortBy_perm _ _).symm.trans ((List.Perm.of_eq this).trans (sortBy_perm _ _)))
    rw [List.filterMap_map]; rfl
  -- off the diagonal the two rows agree, hence also on it
  have key := filterMap_perm_cancel hn hp (fun w hw hwp => ?_) hedges
  · exact option_map_congr_of_mem (fun _ ha _ hb => crnEdgeGet_of_sigKey (hok.arc ha) (hok.arc hb)) key
  · exact option_map_congr_of_map_eq _ _ (crnEdgeSigKey_congr sel) _ _ (hoff p hp w hw (Ne.symm hwp))

theorem crnIso_of_equal_labels (sel : SelD) (G : LGraph) (hn : G.ids.Nodup) (hok : CrnAttrOK sel G)
    (o o2 : List Nat) (ho : o.Perm G.ids) (ho2 : o2.Perm G.ids)
    (hlab : crnBuildLabel sel G o = crnBuildLabel sel G o2)
    (hinv : o.map (crnInv sel G) = o2.map (crnInv sel G)) :
    CrnIso sel G G (posMap o o2) ∧ o.map (posMap o o2) = o2 := by
  have hlen : o.length = o2.length := ho.length_eq.trans ho2.length_eq.symm
  have hond : o.Nodup := ho.nodup_iff.2 hn
  have hmap : o.map (posMap o o2) = o2 := Canon.map_unpos_pos o2 o hond hlen.symm
  have hidx := fun p (hp : p ∈ G.ids) => posMap_spec ho hlen hp
  have hmem2 : ∀ i (h2 : i < o2.length), o2[i] ∈ G.ids := fun i h2 => ho2.subset (List.getElem_mem h2)
  have hmem1 : ∀ i (h1 : i < o.length), o[i] ∈ G.ids := fun i h1 => ho.subset (List.getElem_mem h1)
  unfold crnBuildLabel at hlab
  injection hlab with hnodes hrows
  unfold crnNodeSeg at hnodes
  obtain ⟨_, hnode⟩ := Core.map_eq_map_getElem hnodes
  unfold crnRows at hrows
  obtain ⟨_, hrow⟩ := Core.map_eq_map_getElem hrows
  obtain ⟨_, hinv'⟩ := Core.map_eq_map_getElem hinv
  have hbit : ∀ i (h1 : i < o.length) (h2 : i < o2.length) j (j1 : j < o.length) (j2 : j < o2.length), i ≠ j →
      crnBit sel G o2[i] o2[j] = crnBit sel G o[i] o[j] := by
    intro i h1 h2 j j1 j2 hij
    have hr := hrow i (by simpa using h1) (by simpa using h2)
    obtain ⟨_, hr'⟩ := Core.map_eq_map_getElem hr
    have := hr' j (by simpa using j1) (by simpa using j2)
    simp only [List.getElem_zipIdx, Nat.zero_add, hij, if_false] at this
    exact this.symm
  have hperm : (G.ids.map (posMap o o2)).Perm G.ids :=
    (ho.symm.map _).trans ((List.Perm.of_eq hmap).trans ho2)
  have hoff : ∀ p ∈ G.ids, ∀ q ∈ G.ids, p ≠ q →
      (G.arc? (posMap o o2 p) (posMap o o2 q)).map (crnEdgeGet sel) = (G.arc? p q).map (crnEdgeGet sel) := by
    intro p hp q hq hpq
    obtain ⟨i, i1, i2, rfl, ei⟩ := hidx p hp
    obtain ⟨j, j1, j2, rfl, ej⟩ := hidx q hq
    rw [ei, ej]
    have hij : i ≠ j := by
      intro e
      subst e
      exact hpq rfl
    exact arc_of_crnBit hok (hbit i i1 i2 j j1 j2 hij)
  refine ⟨⟨hperm, ?_, ?_⟩, hmap⟩
  · intro p hp
    obtain ⟨i, i1, i2, rfl, ei⟩ := hidx p hp
    rw [ei]
    exact node_get?_of_labKey (hok.node (hmem2 i i2)) (hok.node (hmem1 i i1)) (hnode i i1 i2).symm
  · intro p hp q hq
    by_cases hpq : p = q
    · subst hpq
      apply diag_of_offdiag sel G hn hok _ hperm hoff p hp
      obtain ⟨i, i1, i2, rfl, ei⟩ := hidx p hp
      rw [ei]
      exact (hinv' i i1 i2).symm
    · exact hoff p hp q hq hpq

theorem crnIso_of_leaves (sel : SelD) (G : LGraph) (hn : G.ids.Nodup)
    (hok : CrnAttrOK sel G) (l l' : List Nat × List Nat) (hl : l ∈ crnRootLeaves sel G) (hl' : l' ∈ crnRootLeaves sel G)
    (hlab : crnLeafLabel sel G l = crnLeafLabel sel G l') :
    CrnIso sel G G (posMap l.2 l'.2) ∧ l.2.map (posMap l.2 l'.2) = l'.2 :=
  crnIso_of_equal_labels sel G hn hok l.2 l'.2 (crnRootLeaves_perm sel G hn l hl)
    (crnRootLeaves_perm sel G hn l' hl') hlab (crnRootLeaves_inv sel G hn l hl l' hl')

theorem isIsoF_of_crnIso {sel : SelD} {G H : LGraph} {g : Nat → Nat} (hG : G.ids.Nodup) (h : CrnIso sel G H g) :
    IsIsoF sel G H g where
  inj := h.inj hG
  mem _ hp := h.mem hp
  size := h.iso.length_eq
  node p hp := (nodeOkD_iff sel _ _).2 (crnNodeKey_congr sel _ _ (h.node p hp))
  arc p hp q hq := (arcOkD_iff ..).2 (option_map_congr_of_map_eq _ _ (fun a b e =>
    Attrs.map_get?_congr (fun _ o => o.getD Val.none) ((crnEdgeGet_eq_iff sel a b).1 e)) _ _ (h.arc p hp q hq))

theorem crnIso_of_isIsoF {sel : SelD} {G H : LGraph} {g : Nat → Nat} (hH : H.ids.Nodup)
    (aG : CrnAttrOK sel G) (aH : CrnAttrOK sel H) (h : IsIsoF sel G H g) : CrnIso sel G H g where
  perm := h.map_perm hH
  node p hp := get?_of_map_getD (fun k hk => (aG.node (h.mem p hp) k hk).1) (fun k hk => (aH.node hp k hk).1)
    ((nodeOkD_iff sel _ _).1 (h.node p hp))
  arc p hp q hq := option_map_congr_of_mem (fun a ha b hb e => (crnEdgeGet_eq_iff sel a b).2
    (get?_of_map_getD (fun k hk => (aG.arc ha k hk).1) (fun k hk => (aH.arc hb k hk).1) e)) ((arcOkD_iff ..).1 (h.arc p hp q hq))

end SynKit.CrnCanon
