import Mathlib.Data.List.Nodup
/-!
`List.foldl`.  Invariant principles: `foldl_inv_prefix` (a predicate of the state and the list consumed so far that
every step keeps) is the one induction; `foldl_inv` (the predicate does not read the list) and `foldl_closed_prefix`
(on a duplicate-free list the state is a function of the list consumed) are its cases.  `foldl_or_iff`: a predicate each
step turns into "it held, or this element has `C`".
Closed forms: a step that changes nothing leaves the start value (`foldl_eq_self`); a step that appends one item per
element, as long as the items stay new, computes `acc ++ l.map g` on the list it grows (`foldl_proj_eq_append`:
upserts on fresh keys, `add_node` / `add_edge` on absent ones).  `pushNew` is `set.add` on an insertion-ordered set of
any element type; the model's `setAdd` is its `String` case (`setAdd_eq_pushNew` in `Core/Dict.lean`).  Last: `max` as a
fold, and folds whose state carries a stop flag.
-/
namespace SynKit.Core
universe u v w
variable {α : Type u} {β : Type v} {γ : Type w}

theorem foldl_inv_prefix {f : β → α → β} {P : List α → β → Prop} {l : List α}
    (h : ∀ s b, ∀ a ∈ l, P s b → P (s ++ [a]) (f b a)) {s : List α} {b : β} (hb : P s b) :
    P (s ++ l) (l.foldl f b) := by
  induction l generalizing s b with
  | nil => rwa [List.append_nil]
  | cons a t ih =>
    rw [List.append_cons]
    exact ih (fun s b a ha => h s b a (List.mem_cons_of_mem _ ha)) (h s b a List.mem_cons_self hb)

theorem foldl_inv {f : β → α → β} {P : β → Prop} {l : List α} (h : ∀ b, ∀ a ∈ l, P b → P (f b a))
    {b : β} (hb : P b) : P (l.foldl f b) :=
  foldl_inv_prefix (P := fun _ => P) (s := []) (fun _ => h) hb

theorem foldl_closed_prefix {f : β → α → β} (S : List α → β) {l : List α} (hnd : l.Nodup)
    (h : ∀ pre a post, l = pre ++ a :: post → a ∉ pre → f (S pre) a = S (pre ++ [a])) :
    l.foldl f (S []) = S l := by
  refine foldl_inv_prefix (P := fun pre b => ∀ post, l = pre ++ post → b = S pre) (s := []) (fun pre b a _ hb post e => ?_)
    (fun _ _ => rfl) [] (List.append_nil _).symm
  rw [List.append_assoc] at e
  rw [hb _ e]
  exact h pre a post e fun hp => (List.nodup_middle.1 (e ▸ hnd)).notMem (List.mem_append_left _ hp)

/-- When the fold's step is a lambda, give `f` by name: left to unification against `h` it is found late and dearly. -/
theorem foldl_or_iff {f : β → α → β} {Q : β → Prop} {C : α → Prop} (h : ∀ b a, Q (f b a) ↔ Q b ∨ C a)
    {b : β} {l : List α} : Q (l.foldl f b) ↔ Q b ∨ ∃ a ∈ l, C a := by
  induction l generalizing b with
  | nil => simp
  | cons a t ih =>
    rw [List.foldl_cons, ih, h]
    simp only [List.mem_cons, or_and_right, exists_or, exists_eq_left, or_assoc]

theorem foldl_eq_self {f : β → α → β} {b : β} {l : List α} (h : ∀ a ∈ l, f b a = b) : l.foldl f b = b :=
  foldl_inv (P := (· = b)) (fun _ a ha hb => hb ▸ h a ha) rfl

/-- `π` is the list the fold grows (the edges of a graph, the transitions of a net, the accumulator itself). -/
theorem foldl_proj_eq_append {f : β → α → β} {π : β → List γ} {g : α → γ} {r : γ → γ → Prop} {l : List α}
    (hf : ∀ b, ∀ a ∈ l, (∀ y ∈ π b, r y (g a)) → π (f b a) = π b ++ [g a]) :
    ∀ b : β, (∀ a ∈ l, ∀ y ∈ π b, r y (g a)) → (l.map g).Pairwise r → π (l.foldl f b) = π b ++ l.map g := by
  induction l with
  | nil =>
    intro b _ _
    rw [List.foldl_nil, List.map_nil, List.append_nil]
  | cons a l ih =>
    intro b hb hl
    rw [List.map_cons, List.pairwise_cons] at hl
    have h1 : π (f b a) = π b ++ [g a] := hf b a List.mem_cons_self (hb a List.mem_cons_self)
    rw [List.foldl_cons, ih (fun b c hc => hf b c (List.mem_cons_of_mem _ hc)) _ ?_ hl.2, h1, List.append_assoc]
    · rfl
    · intro c hc y hy
      rw [h1, List.mem_append, List.mem_singleton] at hy
      rcases hy with hy | rfl
      · exact hb c (List.mem_cons_of_mem _ hc) y hy
      · exact hl.1 _ (List.mem_map_of_mem hc)

theorem foldl_eq_append {f : List γ → α → List γ} {g : α → γ} {r : γ → γ → Prop} {l : List α}
    (hf : ∀ acc, ∀ a ∈ l, (∀ y ∈ acc, r y (g a)) → f acc a = acc ++ [g a]) :
    ∀ acc : List γ, (∀ a ∈ l, ∀ y ∈ acc, r y (g a)) → (l.map g).Pairwise r → l.foldl f acc = acc ++ l.map g :=
  foldl_proj_eq_append (π := id) hf

def pushNew [BEq α] [LawfulBEq α] (s : List α) (x : α) : List α := if x ∈ s then s else s ++ [x]

section pushNew
variable [BEq α] [LawfulBEq α] {s l : List α} {x y : α}

theorem pushNew_of_mem (h : x ∈ s) : pushNew s x = s := if_pos h

theorem pushNew_of_not_mem (h : x ∉ s) : pushNew s x = s ++ [x] := if_neg h

theorem mem_pushNew : y ∈ pushNew s x ↔ y ∈ s ∨ y = x := by
  by_cases h : x ∈ s
  · rw [pushNew_of_mem h]
    exact ⟨Or.inl, fun hy => hy.elim id fun e => e ▸ h⟩
  · rw [pushNew_of_not_mem h, List.mem_append, List.mem_singleton]

theorem nodup_pushNew (h : s.Nodup) : (pushNew s x).Nodup := by
  by_cases hx : x ∈ s
  · rwa [pushNew_of_mem hx]
  · rw [pushNew_of_not_mem hx]
    exact List.nodup_append.2 ⟨h, List.nodup_singleton x, fun a ha b hb e =>
      hx (by rwa [e, List.mem_singleton.1 hb] at ha)⟩

theorem idxOf_pushNew (h : y ∈ s) : (pushNew s x).idxOf y = s.idxOf y := by
  by_cases hx : x ∈ s
  · rw [pushNew_of_mem hx]
  · rw [pushNew_of_not_mem hx, List.idxOf_append_of_mem h]

theorem mem_foldl_pushNew : y ∈ l.foldl pushNew s ↔ y ∈ s ∨ y ∈ l :=
  (foldl_or_iff (Q := (y ∈ ·)) (C := (y = ·)) fun _ _ => mem_pushNew).trans
    (or_congr_right ⟨fun ⟨_, ha, e⟩ => e ▸ ha, fun h => ⟨y, h, rfl⟩⟩)

theorem nodup_foldl_pushNew (h : s.Nodup) : (l.foldl pushNew s).Nodup :=
  foldl_inv (P := List.Nodup) (fun _ _ _ hb => nodup_pushNew hb) h

theorem foldl_pushNew_of_nodup (h : (s ++ l).Nodup) : l.foldl pushNew s = s ++ l := by
  obtain ⟨_, hl, hsl⟩ := List.nodup_append.1 h
  have := foldl_eq_append (f := pushNew) (g := id) (r := (· ≠ ·)) (l := l)
    (fun acc a _ hy => pushNew_of_not_mem fun hm => hy a hm rfl) s (fun a ha y hy => hsl y hy a ha)
    (by rwa [List.map_id])
  rwa [List.map_id] at this

end pushNew

theorem le_foldl_max [LE α] [Max α] [Std.IsLinearOrder α] [Std.LawfulOrderMax α] {l : List α} {m a : α}
    (h : a ∈ l ∨ a ≤ m) : a ≤ l.foldl max m := by
  induction l generalizing m with
  | nil => exact h.resolve_left List.not_mem_nil
  | cons x t ih =>
    refine ih ?_
    rcases h with h | h
    · rcases List.mem_cons.1 h with rfl | h
      · exact .inr Std.right_le_max
      · exact .inl h
    · exact .inr (Std.le_trans h Std.left_le_max)

section Flag
variable {σ : Type u}

theorem foldl_flag_sticky (step : σ × Bool → β → σ × Bool) (hst : ∀ s v, step (s, true) v = (s, true))
    (cs : List β) (s : σ) : cs.foldl step (s, true) = (s, true) :=
  foldl_eq_self fun v _ => hst s v

theorem foldl_flag_false_eq (stepC : σ × Bool → β → σ × Bool) (stepU : σ → β → σ)
    (hst : ∀ s v, stepC (s, true) v = (s, true)) :
    ∀ (cs : List β), (∀ s v r, v ∈ cs → stepC (s, false) v = (r, false) → r = stepU s v) →
      ∀ s r, cs.foldl stepC (s, false) = (r, false) → r = cs.foldl stepU s := by
  intro cs
  induction cs with
  | nil =>
    intro _ s r h
    simp only [List.foldl_nil, Prod.mk.injEq] at h
    exact h.1.symm
  | cons v cs ih =>
    intro hstep s r h
    rw [List.foldl_cons] at h ⊢
    cases hs : stepC (s, false) v with
    | mk r1 f1 =>
      rw [hs] at h
      cases f1 with
      | true =>
        rw [foldl_flag_sticky stepC hst] at h
        simp at h
      | false =>
        have e := hstep s v r1 List.mem_cons_self hs
        rw [← e]
        exact ih (fun s' v' r' hv' => hstep s' v' r' (List.mem_cons_of_mem _ hv')) r1 r h

theorem foldl_flag_stays_false (stepC : σ × Bool → β → σ × Bool) (cs : List β)
    (hstep : ∀ s v, v ∈ cs → (stepC (s, false) v).2 = false) (s : σ) : (cs.foldl stepC (s, false)).2 = false :=
  foldl_inv (P := fun st : σ × Bool => st.2 = false) (fun st v hv hst => by
    rw [show st = (st.1, false) from Prod.ext rfl hst]
    exact hstep st.1 v hv) rfl

end Flag

end SynKit.Core
