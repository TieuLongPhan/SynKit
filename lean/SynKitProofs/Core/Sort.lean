import Mathlib.Data.List.Perm.Basic
/-! One stable insertion sort (Python `sorted`) of which the sorts of the model files are instances:
`insertBy r x l` puts `x` in front of the first `y` with `r x y`; a copy written
`if lt y x then y :: … else x :: y :: ys` is the instance `r x y := ¬ lt y x`.  The order `R` the result is
sorted by is kept apart from the test `r`, because for a strict test the two differ. -/
namespace SynKit.Core
universe u v
variable {α : Type u} {β : Type v}

def insertBy (r : α → α → Prop) [DecidableRel r] (x : α) : List α → List α
  | [] => [x]
  | y :: ys => if r x y then x :: y :: ys else y :: insertBy r x ys

def sortBy (r : α → α → Prop) [DecidableRel r] (l : List α) : List α := l.foldr (insertBy r) []

section
variable {r : α → α → Prop} [DecidableRel r] {x : α} {l : List α}

@[simp] theorem sortBy_cons : sortBy r (x :: l) = insertBy r x (sortBy r l) := rfl

theorem insertBy_perm : (insertBy r x l).Perm (x :: l) := by
  induction l with
  | nil => exact .refl _
  | cons y ys ih =>
    unfold insertBy
    split
    · exact .refl _
    · exact (ih.cons y).trans (.swap x y ys)

theorem sortBy_perm : (sortBy r l).Perm l := by
  induction l with
  | nil => exact .refl _
  | cons x xs ih => exact insertBy_perm.trans (ih.cons x)

@[simp] theorem mem_insertBy {a : α} : a ∈ insertBy r x l ↔ a = x ∨ a ∈ l := by
  rw [insertBy_perm.mem_iff, List.mem_cons]

@[simp] theorem mem_sortBy {a : α} : a ∈ sortBy r l ↔ a ∈ l := sortBy_perm.mem_iff

@[simp] theorem length_sortBy : (sortBy r l).length = l.length := sortBy_perm.length_eq

@[simp] theorem sortBy_eq_nil_iff : sortBy r l = [] ↔ l = [] := by
  rw [← List.length_eq_zero_iff, length_sortBy, List.length_eq_zero_iff]

theorem insertBy_map (f : α → β) {r' : β → β → Prop} [DecidableRel r']
    (h : ∀ b ∈ l, r' (f x) (f b) ↔ r x b) :
    insertBy r' (f x) (l.map f) = (insertBy r x l).map f := by
  induction l with
  | nil => rfl
  | cons y ys ih =>
    simp only [List.map_cons, insertBy, h y List.mem_cons_self]
    split
    · rfl
    · rw [ih fun b hb => h b (List.mem_cons_of_mem _ hb), List.map_cons]

theorem sortBy_map (f : α → β) {r' : β → β → Prop} [DecidableRel r']
    (h : ∀ a ∈ l, ∀ b ∈ l, r' (f a) (f b) ↔ r a b) :
    sortBy r' (l.map f) = (sortBy r l).map f := by
  induction l with
  | nil => rfl
  | cons x xs ih =>
    rw [List.map_cons, sortBy_cons, sortBy_cons,
      ih fun a ha b hb => h a (List.mem_cons_of_mem _ ha) b (List.mem_cons_of_mem _ hb)]
    exact insertBy_map f fun b hb => h x List.mem_cons_self b (List.mem_cons_of_mem _ (mem_sortBy.1 hb))

theorem insertBy_pairwise {R : α → α → Prop} (hl : l.Pairwise R)
    (hn : ∀ y ∈ l, ¬ r x y → R y x) (hp : ∀ y ∈ l, r x y → R x y)
    (htr : ∀ y ∈ l, ∀ z ∈ l, R x y → R y z → R x z) : (insertBy r x l).Pairwise R := by
  induction l with
  | nil => exact List.pairwise_singleton R x
  | cons y ys ih =>
    have hl' := List.pairwise_cons.1 hl
    unfold insertBy
    split
    · rename_i hxy
      have hxy := hp y List.mem_cons_self hxy
      refine List.pairwise_cons.2 ⟨fun z hz => ?_, hl⟩
      rcases List.mem_cons.1 hz with rfl | hz'
      · exact hxy
      · exact htr y List.mem_cons_self z hz hxy (hl'.1 z hz')
    · rename_i hxy
      refine List.pairwise_cons.2 ⟨fun z hz => ?_, ih hl'.2
        (fun y hy => hn y (List.mem_cons_of_mem _ hy)) (fun y hy => hp y (List.mem_cons_of_mem _ hy))
        fun y hy z hz => htr y (List.mem_cons_of_mem _ hy) z (List.mem_cons_of_mem _ hz)⟩
      rcases mem_insertBy.1 hz with rfl | hz'
      · exact hn y List.mem_cons_self hxy
      · exact hl'.1 z hz'

theorem sortBy_pairwise {R : α → α → Prop}
    (hn : ∀ a ∈ l, ∀ b ∈ l, ¬ r a b → R b a) (hp : ∀ a ∈ l, ∀ b ∈ l, r a b → R a b)
    (htr : ∀ a ∈ l, ∀ b ∈ l, ∀ c ∈ l, R a b → R b c → R a c) : (sortBy r l).Pairwise R := by
  induction l with
  | nil => exact List.Pairwise.nil
  | cons x xs ih =>
    have hx : x ∈ x :: xs := List.mem_cons_self
    have hm : ∀ {a}, a ∈ sortBy r xs → a ∈ x :: xs := fun h => List.mem_cons_of_mem _ (mem_sortBy.1 h)
    exact insertBy_pairwise
      (ih (fun a ha b hb => hn a (List.mem_cons_of_mem _ ha) b (List.mem_cons_of_mem _ hb))
        (fun a ha b hb => hp a (List.mem_cons_of_mem _ ha) b (List.mem_cons_of_mem _ hb))
        fun a ha b hb c hc =>
          htr a (List.mem_cons_of_mem _ ha) b (List.mem_cons_of_mem _ hb) c (List.mem_cons_of_mem _ hc))
      (fun y hy => hn x hx y (hm hy)) (fun y hy => hp x hx y (hm hy))
      fun y hy z hz => htr x hx y (hm hy) z (hm hz)

theorem sortBy_sorted (htot : ∀ a ∈ l, ∀ b ∈ l, r a b ∨ r b a)
    (htr : ∀ a ∈ l, ∀ b ∈ l, ∀ c ∈ l, r a b → r b c → r a c) : (sortBy r l).Pairwise r :=
  sortBy_pairwise (fun a ha b hb h => (htot a ha b hb).resolve_left h) (fun _ _ _ _ h => h) htr

theorem sortBy_not_flip_pairwise {lt : α → α → Prop} [DecidableRel lt]
    (htr : ∀ a ∈ l, ∀ b ∈ l, ∀ c ∈ l, lt a b → lt b c → lt a c)
    (htri : ∀ a ∈ l, ∀ b ∈ l, a = b ∨ lt a b ∨ lt b a) :
    (sortBy (fun a b => ¬ lt b a) l).Pairwise fun a b => a = b ∨ lt a b := by
  refine sortBy_pairwise (fun a _ b _ h => .inr (not_not.1 h))
    (fun a ha b hb h => (htri a ha b hb).imp_right fun h' => h'.resolve_right h) ?_
  rintro a ha b hb c hc (rfl | hab) hbc
  · exact hbc
  · rcases hbc with rfl | hbc
    · exact .inr hab
    · exact .inr (htr a ha b hb c hc hab hbc)

end

section
variable {r : α → α → Prop} [DecidableRel r] {l₁ l₂ : List α}

theorem sortBy_eq_of_perm_of_pairwise {R : α → α → Prop} (hp : l₁.Perm l₂)
    (hanti : ∀ a ∈ l₁, ∀ b ∈ l₁, R a b → R b a → a = b)
    (h₁ : (sortBy r l₁).Pairwise R) (h₂ : (sortBy r l₂).Pairwise R) : sortBy r l₁ = sortBy r l₂ :=
  List.Perm.eq_of_pairwise
    (fun a b ha hb => hanti a (mem_sortBy.1 ha) b (hp.mem_iff.2 (mem_sortBy.1 hb))) h₁ h₂
    (sortBy_perm.trans (hp.trans sortBy_perm.symm))

theorem sortBy_eq_of_perm (hp : l₁.Perm l₂) (htot : ∀ a ∈ l₁, ∀ b ∈ l₁, r a b ∨ r b a)
    (htr : ∀ a ∈ l₁, ∀ b ∈ l₁, ∀ c ∈ l₁, r a b → r b c → r a c)
    (hanti : ∀ a ∈ l₁, ∀ b ∈ l₁, r a b → r b a → a = b) : sortBy r l₁ = sortBy r l₂ :=
  sortBy_eq_of_perm_of_pairwise hp hanti (sortBy_sorted htot htr)
    (sortBy_sorted (fun a ha b hb => htot a (hp.mem_iff.2 ha) b (hp.mem_iff.2 hb))
      fun a ha b hb c hc => htr a (hp.mem_iff.2 ha) b (hp.mem_iff.2 hb) c (hp.mem_iff.2 hc))

theorem sortBy_not_flip_eq_of_perm {lt : α → α → Prop} [DecidableRel lt] (hp : l₁.Perm l₂)
    (hirr : ∀ a ∈ l₁, ¬ lt a a) (htr : ∀ a ∈ l₁, ∀ b ∈ l₁, ∀ c ∈ l₁, lt a b → lt b c → lt a c)
    (htri : ∀ a ∈ l₁, ∀ b ∈ l₁, a = b ∨ lt a b ∨ lt b a) :
    sortBy (fun a b => ¬ lt b a) l₁ = sortBy (fun a b => ¬ lt b a) l₂ := by
  refine sortBy_eq_of_perm_of_pairwise hp ?_ (sortBy_not_flip_pairwise htr htri)
    (sortBy_not_flip_pairwise
      (fun a ha b hb c hc => htr a (hp.mem_iff.2 ha) b (hp.mem_iff.2 hb) c (hp.mem_iff.2 hc))
      fun a ha b hb => htri a (hp.mem_iff.2 ha) b (hp.mem_iff.2 hb))
  rintro a ha b hb (rfl | hab) hba
  · rfl
  · rcases hba with rfl | hba
    · rfl
    · exact absurd (htr a ha b hb a ha hab hba) (hirr a ha)

end

theorem nodup_of_pairwise_irrefl {lt : α → α → Prop} {l : List α} (hs : l.Pairwise lt)
    (hirr : ∀ a ∈ l, ¬ lt a a) : l.Nodup :=
  hs.imp_of_mem fun {a b} ha _ hab e => hirr a ha (by rwa [← e] at hab)

/-! Python `sorted(set(l))`. -/

def insertDedup (lt : α → α → Prop) [DecidableRel lt] [DecidableEq α] (x : α) : List α → List α
  | [] => [x]
  | y :: ys => if lt x y then x :: y :: ys else if x = y then y :: ys else y :: insertDedup lt x ys

def sortDedup (lt : α → α → Prop) [DecidableRel lt] [DecidableEq α] (l : List α) : List α :=
  l.foldr (insertDedup lt) []

section
variable {lt : α → α → Prop} [DecidableRel lt] [DecidableEq α] {x : α} {l : List α}

@[simp] theorem sortDedup_cons : sortDedup lt (x :: l) = insertDedup lt x (sortDedup lt l) := rfl

@[simp] theorem mem_insertDedup {a : α} : a ∈ insertDedup lt x l ↔ a = x ∨ a ∈ l := by
  induction l with
  | nil => simp [insertDedup]
  | cons y ys ih =>
    unfold insertDedup
    split
    · exact List.mem_cons
    · split
      · rename_i h
        subst h
        rw [List.mem_cons, or_self_left]
      · rw [List.mem_cons, ih, List.mem_cons, or_left_comm]

@[simp] theorem mem_sortDedup {a : α} : a ∈ sortDedup lt l ↔ a ∈ l := by
  induction l with
  | nil => exact Iff.rfl
  | cons x xs ih => rw [sortDedup_cons, mem_insertDedup, ih, List.mem_cons]

theorem insertDedup_pairwise (hl : l.Pairwise lt) (htri : ∀ y ∈ l, x = y ∨ lt x y ∨ lt y x)
    (htr : ∀ y ∈ l, ∀ z ∈ l, lt x y → lt y z → lt x z) : (insertDedup lt x l).Pairwise lt := by
  induction l with
  | nil => exact List.pairwise_singleton lt x
  | cons y ys ih =>
    have hl' := List.pairwise_cons.1 hl
    unfold insertDedup
    split
    · rename_i hxy
      refine List.pairwise_cons.2 ⟨fun z hz => ?_, hl⟩
      rcases List.mem_cons.1 hz with rfl | hz'
      · exact hxy
      · exact htr y List.mem_cons_self z hz hxy (hl'.1 z hz')
    · rename_i hxy
      split
      · exact hl
      · rename_i hne
        refine List.pairwise_cons.2 ⟨fun z hz => ?_, ih hl'.2
          (fun y hy => htri y (List.mem_cons_of_mem _ hy))
          fun y hy z hz => htr y (List.mem_cons_of_mem _ hy) z (List.mem_cons_of_mem _ hz)⟩
        rcases mem_insertDedup.1 hz with rfl | hz'
        · exact ((htri y List.mem_cons_self).resolve_left hne).resolve_left hxy
        · exact hl'.1 z hz'

theorem sortDedup_pairwise (htr : ∀ a ∈ l, ∀ b ∈ l, ∀ c ∈ l, lt a b → lt b c → lt a c)
    (htri : ∀ a ∈ l, ∀ b ∈ l, a = b ∨ lt a b ∨ lt b a) : (sortDedup lt l).Pairwise lt := by
  induction l with
  | nil => exact List.Pairwise.nil
  | cons x xs ih =>
    have hx : x ∈ x :: xs := List.mem_cons_self
    have hm : ∀ {a}, a ∈ sortDedup lt xs → a ∈ x :: xs :=
      fun h => List.mem_cons_of_mem _ (mem_sortDedup.1 h)
    exact insertDedup_pairwise
      (ih (fun a ha b hb c hc =>
          htr a (List.mem_cons_of_mem _ ha) b (List.mem_cons_of_mem _ hb) c (List.mem_cons_of_mem _ hc))
        fun a ha b hb => htri a (List.mem_cons_of_mem _ ha) b (List.mem_cons_of_mem _ hb))
      (fun y hy => htri x hx y (hm hy)) fun y hy z hz => htr x hx y (hm hy) z (hm hz)

theorem sortDedup_congr {l₁ l₂ : List α} (h : ∀ a, a ∈ l₁ ↔ a ∈ l₂) (hirr : ∀ a ∈ l₁, ¬ lt a a)
    (htr : ∀ a ∈ l₁, ∀ b ∈ l₁, ∀ c ∈ l₁, lt a b → lt b c → lt a c)
    (htri : ∀ a ∈ l₁, ∀ b ∈ l₁, a = b ∨ lt a b ∨ lt b a) : sortDedup lt l₁ = sortDedup lt l₂ := by
  have h₁ : (sortDedup lt l₁).Pairwise lt := sortDedup_pairwise htr htri
  have h₂ : (sortDedup lt l₂).Pairwise lt :=
    sortDedup_pairwise (fun a ha b hb c hc => htr a ((h a).2 ha) b ((h b).2 hb) c ((h c).2 hc))
      fun a ha b hb => htri a ((h a).2 ha) b ((h b).2 hb)
  have hm : ∀ a, a ∈ sortDedup lt l₁ ↔ a ∈ sortDedup lt l₂ := fun a => by
    rw [mem_sortDedup, mem_sortDedup, h]
  refine List.Perm.eq_of_pairwise (fun a b ha hb hab hba => ?_) h₁ h₂
    ((List.perm_ext_iff_of_nodup (nodup_of_pairwise_irrefl h₁ fun a ha => hirr a (mem_sortDedup.1 ha))
      (nodup_of_pairwise_irrefl h₂ fun a ha => hirr a ((h a).2 (mem_sortDedup.1 ha)))).2 hm)
  have ha' := mem_sortDedup.1 ha
  exact absurd (htr a ha' b ((h b).2 (mem_sortDedup.1 hb)) a ha' hab hba) (hirr a ha')

end

end SynKit.Core
