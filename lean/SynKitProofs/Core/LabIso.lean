import SynKitProofs.Core.List
/-!
# Labelled structures and their isomorphisms

A graph as an isomorphism test reads it: the node ids, a label per node, a label per ordered pair of nodes.
`Canon.IsoCov`, `Canon.IRIso`, `CrnCanon.IsIsoF` and `CrnCanon.CrnIso` are `LStruct.Iso` for four readings of an
`LGraph` (covered keys through `edge?`, raw look-ups through `edge?`, selected keys through `arc?`, raw look-ups
through `arc?`); composition and inverses, "equal items along two orders give an isomorphism" and the equivariance of the
matrix form are proved here once.
-/
namespace SynKit.Core

structure LStruct (α β : Type) where
  ids : List Nat
  node : Nat → α
  pair : Nat → Nat → β

namespace LStruct
variable {α β : Type} {S T U : LStruct α β} {f g : Nat → Nat}

/-- `g` goes from the nodes of `T` to those of `S` (pattern → host, like the engine's mappings). -/
structure Iso (S T : LStruct α β) (g : Nat → Nat) : Prop where
  perm : (T.ids.map g).Perm S.ids
  node : ∀ p ∈ T.ids, S.node (g p) = T.node p
  pair : ∀ p ∈ T.ids, ∀ q ∈ T.ids, S.pair (g p) (g q) = T.pair p q

namespace Iso

theorem mem (h : Iso S T g) {p : Nat} (hp : p ∈ T.ids) : g p ∈ S.ids :=
  h.perm.mem_iff.1 (List.mem_map.2 ⟨p, hp, rfl⟩)

theorem surj (h : Iso S T g) {v : Nat} (hv : v ∈ S.ids) : ∃ p ∈ T.ids, g p = v :=
  List.mem_map.1 (h.perm.mem_iff.2 hv)

theorem inj (h : Iso S T g) (hS : S.ids.Nodup) : ∀ a ∈ T.ids, ∀ b ∈ T.ids, g a = g b → a = b :=
  List.inj_on_of_nodup_map (h.perm.nodup_iff.2 hS)

theorem length_eq (h : Iso S T g) : S.ids.length = T.ids.length := by
  rw [← h.perm.length_eq, List.length_map]

theorem filter_perm (h : Iso S T g) (pS pT : Nat → Bool) (hp : ∀ w ∈ T.ids, pS (g w) = pT w) :
    ((T.ids.filter pT).map g).Perm (S.ids.filter pS) := by
  have e : (T.ids.filter fun w => pS (g w)).map g = (T.ids.map g).filter pS := by
    rw [List.filter_map]
    rfl
  rw [List.filter_congr fun w hw => (hp w hw).symm, e]
  exact h.perm.filter pS

/-- From the injective / into / equally-many form of a bijection (the shape of `CrnCanon.IsIsoF`). -/
theorem of_inj (hT : T.ids.Nodup) (hinj : ∀ p ∈ T.ids, ∀ q ∈ T.ids, g p = g q → p = q)
    (hmem : ∀ p ∈ T.ids, g p ∈ S.ids) (hsize : S.ids.length = T.ids.length)
    (hnode : ∀ p ∈ T.ids, S.node (g p) = T.node p)
    (hpair : ∀ p ∈ T.ids, ∀ q ∈ T.ids, S.pair (g p) (g q) = T.pair p q) : Iso S T g :=
  ⟨(map_subperm_of_injOn hT hinj hmem).perm_of_length_le (by simp [hsize]), hnode, hpair⟩

theorem trans (h₁ : Iso S T f) (h₂ : Iso T U g) : Iso S U (f ∘ g) :=
  ⟨by rw [← List.map_map]; exact (h₂.perm.map f).trans h₁.perm,
    fun p hp => (h₁.node _ (h₂.mem hp)).trans (h₂.node p hp),
    fun p hp q hq => (h₁.pair _ (h₂.mem hp) _ (h₂.mem hq)).trans (h₂.pair p hp q hq)⟩

theorem congr (hfg : ∀ p ∈ T.ids, f p = g p) (h : Iso S T f) : Iso S T g :=
  ⟨List.map_congr_left hfg ▸ h.perm, fun p hp => hfg p hp ▸ h.node p hp,
    fun p hp q hq => hfg p hp ▸ hfg q hq ▸ h.pair p hp q hq⟩

theorem symm (h : Iso S T g) {g' : Nat → Nat} (hg' : ∀ p ∈ T.ids, g' (g p) = p) : Iso T S g' := by
  refine ⟨?_, fun v hv => ?_, fun u hu v hv => ?_⟩
  · have e : (T.ids.map g).map g' = T.ids := by
      rw [List.map_map]
      exact map_eq_self hg'
    exact (h.perm.symm.map g').trans (.of_eq e)
  · obtain ⟨p, hp, rfl⟩ := h.surj hv
    rw [hg' p hp, h.node p hp]
  · obtain ⟨p, hp, rfl⟩ := h.surj hu
    obtain ⟨q, hq, rfl⟩ := h.surj hv
    rw [hg' p hp, hg' q hq, h.pair p hp q hq]

/-- `o` and `o'` are the orders read off two equal labels, serialisations, matrix forms. -/
theorem of_getElem {o o' : List Nat} (ho : o.Perm S.ids) (ho' : o'.Perm T.ids) (hlen : o'.length = o.length)
    (hf : ∀ i (h' : i < o'.length) (h : i < o.length), f o'[i] = o[i])
    (hnode : ∀ i (h' : i < o'.length) (h : i < o.length), S.node o[i] = T.node o'[i])
    (hpair : ∀ i j (hi' : i < o'.length) (hj' : j < o'.length) (hi : i < o.length) (hj : j < o.length),
      S.pair o[i] o[j] = T.pair o'[i] o'[j]) :
    Iso S T f := by
  have hmap : o'.map f = o := List.ext_getElem (by simpa using hlen) fun i h h' => by
    rw [List.getElem_map]
    exact hf i (by simpa using h) h'
  refine ⟨(ho'.symm.map f).trans ((List.Perm.of_eq hmap).trans ho), fun p hp => ?_, fun p hp q hq => ?_⟩
  · obtain ⟨i, hi, rfl⟩ := List.getElem_of_mem (ho'.mem_iff.2 hp)
    rw [hf i hi (hlen ▸ hi), hnode i hi (hlen ▸ hi)]
  · obtain ⟨i, hi, rfl⟩ := List.getElem_of_mem (ho'.mem_iff.2 hp)
    obtain ⟨j, hj, rfl⟩ := List.getElem_of_mem (ho'.mem_iff.2 hq)
    rw [hf i hi (hlen ▸ hi), hf j hj (hlen ▸ hj), hpair i j hi hj (hlen ▸ hi) (hlen ▸ hj)]

end Iso

/-- The structure read in the node order `π`: the row of node labels and the full matrix of pair labels. -/
def form (S : LStruct α β) (π : List Nat) : List α × List (List β) :=
  (π.map S.node, π.map fun u => π.map (S.pair u))

theorem Iso.form_map (h : Iso S T g) {π : List Nat} (hπ : ∀ v ∈ π, v ∈ T.ids) :
    S.form (π.map g) = T.form π := by
  unfold form
  simp only [List.map_map]
  exact Prod.ext (List.map_congr_left fun v hv => h.node v (hπ v hv))
    (List.map_congr_left fun u hu => List.map_congr_left fun v hv => h.pair u (hπ u hu) v (hπ v hv))

theorem Iso.of_form_eq {o o' : List Nat} (ho : o.Perm S.ids) (ho' : o'.Perm T.ids)
    (h : S.form o = T.form o') (hf : ∀ i (h : i < o'.length) (h' : i < o.length), f o'[i] = o[i]) :
    Iso S T f := by
  obtain ⟨hlen, hnode⟩ := map_eq_map_getElem (Prod.ext_iff.1 h).1
  obtain ⟨_, hrow⟩ := map_eq_map_getElem (Prod.ext_iff.1 h).2
  exact .of_getElem ho ho' hlen.symm hf (fun i hi' hi => hnode i hi hi')
    fun i j hi' hj' hi hj => (map_eq_map_getElem (hrow i hi hi')).2 j hj hj'

end LStruct

/-! ## Candidate orders under an isomorphism

The keys of the orders of `ids` are the keys of the orders of `ids'` as soon as `key (o.map g) = key' o`: every
order of `ids` is the image of one of `ids'`.  With `minBy_key_congr` / `minList_congr` this is the invariance of
any "least key over all node orders" canonical form. -/

theorem exists_perm_map (f : Nat → Nat) : ∀ (l₁ l₂ : List Nat), l₁.Perm (l₂.map f) →
    ∃ l₂' : List Nat, l₂'.Perm l₂ ∧ l₁ = l₂'.map f := by
  intro l₁
  induction l₁ with
  | nil =>
    intro l₂ h
    have : l₂ = [] := List.map_eq_nil_iff.1 h.symm.eq_nil
    exact ⟨[], this ▸ List.Perm.refl _, rfl⟩
  | cons a t ih =>
    intro l₂ h
    obtain ⟨x, hx, rfl⟩ := List.mem_map.1 (h.mem_iff.1 List.mem_cons_self)
    have h2 : l₂.Perm (x :: l₂.erase x) := List.perm_cons_erase hx
    obtain ⟨l', hl', rfl⟩ := ih (l₂.erase x) (h.trans (h2.map f)).cons_inv
    exact ⟨x :: l', (List.Perm.cons x hl').trans h2.symm, rfl⟩

theorem orderKeys_iff {K : Type} {ids ids' : List Nat} {g : Nat → Nat} (hperm : (ids'.map g).Perm ids)
    (key key' : List Nat → K) (hkey : ∀ o, o.Perm ids' → key (o.map g) = key' o) (k : K) :
    (∃ o, o.Perm ids ∧ key o = k) ↔ ∃ o', o'.Perm ids' ∧ key' o' = k := by
  constructor
  · rintro ⟨o, ho, rfl⟩
    obtain ⟨o', ho', rfl⟩ := exists_perm_map g o ids' (ho.trans hperm.symm)
    exact ⟨o', ho', (hkey o' ho').symm⟩
  · rintro ⟨o', ho', rfl⟩
    exact ⟨o'.map g, (ho'.map g).trans hperm, hkey o' ho'⟩

end SynKit.Core
