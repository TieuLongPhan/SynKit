import SynKitModel.Graph
import SynKitProofs.Core.Fold
/-! "Make `n` a node unless it is one": what `_ensure_node`, `_ensure_node_hh` and `add_edge` (for its end points) do.
`pushN f ns n` is the step on a node list (a new node gets the attributes `f n`; on the ids it is `pushNew`: `ids_pushN`),
`nodesF f ns es` runs it over both end points of every bond of `es`: the nodes keep their order of first appearance and a
node that was there keeps its attributes (`nodesF_prefix`).  Both models of `get_rc` build their node list this way. -/
namespace SynKit.Core
variable {f g : Nat → Attrs} {ns : List (Nat × Attrs)} {es : List (Nat × Nat × Attrs)} {e : Nat × Nat × Attrs} {n m : Nat}

def pushN (f : Nat → Attrs) (ns : List (Nat × Attrs)) (n : Nat) : List (Nat × Attrs) :=
  if (ns.map (·.1)).contains n then ns else ns ++ [(n, f n)]

theorem pushN_of_mem (h : n ∈ ns.map (·.1)) : pushN f ns n = ns :=
  if_pos (List.contains_iff_mem.2 h)

theorem ids_pushN : (pushN f ns n).map (·.1) = pushNew (ns.map (·.1)) n := by
  by_cases h : n ∈ ns.map (·.1)
  · rw [pushN_of_mem h, pushNew_of_mem h]
  · rw [pushNew_of_not_mem h, pushN, if_neg fun hc => h (List.contains_iff_mem.1 hc), List.map_append]
    rfl

theorem mem_ids_pushN : m ∈ (pushN f ns n).map (·.1) ↔ m ∈ ns.map (·.1) ∨ m = n := by
  rw [ids_pushN]
  exact mem_pushNew

theorem nodup_pushN (h : (ns.map (·.1)).Nodup) : ((pushN f ns n).map (·.1)).Nodup := by
  rw [ids_pushN]
  exact nodup_pushNew h

def nodesF (f : Nat → Attrs) (ns : List (Nat × Attrs)) (es : List (Nat × Nat × Attrs)) : List (Nat × Attrs) :=
  es.foldl (fun ns e => pushN f (pushN f ns e.1) e.2.1) ns

theorem nodesF_cons : nodesF f ns (e :: es) = nodesF f (pushN f (pushN f ns e.1) e.2.1) es := rfl

theorem nodesF_snoc : nodesF f ns (es ++ [e]) = pushN f (pushN f (nodesF f ns es) e.1) e.2.1 := by
  simp [nodesF, List.foldl_append]

theorem mem_ids_nodesF : m ∈ (nodesF f ns es).map (·.1) ↔ m ∈ ns.map (·.1) ∨ ∃ e ∈ es, m = e.1 ∨ m = e.2.1 :=
  foldl_or_iff (f := fun ns (e : Nat × Nat × Attrs) => pushN f (pushN f ns e.1) e.2.1)
    (Q := fun ns : List (Nat × Attrs) => m ∈ ns.map (·.1)) (C := fun e => m = e.1 ∨ m = e.2.1)
    fun ns e => by rw [mem_ids_pushN, mem_ids_pushN, or_assoc]

theorem ends_mem_nodesF (he : e ∈ es) : e.1 ∈ (nodesF f ns es).map (·.1) ∧ e.2.1 ∈ (nodesF f ns es).map (·.1) :=
  ⟨mem_ids_nodesF.2 (Or.inr ⟨e, he, Or.inl rfl⟩), mem_ids_nodesF.2 (Or.inr ⟨e, he, Or.inr rfl⟩)⟩

theorem pushN_congr (h : n ∉ ns.map (·.1) → f n = g n) : pushN f ns n = pushN g ns n := by
  unfold pushN
  split
  · rfl
  · rename_i hc
    rw [h fun hm => hc (List.contains_iff_mem.2 hm)]

theorem nodesF_congr (h : ∀ e ∈ es, ∀ n, (n = e.1 ∨ n = e.2.1) → n ∉ ns.map (·.1) → f n = g n) :
    nodesF f ns es = nodesF g ns es :=
  foldl_inv_prefix (P := fun pre ns' => ns' = nodesF g ns pre) (s := []) (fun pre _ e he hb => by
    have hnew : ∀ n, n ∉ (nodesF g ns pre).map (·.1) → n ∉ ns.map (·.1) :=
      fun n hn hm => hn (mem_ids_nodesF.2 (.inl hm))
    rw [hb, nodesF_snoc, pushN_congr fun hn => h e he e.1 (.inl rfl) (hnew _ hn)]
    exact pushN_congr fun hn => h e he e.2.1 (.inr rfl) (hnew _ fun hm => hn (mem_ids_pushN.2 (.inl hm)))) rfl

theorem pushN_prefix {ns₀ ns : List (Nat × Attrs)} (n : Nat)
    (h : ∃ t, ns = ns₀ ++ t ∧ ∀ p ∈ t, p.2 = f p.1) : ∃ t, pushN f ns n = ns₀ ++ t ∧ ∀ p ∈ t, p.2 = f p.1 := by
  obtain ⟨t, rfl, ht⟩ := h
  unfold pushN
  split
  · exact ⟨t, rfl, ht⟩
  · exact ⟨t ++ [(n, f n)], List.append_assoc _ _ _, fun p hp =>
      (List.mem_append.1 hp).elim (ht p) fun h => by rw [List.mem_singleton.1 h]⟩

theorem nodesF_prefix (f : Nat → Attrs) (es : List (Nat × Nat × Attrs)) (ns : List (Nat × Attrs)) :
    ∃ t, nodesF f ns es = ns ++ t ∧ ∀ p ∈ t, p.2 = f p.1 :=
  foldl_inv (P := fun ns' => ∃ t, ns' = ns ++ t ∧ ∀ p ∈ t, p.2 = f p.1)
    (fun _ e _ h => pushN_prefix e.2.1 (pushN_prefix e.1 h)) ⟨[], (List.append_nil _).symm, fun _ h => nomatch h⟩

theorem mem_nodesF {p : Nat × Attrs} (hp : p ∈ nodesF f ns es) : p ∈ ns ∨ p.2 = f p.1 := by
  obtain ⟨t, h, ht⟩ := nodesF_prefix f es ns
  rw [h] at hp
  exact (List.mem_append.1 hp).imp id (ht p)

theorem nodup_nodesF (h : (ns.map (·.1)).Nodup) : ((nodesF f ns es).map (·.1)).Nodup :=
  foldl_inv (P := fun ns : List (Nat × Attrs) => (ns.map (·.1)).Nodup)
    (fun _ _ _ h => nodup_pushN (nodup_pushN h)) h

end SynKit.Core
