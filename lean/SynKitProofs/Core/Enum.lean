import Mathlib.Data.List.Nodup
/-! The back-tracking enumeration behind `Match.extend` and `CrnCanon.extendG`: assign the keys `ps` one by one to
candidates from `hs`, an extension test `ok` deciding on each step given the assignment so far (most recent first).
The outputs are exactly the chains of accepted extensions (`mem_backtrack`), without repetition (`backtrack_nodup`). -/
namespace SynKit.Core
variable {α β : Type}

def backtrack (ok : List (α × β) → α → β → Bool) (hs : List β) : List α → List (α × β) → List (List (α × β))
  | [], acc => [acc]
  | p :: ps, acc => hs.flatMap fun h => if ok acc p h then backtrack ok hs ps ((p, h) :: acc) else []

/-- `l`, in the order of assignment, is a chain of accepted extensions on top of `acc` (most recent first). -/
def ValidExt (ok : List (α × β) → α → β → Bool) (hs : List β) : List (α × β) → List (α × β) → Prop
  | _, [] => True
  | acc, (p, h) :: rest => (h ∈ hs ∧ ok acc p h = true) ∧ ValidExt ok hs ((p, h) :: acc) rest

variable (ok : List (α × β) → α → β → Bool) (hs : List β)

theorem mem_backtrack (ps : List α) (acc m : List (α × β)) :
    m ∈ backtrack ok hs ps acc ↔ ∃ l, m = l.reverse ++ acc ∧ l.map Prod.fst = ps ∧ ValidExt ok hs acc l := by
  induction ps generalizing acc with
  | nil =>
    simp only [backtrack, List.mem_singleton, List.map_eq_nil_iff]
    exact ⟨fun h => ⟨[], h, rfl, trivial⟩, fun ⟨l, e, hl, _⟩ => by subst hl; exact e⟩
  | cons p ps ih =>
    simp only [backtrack, List.mem_flatMap]
    constructor
    · rintro ⟨h, hh, hm⟩
      split at hm
      · next hok =>
        obtain ⟨l, rfl, hfst, hv⟩ := (ih _).1 hm
        exact ⟨(p, h) :: l, by simp, by rw [List.map_cons, hfst], ⟨hh, hok⟩, hv⟩
      · cases hm
    · rintro ⟨l, rfl, hfst, hv⟩
      match l, hfst, hv with
      | (_, h) :: l, hfst, ⟨⟨hh, hok⟩, hv⟩ =>
        obtain ⟨rfl, hl⟩ := List.cons.inj hfst
        exact ⟨h, hh, by rw [if_pos hok]; exact (ih _).2 ⟨l, by simp, hl, hv⟩⟩

theorem validExt_iff_pairwise {Entry : α × β → Prop} {Pair : α × β → α × β → Prop}
    (hok : ∀ acc p h, ok acc p h = true ↔ Entry (p, h) ∧ ∀ y ∈ acc, Pair (p, h) y) (acc l : List (α × β)) :
    ValidExt ok hs acc l ↔
      (∀ x ∈ l, (x.2 ∈ hs ∧ Entry x) ∧ ∀ y ∈ acc, Pair x y) ∧ l.Pairwise fun a b => Pair b a := by
  induction l generalizing acc with
  | nil => simp [ValidExt]
  | cons x xs ih =>
    obtain ⟨p, h⟩ := x
    simp only [ValidExt, ih, hok, List.forall_mem_cons, List.pairwise_cons]
    constructor
    · rintro ⟨⟨hh, he, ha⟩, hall, hpw⟩
      exact ⟨⟨⟨⟨hh, he⟩, ha⟩, fun x hx => ⟨(hall x hx).1, (hall x hx).2.2⟩⟩, fun x hx => (hall x hx).2.1, hpw⟩
    · rintro ⟨⟨⟨⟨hh, he⟩, ha⟩, hall⟩, hp, hpw⟩
      exact ⟨⟨hh, he, ha⟩, fun x hx => ⟨(hall x hx).1, hp x hx, (hall x hx).2⟩, hpw⟩

theorem mem_backtrack_reverse {Entry : α × β → Prop} {Pair : α × β → α × β → Prop}
    (hsymm : ∀ a b, Pair a b → Pair b a)
    (hok : ∀ acc p h, ok acc p h = true ↔ Entry (p, h) ∧ ∀ y ∈ acc, Pair (p, h) y) (ps : List α) (m : List (α × β)) :
    m ∈ (backtrack ok hs ps []).map List.reverse ↔
      m.map Prod.fst = ps ∧ (∀ x ∈ m, x.2 ∈ hs ∧ Entry x) ∧ m.Pairwise Pair := by
  have hrev : m ∈ (backtrack ok hs ps []).map List.reverse ↔ m.reverse ∈ backtrack ok hs ps [] :=
    ⟨fun h => by obtain ⟨m', hm', rfl⟩ := List.mem_map.1 h; simpa using hm',
      fun h => List.mem_map.2 ⟨_, h, List.reverse_reverse m⟩⟩
  have hpw : (m.Pairwise fun a b => Pair b a) ↔ m.Pairwise Pair :=
    ⟨fun h => h.imp (hsymm _ _), fun h => h.imp (hsymm _ _)⟩
  rw [hrev, mem_backtrack]
  -- `m.reverse = l.reverse` names `l`, and nothing is assigned before it
  simp only [List.append_nil, List.reverse_inj, exists_eq_left', validExt_iff_pairwise ok hs hok, hpw,
    List.not_mem_nil, false_imp_iff, implies_true, and_true]

theorem backtrack_shape (ps : List α) (acc m : List (α × β)) (hm : m ∈ backtrack ok hs ps acc) :
    ∃ new, m = new ++ acc ∧ new.length = ps.length := by
  obtain ⟨l, h1, h2, -⟩ := (mem_backtrack ok hs ps acc m).1 hm
  exact ⟨l.reverse, h1, by simpa using congrArg List.length h2⟩

/-- Two runs that differ in one assignment have no output in common: outputs end in the assignment made so far. -/
theorem backtrack_nodup (hhs : hs.Nodup) (ps : List α) (acc : List (α × β)) : (backtrack ok hs ps acc).Nodup := by
  induction ps generalizing acc with
  | nil => simp [backtrack]
  | cons p ps ih =>
    simp only [backtrack]
    rw [List.nodup_flatMap]
    refine ⟨fun h _ => ?_, ?_⟩
    · split
      · exact ih _
      · exact List.nodup_nil
    · refine List.Pairwise.imp ?_ hhs
      intro h h' hne
      show List.Disjoint _ _
      intro m hm hm'
      dsimp only at hm hm'
      split at hm
      · split at hm'
        · obtain ⟨n1, e1, l1⟩ := backtrack_shape ok hs ps _ m hm
          obtain ⟨n2, e2, l2⟩ := backtrack_shape ok hs ps _ m hm'
          have := List.append_inj (e1.symm.trans e2) (l1.trans l2.symm)
          simp only [List.cons.injEq, Prod.mk.injEq, true_and, and_true] at this
          exact hne this.2
        · cases hm'
      · cases hm

end SynKit.Core
