import Mathlib.Algebra.BigOperators.Group.List.Basic
import Mathlib.Data.List.Nodup
/-! Sums and counts: a loop `acc + f a` as a `List.sum` (`isum_eq_sum`: the model's `sumCoeff`, `arcSum`, `sideVec`), a sum
over a filtered list (`sum_map_filter`), a count split by a second test (`filter_split`), and, over
a duplicate-free list, a sum that is carried by one element (`sum_map_ite_eq`), a sum of counts (`sum_count`), two sums
that differ at one key (`sum_map_update`). -/
namespace SynKit.Core
universe u v w
variable {α : Type u} {κ : Type v}

theorem isum_eq_sum {M : Type w} [AddMonoid M] (f : α → M) (l : List α) :
    l.foldl (fun acc a => acc + f a) 0 = (l.map f).sum := by
  rw [List.sum_eq_foldl, List.foldl_map]

theorem sum_map_filter (c : α → Bool) (f : α → Int) (l : List α) :
    ((l.filter c).map f).sum = (l.map fun x => if c x then f x else 0).sum := by
  induction l with
  | nil => rfl
  | cons a l ih =>
    rw [List.filter_cons]
    cases h : c a <;> simp [ih, h]

theorem filter_split (p q : α → Bool) (l : List α) :
    (l.filter p).length =
      (l.filter fun x => q x && p x).length + (l.filter fun x => (!q x) && p x).length := by
  rw [← List.filter_filter, ← List.filter_filter, ← List.length_append]
  exact (List.filter_append_perm q (l.filter p)).length_eq.symm

theorem length_filter_singleton (B : α → Bool) (x : α) : (([x].filter B).length : Int) = if B x then 1 else 0 := by
  rw [List.filter_singleton]; cases B x <;> rfl

theorem sum_map_ite_eq {M : Type w} [AddMonoid M] [DecidableEq α] {l : List α} (hn : l.Nodup) (a : α) (c : α → M) :
    (l.map fun v => if a = v then c v else 0).sum = if a ∈ l then c a else 0 := by
  induction l with
  | nil => rfl
  | cons x l ih =>
    rw [List.nodup_cons] at hn
    rw [List.map_cons, List.sum_cons, ih hn.2]
    by_cases h : a = x
    · subst h; simp [hn.1]
    · simp [h]

theorem sum_single [DecidableEq α] (l : List α) (hn : l.Nodup) (a : α) (ha : a ∈ l) (c : α → Int) :
    (l.map fun v => if a = v then c v else 0).sum = c a :=
  (sum_map_ite_eq hn a c).trans (if_pos ha)

theorem sum_count [DecidableEq α] (P : List α) (hP : P.Nodup) (l : List α) :
    (P.map fun h => l.count h).sum = (l.filter fun n => P.contains n).length := by
  induction l with
  | nil => simp
  | cons a l ih =>
    have : (P.map fun h => (a :: l).count h) = P.map fun h => (l.count h + if a = h then 1 else 0) := by
      apply List.map_congr_left; intro h _
      rw [List.count_cons]; simp only [beq_iff_eq]
    rw [this, List.sum_map_add, ih, sum_map_ite_eq hP a fun _ => 1, List.filter_cons]
    by_cases h : a ∈ P
    · simp [h]
    · simp [h]

theorem sum_map_update (l : List α) (k : α → κ) (hn : (l.map k).Nodup) (F G : α → Int)
    (p : α) (hp : p ∈ l) (hFG : ∀ q ∈ l, k q ≠ k p → F q = G q) :
    (l.map F).sum + G p = (l.map G).sum + F p := by
  induction l with
  | nil => cases hp
  | cons q l ih =>
    rw [List.map_cons, List.nodup_cons] at hn
    simp only [List.map_cons, List.sum_cons]
    rcases List.mem_cons.1 hp with rfl | hp'
    · have : l.map F = l.map G :=
        List.map_congr_left fun r hr => hFG r (List.mem_cons_of_mem _ hr) fun e =>
          hn.1 (e ▸ List.mem_map.2 ⟨r, hr, rfl⟩)
      rw [this]; omega
    · have hq : F q = G q := hFG q List.mem_cons_self fun e => hn.1 (e ▸ List.mem_map.2 ⟨p, hp', rfl⟩)
      have := ih hn.2 hp' (fun r hr => hFG r (List.mem_cons_of_mem _ hr))
      omega

end SynKit.Core
