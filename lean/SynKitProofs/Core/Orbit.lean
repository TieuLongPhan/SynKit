import Mathlib.Logic.Relation
/-! Orbits of a set of self-maps of a finite node list that is closed under identity, composition and inverse:
"moved onto by a member" is an equivalence on the nodes, a list of classes that holds the orbit of every node
lists its classes, and a relation generated by pairs inside orbits stays inside orbits (union–find orbits; `eqvGen_join`:
one more generating pair joins two classes and does nothing else). -/
namespace SynKit.Core

structure MapGroup (ids : List Nat) (A : (Nat → Nat) → Prop) : Prop where
  maps : ∀ {f}, A f → ∀ v ∈ ids, f v ∈ ids
  one : ∃ e, A e ∧ ∀ v ∈ ids, e v = v
  mul : ∀ {f g}, A f → A g → ∃ h, A h ∧ ∀ v ∈ ids, h v = g (f v)
  inv : ∀ {f}, A f → ∃ g, A g ∧ ∀ v ∈ ids, g (f v) = v

def Orb (ids : List Nat) (A : (Nat → Nat) → Prop) (u v : Nat) : Prop := u ∈ ids ∧ ∃ f, A f ∧ f u = v

namespace MapGroup
variable {ids : List Nat} {A : (Nat → Nat) → Prop} {u v w : Nat}

theorem refl (h : MapGroup ids A) (hu : u ∈ ids) : Orb ids A u u :=
  let ⟨e, he, hid⟩ := h.one; ⟨hu, e, he, hid u hu⟩

theorem mem (h : MapGroup ids A) (huv : Orb ids A u v) : v ∈ ids :=
  let ⟨hu, _, hf, e⟩ := huv; e ▸ h.maps hf u hu

theorem symm (h : MapGroup ids A) (huv : Orb ids A u v) : Orb ids A v u := by
  obtain ⟨hu, f, hf, rfl⟩ := huv
  obtain ⟨g, hg, hgf⟩ := h.inv hf
  exact ⟨h.maps hf u hu, g, hg, hgf u hu⟩

theorem trans (h : MapGroup ids A) (huv : Orb ids A u v) (hvw : Orb ids A v w) : Orb ids A u w := by
  obtain ⟨hu, f, hf, rfl⟩ := huv
  obtain ⟨_, g, hg, rfl⟩ := hvw
  obtain ⟨k, hk, hkv⟩ := h.mul hf hg
  exact ⟨hu, k, hk, hkv u hu⟩

theorem sameClass_iff (h : MapGroup ids A) {P : List (List Nat)}
    (hP : ∀ O ∈ P, ∃ a, ∀ x, x ∈ O ↔ Orb ids A a x) (hcov : ∀ a ∈ ids, ∃ O ∈ P, ∀ x, x ∈ O ↔ Orb ids A a x) :
    (∃ O ∈ P, u ∈ O ∧ v ∈ O) ↔ Orb ids A u v := by
  constructor
  · rintro ⟨O, hO, hu, hv⟩
    obtain ⟨a, ha⟩ := hP O hO
    exact h.trans (h.symm ((ha u).1 hu)) ((ha v).1 hv)
  · intro huv
    obtain ⟨O, hO, ha⟩ := hcov u huv.1
    exact ⟨O, hO, (ha u).2 (h.refl huv.1), (ha v).2 huv⟩

theorem eqvGen (h : MapGroup ids A) {R : Nat → Nat → Prop} (hR : ∀ a b, R a b → Orb ids A a b)
    (huv : Relation.EqvGen R u v) : u ∈ ids → Orb ids A u v := by
  -- carried along: membership in `ids` is preserved, which the `symm` step needs
  suffices (u ∈ ids ↔ v ∈ ids) ∧ (u ∈ ids → Orb ids A u v) from this.2
  induction huv with
  | rel a b hab => exact ⟨⟨fun _ => h.mem (hR a b hab), fun _ => (hR a b hab).1⟩, fun _ => hR a b hab⟩
  | refl a => exact ⟨Iff.rfl, h.refl⟩
  | symm a b _ ih => exact ⟨ih.1.symm, fun hb => h.symm (ih.2 (ih.1.2 hb))⟩
  | trans a b c _ _ ih1 ih2 => exact ⟨ih1.1.trans ih2.1, fun ha => h.trans (ih1.2 ha) (ih2.2 (ih1.1.1 ha))⟩

end MapGroup

theorem eqvGen_congr {α : Type} {r r' : α → α → Prop} (h : ∀ a b, r a b ↔ r' a b) (u v : α) :
    Relation.EqvGen r u v ↔ Relation.EqvGen r' u v :=
  ⟨Relation.EqvGen.mono (fun a b => (h a b).1) u v, Relation.EqvGen.mono (fun a b => (h a b).2) u v⟩

theorem eqvGen_join {α : Type} (r : α → α → Prop) (x y u v : α) :
    Relation.EqvGen (fun a b => r a b ∨ (a = x ∧ b = y)) u v ↔
      Relation.EqvGen r u v ∨ ((Relation.EqvGen r u x ∨ Relation.EqvGen r u y) ∧ (Relation.EqvGen r v x ∨ Relation.EqvGen r v y)) := by
  have up : ∀ {a b}, Relation.EqvGen r a b → Relation.EqvGen (fun a b => r a b ∨ (a = x ∧ b = y)) a b :=
    fun h => Relation.EqvGen.mono (fun _ _ h => Or.inl h) _ _ h
  have hxy : Relation.EqvGen (fun a b => r a b ∨ (a = x ∧ b = y)) x y := .rel _ _ (Or.inr ⟨rfl, rfl⟩)
  constructor
  · intro h
    induction h with
    | rel a b h =>
      rcases h with h | ⟨rfl, rfl⟩
      · exact Or.inl (.rel _ _ h)
      · exact Or.inr ⟨Or.inl (.refl _), Or.inr (.refl _)⟩
    | refl a => exact Or.inl (.refl a)
    | symm a b _ ih => exact ih.imp (.symm _ _) And.symm
    | trans a b c _ _ ih1 ih2 =>
      rcases ih1 with h1 | ⟨ha, hb⟩ <;> rcases ih2 with h2 | ⟨hb', hc⟩
      · exact Or.inl (.trans _ _ _ h1 h2)
      · exact Or.inr ⟨hb'.imp (.trans _ _ _ h1) (.trans _ _ _ h1), hc⟩
      · exact Or.inr ⟨ha, hb.imp (.trans _ _ _ (.symm _ _ h2)) (.trans _ _ _ (.symm _ _ h2))⟩
      · exact Or.inr ⟨ha, hc⟩
  · rintro (h | ⟨hu, hv⟩)
    · exact up h
    · have toX : ∀ w, Relation.EqvGen r w x ∨ Relation.EqvGen r w y → Relation.EqvGen (fun a b => r a b ∨ (a = x ∧ b = y)) w x :=
        fun w h => h.elim up fun h => .trans _ _ _ (up h) (.symm _ _ hxy)
      exact .trans _ _ _ (toX u hu) (.symm _ _ (toX v hv))

end SynKit.Core
