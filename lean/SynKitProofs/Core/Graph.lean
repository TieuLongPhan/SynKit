import SynKitModel.Graph
import SynKitProofs.Core.List
import SynKitProofs.Core.Fold
/-! `LGraph`.  "The edge `e` joins `u` and `v`" is always written as in the definition of `edge?`:
`(e.1 = u ∧ e.2.1 = v) ∨ (e.1 = v ∧ e.2.1 = u)`.
"`f` is injective on the nodes" is written `∀ a ∈ g.ids, ∀ b ∈ g.ids, f a = f b → a = b`.

In this order: the readers of a node list (`ids`, `hasNode`, `attrs`); "joins" and the key `(min, max)` of a bond; the
readers of a bond list (`edge?`/`hasEdge`, `arc?`, `neighbors`); what `WF` adds (`edge?_of_mem`: the lookup finds every
bond, since no second bond on the same pair can hide it; end points are nodes; `wf_of_ends`; `edge?_filterMap_attrs`);
then the transformers, each with what it does to the readers: `relabel` (for a labelling injective on the nodes, and
`_of_injective` for one injective on `Nat`; `extOf` passes from the first to the second), `keep`/`induce`, `mapAttrs`;
the lemmas are named `‹reader›_relabel`, `‹reader›_keep`, ….
-/
namespace SynKit.LGraph
variable {g g' : LGraph} {u v w : Nat} {a : Attrs} {e : Nat × Nat × Attrs} {f f' : Nat → Nat}

protected theorem ext (hn : g.nodes = g'.nodes) (he : g.edges = g'.edges) : g = g' := by
  cases g
  cases g'
  exact congr (congrArg mk hn) he

theorem mem_ids : v ∈ g.ids ↔ ∃ a, (v, a) ∈ g.nodes :=
  List.mem_map.trans ⟨fun ⟨p, hp, h⟩ => ⟨p.2, h ▸ hp⟩, fun ⟨a, h⟩ => ⟨(v, a), h, rfl⟩⟩

theorem mem_ids_of_mem {p : Nat × Attrs} (h : p ∈ g.nodes) : p.1 ∈ g.ids :=
  List.mem_map_of_mem (f := (·.1)) h

theorem ids_length : g.ids.length = g.nodes.length := List.length_map _

theorem hasNode_iff : g.hasNode v = true ↔ v ∈ g.ids := List.contains_iff_mem

theorem hasNode_false_iff : g.hasNode v = false ↔ v ∉ g.ids := by
  rw [← hasNode_iff, Bool.not_eq_true]

theorem find?_of_mem_ids (h : v ∈ g.ids) : g.nodes.find? (·.1 = v) = some (v, g.attrs v) := by
  unfold attrs
  cases hf : g.nodes.find? (·.1 = v) with
  | none =>
    obtain ⟨a, ha⟩ := mem_ids.1 h
    exact absurd (decide_eq_true rfl) (List.find?_eq_none.1 hf _ ha)
  | some p =>
    have hp := List.find?_some hf
    obtain rfl : p.1 = v := of_decide_eq_true hp
    rfl

theorem attrs_mem (h : v ∈ g.ids) : (v, g.attrs v) ∈ g.nodes :=
  List.mem_of_find?_eq_some (find?_of_mem_ids h)

theorem attrs_of_mem (hn : g.ids.Nodup) (h : (v, a) ∈ g.nodes) : g.attrs v = a := by
  unfold attrs
  rw [Core.find?_of_nodup_map hn h rfl]

theorem attrs_of_not_mem (h : v ∉ g.ids) : g.attrs v = [] := by
  have hf : g.nodes.find? (·.1 = v) = none :=
    List.find?_eq_none.2 fun p hp hv => h (of_decide_eq_true hv ▸ mem_ids_of_mem hp)
  unfold attrs
  rw [hf]

theorem attrs_congr (h : g.nodes = g'.nodes) : g.attrs v = g'.attrs v := by
  unfold attrs
  rw [h]

theorem attrs_append_left {extra : List (Nat × Attrs)} (hn : g.nodes = g'.nodes ++ extra)
    (hv : v ∈ g'.ids) : g.attrs v = g'.attrs v := by
  rw [attrs, hn, List.find?_append, find?_of_mem_ids hv]
  rfl

theorem attrs_append_right {ns : List (Nat × Attrs)} (hn : g.nodes = ns ++ g'.nodes)
    (hv : v ∉ ns.map (·.1)) : g.attrs v = g'.attrs v := by
  have hf : ns.find? (·.1 = v) = none :=
    List.find?_eq_none.2 fun p hp hpv => hv (List.mem_map.2 ⟨p, hp, of_decide_eq_true hpv⟩)
  unfold attrs
  rw [hn, List.find?_append, hf]
  rfl

theorem attrs_map_nodes {F : Nat × Attrs → Nat × Attrs} (hn : g'.nodes = g.nodes.map F)
    (hF : ∀ p ∈ g.nodes, (F p).1 = p.1) (hv : v ∈ g.ids) : g'.attrs v = (F (v, g.attrs v)).2 := by
  rw [attrs, hn, Core.find?_map_of_forall (p := fun p : Nat × Attrs => decide (p.1 = v))
    (q := fun p => decide (p.1 = v)) fun p hp => by rw [hF p hp], find?_of_mem_ids hv]
  rfl

theorem ids_map_nodes {F : Nat × Attrs → Nat × Attrs} (hn : g'.nodes = g.nodes.map F)
    (hF : ∀ p ∈ g.nodes, (F p).1 = p.1) : g'.ids = g.ids := by
  unfold ids
  rw [hn, List.map_map]
  exact List.map_congr_left hF

theorem node_unique {b : Attrs} (hn : g.ids.Nodup) (ha : (v, a) ∈ g.nodes) (hb : (v, b) ∈ g.nodes) : a = b :=
  (attrs_of_mem hn ha).symm.trans (attrs_of_mem hn hb)

/-! The bond list: `edge?`, `hasEdge`, `neighbors` read it in the undirected sense, `arc?` in the directed one.  Nothing here
needs `WF`. -/

theorem sym_of_joins {β : Type} (F : Nat → Nat → β) (hF : ∀ u v, F u v = F v u) {u v a b : Nat}
    (h : (a = u ∧ b = v) ∨ (a = v ∧ b = u)) : F a b = F u v := by
  obtain ⟨rfl, rfl⟩ | ⟨rfl, rfl⟩ := h
  · rfl
  · exact hF a b

/-- `(min, max)` is the key of `WF`'s third clause. -/
theorem key_eq_of_pair_eq {a b c d : Nat} (h : (a = c ∧ b = d) ∨ (a = d ∧ b = c)) :
    (min a b, max a b) = (min c d, max c d) :=
  sym_of_joins (fun a b => (min a b, max a b)) (fun a b => by rw [Nat.min_comm, Nat.max_comm]) h

theorem key_eq_of_joins {e' : Nat × Nat × Attrs}
    (h : (e.1 = u ∧ e.2.1 = v) ∨ (e.1 = v ∧ e.2.1 = u))
    (h' : (e'.1 = u ∧ e'.2.1 = v) ∨ (e'.1 = v ∧ e'.2.1 = u)) :
    (min e.1 e.2.1, max e.1 e.2.1) = (min e'.1 e'.2.1, max e'.1 e'.2.1) :=
  (key_eq_of_pair_eq h).trans (key_eq_of_pair_eq h').symm

theorem pair_eq_of_key_eq {a b c d : Nat} (h : (min a b, max a b) = (min c d, max c d)) :
    (a = c ∧ b = d) ∨ (a = d ∧ b = c) := by
  obtain ⟨h1, h2⟩ := Prod.mk.inj h
  rcases Nat.le_total a b with hab | hab <;> rcases Nat.le_total c d with hcd | hcd
  · rw [Nat.min_eq_left hab, Nat.min_eq_left hcd] at h1
    rw [Nat.max_eq_right hab, Nat.max_eq_right hcd] at h2
    exact .inl ⟨h1, h2⟩
  · rw [Nat.min_eq_left hab, Nat.min_eq_right hcd] at h1
    rw [Nat.max_eq_right hab, Nat.max_eq_left hcd] at h2
    exact .inr ⟨h1, h2⟩
  · rw [Nat.min_eq_right hab, Nat.min_eq_left hcd] at h1
    rw [Nat.max_eq_left hab, Nat.max_eq_right hcd] at h2
    exact .inr ⟨h2, h1⟩
  · rw [Nat.min_eq_right hab, Nat.min_eq_right hcd] at h1
    rw [Nat.max_eq_left hab, Nat.max_eq_left hcd] at h2
    exact .inl ⟨h2, h1⟩

theorem joins_symm {a b u v : Nat} (h : (a = u ∧ b = v) ∨ (a = v ∧ b = u)) : (u = a ∧ v = b) ∨ (u = b ∧ v = a) := by
  rcases h with ⟨rfl, rfl⟩ | ⟨rfl, rfl⟩
  · exact Or.inl ⟨rfl, rfl⟩
  · exact Or.inr ⟨rfl, rfl⟩

theorem joins_trans {a b c d u v : Nat} (h : (a = c ∧ b = d) ∨ (a = d ∧ b = c))
    (h' : (c = u ∧ d = v) ∨ (c = v ∧ d = u)) : (a = u ∧ b = v) ∨ (a = v ∧ b = u) := by
  rcases h with ⟨rfl, rfl⟩ | ⟨rfl, rfl⟩
  · exact h'
  · exact h'.symm.imp And.symm And.symm

theorem edge?_comm : g.edge? u v = g.edge? v u := by
  unfold edge?
  exact congrArg (Option.map fun e : Nat × Nat × Attrs => e.2.2)
    (Core.find?_congr fun e _ => decide_eq_decide.2 or_comm)

theorem hasEdge_comm : g.hasEdge u v = g.hasEdge v u := by
  unfold hasEdge
  rw [edge?_comm]

theorem edge?_of_joins {a b : Nat} (h : (a = u ∧ b = v) ∨ (a = v ∧ b = u)) : g.edge? a b = g.edge? u v :=
  sym_of_joins g.edge? (fun _ _ => edge?_comm) h

theorem hasEdge_of_joins {a b : Nat} (h : (a = u ∧ b = v) ∨ (a = v ∧ b = u)) : g.hasEdge a b = g.hasEdge u v :=
  sym_of_joins g.hasEdge (fun _ _ => hasEdge_comm) h

theorem edge?_congr (h : g.edges = g'.edges) : g.edge? u v = g'.edge? u v := by
  unfold edge?
  rw [h]

theorem hasEdge_congr (h : g.edges = g'.edges) : g.hasEdge u v = g'.hasEdge u v := by
  unfold hasEdge
  rw [edge?_congr h]

theorem hasEdge_of_edge? (h : g.edge? u v = some a) : g.hasEdge u v = true := by
  unfold hasEdge
  rw [h]
  rfl

theorem hasEdge_iff_edge? : g.hasEdge u v = true ↔ ∃ a, g.edge? u v = some a :=
  Option.isSome_iff_exists

theorem hasEdge_false_iff_edge? : g.hasEdge u v = false ↔ g.edge? u v = none := by
  unfold hasEdge
  rw [← Bool.not_eq_true, Option.not_isSome_iff_eq_none]

theorem edge?_some_mem (h : g.edge? u v = some a) :
    ∃ e ∈ g.edges, e.2.2 = a ∧ ((e.1 = u ∧ e.2.1 = v) ∨ (e.1 = v ∧ e.2.1 = u)) := by
  obtain ⟨e, he, rfl⟩ := Option.map_eq_some_iff.1 h
  have hj := List.find?_some he
  exact ⟨e, List.mem_of_find?_eq_some he, rfl, of_decide_eq_true hj⟩

theorem edge?_eq_none_iff :
    g.edge? u v = none ↔ ∀ e ∈ g.edges, ¬ ((e.1 = u ∧ e.2.1 = v) ∨ (e.1 = v ∧ e.2.1 = u)) := by
  unfold edge?
  rw [Option.map_eq_none_iff, List.find?_eq_none]
  simp only [decide_eq_true_eq]

theorem edge?_append_left {extra : List (Nat × Nat × Attrs)} (hg : g.edges = g'.edges ++ extra)
    (h : ∀ e ∈ extra, ¬ ((e.1 = u ∧ e.2.1 = v) ∨ (e.1 = v ∧ e.2.1 = u))) : g.edge? u v = g'.edge? u v := by
  have hf : extra.find? (fun e => (e.1 = u ∧ e.2.1 = v) ∨ (e.1 = v ∧ e.2.1 = u)) = none :=
    List.find?_eq_none.2 fun e he hj => h e he (of_decide_eq_true hj)
  unfold edge?
  rw [hg, List.find?_append, hf, Option.or_none]

theorem hasEdge_iff :
    g.hasEdge u v = true ↔ ∃ e ∈ g.edges, (e.1 = u ∧ e.2.1 = v) ∨ (e.1 = v ∧ e.2.1 = u) := by
  unfold hasEdge edge?
  rw [Option.isSome_map, List.find?_isSome]
  simp only [decide_eq_true_eq]

theorem hasEdge_false_iff :
    g.hasEdge u v = false ↔ ∀ e ∈ g.edges, ¬ ((e.1 = u ∧ e.2.1 = v) ∨ (e.1 = v ∧ e.2.1 = u)) := by
  rw [← Bool.not_eq_true, hasEdge_iff]
  simp only [not_exists, not_and]

theorem hasEdge_iff_key :
    g.hasEdge u v = true ↔ (min u v, max u v) ∈ g.edges.map fun e => (min e.1 e.2.1, max e.1 e.2.1) := by
  rw [hasEdge_iff, List.mem_map]
  exact exists_congr fun _ => and_congr_right fun _ => ⟨key_eq_of_pair_eq, pair_eq_of_key_eq⟩

theorem hasEdge_of_mem (he : e ∈ g.edges) (h : (e.1 = u ∧ e.2.1 = v) ∨ (e.1 = v ∧ e.2.1 = u)) :
    g.hasEdge u v = true :=
  hasEdge_iff.2 ⟨e, he, h⟩

theorem ends_mem_of_hasEdge {X : List Nat} (hcl : ∀ e ∈ g.edges, e.1 ∈ X ∧ e.2.1 ∈ X) (h : g.hasEdge u v = true) :
    u ∈ X ∧ v ∈ X := by
  obtain ⟨e0, he0, hj⟩ := hasEdge_iff.1 h
  rcases hj with ⟨rfl, rfl⟩ | ⟨rfl, rfl⟩
  · exact hcl e0 he0
  · exact (hcl e0 he0).symm

theorem arc?_some_mem (h : g.arc? u v = some a) : (u, v, a) ∈ g.edges := by
  obtain ⟨e, he, rfl⟩ := Option.map_eq_some_iff.1 h
  have hj := List.find?_some he
  obtain ⟨rfl, rfl⟩ : e.1 = u ∧ e.2.1 = v := of_decide_eq_true hj
  exact List.mem_of_find?_eq_some he

theorem arc?_eq_none_iff : g.arc? u v = none ↔ ∀ a, (u, v, a) ∉ g.edges := by
  unfold arc?
  rw [Option.map_eq_none_iff, List.find?_eq_none]
  constructor
  · exact fun h a ha => h _ ha (decide_eq_true ⟨rfl, rfl⟩)
  · rintro h ⟨x, y, a⟩ he hxy
    obtain ⟨rfl, rfl⟩ : x = u ∧ y = v := of_decide_eq_true hxy
    exact h a he

/-- The test `neighbors` makes of one bond: it yields `w` iff the bond joins `v` and `w`. -/
theorem otherEnd_eq_some :
    (if e.1 = v then some e.2.1 else if e.2.1 = v then some e.1 else none) = some w ↔
      (e.1 = v ∧ e.2.1 = w) ∨ (e.1 = w ∧ e.2.1 = v) := by
  split
  · next h1 =>
    rw [Option.some.injEq]
    exact ⟨fun h => .inl ⟨h1, h⟩, fun h => h.elim (·.2) fun h => h.2.trans (h1.symm.trans h.1)⟩
  · split
    · next h1 h2 =>
      rw [Option.some.injEq]
      exact ⟨fun h => .inr ⟨h, h2⟩, fun h => h.elim (fun h => absurd h.1 h1) (·.1)⟩
    · next h1 h2 =>
      exact ⟨(nomatch ·), fun h => h.elim (fun h => absurd h.1 h1) fun h => absurd h.2 h2⟩

theorem mem_neighbors_iff : w ∈ g.neighbors v ↔ g.hasEdge v w = true := by
  rw [hasEdge_iff]
  unfold neighbors
  rw [List.mem_filterMap]
  exact exists_congr fun e => and_congr_right fun _ => otherEnd_eq_some

theorem mem_neighbors_comm : w ∈ g.neighbors v ↔ v ∈ g.neighbors w := by
  rw [mem_neighbors_iff, mem_neighbors_iff, hasEdge_comm]

theorem edge?_of_mem (hg : g.WF) (he : e ∈ g.edges)
    (h : (e.1 = u ∧ e.2.1 = v) ∨ (e.1 = v ∧ e.2.1 = u)) : g.edge? u v = some e.2.2 := by
  cases hf : g.edge? u v with
  | none => exact absurd h (edge?_eq_none_iff.1 hf e he)
  | some a =>
    obtain ⟨e', he', rfl, h'⟩ := edge?_some_mem hf
    rw [List.inj_on_of_nodup_map hg.2.2 he he' (key_eq_of_joins h h')]

theorem edge?_eq_some_iff (hg : g.WF) :
    g.edge? u v = some a ↔
      ∃ e ∈ g.edges, e.2.2 = a ∧ ((e.1 = u ∧ e.2.1 = v) ∨ (e.1 = v ∧ e.2.1 = u)) :=
  ⟨edge?_some_mem, fun ⟨_, he, ha, h⟩ => ha ▸ edge?_of_mem hg he h⟩

theorem hasEdge_mem_ids (hg : g.WF) (h : g.hasEdge u v = true) : u ∈ g.ids ∧ v ∈ g.ids := by
  obtain ⟨e, he, h⟩ := hasEdge_iff.1 h
  obtain ⟨h1, h2, -⟩ := hg.2.1 e he
  rcases h with ⟨rfl, rfl⟩ | ⟨rfl, rfl⟩
  · exact ⟨h1, h2⟩
  · exact ⟨h2, h1⟩

theorem edge?_mem_ids (hg : g.WF) (h : g.edge? u v = some a) : u ∈ g.ids ∧ v ∈ g.ids :=
  hasEdge_mem_ids hg (hasEdge_of_edge? h)

theorem edge?_of_not_mem (hg : g.WF) (h : u ∉ g.ids ∨ v ∉ g.ids) : g.edge? u v = none :=
  Option.eq_none_iff_forall_ne_some.2 fun _ ha => not_and_or.2 h (edge?_mem_ids hg ha)

theorem edge?_self (hg : g.WF) : g.edge? v v = none :=
  edge?_eq_none_iff.2 fun e he h => (hg.2.1 e he).2.2 (by
    rcases h with ⟨h1, h2⟩ | ⟨h1, h2⟩ <;> exact h1.trans h2.symm)

theorem hasEdge_self (hg : g.WF) : g.hasEdge v v = false := by
  unfold hasEdge
  rw [edge?_self hg]
  rfl

theorem neighbors_subset_ids (hg : g.WF) (h : w ∈ g.neighbors v) : w ∈ g.ids :=
  (hasEdge_mem_ids hg (mem_neighbors_iff.1 h)).2

theorem neighbors_nodup (hg : g.WF) (v : Nat) : (g.neighbors v).Nodup := by
  have hnd := hg.2.2
  rw [List.Nodup, List.pairwise_map] at hnd
  refine List.Pairwise.filterMap _ (fun x y hne b hb b' hb' hbb' => hne ?_) hnd
  subst hbb'
  rw [key_eq_of_pair_eq (otherEnd_eq_some.1 hb), key_eq_of_pair_eq (otherEnd_eq_some.1 hb')]

/-- Well-formedness reads the set of ids and the end points of the edges only. -/
theorem wf_of_ends (hg : g.WF) (hn : g'.ids.Nodup) (hi : ∀ v ∈ g.ids, v ∈ g'.ids)
    (he : g'.edges.map (fun e => (e.1, e.2.1)) = g.edges.map fun e => (e.1, e.2.1)) : g'.WF := by
  have key : ∀ k : LGraph, k.edges.map (fun e => (min e.1 e.2.1, max e.1 e.2.1)) =
      (k.edges.map fun e => (e.1, e.2.1)).map fun p => (min p.1 p.2, max p.1 p.2) := fun k => by
    rw [List.map_map]; rfl
  refine ⟨hn, fun e he' => ?_, by rw [key, he, ← key]; exact hg.2.2⟩
  obtain ⟨e0, he0, hee⟩ := List.mem_map.1
    (he ▸ List.mem_map_of_mem (f := fun e : Nat × Nat × Attrs => (e.1, e.2.1)) he')
  rw [Prod.mk.injEq] at hee
  obtain ⟨a, b, c⟩ := hg.2.1 e0 he0
  rw [← hee.1, ← hee.2]
  exact ⟨hi _ a, hi _ b, c⟩

/-- `t` rewrites the attribute dict of a bond or drops the bond (`its_decompose`, the GML reader's normal form).  On a
bond list without parallel bonds the lookup in the rewritten list is the rewritten lookup: the one bond on `{u, v}`, if
dropped, leaves none behind. -/
theorem edge?_filterMap_attrs (t : Attrs → Option Attrs) (N N' : List (Nat × Attrs)) (u v : Nat) :
    ∀ {es : List (Nat × Nat × Attrs)}, (es.map fun e => (min e.1 e.2.1, max e.1 e.2.1)).Nodup →
    (⟨N, es.filterMap fun e => (t e.2.2).map fun a => (e.1, e.2.1, a)⟩ : LGraph).edge? u v =
      ((⟨N', es⟩ : LGraph).edge? u v).bind t
  | [], _ => rfl
  | e :: es, hnd => by
    have ih := edge?_filterMap_attrs t N N' u v (List.nodup_cons.1 hnd).2
    unfold edge? at ih ⊢
    by_cases hj : (e.1 = u ∧ e.2.1 = v) ∨ (e.1 = v ∧ e.2.1 = u)
    · rw [List.find?_cons_of_pos (by exact decide_eq_true hj), Option.map_some, Option.bind_some, List.filterMap_cons]
      cases ht : t e.2.2 with
      | some a => rw [Option.map_some, List.find?_cons_of_pos (by exact decide_eq_true hj)]; rfl
      | none =>
        rw [Option.map_none, Option.map_eq_none_iff, List.find?_eq_none]
        intro x hx hjx
        obtain ⟨e', he', hx'⟩ := List.mem_filterMap.1 hx
        obtain ⟨a, -, rfl⟩ := Option.map_eq_some_iff.1 hx'
        exact (List.nodup_cons.1 hnd).1 (List.mem_map.2 ⟨e', he', key_eq_of_joins (of_decide_eq_true hjx) hj⟩)
    · rw [List.find?_cons_of_neg (by exact fun h => hj (of_decide_eq_true h)), ← ih, List.filterMap_cons]
      cases t e.2.2 with
      | none => rfl
      | some a => rw [Option.map_some, List.find?_cons_of_neg (by exact fun h => hj (of_decide_eq_true h))]

/-! `relabel`.  Where a reader is moved along `f`, `f` is asked to be injective on the nodes (`g.WF` then places the end
points of the bonds among them); the `_of_injective` forms ask `Function.Injective f` and nothing of `g`. -/

theorem nodes_relabel : (g.relabel f).nodes = g.nodes.map fun p => (f p.1, p.2) := rfl

theorem edges_relabel : (g.relabel f).edges = g.edges.map fun e => (f e.1, f e.2.1, e.2.2) := rfl

theorem ids_relabel : (g.relabel f).ids = g.ids.map f := by
  unfold ids
  rw [nodes_relabel, List.map_map, List.map_map]
  rfl

theorem mem_ids_relabel (hf : Function.Injective f) : f v ∈ (g.relabel f).ids ↔ v ∈ g.ids := by
  rw [ids_relabel, List.mem_map_of_injective hf]

theorem relabel_id : g.relabel (fun v => v) = g := by
  unfold relabel
  rw [List.map_id', List.map_id']

theorem relabel_id' : g.relabel id = g := relabel_id

theorem relabel_relabel : (g.relabel f).relabel f' = g.relabel fun v => f' (f v) := by
  unfold relabel
  rw [List.map_map, List.map_map]
  rfl

theorem relabel_congr (hg : g.WF) (h : ∀ v ∈ g.ids, f v = f' v) : g.relabel f = g.relabel f' := by
  unfold relabel
  congr 1
  · exact List.map_congr_left fun p hp => by rw [h p.1 (mem_ids_of_mem hp)]
  · exact List.map_congr_left fun e hm => by rw [h _ (hg.2.1 e hm).1, h _ (hg.2.1 e hm).2.1]

theorem attrs_relabel (hf : ∀ x ∈ g.ids, f x = f v → x = v) : (g.relabel f).attrs (f v) = g.attrs v := by
  unfold attrs
  rw [nodes_relabel, Core.find?_map_of_forall (p := fun p : Nat × Attrs => decide (p.1 = f v))
    (q := fun p => decide (p.1 = v)) fun p hp =>
    decide_eq_decide.2 ⟨hf p.1 (mem_ids_of_mem hp), congrArg f⟩]
  cases g.nodes.find? _ <;> rfl

theorem attrs_relabel_of_injective (hf : Function.Injective f) :
    (g.relabel f).attrs (f v) = g.attrs v :=
  attrs_relabel fun _ _ h => hf h

theorem hasNode_relabel (hf : Function.Injective f) : (g.relabel f).hasNode (f v) = g.hasNode v := by
  rw [Bool.eq_iff_iff, hasNode_iff, hasNode_iff, mem_ids_relabel hf]

theorem edge?_relabel_of_forall
    (h : ∀ e ∈ g.edges, ∀ x, x = u ∨ x = v → (f e.1 = f x → e.1 = x) ∧ (f e.2.1 = f x → e.2.1 = x)) :
    (g.relabel f).edge? (f u) (f v) = g.edge? u v := by
  have hj : ∀ e ∈ g.edges, ((f e.1 = f u ∧ f e.2.1 = f v) ∨ (f e.1 = f v ∧ f e.2.1 = f u)) ↔
      ((e.1 = u ∧ e.2.1 = v) ∨ (e.1 = v ∧ e.2.1 = u)) := fun e he =>
    have hu := h e he u (.inl rfl)
    have hv := h e he v (.inr rfl)
    or_congr (and_congr ⟨hu.1, congrArg f⟩ ⟨hv.2, congrArg f⟩)
      (and_congr ⟨hv.1, congrArg f⟩ ⟨hu.2, congrArg f⟩)
  unfold edge?
  rw [edges_relabel, Core.find?_map_of_forall
    (p := fun e : Nat × Nat × Attrs => decide ((e.1 = f u ∧ e.2.1 = f v) ∨ (e.1 = f v ∧ e.2.1 = f u)))
    (q := fun e => decide ((e.1 = u ∧ e.2.1 = v) ∨ (e.1 = v ∧ e.2.1 = u))) fun e he =>
      decide_eq_decide.2 (hj e he)]
  cases g.edges.find? _ <;> rfl

theorem edge?_relabel (hg : g.WF) (hf : ∀ a ∈ g.ids, ∀ b ∈ g.ids, f a = f b → a = b)
    (hu : u ∈ g.ids) (hv : v ∈ g.ids) : (g.relabel f).edge? (f u) (f v) = g.edge? u v :=
  edge?_relabel_of_forall fun e he x hx => by
    have hx : x ∈ g.ids := by
      rcases hx with rfl | rfl
      · exact hu
      · exact hv
    exact ⟨hf _ (hg.2.1 e he).1 _ hx, hf _ (hg.2.1 e he).2.1 _ hx⟩

theorem edge?_relabel_of_injective (hf : Function.Injective f) :
    (g.relabel f).edge? (f u) (f v) = g.edge? u v :=
  edge?_relabel_of_forall fun _ _ _ _ => ⟨fun h => hf h, fun h => hf h⟩

theorem hasEdge_relabel (hg : g.WF) (hf : ∀ a ∈ g.ids, ∀ b ∈ g.ids, f a = f b → a = b)
    (hu : u ∈ g.ids) (hv : v ∈ g.ids) : (g.relabel f).hasEdge (f u) (f v) = g.hasEdge u v := by
  unfold hasEdge
  rw [edge?_relabel hg hf hu hv]

theorem hasEdge_relabel_of_injective (hf : Function.Injective f) :
    (g.relabel f).hasEdge (f u) (f v) = g.hasEdge u v := by
  unfold hasEdge
  rw [edge?_relabel_of_injective hf]

theorem arc?_relabel (hf : ∀ a ∈ g.ids, ∀ b ∈ g.ids, f a = f b → a = b)
    (he : ∀ e ∈ g.edges, e.1 ∈ g.ids ∧ e.2.1 ∈ g.ids) (hu : u ∈ g.ids) (hv : v ∈ g.ids) :
    (g.relabel f).arc? (f u) (f v) = g.arc? u v := by
  unfold arc?
  rw [edges_relabel, Core.find?_map_of_forall (p := fun e : Nat × Nat × Attrs => decide (e.1 = f u ∧ e.2.1 = f v))
    (q := fun e => decide (e.1 = u ∧ e.2.1 = v)) fun e hm =>
    decide_eq_decide.2 (and_congr ⟨hf _ (he e hm).1 _ hu, congrArg f⟩ ⟨hf _ (he e hm).2 _ hv, congrArg f⟩)]
  cases g.edges.find? _ <;> rfl

theorem wf_relabel (hg : g.WF) (hf : ∀ a ∈ g.ids, ∀ b ∈ g.ids, f a = f b → a = b) :
    (g.relabel f).WF := by
  obtain ⟨h1, h2, h3⟩ := hg
  refine ⟨?_, ?_, ?_⟩
  · rw [ids_relabel]
    exact List.Nodup.map_on hf h1
  · intro e' he'
    obtain ⟨e, he, rfl⟩ := List.mem_map.1 he'
    obtain ⟨a, b, c⟩ := h2 e he
    rw [ids_relabel]
    exact ⟨List.mem_map.2 ⟨_, a, rfl⟩, List.mem_map.2 ⟨_, b, rfl⟩, fun hh => c (hf _ a _ b hh)⟩
  · rw [edges_relabel, List.map_map]
    refine List.Nodup.map_on (fun x hx y hy e => List.inj_on_of_nodup_map h3 hx hy ?_) (List.Nodup.of_map _ h3)
    obtain ⟨xa, xb, -⟩ := h2 x hx
    obtain ⟨ya, yb, -⟩ := h2 y hy
    have key : (x.1 = y.1 ∧ x.2.1 = y.2.1) ∨ (x.1 = y.2.1 ∧ x.2.1 = y.1) :=
      (pair_eq_of_key_eq e).imp (fun h => ⟨hf _ xa _ ya h.1, hf _ xb _ yb h.2⟩)
        fun h => ⟨hf _ xa _ yb h.1, hf _ xb _ ya h.2⟩
    exact key_eq_of_joins (u := y.1) (v := y.2.1) key (.inl ⟨rfl, rfl⟩)

theorem wf_relabel_of_injective (hg : g.WF) (hf : Function.Injective f) : (g.relabel f).WF :=
  wf_relabel hg fun _ _ _ _ h => hf h

/-! A labelling that is injective on a list of nodes is the restriction of a renumbering of all of `Nat` (`extOf`): what is
proved of `g.relabel f` for `Function.Injective f` holds of a relabelling that is injective on the nodes only. -/

def extOf (f : Nat → Nat) (l : List Nat) (v : Nat) : Nat :=
  if v ∈ l then f v else v + (l.map f).foldl max 0 + 1

theorem extOf_eq {l : List Nat} (hv : v ∈ l) : extOf f l v = f v := if_pos hv

theorem extOf_injective {l : List Nat} (h : ∀ a ∈ l, ∀ b ∈ l, f a = f b → a = b) : Function.Injective (extOf f l) := by
  have hle : ∀ a ∈ l, f a ≤ (l.map f).foldl max 0 := fun a ha =>
    Core.le_foldl_max (Or.inl (List.mem_map_of_mem ha))
  intro a b hab
  unfold extOf at hab
  by_cases ha : a ∈ l <;> by_cases hb : b ∈ l
  · rw [if_pos ha, if_pos hb] at hab; exact h a ha b hb hab
  · rw [if_pos ha, if_neg hb] at hab; have := hle a ha; omega
  · rw [if_neg ha, if_pos hb] at hab; have := hle b hb; omega
  · rw [if_neg ha, if_neg hb] at hab; omega

theorem relabel_extOf {l : List Nat} (hg : g.WF) (hsub : ∀ v ∈ g.ids, v ∈ l) : g.relabel f = g.relabel (extOf f l) :=
  relabel_congr hg fun v hv => (extOf_eq (hsub v hv)).symm

theorem exists_injective_of_agree {A B : List Nat} {ρ : Nat → Nat}
    (hf : ∀ a ∈ A, ∀ b ∈ A, f a = f b → a = b) (hρ : ∀ a ∈ B, ∀ b ∈ B, ρ a = ρ b → a = b)
    (hagree : ∀ v ∈ A, v ∈ B → ρ v = f v) (hapart : ∀ a ∈ A, ∀ b ∈ B, b ∉ A → f a ≠ ρ b) :
    ∃ σ : Nat → Nat, Function.Injective σ ∧ (∀ v ∈ A, σ v = f v) ∧ ∀ v ∈ B, σ v = ρ v := by
  let σ0 : Nat → Nat := fun v => if v ∈ A then f v else ρ v
  have hA : ∀ v ∈ A, σ0 v = f v := fun v hv => if_pos hv
  have hB : ∀ v ∈ B, σ0 v = ρ v := fun v hv => by
    by_cases hvA : v ∈ A
    · rw [hA v hvA, hagree v hvA hv]
    · exact if_neg hvA
  refine ⟨extOf σ0 (A ++ B), extOf_injective fun a ha b hb hab => ?_,
    fun v hv => by rw [extOf_eq (List.mem_append_left _ hv), hA v hv],
    fun v hv => by rw [extOf_eq (List.mem_append_right _ hv), hB v hv]⟩
  by_cases haA : a ∈ A <;> by_cases hbA : b ∈ A
  · rw [hA a haA, hA b hbA] at hab; exact hf a haA b hbA hab
  · have hbB := (List.mem_append.1 hb).resolve_left hbA
    rw [hA a haA, hB b hbB] at hab; exact absurd hab (hapart a haA b hbB hbA)
  · have haB := (List.mem_append.1 ha).resolve_left haA
    rw [hB a haB, hA b hbA] at hab; exact absurd hab.symm (hapart b hbA a haB haA)
  · have haB := (List.mem_append.1 ha).resolve_left haA
    have hbB := (List.mem_append.1 hb).resolve_left hbA
    rw [hB a haB, hB b hbB] at hab; exact hρ a haB b hbB hab

section induce
/-! `keep`: a graph restricted to the nodes whose id satisfies a predicate.  The induced sub-graph `G.subgraph(S)` is its
case `S.contains`: the model's `Aut.induce`, `ITS.induced`, `SubgraphSearch.sub` and `Mcs.induce` are this function (each
family states the equation next to its lemmas). -/
variable {g : LGraph} {S : List Nat} {u v : Nat}

def keep (g : LGraph) (c : Nat → Bool) : LGraph :=
  { nodes := g.nodes.filter fun p => c p.1
    edges := g.edges.filter fun e => c e.1 && c e.2.1 }

section keep
variable {c : Nat → Bool}

theorem ids_keep : (g.keep c).ids = g.ids.filter c := by
  simp only [keep, ids, List.filter_map]; rfl

theorem mem_ids_keep : v ∈ (g.keep c).ids ↔ v ∈ g.ids ∧ c v = true := by
  rw [ids_keep, List.mem_filter]

theorem attrs_keep (hv : c v = true) : (g.keep c).attrs v = g.attrs v := by
  unfold attrs keep
  rw [Core.find?_filter_of_imp]
  intro p _ hp
  rw [of_decide_eq_true hp]
  exact hv

theorem edge?_keep : (g.keep c).edge? u v = if c u && c v then g.edge? u v else none := by
  unfold edge? keep
  split
  · rename_i h
    rw [Core.find?_filter_of_imp]
    intro e _ he
    rcases of_decide_eq_true he with ⟨a, b⟩ | ⟨a, b⟩
    · rw [a, b]; exact h
    · rw [a, b, Bool.and_comm]; exact h
  · rename_i h
    rw [Option.map_eq_none_iff, List.find?_eq_none]
    intro e he hj
    have he2 := (List.mem_filter.1 he).2
    rcases of_decide_eq_true hj with ⟨a, b⟩ | ⟨a, b⟩
    · exact h (a ▸ b ▸ he2)
    · exact h (a ▸ b ▸ (Bool.and_comm _ _ ▸ he2))

theorem neighbors_keep (hv : c v = true) : (g.keep c).neighbors v = (g.neighbors v).filter c := by
  unfold neighbors keep
  rw [List.filterMap_filter, List.filter_filterMap]
  refine List.filterMap_congr fun e _ => ?_
  -- a bond at `v` is kept iff its other end is
  by_cases h1 : e.1 = v
  · rw [if_pos h1, Option.filter_some, h1, hv, Bool.true_and]
  · rw [if_neg h1]
    by_cases h2 : e.2.1 = v
    · rw [if_pos h2, Option.filter_some, h2, hv, Bool.and_true]
    · rw [if_neg h2, ite_self]
      rfl

theorem wf_keep (hg : g.WF) (c : Nat → Bool) : (g.keep c).WF := by
  refine ⟨hg.1.sublist (List.filter_sublist.map _), fun e he => ?_, hg.2.2.sublist (List.filter_sublist.map _)⟩
  obtain ⟨he0, h12⟩ := List.mem_filter.1 he
  obtain ⟨g1, g2, g3⟩ := hg.2.1 e he0
  rw [Bool.and_eq_true] at h12
  exact ⟨mem_ids_keep.2 ⟨g1, h12.1⟩, mem_ids_keep.2 ⟨g2, h12.2⟩, g3⟩

end keep

def induce (g : LGraph) (S : List Nat) : LGraph := g.keep S.contains

theorem ids_induce : (g.induce S).ids = g.ids.filter (· ∈ S) := by
  rw [induce, ids_keep]
  exact List.filter_congr fun _ _ => List.contains_eq_mem _ _

theorem mem_ids_induce : v ∈ (g.induce S).ids ↔ v ∈ g.ids ∧ v ∈ S := by
  rw [induce, mem_ids_keep, List.contains_iff_mem]

theorem mem_edges_induce {e : Nat × Nat × Attrs} : e ∈ (g.induce S).edges ↔ e ∈ g.edges ∧ e.1 ∈ S ∧ e.2.1 ∈ S := by
  rw [induce, keep, List.mem_filter, Bool.and_eq_true, List.contains_iff_mem, List.contains_iff_mem]

theorem attrs_induce (hv : v ∈ S) : (g.induce S).attrs v = g.attrs v :=
  attrs_keep (List.contains_iff_mem.2 hv)

theorem edge?_induce : (g.induce S).edge? u v = if u ∈ S ∧ v ∈ S then g.edge? u v else none := by
  rw [induce, edge?_keep]
  exact if_congr (by rw [Bool.and_eq_true, List.contains_iff_mem, List.contains_iff_mem]) rfl rfl

theorem edge?_induce_of_mem (hu : u ∈ S) (hv : v ∈ S) : (g.induce S).edge? u v = g.edge? u v := by
  rw [edge?_induce, if_pos ⟨hu, hv⟩]

theorem hasEdge_induce_of_mem (hu : u ∈ S) (hv : v ∈ S) : (g.induce S).hasEdge u v = g.hasEdge u v := by
  unfold hasEdge; rw [edge?_induce_of_mem hu hv]

theorem hasEdge_induce : (g.induce S).hasEdge u v = true ↔ g.hasEdge u v = true ∧ u ∈ S ∧ v ∈ S := by
  unfold hasEdge
  rw [edge?_induce]
  split
  · rename_i h; exact (and_iff_left h).symm
  · rename_i h; exact ⟨fun h' => Bool.noConfusion h', fun h' => absurd h'.2 h⟩

theorem wf_induce (hg : g.WF) (S : List Nat) : (g.induce S).WF := wf_keep hg _

theorem induce_congr {S' : List Nat} (h : ∀ n, n ∈ S ↔ n ∈ S') : g.induce S = g.induce S' := by
  have hc : ∀ n, S.contains n = S'.contains n := fun n => by
    rw [Bool.eq_iff_iff, List.contains_iff_mem, List.contains_iff_mem]; exact h n
  unfold induce keep
  congr 1
  · exact List.filter_congr fun p _ => hc p.1
  · exact List.filter_congr fun e _ => by rw [hc e.1, hc e.2.1]

theorem induce_all (hg : g.WF) (h : ∀ n ∈ g.ids, n ∈ S) : g.induce S = g := by
  obtain ⟨nodes, edges⟩ := g
  unfold induce keep
  congr 1
  · exact List.filter_eq_self.2 fun p hp => List.contains_iff_mem.2 (h p.1 (List.mem_map_of_mem hp))
  · refine List.filter_eq_self.2 fun e he => ?_
    obtain ⟨a, b, _⟩ := hg.2.1 e he
    rw [Bool.and_eq_true, List.contains_iff_mem, List.contains_iff_mem]
    exact ⟨h _ a, h _ b⟩

theorem induce_induce {S' : List Nat} (h : ∀ n ∈ S, n ∈ S') : (g.induce S').induce S = g.induce S := by
  have hc : ∀ n, S.contains n = true → S'.contains n = true := fun n hn =>
    List.contains_iff_mem.2 (h n (List.contains_iff_mem.1 hn))
  unfold induce keep
  rw [List.filter_filter, List.filter_filter]
  congr 1
  · exact List.filter_congr fun p _ => Bool.and_eq_left_iff_imp.2 (hc p.1)
  · refine List.filter_congr fun e _ => Bool.and_eq_left_iff_imp.2 fun he => ?_
    rw [Bool.and_eq_true] at he ⊢
    exact ⟨hc _ he.1, hc _ he.2⟩

end induce

section mapAttrs
/-! A graph with its attribute dicts rewritten and ids, edge list and order kept: what `Aut.normalize`,
`Mcs.normGraph`, `RxnNorm.sync`, … are. -/
variable {g : LGraph} {fn : Nat → Attrs → Attrs} {fe : Attrs → Attrs} {u v : Nat}

def mapAttrs (fn : Nat → Attrs → Attrs) (fe : Attrs → Attrs) (g : LGraph) : LGraph :=
  { nodes := g.nodes.map fun p => (p.1, fn p.1 p.2)
    edges := g.edges.map fun e => (e.1, e.2.1, fe e.2.2) }

theorem ids_mapAttrs : (g.mapAttrs fn fe).ids = g.ids :=
  ids_map_nodes (F := fun p => (p.1, fn p.1 p.2)) rfl fun _ _ => rfl

theorem attrs_mapAttrs (hv : v ∈ g.ids) : (g.mapAttrs fn fe).attrs v = fn v (g.attrs v) :=
  attrs_map_nodes (F := fun p => (p.1, fn p.1 p.2)) rfl (fun _ _ => rfl) hv

theorem edge?_mapAttrs : (g.mapAttrs fn fe).edge? u v = (g.edge? u v).map fe := by
  simp only [edge?, mapAttrs, List.find?_map, Option.map_map]; rfl

theorem hasEdge_mapAttrs : (g.mapAttrs fn fe).hasEdge u v = g.hasEdge u v := by
  simp only [hasEdge, edge?_mapAttrs, Option.isSome_map]

theorem neighbors_mapAttrs : (g.mapAttrs fn fe).neighbors v = g.neighbors v := by
  simp only [neighbors, mapAttrs, List.filterMap_map]; rfl

theorem wf_mapAttrs (hg : g.WF) : (g.mapAttrs fn fe).WF :=
  wf_of_ends hg (ids_mapAttrs.symm ▸ hg.1) (fun _ hv => ids_mapAttrs.symm ▸ hv) (by rw [mapAttrs, List.map_map]; rfl)

theorem mapAttrs_relabel (f fe : Attrs → Attrs) (π : Nat → Nat) :
    (g.relabel π).mapAttrs (fun _ => f) fe = (g.mapAttrs (fun _ => f) fe).relabel π := by
  simp only [mapAttrs, relabel, List.map_map, Function.comp_def]

end mapAttrs

end SynKit.LGraph
