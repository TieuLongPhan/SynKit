import SynKitModel.Graph
import SynKitProofs.Core.Fold
import Mathlib.Data.List.Nodup
/-! `Dict`, `Attrs.get`, `setAdd`: continues the theorems of `SynKitModel/Basic.lean` (`get?_set_self`,
`get?_set_other`, `mem_keys_set`, `get?_eq_none_iff`, `get?_some_mem`, `mem_get?_of_nodup`, the `erase` family).
`Dict`: `get?` and `contains`, `getD`, `set` (on a present key it rewrites in place, on an absent one it appends: on the
keys it is `Core.pushNew`, `keys_set`), `erase`, then entries against keys.  `Attrs.get` is `getD … Val.none`.  `setAdd`
is `Core.pushNew` on `String` and takes its lemmas from there. -/
namespace SynKit

namespace Dict
variable {α : Type} {d : Dict α} {k x : String} {v w : α}

theorem get?_nil : get? ([] : Dict α) k = none := rfl

theorem get?_cons : get? ((x, v) :: d) k = if x = k then some v else d.get? k := rfl

theorem get?_map_graph (l : List String) (g : String → α) (s : String) :
    get? (l.map fun s => (s, g s)) s = if s ∈ l then some (g s) else none := by
  induction l with
  | nil => rfl
  | cons a l ih =>
    rw [List.map_cons, get?_cons, ih]
    by_cases ha : a = s
    · rw [if_pos ha, if_pos (List.mem_cons.2 (.inl ha.symm)), ha]
    · rw [if_neg ha]
      exact if_congr ⟨List.mem_cons_of_mem _, fun h => (List.mem_cons.1 h).resolve_left (Ne.symm ha)⟩ rfl rfl

theorem get?_set : (d.set k v).get? x = if x = k then some v else d.get? x := by
  split
  · rename_i h
    rw [h, get?_set_self]
  · rename_i h
    exact get?_set_other d k v x h

theorem mem_keys_of_get? (h : d.get? k = some v) : k ∈ d.keys :=
  List.mem_map.2 ⟨(k, v), get?_some_mem d k v h, rfl⟩

theorem get?_isSome_iff : (d.get? k).isSome = true ↔ k ∈ d.keys := by
  rw [← not_iff_not, Bool.not_eq_true, Option.isSome_eq_false_iff, Option.isNone_iff_eq_none,
    get?_eq_none_iff]

theorem contains_iff : d.contains k = true ↔ k ∈ d.keys := decide_eq_true_iff

theorem contains_eq_false_iff : d.contains k = false ↔ k ∉ d.keys := decide_eq_false_iff_not

theorem contains_iff_get? : d.contains k = true ↔ ∃ v, d.get? k = some v := by
  rw [contains_iff, ← get?_isSome_iff, Option.isSome_iff_exists]

theorem getD_of_get? (h : d.get? k = some v) : d.getD k w = v := by
  rw [getD, h, Option.getD_some]

theorem getD_of_not_mem (h : k ∉ d.keys) : d.getD k w = w := by
  rw [getD, (get?_eq_none_iff d k).2 h, Option.getD_none]

theorem getD_set_self : (d.set k v).getD k w = v := getD_of_get? (get?_set_self d k v)

theorem getD_set_other (h : x ≠ k) : (d.set k v).getD x w = d.getD x w := by
  rw [getD, get?_set_other d k v x h, getD]

theorem keys_append {a b : Dict α} : Dict.keys (a ++ b) = a.keys ++ b.keys :=
  List.map_append

theorem set_set : (d.set k v).set k w = d.set k w := by
  induction d with
  | nil => simp [set]
  | cons p rest ih =>
    obtain ⟨k', v'⟩ := p
    by_cases h : k' = k
    · simp [set, h]
    · simp [set, h, ih]

theorem set_eq_self (h : d.get? k = some v) : d.set k v = d := by
  induction d with
  | nil => cases h
  | cons p rest ih =>
    obtain ⟨k', v'⟩ := p
    rw [get?_cons] at h
    by_cases hk : k' = k
    · rw [if_pos hk, Option.some.injEq] at h
      rw [set, if_pos hk, h]
    · rw [if_neg hk] at h
      rw [set, if_neg hk, ih h]

theorem set_of_not_mem (h : k ∉ d.keys) : d.set k v = d ++ [(k, v)] := by
  induction d with
  | nil => rfl
  | cons p rest ih =>
    obtain ⟨k', v'⟩ := p
    rw [keys, List.map_cons, List.mem_cons, not_or] at h
    rw [set, if_neg (Ne.symm h.1), ih h.2, List.cons_append]

theorem keys_set_of_mem (h : k ∈ d.keys) : (d.set k v).keys = d.keys := by
  induction d with
  | nil => cases h
  | cons p rest ih =>
    obtain ⟨k', v'⟩ := p
    by_cases hk : k' = k
    · simp [set, keys, hk]
    · have : k ∈ keys rest := by
        rcases List.mem_cons.1 h with h | h
        · exact absurd h.symm hk
        · exact h
      simp only [set, hk, if_false, keys, List.map_cons, List.cons.injEq, true_and]
      exact ih this

theorem keys_set : (d.set k v).keys = Core.pushNew d.keys k := by
  by_cases h : k ∈ d.keys
  · rw [Core.pushNew_of_mem h, keys_set_of_mem h]
  · rw [Core.pushNew_of_not_mem h, set_of_not_mem h, keys_append]
    rfl

theorem nodup_keys_set (h : d.keys.Nodup) : (d.set k v).keys.Nodup := by
  rw [keys_set]
  exact Core.nodup_pushNew h

theorem getD_erase_self : (d.erase k).getD k w = w := by
  rw [getD, get?_erase_self, Option.getD_none]

theorem getD_erase_other (h : x ≠ k) : (d.erase k).getD x w = d.getD x w := by
  rw [getD, get?_erase_other d k x h, getD]

theorem erase_of_not_mem (h : k ∉ d.keys) : d.erase k = d := by
  induction d with
  | nil => rfl
  | cons p rest ih =>
    obtain ⟨k', v'⟩ := p
    rw [keys, List.map_cons, List.mem_cons, not_or] at h
    rw [erase, if_neg (Ne.symm h.1), ih h.2]

theorem nodup_keys_erase (h : d.keys.Nodup) : (d.erase k).keys.Nodup :=
  ((erase_sublist d k).map _).nodup h

theorem isEmpty_false_of_mem_keys (h : k ∈ d.keys) : d.isEmpty = false := by
  cases d with
  | nil => cases h
  | cons _ _ => rfl

theorem mem_keys_of_mem (h : (k, v) ∈ d) : k ∈ d.keys :=
  List.mem_map.2 ⟨(k, v), h, rfl⟩

theorem exists_mem_of_mem_keys (h : k ∈ d.keys) : ∃ v, (k, v) ∈ d := by
  obtain ⟨⟨k', v⟩, hp, rfl⟩ := List.mem_map.1 h
  exact ⟨v, hp⟩

theorem val_unique (hn : d.keys.Nodup) (h1 : (k, v) ∈ d) (h2 : (k, w) ∈ d) : v = w :=
  Option.some.inj ((Dict.mem_get?_of_nodup d k v hn h1).symm.trans (Dict.mem_get?_of_nodup d k w hn h2))

end Dict

namespace Attrs
variable {a b : Attrs} {k x : String} {v : Val}

theorem get_cons : Attrs.get ((x, v) :: a) k = if x = k then v else Attrs.get a k := by
  unfold Attrs.get Dict.getD
  rw [Dict.get?_cons]
  split <;> rfl

theorem get_of_get? (h : Dict.get? a k = some v) : a.get k = v := Dict.getD_of_get? h

theorem get?_of_get (h : a.get k = v) (hv : v ≠ .none) : Dict.get? a k = some v := by
  unfold Attrs.get Dict.getD at h
  cases hg : Dict.get? a k with
  | none => rw [hg] at h; exact absurd h.symm hv
  | some w => rw [hg] at h; simp only [Option.getD_some] at h; rw [h]

theorem get_of_not_mem (h : k ∉ Dict.keys a) : a.get k = Val.none := Dict.getD_of_not_mem h

theorem get_congr (h : Dict.get? a k = Dict.get? b k) : a.get k = b.get k := by
  unfold Attrs.get Dict.getD
  rw [h]

/-- Every reading of the attributes at a list of keys (`.get`, `getD` with another default, normalised or not) is a
function `ρ` of the look-ups. -/
theorem map_get?_congr {γ : Type} {keys : List String} (ρ : String → Option Val → γ)
    (h : ∀ k ∈ keys, Dict.get? a k = Dict.get? b k) :
    (keys.map fun k => ρ k (Dict.get? a k)) = keys.map fun k => ρ k (Dict.get? b k) :=
  List.map_congr_left fun k hk => by rw [h k hk]

theorem get_set_self : Attrs.get (Dict.set a k v) k = v := Dict.getD_set_self

theorem get_set_other (h : x ≠ k) : Attrs.get (Dict.set a k v) x = a.get x := Dict.getD_set_other h

theorem get_erase_other (h : x ≠ k) : Attrs.get (Dict.erase a k) x = a.get x := Dict.getD_erase_other h

end Attrs

theorem setAdd_eq_pushNew : setAdd = Core.pushNew := by
  funext s x
  unfold setAdd Core.pushNew
  congr

theorem mem_foldl_setAdd {l s : List String} {y : String} : y ∈ l.foldl setAdd s ↔ y ∈ s ∨ y ∈ l := by
  rw [setAdd_eq_pushNew]
  exact Core.mem_foldl_pushNew

theorem setAdd_of_mem {s : List String} {x : String} (h : x ∈ s) : setAdd s x = s := if_pos h

theorem setAdd_of_not_mem {s : List String} {x : String} (h : x ∉ s) : setAdd s x = s ++ [x] := if_neg h

end SynKit
