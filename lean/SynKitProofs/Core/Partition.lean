import Mathlib.Data.List.Basic
import Mathlib.Data.List.Nodup

/-! Classes of a list under a key, given any list of representatives (`Reps`). That the classes partition the list is
proved here once, for representatives collected entry by entry (`Reps.nil`, `skip`, `push`: the fold of
`NetGraphAlg.components`) and for the first entry of every key picked by a filter (`reps_firsts`: `GraphAlg.components`);
the latter come with their order (`heads_classes_firsts`) and with what an injective map does to them
(`classes_firsts_map`). -/

namespace SynKit.Core.Partition

variable {α κ : Type} {k : α → κ} {xs rs : List α} {x y : α} {c d : List α}

structure Reps (k : α → κ) (xs rs : List α) : Prop where
  sub : ∀ r ∈ rs, r ∈ xs
  cover : ∀ x ∈ xs, ∃ r ∈ rs, k r = k x
  nodup : (rs.map k).Nodup

namespace Reps

theorem nil : Reps k [] [] := ⟨nofun, nofun, List.nodup_nil⟩

theorem skip (h : Reps k xs rs) (hx : ∃ r ∈ rs, k r = k x) : Reps k (xs ++ [x]) rs :=
  ⟨fun r hr => List.mem_append_left _ (h.sub r hr),
    fun y hy => (List.mem_append.1 hy).elim (h.cover y) fun hy => List.mem_singleton.1 hy ▸ hx, h.nodup⟩

theorem push (h : Reps k xs rs) (hx : ∀ r ∈ rs, k r ≠ k x) : Reps k (xs ++ [x]) (rs ++ [x]) := by
  refine ⟨fun r hr => ?_, fun y hy => ?_, ?_⟩
  · exact (List.mem_append.1 hr).elim (fun hr => List.mem_append_left _ (h.sub r hr)) (List.mem_append_right _)
  · rcases List.mem_append.1 hy with hy | hy
    · obtain ⟨r, hr, e⟩ := h.cover y hy
      exact ⟨r, List.mem_append_left _ hr, e⟩
    · exact ⟨y, List.mem_append_right _ hy, rfl⟩
  · rw [List.map_append, List.nodup_append]
    refine ⟨h.nodup, List.nodup_singleton _, fun a ha b hb => ?_⟩
    obtain ⟨r, hr, rfl⟩ := List.mem_map.1 ha
    exact List.mem_singleton.1 hb ▸ hx r hr

end Reps

variable [DecidableEq κ]

def classOf (k : α → κ) (xs : List α) (x : α) : List α := xs.filter fun y => k y == k x

def classes (k : α → κ) (xs rs : List α) : List (List α) := rs.map (classOf k xs)

theorem mem_classOf : y ∈ classOf k xs x ↔ y ∈ xs ∧ k y = k x := by
  simp [classOf]

theorem mem_iff_of_mem_classes (hc : c ∈ classes k xs rs) (hx : x ∈ c) (y : α) : y ∈ c ↔ y ∈ xs ∧ k y = k x := by
  obtain ⟨z, _, rfl⟩ := List.mem_map.1 hc
  rw [mem_classOf] at hx ⊢
  rw [hx.2]

theorem eq_of_mem_classes (hc : c ∈ classes k xs rs) (hd : d ∈ classes k xs rs) (hxc : x ∈ c) (hxd : x ∈ d) :
    c = d := by
  obtain ⟨z, _, rfl⟩ := List.mem_map.1 hc
  obtain ⟨w, _, rfl⟩ := List.mem_map.1 hd
  unfold classOf
  rw [(mem_classOf.1 hxc).2.symm.trans (mem_classOf.1 hxd).2]

theorem sublist_of_mem_classes (hc : c ∈ classes k xs rs) : c.Sublist xs := by
  obtain ⟨z, _, rfl⟩ := List.mem_map.1 hc
  exact List.filter_sublist

theorem ne_nil_of_mem_classes (hs : ∀ r ∈ rs, r ∈ xs) (hc : c ∈ classes k xs rs) : c ≠ [] := by
  obtain ⟨z, hz, rfl⟩ := List.mem_map.1 hc
  exact List.ne_nil_of_mem (mem_classOf.2 ⟨hs z hz, rfl⟩)

theorem length_classes : (classes k xs rs).length = rs.length := List.length_map _

namespace Reps

variable (h : Reps k xs rs)
include h

theorem mem_iff : x ∈ xs ↔ ∃ c ∈ classes k xs rs, x ∈ c := by
  constructor
  · intro hx
    obtain ⟨r, hr, hk⟩ := h.cover x hx
    exact ⟨_, List.mem_map.2 ⟨r, hr, rfl⟩, mem_classOf.2 ⟨hx, hk.symm⟩⟩
  · rintro ⟨c, hc, hx⟩
    exact (sublist_of_mem_classes hc).subset hx

theorem classes_nodup : (classes k xs rs).Nodup := by
  refine List.Nodup.map_on (fun r hr s hs e => ?_) (List.Nodup.of_map _ h.nodup)
  have : r ∈ classOf k xs s := e ▸ mem_classOf.2 ⟨h.sub r hr, rfl⟩
  exact List.inj_on_of_nodup_map h.nodup hr hs (mem_classOf.1 this).2

theorem disjoint : (classes k xs rs).Pairwise List.Disjoint :=
  h.classes_nodup.imp_of_mem fun hc hd hne _ hxc hxd => hne (eq_of_mem_classes hc hd hxc hxd)

theorem flatten_perm (hn : xs.Nodup) : (classes k xs rs).flatten.Perm xs := by
  have hnd : (classes k xs rs).flatten.Nodup :=
    List.nodup_flatten.2 ⟨fun c hc => (sublist_of_mem_classes hc).nodup hn, h.disjoint⟩
  refine (List.perm_ext_iff_of_nodup hnd hn).2 fun v => ?_
  rw [List.mem_flatten, h.mem_iff]

end Reps

variable [DecidableEq α]

def isFirstKey (k : α → κ) (xs : List α) (x : α) : Bool := xs.find? (fun y => k y == k x) == some x

theorem isFirstKey_iff : isFirstKey k xs x = true ↔ xs.find? (fun y => k y == k x) = some x := by
  simp [isFirstKey]

theorem isFirstKey_inj (hx : isFirstKey k xs x = true) (hy : isFirstKey k xs y = true) (h : k x = k y) :
    x = y := by
  rw [isFirstKey_iff] at hx hy
  rw [h] at hx
  exact Option.some.inj (hx.symm.trans hy)

theorem exists_first (h : x ∈ xs) : ∃ y ∈ xs.filter (isFirstKey k xs), k y = k x := by
  cases hf : xs.find? (fun y => k y == k x) with
  | none => exact absurd (List.find?_eq_none.1 hf x h) (by simp)
  | some y =>
    have hy : k y = k x := by simpa using List.find?_some hf
    exact ⟨y, List.mem_filter.2 ⟨List.mem_of_find?_eq_some hf, isFirstKey_iff.2 (by rw [hy]; exact hf)⟩, hy⟩

theorem reps_firsts (hn : xs.Nodup) : Reps k xs (xs.filter (isFirstKey k xs)) := by
  refine ⟨fun r hr => (List.mem_filter.1 hr).1, fun x hx => exists_first hx, ?_⟩
  rw [List.Nodup, List.pairwise_map]
  refine List.Pairwise.imp_of_mem ?_ (hn.filter (isFirstKey k xs))
  intro x y hx hy hne h
  exact hne (isFirstKey_inj (List.mem_filter.1 hx).2 (List.mem_filter.1 hy).2 h)

/-- Order of the classes: by first entry. -/
theorem heads_classes_firsts :
    (classes k xs (xs.filter (isFirstKey k xs))).filterMap List.head? = xs.filter (isFirstKey k xs) := by
  unfold classes
  rw [List.filterMap_map]
  refine (List.filterMap_congr fun x hx => ?_).trans List.filterMap_some
  simp only [Function.comp, classOf]
  rw [List.head?_filter]
  exact isFirstKey_iff.1 (List.mem_filter.1 hx).2

theorem classes_firsts_map {β κ' : Type} [DecidableEq β] [DecidableEq κ'] {f : α → β} (hf : Function.Injective f)
    {k' : β → κ'} (h : ∀ x y, k' (f x) = k' (f y) ↔ k x = k y) :
    classes k' (xs.map f) ((xs.map f).filter (isFirstKey k' (xs.map f))) =
      (classes k xs (xs.filter (isFirstKey k xs))).map (List.map f) := by
  have hb (x y : α) : (k' (f y) == k' (f x)) = (k y == k x) := by
    rw [Bool.eq_iff_iff, beq_iff_eq, beq_iff_eq, h]
  have hc (x : α) : classOf k' (xs.map f) (f x) = (classOf k xs x).map f := by
    simp only [classOf, List.filter_map, Function.comp_def, hb]
  have hfirst (x : α) : isFirstKey k' (xs.map f) (f x) = isFirstKey k xs x := by
    simp only [isFirstKey, List.find?_map, Function.comp_def, hb]
    cases xs.find? (fun y => k y == k x) <;> simp [hf.eq_iff]
  simp only [classes, List.filter_map, List.map_map, Function.comp_def, hc, hfirst]

theorem findIdx?_contains_eq_some {cs : List (List α)} (hd : cs.Pairwise List.Disjoint) (v : α) (i : Nat) :
    cs.findIdx? (fun c => c.contains v) = some i ↔ ∃ c, cs[i]? = some c ∧ v ∈ c := by
  rw [List.findIdx?_eq_some_iff_getElem]
  constructor
  · rintro ⟨hi, hv, _⟩
    exact ⟨_, List.getElem?_eq_getElem hi, by simpa using hv⟩
  · rintro ⟨c, hc, hv⟩
    obtain ⟨hi, rfl⟩ := List.getElem?_eq_some_iff.1 hc
    refine ⟨hi, by simpa using hv, fun j hji hvj => ?_⟩
    exact List.pairwise_iff_getElem.1 hd j i (Nat.lt_trans hji hi) hi hji (by simpa using hvj) hv

end SynKit.Core.Partition
