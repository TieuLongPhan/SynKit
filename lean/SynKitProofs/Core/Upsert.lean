import SynKitProofs.Core.Fold
import SynKitProofs.Core.List
/-!
# Keyed upsert into an insertion-ordered list, and what a fold of upserts builds

`G.add_edge(u, v, **attrs)`, `d[k] = v`, `entries.setdefault(eid, …)`: update the element with the key in place, or
append a fresh one. A left fold of such steps from `[]` is a *group-by*: one element per key that occurs, in order of
first occurrence, and each element is its first step's `new` followed by the `upd` of the later steps with the same
key (`Grouped`, `grouped_foldl`). What a list of arcs / entries / nodes satisfies after a fold is then a fact about
ONE element and the steps of ITS key (`Grouped.forall_built`, read with `mem_group`); a field kept by `min` is the
least value over those steps (`Grouped.isMinOf`).
-/
namespace SynKit.Core
universe u v w
variable {α : Type u} {κ : Type v} [DecidableEq κ]

def upsertBy (key : α → κ) (k : κ) (upd : α → α) (new : α) : List α → List α
  | [] => [new]
  | a :: rest => if key a = k then upd a :: rest else a :: upsertBy key k upd new rest

variable {key : α → κ} {k : κ} {upd : α → α} {new : α} {es : List α}

theorem upsertBy_of_not_mem (h : k ∉ es.map key) : upsertBy key k upd new es = es ++ [new] := by
  induction es with
  | nil => rfl
  | cons a rest ih =>
    rw [List.map_cons, List.mem_cons, not_or] at h
    rw [upsertBy, if_neg (fun e => h.1 e.symm), ih h.2, List.cons_append]

/-- With distinct keys the element that is hit is the only one with the key. -/
theorem upsertBy_eq_map (hn : (es.map key).Nodup) :
    upsertBy key k upd new es =
      es.map (fun a => if key a = k then upd a else a) ++ (if k ∈ es.map key then [] else [new]) := by
  induction es with
  | nil => rfl
  | cons a rest ih =>
    rw [List.map_cons, List.nodup_cons] at hn
    by_cases h : key a = k
    · have hrest : rest.map (fun a => if key a = k then upd a else a) = rest :=
        (List.map_congr_left fun b hb => if_neg fun e => hn.1 (List.mem_map.2 ⟨b, hb, e.trans h.symm⟩)).trans
          (List.map_id' _)
      simp [upsertBy, h, hrest]
    · have hk : k ∈ rest.map key ↔ k ∈ (a :: rest).map key := by
        rw [List.map_cons, List.mem_cons]; exact ⟨Or.inr, fun e => e.resolve_left fun e => h e.symm⟩
      rw [upsertBy, if_neg h, ih hn.2, List.map_cons, if_neg h, List.cons_append, if_congr hk rfl rfl]

section fold
variable {σ : Type w} (key : α → κ) (kf : σ → κ) (upd : σ → α → α) (new : σ → α)

def group (L : List σ) (k : κ) : List σ := L.filter fun t => kf t = k

def build (t : σ) (ts : List σ) : α := ts.foldl (fun a t => upd t a) (new t)

structure Grouped (L : List σ) (es : List α) : Prop where
  nodup : (es.map key).Nodup
  cover : ∀ t ∈ L, kf t ∈ es.map key
  built : ∀ a ∈ es, ∃ t ts, group kf L (key a) = t :: ts ∧ a = build upd new t ts

variable {key kf upd new}

theorem group_append (L : List σ) (t : σ) (k : κ) :
    group kf (L ++ [t]) k = group kf L k ++ (if kf t = k then [t] else []) := by
  unfold group
  rw [List.filter_append]
  by_cases h : kf t = k <;> simp [h]

theorem grouped_step (hnew : ∀ t, key (new t) = kf t) (hupd : ∀ t a, key (upd t a) = key a)
    {L : List σ} {es : List α} (t : σ) (h : Grouped key kf upd new L es) :
    Grouped key kf upd new (L ++ [t]) (upsertBy key (kf t) (upd t) (new t) es) := by
  have hkeys : (es.map fun a => if key a = kf t then upd t a else a).map key = es.map key := by
    rw [List.map_map]
    exact List.map_congr_left fun a _ => by
      show key (if key a = kf t then upd t a else a) = key a
      split
      · exact hupd t a
      · rfl
  have hold : ∀ b ∈ es.map (fun a => if key a = kf t then upd t a else a),
      ∃ t' ts, group kf (L ++ [t]) (key b) = t' :: ts ∧ b = build upd new t' ts := by
    intro b hb
    obtain ⟨a, ha, rfl⟩ := List.mem_map.1 hb
    obtain ⟨t', ts, hg, hab⟩ := h.built a ha
    by_cases hk : key a = kf t
    · refine ⟨t', ts ++ [t], ?_, ?_⟩
      · rw [if_pos hk, hupd, group_append, hg, if_pos hk.symm, List.cons_append]
      · rw [if_pos hk, hab]; unfold build; rw [List.foldl_append]; rfl
    · refine ⟨t', ts, ?_, ?_⟩
      · rw [if_neg hk, group_append, hg, if_neg (fun e => hk e.symm), List.append_nil]
      · rw [if_neg hk]; exact hab
  rw [upsertBy_eq_map h.nodup]
  by_cases hin : kf t ∈ es.map key
  · rw [if_pos hin, List.append_nil]
    refine ⟨hkeys ▸ h.nodup, fun t' ht' => ?_, hold⟩
    rw [hkeys]
    rcases List.mem_append.1 ht' with ht' | ht'
    · exact h.cover t' ht'
    · rw [List.mem_singleton.1 ht']; exact hin
  · rw [if_neg hin]
    refine ⟨?_, fun t' ht' => ?_, fun b hb => ?_⟩
    · rw [List.map_append, hkeys, List.map_singleton, hnew]
      exact List.Nodup.append h.nodup (List.nodup_singleton _) (by
        intro k hk hk'; rw [List.mem_singleton.1 hk'] at hk; exact hin hk)
    · rw [List.map_append, hkeys, List.mem_append, List.map_singleton, hnew, List.mem_singleton]
      rcases List.mem_append.1 ht' with ht' | ht'
      · exact Or.inl (h.cover t' ht')
      · exact Or.inr (congrArg kf (List.mem_singleton.1 ht'))
    · rcases List.mem_append.1 hb with hb | hb
      · exact hold b hb
      · rw [List.mem_singleton.1 hb]
        refine ⟨t, [], ?_, rfl⟩
        have hnone : group kf L (kf t) = [] :=
          List.filter_eq_nil_iff.2 fun t' ht' e => hin ((of_decide_eq_true e) ▸ h.cover t' ht')
        rw [hnew, group_append, hnone, if_pos rfl, List.nil_append]

theorem foldl_upsertBy_fresh {f : List α → σ → List α}
    (hf : ∀ es t, f es t = upsertBy key (kf t) (upd t) (new t) es) (hnew : ∀ t, key (new t) = kf t)
    (L : List σ) (es : List α) (hn : (L.map kf).Nodup) (hfr : ∀ t ∈ L, kf t ∉ es.map key) :
    L.foldl f es = es ++ L.map new := by
  refine foldl_eq_append (g := new) (r := fun y x => key y ≠ key x) (fun acc t _ hy => ?_) es
    (fun t ht y hy e => hfr t ht (List.mem_map.2 ⟨y, hy, e.trans (hnew t)⟩)) ?_
  · rw [hf]
    refine upsertBy_of_not_mem fun hm => ?_
    obtain ⟨y, hy', e⟩ := List.mem_map.1 hm
    exact hy y hy' (e.trans (hnew t).symm)
  · rw [List.pairwise_map]
    exact (List.pairwise_map.1 hn).imp fun h => by rwa [hnew, hnew]

/-- `f` is the step as the model writes it; it need agree with `upsertBy` only while the keys are distinct (a step that
rewrites EVERY element with the key does). -/
theorem grouped_foldl {f : List α → σ → List α}
    (hf : ∀ es t, (es.map key).Nodup → f es t = upsertBy key (kf t) (upd t) (new t) es)
    (hnew : ∀ t, key (new t) = kf t) (hupd : ∀ t a, key (upd t a) = key a) (L : List σ) :
    Grouped key kf upd new L (L.foldl f []) :=
  foldl_inv_prefix (P := Grouped key kf upd new) (s := [])
    (fun _ es t _ h => hf es t h.nodup ▸ grouped_step hnew hupd t h)
    ⟨List.nodup_nil, fun _ h => (nomatch h), fun _ h => (nomatch h)⟩

theorem mem_group {L : List σ} {k : κ} {t : σ} : t ∈ group kf L k ↔ t ∈ L ∧ kf t = k :=
  List.mem_filter.trans (and_congr_right' decide_eq_true_iff)

theorem Grouped.exists_step {L : List σ} {es : List α} (h : Grouped key kf upd new L es) {a : α} (ha : a ∈ es) :
    ∃ t ∈ L, kf t = key a := by
  obtain ⟨t, ts, hg, _⟩ := h.built a ha
  exact ⟨t, mem_group.1 (hg ▸ List.mem_cons_self)⟩

/-- `P ts a`: `a` is what the steps `ts` of one key build. -/
theorem Grouped.forall_built {L : List σ} {es : List α} (h : Grouped key kf upd new L es)
    {P : List σ → α → Prop} (h0 : ∀ t ∈ L, P [t] (new t))
    (hs : ∀ ts a, ∀ t ∈ L, (∀ t' ∈ ts, t' ∈ L ∧ kf t' = kf t) → P ts a → P (ts ++ [t]) (upd t a)) :
    ∀ a ∈ es, P (group kf L (key a)) a := by
  intro a ha
  obtain ⟨t, ts, hg, rfl⟩ := h.built a ha
  have hmem : ∀ t' ∈ t :: ts, t' ∈ L ∧ kf t' = key (build upd new t ts) :=
    fun t' ht' => mem_group.1 (hg ▸ ht')
  rw [hg]
  -- along `build`: the steps so far are steps of `L` under the one key, and `P` holds
  exact (foldl_inv_prefix (f := fun a t => upd t a) (l := ts) (s := [t]) (b := new t)
    (P := fun s a => (∀ x ∈ s, x ∈ L ∧ kf x = key (build upd new t ts)) ∧ P s a)
    (fun s a t' ht' ⟨hsub, ih⟩ =>
      have ht := hmem t' (List.mem_cons_of_mem _ ht')
      ⟨fun x hx => (List.mem_append.1 hx).elim (hsub x) fun e => List.mem_singleton.1 e ▸ ht,
        hs s a t' ht.1 (fun x hx => ⟨(hsub x hx).1, (hsub x hx).2.trans ht.2.symm⟩) ih⟩)
    ⟨fun x hx => List.mem_singleton.1 hx ▸ hmem t List.mem_cons_self, h0 t (hmem t List.mem_cons_self).1⟩).2

def IsMinOf (m : Nat) (S : Nat → Prop) : Prop := S m ∧ ∀ x, S x → m ≤ x

theorem IsMinOf.congr {m : Nat} {S S' : Nat → Prop} (h : IsMinOf m S) (hS : ∀ x, S' x ↔ S x) : IsMinOf m S' :=
  ⟨(hS m).2 h.1, fun x hx => h.2 x ((hS x).1 hx)⟩

theorem IsMinOf.unique {m m' : Nat} {S : Nat → Prop} (h : IsMinOf m S) (h' : IsMinOf m' S) : m = m' :=
  Nat.le_antisymm (h.2 _ h'.1) (h'.2 _ h.1)

theorem IsMinOf.insert {m : Nat} {S S' : Nat → Prop} (h : IsMinOf m S) (c : Nat) (hS : ∀ x, S' x ↔ S x ∨ x = c) :
    IsMinOf (min m c) S' := by
  refine ⟨(hS _).2 ?_, fun x hx => ?_⟩
  · rcases Nat.le_total m c with hmc | hmc
    · rw [Nat.min_eq_left hmc]; exact Or.inl h.1
    · rw [Nat.min_eq_right hmc]; exact Or.inr rfl
  · rcases (hS x).1 hx with hx | rfl
    · exact Nat.le_trans (Nat.min_le_left _ _) (h.2 x hx)
    · exact Nat.min_le_right _ _

theorem Grouped.isMinOf {L : List σ} {es : List α} (h : Grouped key kf upd new L es) (val : α → Nat) (c : σ → Nat)
    (h0 : ∀ t, val (new t) = c t) (hs : ∀ t a, val (upd t a) = min (val a) (c t)) :
    ∀ a ∈ es, IsMinOf (val a) fun x => ∃ t ∈ group kf L (key a), c t = x :=
  h.forall_built (P := fun ts a => IsMinOf (val a) fun x => ∃ t ∈ ts, c t = x)
    (fun t _ => h0 t ▸ ⟨⟨t, List.mem_singleton.2 rfl, rfl⟩, fun _ ⟨_, ht', e⟩ =>
      Nat.le_of_eq (List.mem_singleton.1 ht' ▸ e)⟩)
    (fun ts a t _ _ ih => hs t a ▸ ih.insert _ (exists_mem_concat_eq c ts t))

end fold
end SynKit.Core
