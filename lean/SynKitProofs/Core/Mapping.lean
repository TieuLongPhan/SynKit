import SynKitModel.Match
import SynKitProofs.Core.List
/-! `Match.Mapping.get?`, the look-up in a list of pairs `(pattern node, host node)`: against membership (an entry is
found when the keys are distinct), against the keys, injective when the values are distinct; then the look-up in a
mapping whose keys or values have been renamed, and in the graph of a function over a list. -/
namespace SynKit.Match.Mapping
variable {m : Mapping} {p h : Nat} {f : Nat → Nat}

theorem get?_nil : get? [] p = none := rfl

theorem get?_cons {x : Nat × Nat} : get? (x :: m) p = if x.1 = p then some x.2 else m.get? p := by
  unfold get?
  rw [List.find?_cons]
  by_cases hx : x.1 = p
  · rw [if_pos hx, decide_eq_true hx]
    rfl
  · rw [if_neg hx, decide_eq_false hx]

theorem mem_of_get? (hm : m.get? p = some h) : (p, h) ∈ m := by
  obtain ⟨x, hx, rfl⟩ := Option.map_eq_some_iff.1 hm
  have hp := List.find?_some hx
  obtain rfl : x.1 = p := of_decide_eq_true hp
  exact List.mem_of_find?_eq_some hx

theorem get?_of_mem (hn : (m.map (·.1)).Nodup) (hm : (p, h) ∈ m) : m.get? p = some h := by
  unfold get?
  rw [Core.find?_of_nodup_map hn hm rfl]
  rfl

theorem get?_eq_some_iff (hn : (m.map (·.1)).Nodup) : m.get? p = some h ↔ (p, h) ∈ m :=
  ⟨mem_of_get?, get?_of_mem hn⟩

theorem get?_eq_none_iff : m.get? p = none ↔ p ∉ m.map (·.1) := by
  unfold get?
  rw [Option.map_eq_none_iff, List.find?_eq_none, List.mem_map]
  constructor
  · rintro hx ⟨x, hm, rfl⟩
    exact hx x hm (decide_eq_true rfl)
  · exact fun hx x hm hp => hx ⟨x, hm, of_decide_eq_true hp⟩

theorem exists_get?_of_mem_keys (hp : p ∈ m.map (·.1)) : ∃ h, m.get? p = some h ∧ (p, h) ∈ m := by
  cases hg : m.get? p with
  | some h => exact ⟨h, rfl, mem_of_get? hg⟩
  | none => exact absurd hp (get?_eq_none_iff.1 hg)

theorem mem_keys_of_get? (hm : m.get? p = some h) : p ∈ m.map (·.1) :=
  List.mem_map.2 ⟨(p, h), mem_of_get? hm, rfl⟩

theorem get?_inj (hn : (m.map (·.2)).Nodup) {q : Nat} (hp : m.get? p = some h) (hq : m.get? q = some h) :
    p = q :=
  congrArg Prod.fst (List.inj_on_of_nodup_map hn (mem_of_get? hp) (mem_of_get? hq) rfl)

theorem get?_map_snd : get? (m.map fun x => (x.1, f x.2)) p = (m.get? p).map f := by
  unfold get?
  rw [Core.find?_map_of_forall (p := fun x : Nat × Nat => decide (x.1 = p))
    (q := fun x => decide (x.1 = p)) fun _ _ => rfl]
  cases m.find? _ <;> rfl

theorem get?_map_fst (hf : ∀ x ∈ m, f x.1 = f p → x.1 = p) :
    get? (m.map fun x => (f x.1, x.2)) (f p) = m.get? p := by
  unfold get?
  rw [Core.find?_map_of_forall (p := fun x : Nat × Nat => decide (x.1 = f p))
    (q := fun x => decide (x.1 = p)) fun x hx => decide_eq_decide.2 ⟨hf x hx, congrArg f⟩]
  cases m.find? _ <;> rfl

theorem get?_map_fst_of_injective (hf : Function.Injective f) :
    get? (m.map fun x => (f x.1, x.2)) (f p) = m.get? p :=
  get?_map_fst fun _ _ h => hf h

theorem get?_map_graph {l : List Nat} : get? (l.map fun v => (v, f v)) p = if p ∈ l then some (f p) else none := by
  induction l with
  | nil => rfl
  | cons a l ih =>
    rw [List.map_cons, get?_cons, ih]
    by_cases ha : a = p
    · rw [if_pos ha, if_pos (List.mem_cons.2 (.inl ha.symm)), ha]
    · rw [if_neg ha]
      exact if_congr ⟨List.mem_cons_of_mem _, fun h => (List.mem_cons.1 h).resolve_left (Ne.symm ha)⟩ rfl rfl

end SynKit.Match.Mapping
