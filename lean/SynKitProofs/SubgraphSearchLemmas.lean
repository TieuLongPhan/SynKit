import SynKitModel.SubgraphSearch
import SynKitProofs.Match
import SynKitProofs.GraphAlg
import SynKitProofs.Core.Sort
import SynKitProofs.Core.Graph
import Mathlib.Data.List.Basic
import Mathlib.Data.List.Nodup
import Mathlib.Data.List.Pairwise
import Mathlib.Data.List.Perm.Basic
import Mathlib.Tactic.Choose
import Mathlib.Tactic.ByContra
/-! C06.  Both result loops are `feed`, which takes the first `stopLen …` entries of an unlimited enumeration
(`feed_eq_take`, `btLevel_nil_eq`); what `collect` does differently the final guard hides (`guard_collect_feed`).  The levels
of the back-tracking are the embedding lists of the pattern components in some order (`levels_eq`, `mem_level`), and its
unlimited enumeration consists of the picks of one embedding per level (`mem_enum`).  A monomorphism that separates the
pattern components is a family of monomorphisms of the components into pairwise different host components, and conversely
(`monoFn_components_iff`, about the look-up function: cutting and gluing are the same function read between other graphs).
On lists the same statement is a cycle: what the loop picks satisfies `Glue` (`Picks.glue`), the common look-up of a `Glue`
is such a family (`Glue.family`), and the graphs of a family on the components are picks (`Family.picks`); the picks glue
to the graph of their common look-up (`Glue.get?_of_mem_pick`, `normalize_eq_ofFn`).  Hence `mem_compEnum_iff`.
`findComp_eq`, `mem_findComp`, `mem_search` say which of the two enumerations a result of the search comes from. -/
namespace SynKit.SubgraphSearch
open SynKit.Match SynKit.GraphAlg

/-- Number of results after which a loop stops: `max_results` if it is truthy and within the threshold, otherwise
`threshold + 1` (one more than the final guard lets through). -/
def stopLen (maxRes thr : Nat) : Nat := if maxRes ≠ 0 ∧ maxRes ≤ thr then maxRes else thr + 1

/-- The final guard of `find_subgraph_mappings`. -/
def guard {α : Type} (thr : Nat) (l : List α) : List α := if l.length > thr then [] else l

theorem guard_of_le {α : Type} {thr : Nat} {l : List α} (h : l.length ≤ thr) : guard thr l = l :=
  if_neg (Nat.not_lt.2 h)

theorem guard_of_gt {α : Type} {thr : Nat} {l : List α} (h : thr < l.length) : guard thr l = [] :=
  if_pos h

theorem mem_of_mem_guard {α : Type} {thr : Nat} {l : List α} {x : α} (h : x ∈ guard thr l) : x ∈ l :=
  (List.mem_ite_nil_left.1 h).2

theorem guard_take_succ {α : Type} (thr : Nat) (l : List α) : guard thr (l.take (thr + 1)) = guard thr l := by
  by_cases h : thr < l.length
  · rw [guard_of_gt h, guard_of_gt (by rw [List.length_take]; omega)]
  · rw [List.take_of_length_le (by omega)]

theorem guard_take_stopLen {α : Type} (k thr : Nat) (l : List α) :
    guard thr (l.take (stopLen k thr)) =
      if k ≠ 0 ∧ k ≤ thr then l.take k else if l.length > thr then [] else l := by
  unfold stopLen
  split
  · next h => exact guard_of_le (Nat.le_trans (List.length_take_le _ _) h.2)
  · exact guard_take_succ thr l

theorem collect_subset {α : Type} (k thr : Nat) (l acc : List α) : collect k thr l acc ⊆ acc.reverse ++ l := by
  induction l generalizing acc with
  | nil => rw [collect, List.append_nil]; exact List.Subset.refl _
  | cons y ys ih =>
    rw [collect, List.append_cons, ← List.reverse_cons]
    split
    · exact List.subset_append_left _ _
    · split
      · exact List.nil_subset _
      · exact ih _

theorem mem_collect {α : Type} (k thr : Nat) (l : List α) (x : α) (h : x ∈ collect k thr l []) : x ∈ l :=
  collect_subset k thr l [] h

/-! The back-tracking loop feeds an unlimited enumeration (`enum`) into the result list, checking the stop
conditions before each element (`feed`). -/

def enum (P : LGraph) : List (List (Nat × Mapping)) → List Nat → Mapping → List Mapping
  | [], _, acc => [normalize P acc]
  | lvl :: rest, used, acc =>
    lvl.flatMap fun hm => if skip used acc hm.1 hm.2 then [] else enum P rest (hm.1 :: used) (acc ++ hm.2)

def feed (k thr : Nat) : List Mapping → List Mapping → List Mapping
  | res, [] => res
  | res, x :: xs => if stop k thr res then res else feed k thr (res ++ [x]) xs

theorem feed_of_stop (k thr : Nat) (res l : List Mapping) (h : stop k thr res = true) : feed k thr res l = res := by
  cases l with
  | nil => rfl
  | cons x xs => simp [feed, h]

theorem feed_append (k thr : Nat) (res a b : List Mapping) :
    feed k thr res (a ++ b) = feed k thr (feed k thr res a) b := by
  induction a generalizing res with
  | nil => rfl
  | cons x xs ih =>
    simp only [List.cons_append, feed]
    by_cases h : stop k thr res = true
    · simp [h, feed_of_stop]
    · simp [h, ih]

theorem btItems_eq (k thr : Nat) (next : List Nat → Mapping → List Mapping → List Mapping)
    (f : List Nat → Mapping → List Mapping)
    (hnext : ∀ used acc res, next used acc res = feed k thr res (f used acc))
    (used : List Nat) (acc : Mapping) (items : List (Nat × Mapping)) (res : List Mapping) :
    btItems k thr next used acc items res =
      feed k thr res (items.flatMap fun hm => if skip used acc hm.1 hm.2 then [] else f (hm.1 :: used) (acc ++ hm.2)) := by
  induction items generalizing res with
  | nil => rfl
  | cons x xs ih =>
    obtain ⟨hi, m⟩ := x
    simp only [btItems, List.flatMap_cons]
    by_cases hs : skip used acc hi m = true
    · simp [hs, ih]
    · simp only [hs, Bool.false_eq_true, if_false, feed_append, hnext]
      by_cases hst : stop k thr (feed k thr res (f (hi :: used) (acc ++ m))) = true
      · simp [hst, feed_of_stop]
      · simp [hst, ih]

theorem btLevel_eq (P : LGraph) (k thr : Nat) (levels : List (List (Nat × Mapping))) (used : List Nat)
    (acc : Mapping) (res : List Mapping) :
    btLevel P k thr levels used acc res = feed k thr res (enum P levels used acc) := by
  induction levels generalizing used acc res with
  | nil =>
    simp only [btLevel, enum, feed]
  | cons lvl rest ih =>
    simp only [btLevel, enum]
    by_cases h : stop k thr res = true
    · simp [h, feed_of_stop]
    · simp only [h, Bool.false_eq_true, if_false]
      exact btItems_eq k thr _ (enum P rest) (fun u a r => ih u a r) used acc lvl res

theorem stop_iff (k thr : Nat) (res : List Mapping) : stop k thr res = true ↔ stopLen k thr ≤ res.length := by
  unfold stop stopLen
  split <;> simp <;> omega

theorem feed_eq_take (k thr : Nat) (res l : List Mapping) (h : res.length ≤ stopLen k thr) :
    feed k thr res l = res ++ l.take (stopLen k thr - res.length) := by
  induction l generalizing res with
  | nil => rw [feed, List.take_nil, List.append_nil]
  | cons x xs ih =>
    rw [feed]
    by_cases hs : stop k thr res = true
    · rw [if_pos hs, Nat.sub_eq_zero_of_le ((stop_iff k thr res).1 hs), List.take_zero, List.append_nil]
    · have hlt : res.length < stopLen k thr := Nat.lt_of_not_le fun hh => hs ((stop_iff k thr res).2 hh)
      have e : stopLen k thr - res.length = (stopLen k thr - (res.length + 1)) + 1 := by omega
      rw [if_neg hs, ih (res ++ [x]) (by rw [List.length_append]; exact hlt), List.length_append, List.length_singleton,
        List.append_assoc, List.singleton_append, e, List.take_succ_cons]

theorem feed_nil_eq_take (k thr : Nat) (l : List Mapping) : feed k thr [] l = l.take (stopLen k thr) :=
  feed_eq_take k thr [] l (Nat.zero_le _)

theorem btLevel_nil_eq (P : LGraph) (k thr : Nat) (levels : List (List (Nat × Mapping))) :
    btLevel P k thr levels [] [] [] = (enum P levels [] []).take (stopLen k thr) := by
  rw [btLevel_eq, feed_nil_eq_take]

/-- `collect` tests after appending and empties on excess, `feed` tests before appending and keeps the `thr + 1`
results: the guard does not see the difference. -/
theorem guard_collect_feed (k thr : Nat) (l acc : List Mapping) (h : stop k thr acc.reverse = false) :
    guard thr (collect k thr l acc) = guard thr (feed k thr acc.reverse l) := by
  induction l generalizing acc with
  | nil => rfl
  | cons x xs ih =>
    rw [collect, feed, h, if_neg Bool.false_ne_true, ← List.reverse_cons]
    by_cases hs : stop k thr (x :: acc).reverse = true
    · rw [feed_of_stop _ _ _ _ hs]
      simp only [stop, List.length_reverse, Bool.or_eq_true, Bool.and_eq_true, decide_eq_true_eq] at hs
      split
      · rfl
      · next h1 =>
        have h2 := hs.resolve_left h1
        rw [if_pos h2, guard_of_gt (l := (x :: acc).reverse) (by rwa [List.length_reverse])]
        exact guard_of_le (Nat.zero_le _)
    · have hs' := hs
      simp only [stop, List.length_reverse, Bool.or_eq_true, Bool.and_eq_true, decide_eq_true_eq, not_or] at hs'
      rw [if_neg hs'.1, if_neg hs'.2, ih _ (Bool.eq_false_iff.2 hs)]

theorem guard_collect (k thr : Nat) (l : List Mapping) :
    guard thr (collect k thr l []) = guard thr (l.take (stopLen k thr)) := by
  rw [guard_collect_feed k thr l [] (by simp [stop]), List.reverse_nil, feed_nil_eq_take]

/-- `g.subgraph(c)` is `LGraph.induce` (`Core/Graph.lean`); its lemmas in the form with explicit arguments. -/
theorem sub_eq (G : LGraph) (c : List Nat) : sub G c = G.induce c := rfl

theorem sub_ids (G : LGraph) (c : List Nat) : (sub G c).ids = G.ids.filter c.contains :=
  LGraph.ids_induce.trans (List.filter_congr fun _ _ => (List.contains_eq_mem _ _).symm)

theorem mem_sub_ids (G : LGraph) (c : List Nat) (v : Nat) : v ∈ (sub G c).ids ↔ v ∈ G.ids ∧ v ∈ c :=
  LGraph.mem_ids_induce

theorem sub_attrs (G : LGraph) (c : List Nat) (v : Nat) (hv : v ∈ c) : (sub G c).attrs v = G.attrs v :=
  LGraph.attrs_induce hv

theorem mem_sub_edges (G : LGraph) (c : List Nat) (e : Nat × Nat × Attrs) :
    e ∈ (sub G c).edges ↔ e ∈ G.edges ∧ e.1 ∈ c ∧ e.2.1 ∈ c :=
  LGraph.mem_edges_induce

theorem sub_edge?_eq (G : LGraph) (c : List Nat) (u v : Nat) (hu : u ∈ c) (hv : v ∈ c) :
    (sub G c).edge? u v = G.edge? u v :=
  LGraph.edge?_induce_of_mem hu hv

theorem sub_edge? (G : LGraph) (c : List Nat) (u v : Nat) (a : Attrs) (h : (sub G c).edge? u v = some a) :
    G.edge? u v = some a := by
  rw [sub_eq, LGraph.edge?_induce, Option.ite_none_right_eq_some] at h
  exact h.2

theorem sub_WF (G : LGraph) (hG : G.WF) (c : List Nat) : (sub G c).WF := LGraph.wf_induce hG c

/-- A component is a sub-list of the duplicate-free node list, so the sub-graph has exactly its nodes. -/
theorem sub_ids_of_component (G : LGraph) (hG : G.WF) (c : List Nat) (hc : c ∈ comps G) : (sub G c).ids = c :=
  LGraph.ids_induce.trans (Core.filter_mem_of_sublist (components_sublist G.ids (endpoints G) c hc) hG.1)

theorem mem_endpoints (G : LGraph) (e : Nat × Nat × Attrs) (he : e ∈ G.edges) : (e.1, e.2.1) ∈ endpoints G :=
  List.mem_map.2 ⟨e, he, rfl⟩

theorem edge_same_component (G : LGraph) (hG : G.WF) (e : Nat × Nat × Attrs) (he : e ∈ G.edges)
    (c : List Nat) (hc : c ∈ comps G) (h1 : e.1 ∈ c) : e.2.1 ∈ c := by
  obtain ⟨a, b, -⟩ := hG.2.1 e he
  refine (mem_components_iff G.ids (endpoints G) c e.1 hc h1 e.2.1).2 ⟨b, ?_⟩
  exact Conn.of_adj ⟨a, b, Or.inl (mem_endpoints G e he)⟩

theorem comps_eq_of_mem (G : LGraph) (hG : G.WF) {c c' : List Nat} (hc : c ∈ comps G) (hc' : c' ∈ comps G) {v : Nat}
    (h : v ∈ c) (h' : v ∈ c') : c = c' := by
  by_contra hne
  have : Std.Symm (List.Disjoint (α := Nat)) := ⟨fun _ _ hd => hd.symm⟩
  exact (components_disjoint G.ids (endpoints G) hG.1).forall hc hc' hne h h'

theorem hasEdge_of_adj (G : LGraph) {u v : Nat} (h : Adj G.ids (endpoints G) u v) : G.hasEdge u v = true := by
  rw [LGraph.hasEdge_iff]
  rcases h.2.2 with h | h
  · obtain ⟨e, he, hee⟩ := List.mem_map.1 h
    exact ⟨e, he, .inl ⟨congrArg Prod.fst hee, congrArg Prod.snd hee⟩⟩
  · obtain ⟨e, he, hee⟩ := List.mem_map.1 h
    exact ⟨e, he, .inr ⟨congrArg Prod.fst hee, congrArg Prod.snd hee⟩⟩

theorem adj_of_hasEdge (G : LGraph) (hG : G.WF) {u v : Nat} (h : G.hasEdge u v = true) : Adj G.ids (endpoints G) u v := by
  obtain ⟨e, he, hj⟩ := LGraph.hasEdge_iff.1 h
  obtain ⟨a, b, -⟩ := hG.2.1 e he
  rcases hj with ⟨rfl, rfl⟩ | ⟨rfl, rfl⟩
  · exact ⟨a, b, .inl (mem_endpoints G e he)⟩
  · exact ⟨b, a, .inr (mem_endpoints G e he)⟩

theorem ids_nil_of_no_comps (P : LGraph) (hP : P.WF) (h : (comps P).length = 0) : P.ids = [] :=
  List.eq_nil_iff_forall_not_mem.2 fun v hv => by
    obtain ⟨c, hc, -⟩ := (components_cover P.ids (endpoints P) hP.1 v).1 hv
    exact Nat.ne_of_gt (List.length_pos_of_mem hc) h

theorem mem_perComponent (sel : Sel) (hostCcs : List LGraph) (pc : LGraph) (i : Nat) (m : Mapping) :
    (i, m) ∈ perComponent sel hostCcs pc ↔
      ∃ hg, hostCcs[i]? = some hg ∧ hg.nodes.length ≥ pc.nodes.length ∧ m ∈ allMonos sel hg pc := by
  unfold perComponent
  simp only [List.mem_flatMap, List.mem_filter, List.mem_zipIdx_iff_getElem?, List.mem_map, Prod.mk.injEq,
    decide_eq_true_eq]
  constructor
  · rintro ⟨⟨hg, j⟩, ⟨h1, h2⟩, m', hm', rfl, rfl⟩
    exact ⟨hg, h1, h2, hm'⟩
  · rintro ⟨hg, h1, h2, h3⟩
    exact ⟨(hg, i), ⟨h1, h2⟩, m, h3, rfl, rfl⟩

theorem insertByLen_eq {α : Type} (x : List α) (l : List (List α)) :
    insertByLen x l = Core.insertBy (fun a b => a.length < b.length) x l := by
  induction l with
  | nil => rfl
  | cons y ys ih => simp only [insertByLen, Core.insertBy, ih]

/-- `sortByLen` folds from the left, so it is the insertion sort of the reversed list. -/
theorem sortByLen_eq {α : Type} (l : List (List α)) :
    sortByLen l = Core.sortBy (fun a b => a.length < b.length) l.reverse := by
  rw [sortByLen, List.foldl_eq_foldr_reverse]
  exact congrArg (fun f => l.reverse.foldr f []) (funext fun x => funext (insertByLen_eq x))

theorem sortByLen_perm {α : Type} (xs : List (List α)) : (sortByLen xs).Perm xs := by
  rw [sortByLen_eq]
  exact Core.sortBy_perm.trans (List.reverse_perm xs)

theorem sortByLen_map {α β : Type} (f : β → List α) (xs : List β) :
    ∃ ys : List β, ys.Perm xs ∧ sortByLen (xs.map f) = ys.map f :=
  ⟨Core.sortBy (fun a b => (f a).length < (f b).length) xs.reverse,
    Core.sortBy_perm.trans (List.reverse_perm xs), by
    rw [sortByLen_eq, ← List.map_reverse, Core.sortBy_map f fun _ _ _ _ => Iff.rfl]⟩

/-- `per_cc` of the Python code. -/
def perCc (sel : Sel) (H P : LGraph) : List (List (Nat × Mapping)) :=
  ((comps P).map (sub P)).map (perComponent sel ((comps H).map (sub H)))

def compEnum (sel : Sel) (H P : LGraph) : List Mapping := enum P (sortByLen (perCc sel H P)) [] []

abbrev level (sel : Sel) (H P : LGraph) (pc : List Nat) : List (Nat × Mapping) :=
  perComponent sel ((comps H).map (sub H)) (sub P pc)

theorem perCc_eq (sel : Sel) (H P : LGraph) : perCc sel H P = (comps P).map (level sel H P) := by
  simp only [perCc, List.map_map, Function.comp_def]

theorem levels_eq (sel : Sel) (H P : LGraph) :
    ∃ ys : List (List Nat), ys.Perm (comps P) ∧ sortByLen (perCc sel H P) = ys.map (level sel H P) := by
  rw [perCc_eq]
  exact sortByLen_map _ _

/-- The size test of `perComponent` is implied. -/
theorem mem_level {sel : Sel} {H P : LGraph} (hP : P.WF) {pc : List Nat} {pk : Nat × Mapping} :
    pk ∈ level sel H P pc ↔ ∃ hc, (comps H)[pk.1]? = some hc ∧ IsMono sel (sub H hc) (sub P pc) pk.2 := by
  refine (mem_perComponent sel _ (sub P pc) pk.1 pk.2).trans ?_
  simp only [List.getElem?_map, Option.map_eq_some_iff, mem_allMonos sel _ _ (sub_WF P hP pc)]
  constructor
  · rintro ⟨_, ⟨hc, hi, rfl⟩, -, hm⟩
    exact ⟨hc, hi, hm⟩
  · rintro ⟨hc, hi, hm⟩
    exact ⟨_, ⟨hc, hi, rfl⟩, hm.nodes_le, hm⟩

def KeyDisj (a b : Mapping) : Prop := ∀ x ∈ a, ∀ y ∈ b, x.1 ≠ y.1

theorem skip_false_iff (used : List Nat) (acc : Mapping) (hi : Nat) (m : Mapping) :
    skip used acc hi m = false ↔ hi ∉ used ∧ KeyDisj m acc := by
  unfold skip KeyDisj
  simp only [Bool.or_eq_false_iff, List.contains_eq_mem, decide_eq_false_iff_not, List.any_eq_false,
    decide_eq_true_eq, List.any_eq_true, not_exists, not_and]
  constructor
  · rintro ⟨h1, h2⟩; exact ⟨h1, fun x hx y hy e => h2 x hx y hy e.symm⟩
  · rintro ⟨h1, h2⟩; exact ⟨h1, fun x hx y hy e => h2 x hx y hy e.symm⟩

theorem KeyDisj.symm {a b : Mapping} (h : KeyDisj a b) : KeyDisj b a := fun x hx y hy e => h y hy x hx e.symm

theorem keyDisj_append_right (m a b : Mapping) : KeyDisj m (a ++ b) ↔ KeyDisj m a ∧ KeyDisj m b := by
  unfold KeyDisj
  simp only [List.mem_append]
  exact ⟨fun h => ⟨fun x hx y hy => h x hx y (.inl hy), fun x hx y hy => h x hx y (.inr hy)⟩,
    fun h x hx y hy => hy.elim (h.1 x hx y) (h.2 x hx y)⟩

/-- One accepted item per level, in level order: the picks come from distinct host components (also distinct from
`used`) and their keys are pairwise disjoint (also from those of `acc`). -/
def Picks (levels : List (List (Nat × Mapping))) (used : List Nat) (acc : Mapping) (pks : List (Nat × Mapping)) : Prop :=
  List.Forall₂ (fun pk lvl => pk ∈ lvl) pks levels ∧ pks.Pairwise (fun a b => a.1 ≠ b.1 ∧ KeyDisj a.2 b.2) ∧
    ∀ pk ∈ pks, pk.1 ∉ used ∧ KeyDisj pk.2 acc

/-- The loop's own reading of `Picks`: the first pick passes `skip`, the others are picks for the state after it. -/
theorem picks_cons (lvl : List (Nat × Mapping)) (rest : List (List (Nat × Mapping))) (used : List Nat) (acc : Mapping)
    (pk : Nat × Mapping) (pks : List (Nat × Mapping)) :
    Picks (lvl :: rest) used acc (pk :: pks) ↔
      pk ∈ lvl ∧ skip used acc pk.1 pk.2 = false ∧ Picks rest (pk.1 :: used) (acc ++ pk.2) pks := by
  unfold Picks
  simp only [List.forall₂_cons, List.pairwise_cons, List.forall_mem_cons, skip_false_iff, keyDisj_append_right]
  simp only [List.mem_cons, not_or]
  constructor
  · rintro ⟨⟨h1, h2⟩, ⟨h3, h4⟩, h5, h6⟩
    exact ⟨h1, h5, h2, h4, fun b hb => ⟨⟨fun e => (h3 b hb).1 e.symm, (h6 b hb).1⟩, (h6 b hb).2, (h3 b hb).2.symm⟩⟩
  · rintro ⟨h1, h5, h2, h4, h7⟩
    exact ⟨⟨h1, h2⟩, ⟨fun b hb => ⟨fun e => (h7 b hb).1.1 e.symm, (h7 b hb).2.2.symm⟩, h4⟩, h5,
      fun b hb => ⟨(h7 b hb).1.2, (h7 b hb).2.1⟩⟩

theorem mem_enum (P : LGraph) (levels : List (List (Nat × Mapping))) (used : List Nat) (acc m : Mapping) :
    m ∈ enum P levels used acc ↔
      ∃ pks, Picks levels used acc pks ∧ m = normalize P (acc ++ pks.flatMap (·.2)) := by
  induction levels generalizing used acc with
  | nil =>
    simp only [enum, List.mem_singleton, Picks, List.forall₂_nil_right_iff]
    constructor
    · rintro rfl; exact ⟨[], ⟨rfl, List.Pairwise.nil, fun _ h => nomatch h⟩, by simp⟩
    · rintro ⟨_, ⟨rfl, -⟩, rfl⟩; simp
  | cons lvl rest ih =>
    simp only [enum, List.mem_flatMap, List.mem_ite_nil_left, Bool.not_eq_true, ih]
    constructor
    · rintro ⟨pk, hpk, hs, pks, hp, rfl⟩
      exact ⟨pk :: pks, (picks_cons ..).2 ⟨hpk, hs, hp⟩, by simp [List.append_assoc]⟩
    · rintro ⟨pks, hp, rfl⟩
      obtain ⟨pk, pks, -, -, rfl⟩ := List.forall₂_cons_right_iff.1 hp.1
      obtain ⟨h1, h2, h3⟩ := (picks_cons ..).1 hp
      exact ⟨pk, h1, h2, pks, h3, by simp [List.append_assoc]⟩

theorem forall₂_exists_mem {α β : Type} {R : α → β → Prop} {l₁ : List α} {l₂ : List β} (h : List.Forall₂ R l₁ l₂) :
    (∀ a ∈ l₁, ∃ b ∈ l₂, R a b) ∧ (∀ b ∈ l₂, ∃ a ∈ l₁, R a b) := by
  obtain ⟨hl, hz⟩ := List.forall₂_iff_zip.1 h
  exact ⟨fun a ha => (Core.exists_mem_zip_left hl ha).imp fun b hb => ⟨(List.of_mem_zip hb).2, hz hb⟩,
    fun b hb => (Core.exists_mem_zip_right hl hb).imp fun a ha => ⟨(List.of_mem_zip ha).1, hz ha⟩⟩

section Components
variable {sel : Sel} {H P : LGraph} {f : Nat → Nat}

theorem _root_.SynKit.Match.IsMonoFn.conn (hH : H.WF) (h : IsMonoFn sel H P f) {p q : Nat} (hc : Conn P.ids (endpoints P) p q) :
    Conn H.ids (endpoints H) (f p) (f q) :=
  Relation.ReflTransGen.lift f (fun _ _ hab => adj_of_hasEdge H hH (h.hasEdge_image (hasEdge_of_adj P hab))) p q hc

/-- `f` sends different pattern components into different host components (`DistinctComponents` on functions). -/
def SeparatesFn (H P : LGraph) (f : Nat → Nat) : Prop :=
  ∀ p ∈ P.ids, ∀ q ∈ P.ids, Conn H.ids (endpoints H) (f p) (f q) → Conn P.ids (endpoints P) p q

/-- `f` embeds every pattern component into the host component numbered `idx`, different ones into different ones. -/
def Family (sel : Sel) (H P : LGraph) (f : Nat → Nat) (idx : List Nat → Nat) : Prop :=
  (∀ pc ∈ comps P, ∃ hc, (comps H)[idx pc]? = some hc ∧ IsMonoFn sel (sub H hc) (sub P pc) f) ∧
  ∀ pc ∈ comps P, ∀ pc' ∈ comps P, idx pc = idx pc' → pc = pc'

theorem _root_.SynKit.Match.IsMonoFn.component_image (hH : H.WF) (hP : P.WF) (h : IsMonoFn sel H P f) {pc : List Nat} (hpc : pc ∈ comps P) :
    ∃ (i : Nat) (hc : List Nat), (comps H)[i]? = some hc ∧ ∀ p ∈ pc, f p ∈ hc := by
  obtain ⟨p0, hp0⟩ := List.exists_mem_of_ne_nil _ (components_ne_nil P.ids (endpoints P) pc hpc)
  have hp0n : p0 ∈ P.ids := (components_cover P.ids (endpoints P) hP.1 p0).2 ⟨pc, hpc, hp0⟩
  obtain ⟨hc, hhc, hh0c⟩ := (components_cover H.ids (endpoints H) hH.1 (f p0)).1 (h.node p0 hp0n).1
  obtain ⟨i, hi, rfl⟩ := List.getElem_of_mem hhc
  refine ⟨i, _, List.getElem?_eq_getElem hi, fun p hp => ?_⟩
  obtain ⟨hpn, hconn⟩ := (mem_components_iff P.ids (endpoints P) pc p0 hpc hp0 p).1 hp
  exact (mem_components_iff H.ids (endpoints H) _ (f p0) hhc hh0c (f p)).2 ⟨(h.node p hpn).1, h.conn hH hconn⟩

theorem _root_.SynKit.Match.IsMonoFn.sub (hP : P.WF) (h : IsMonoFn sel H P f) {pc hc : List Nat} (himg : ∀ p ∈ P.ids, p ∈ pc → f p ∈ hc) :
    IsMonoFn sel (sub H hc) (sub P pc) f := by
  refine ⟨fun p hp q hq => h.inj p ((mem_sub_ids P pc p).1 hp).1 q ((mem_sub_ids P pc q).1 hq).1, fun p hp => ?_,
    fun e he => ?_⟩
  · obtain ⟨hp, hpc⟩ := (mem_sub_ids P pc p).1 hp
    rw [mem_sub_ids, sub_attrs H hc _ (himg p hp hpc), sub_attrs P pc p hpc]
    exact ⟨⟨(h.node p hp).1, himg p hp hpc⟩, (h.node p hp).2⟩
  · obtain ⟨he', h1, h2⟩ := (mem_sub_edges P pc e).1 he
    obtain ⟨b, hb, hok⟩ := h.edge e he'
    obtain ⟨a1, a2, -⟩ := hP.2.1 e he'
    exact ⟨b, (sub_edge?_eq H hc _ _ (himg _ a1 h1) (himg _ a2 h2)).trans hb, hok⟩

theorem family_of_monoFn (hH : H.WF) (hP : P.WF) (h : IsMonoFn sel H P f) (hs : SeparatesFn H P f) :
    ∃ idx, Family sel H P f idx := by
  have key := fun pc (hpc : pc ∈ comps P) => h.component_image hH hP hpc
  choose! idx hcOf hidx himg using key
  refine ⟨idx, fun pc hpc => ⟨hcOf pc, hidx pc hpc, h.sub hP fun p _ hp => himg pc hpc p hp⟩, fun a ha b hb heq => ?_⟩
  -- a node of each; their images lie in the same host component, so the two nodes are connected
  obtain ⟨p, hp⟩ := List.exists_mem_of_ne_nil _ (components_ne_nil P.ids (endpoints P) a ha)
  obtain ⟨q, hq⟩ := List.exists_mem_of_ne_nil _ (components_ne_nil P.ids (endpoints P) b hb)
  have hpn : p ∈ P.ids := (components_cover P.ids (endpoints P) hP.1 p).2 ⟨a, ha, hp⟩
  have hqn : q ∈ P.ids := (components_cover P.ids (endpoints P) hP.1 q).2 ⟨b, hb, hq⟩
  have hcb := hidx b hb
  have hca := hidx a ha
  rw [heq, hcb] at hca
  have hfp : f p ∈ hcOf b := Option.some.inj hca ▸ himg a ha p hp
  have hconn := ((mem_components_iff H.ids (endpoints H) _ (f p) (List.mem_of_getElem? hcb) hfp (f q)).1
    (himg b hb q hq)).2
  exact comps_eq_of_mem P hP ha hb ((mem_components_iff P.ids (endpoints P) a p ha hp q).2 ⟨hqn, hs p hpn q hqn hconn⟩) hq

theorem monoFn_of_family (hH : H.WF) (hP : P.WF) {idx : List Nat → Nat} (hF : Family sel H P f idx) :
    IsMonoFn sel H P f ∧ SeparatesFn H P f := by
  -- where a pattern node lives, and where it goes
  have loc : ∀ p ∈ P.ids, ∃ pc ∈ comps P, p ∈ pc ∧ ∃ hc, IsMonoFn sel (sub H hc) (sub P pc) f ∧ f p ∈ H.ids ∧ f p ∈ hc ∧
      compIndex H.ids (endpoints H) (f p) = some (idx pc) := by
    intro p hp
    obtain ⟨pc, hpc, hppc⟩ := (components_cover P.ids (endpoints P) hP.1 p).1 hp
    obtain ⟨hc, hi, hm⟩ := hF.1 pc hpc
    obtain ⟨hfH, hfp⟩ := (mem_sub_ids H hc _).1 (hm.node p ((mem_sub_ids P pc p).2 ⟨hp, hppc⟩)).1
    exact ⟨pc, hpc, hppc, hc, hm, hfH, hfp, (compIndex_spec H.ids (endpoints H) hH.1 _ _).2 ⟨hc, hi, hfp⟩⟩
  -- images in one host component: the same pattern component
  have same : ∀ p ∈ P.ids, ∀ q ∈ P.ids, Conn H.ids (endpoints H) (f p) (f q) →
      ∃ pc ∈ comps P, p ∈ pc ∧ q ∈ pc ∧ ∃ hc, IsMonoFn sel (sub H hc) (sub P pc) f := by
    intro p hp q hq hconn
    obtain ⟨pc, hpc, hppc, hc, hm, hfpH, -, hi⟩ := loc p hp
    obtain ⟨pc', hpc', hqpc, -, -, hfqH, -, hi'⟩ := loc q hq
    rw [← compIndex_eq_iff H.ids (endpoints H) hH.1 _ _ hfpH hfqH, hi, hi'] at hconn
    obtain rfl := hF.2 pc hpc pc' hpc' (Option.some.inj hconn)
    exact ⟨pc, hpc, hppc, hqpc, hc, hm⟩
  refine ⟨⟨fun p hp q hq e => ?_, fun p hp => ?_, fun e he => ?_⟩, fun p hp q hq hconn => ?_⟩
  · obtain ⟨pc, -, hppc, hqpc, hc, hm⟩ := same p hp q hq (e ▸ Conn.refl _)
    exact hm.inj p ((mem_sub_ids P pc p).2 ⟨hp, hppc⟩) q ((mem_sub_ids P pc q).2 ⟨hq, hqpc⟩) e
  · obtain ⟨pc, hpc, hppc, hc, hm, hfH, hfp, -⟩ := loc p hp
    have := (hm.node p ((mem_sub_ids P pc p).2 ⟨hp, hppc⟩)).2
    rw [sub_attrs H hc _ hfp, sub_attrs P pc p hppc] at this
    exact ⟨hfH, this⟩
  · obtain ⟨pc, hpc, hppc, hc, hm, -⟩ := loc e.1 (hP.2.1 e he).1
    obtain ⟨b, hb, hok⟩ := hm.edge e ((mem_sub_edges P pc e).2 ⟨he, hppc, edge_same_component P hP e he pc hpc hppc⟩)
    exact ⟨b, sub_edge? H hc _ _ b hb, hok⟩
  · obtain ⟨pc, hpc, hppc, hqpc, -⟩ := same p hp q hq hconn
    exact ((mem_components_iff P.ids (endpoints P) pc p hpc hppc q).1 hqpc).2

theorem monoFn_components_iff (hH : H.WF) (hP : P.WF) :
    IsMonoFn sel H P f ∧ SeparatesFn H P f ↔ ∃ idx, Family sel H P f idx :=
  ⟨fun ⟨h, hs⟩ => family_of_monoFn hH hP h hs, fun ⟨_, hF⟩ => monoFn_of_family hH hP hF⟩

theorem normalize_eq_ofFn (P : LGraph) (A : Mapping) (f : Nat → Nat) (h : ∀ p ∈ P.ids, A.get? p = some (f p)) :
    normalize P A = ofFn P f := by
  unfold normalize ofFn
  rw [← List.filterMap_eq_map]
  exact List.filterMap_congr fun p hp => by rw [h p hp]; rfl

def DistinctComponents (H P : LGraph) (m : Mapping) : Prop :=
  ∀ p q hp hq, m.get? p = some hp → m.get? q = some hq →
    ¬ Conn P.ids (endpoints P) p q → ¬ Conn H.ids (endpoints H) hp hq

/-- What the items picked by a complete run of the back-tracking loop satisfy. -/
structure Glue (sel : Sel) (H P : LGraph) (pks : List (Nat × Mapping)) : Prop where
  pw : pks.Pairwise (fun a b => a.1 ≠ b.1 ∧ KeyDisj a.2 b.2)
  each : ∀ pk ∈ pks, ∃ pc ∈ comps P, ∃ hc, (comps H)[pk.1]? = some hc ∧ IsMono sel (sub H hc) (sub P pc) pk.2
  cover : ∀ pc ∈ comps P, ∃ pk ∈ pks, ∃ hc, (comps H)[pk.1]? = some hc ∧ IsMono sel (sub H hc) (sub P pc) pk.2

/-- The dict `acc` after all picks. -/
abbrev flat (pks : List (Nat × Mapping)) : Mapping := pks.flatMap (·.2)

variable {pks : List (Nat × Mapping)}

theorem Glue.keys_nodup (hP : P.WF) (g : Glue sel H P pks) : ((flat pks).map (·.1)).Nodup := by
  rw [List.map_flatMap, List.nodup_flatMap]
  refine ⟨?_, ?_⟩
  · intro pk hpk
    obtain ⟨pc, hpc, hc, -, h2⟩ := g.each pk hpk
    exact h2.keys_nodup (sub_WF P hP pc)
  · refine g.pw.imp ?_
    rintro a b ⟨-, hk⟩
    show List.Disjoint _ _
    intro x hxa hxb
    obtain ⟨u, hu, rfl⟩ := List.mem_map.1 hxa
    obtain ⟨v, hv, hv'⟩ := List.mem_map.1 hxb
    exact hk u hu v hv hv'.symm

theorem Glue.get?_of_mem_pick (hP : P.WF) (g : Glue sel H P pks) (pk) (hpk : pk ∈ pks) (x) (hx : x ∈ pk.2) :
    (flat pks).get? x.1 = some x.2 :=
  Mapping.get?_of_mem (g.keys_nodup hP) (List.mem_flatMap.2 ⟨pk, hpk, hx⟩)

theorem Glue.total (hP : P.WF) (g : Glue sel H P pks) (p : Nat) (hp : p ∈ P.ids) :
    (flat pks).get? p = some (mapFn (flat pks) p) := by
  obtain ⟨pc, hpc, hpm⟩ := (components_cover P.ids (endpoints P) hP.1 p).1 hp
  obtain ⟨pk, hpk, hc, -, h2⟩ := g.cover pc hpc
  have hg := g.get?_of_mem_pick hP pk hpk _ (h2.mem_mapFn ((mem_sub_ids P pc p).2 ⟨hp, hpm⟩))
  rw [hg, mapFn_of_get? hg]

theorem Picks.glue (hP : P.WF) {ys : List (List Nat)} (hperm : ys.Perm (comps P))
    (hp : Picks (ys.map (level sel H P)) [] [] pks) : Glue sel H P pks := by
  have h2 := forall₂_exists_mem (List.forall₂_map_right_iff.1 hp.1)
  refine ⟨hp.2.1, fun pk hpk => ?_, fun pc hpc => ?_⟩
  · obtain ⟨pc, hpc, hin⟩ := h2.1 pk hpk
    exact ⟨pc, hperm.mem_iff.1 hpc, (mem_level hP).1 hin⟩
  · obtain ⟨pk, hpk, hin⟩ := h2.2 pc (hperm.mem_iff.2 hpc)
    exact ⟨pk, hpk, (mem_level hP).1 hin⟩

theorem distinct_ofFn (hs : SeparatesFn H P f) : DistinctComponents H P (ofFn P f) := by
  intro p q hp hq gp gq hnc hconn
  obtain ⟨hpP, rfl⟩ := get?_ofFn gp
  obtain ⟨hqP, rfl⟩ := get?_ofFn gq
  exact hnc (hs p hpP q hqP hconn)

theorem separates_of_distinct {m : Mapping} (hm : IsMono sel H P m) (hd : DistinctComponents H P m) :
    SeparatesFn H P (mapFn m) := by
  intro p hp q hq hconn
  by_contra hnc
  exact hd p q _ _ (hm.get?_mapFn hp) (hm.get?_mapFn hq) hnc hconn

theorem Glue.family (hP : P.WF) (g : Glue sel H P pks) :
    ∃ idx, Family sel H P (mapFn (flat pks)) idx := by
  choose! pick hpick hcOf hidx hmono using g.cover
  have hkeys : ∀ pc ∈ comps P, (pick pc).2.map (·.1) = pc := fun pc hpc =>
    (hmono pc hpc).keys.trans (sub_ids_of_component P hP pc hpc)
  refine ⟨fun pc => (pick pc).1, fun pc hpc => ⟨hcOf pc, hidx pc hpc, ?_⟩, fun a ha b hb e => ?_⟩
  · -- on the nodes of the component the glued look-up is the pick's own
    exact (hmono pc hpc).monoFn.congr (fun _ he => (hmono pc hpc).ends_mem he) fun p hp =>
      mapFn_of_get? (g.get?_of_mem_pick hP _ (hpick pc hpc) _ ((hmono pc hpc).mem_mapFn hp))
  · have : pick a = pick b := by
      by_contra hne
      have hsymm : Std.Symm (fun a b : Nat × Mapping => a.1 ≠ b.1 ∧ KeyDisj a.2 b.2) :=
        ⟨fun a b h => ⟨h.1.symm, h.2.symm⟩⟩
      exact (g.pw.forall (hpick a ha) (hpick b hb) hne).1 e
    rw [← hkeys a ha, ← hkeys b hb, this]

theorem Glue.mono_distinct (hH : H.WF) (hP : P.WF) (g : Glue sel H P pks) :
    IsMono sel H P (normalize P (flat pks)) ∧ DistinctComponents H P (normalize P (flat pks)) := by
  obtain ⟨hm, hs⟩ := (monoFn_components_iff hH hP).2 (g.family hP)
  rw [normalize_eq_ofFn P _ _ (g.total hP)]
  exact ⟨hm.isMono hP, distinct_ofFn hs⟩

theorem Glue.distinct (hH : H.WF) (hP : P.WF) (g : Glue sel H P pks) :
    DistinctComponents H P (normalize P (flat pks)) :=
  (g.mono_distinct hH hP).2

theorem Family.picks (hP : P.WF) {idx : List Nat → Nat} (hF : Family sel H P f idx) {ys : List (List Nat)}
    (hperm : ys.Perm (comps P)) :
    Picks (ys.map (level sel H P)) [] [] (ys.map fun pc => (idx pc, ofFn (sub P pc) f)) := by
  have hys : ∀ y ∈ ys, y ∈ comps P := fun y hy => hperm.mem_iff.1 hy
  have hkey : ∀ y, ∀ x ∈ ofFn (sub P y) f, x.1 ∈ y := fun y x hx => by
    obtain ⟨p, hp, rfl⟩ := List.mem_map.1 hx
    exact ((mem_sub_ids P y p).1 hp).2
  refine ⟨?_, ?_, fun _ _ => ⟨List.not_mem_nil, fun _ _ _ h => nomatch h⟩⟩
  · rw [List.forall₂_map_left_iff, List.forall₂_map_right_iff, List.forall₂_same]
    intro y hy
    obtain ⟨hc, hi, hmc⟩ := hF.1 y (hys y hy)
    exact (mem_level hP).2 ⟨hc, hi, hmc.isMono (sub_WF P hP y)⟩
  · -- different components have no node in common and go to different host components
    rw [List.pairwise_map]
    have hdisj : ys.Pairwise List.Disjoint :=
      (hperm.pairwise_iff fun {a b} (h : List.Disjoint a b) => h.symm).2 (components_disjoint P.ids (endpoints P) hP.1)
    refine hdisj.imp_of_mem fun {a b} ha hb hab => ⟨fun heq => ?_, fun x hx y hy e => hab (hkey a x hx) (e ▸ hkey b y hy)⟩
    obtain ⟨v, hv⟩ := List.exists_mem_of_ne_nil _ (components_ne_nil P.ids (endpoints P) a (hys a ha))
    exact hab hv (hF.2 a (hys a ha) b (hys b hb) heq ▸ hv)

/-- `m` is the graph of a function `f`, and the picks are the graphs of `f` on the component sub-graphs. -/
theorem mem_compEnum_of_mono (sel : Sel) (H P : LGraph) (hH : H.WF) (hP : P.WF) (m : Mapping)
    (hm : IsMono sel H P m) (hd : DistinctComponents H P m) : m ∈ compEnum sel H P := by
  obtain ⟨idx, hF⟩ := (monoFn_components_iff hH hP).1 ⟨hm.monoFn, separates_of_distinct hm hd⟩
  rw [eq_ofFn hm.keys hP.1]
  generalize mapFn m = f at hF
  obtain ⟨ys, hperm, hlev⟩ := levels_eq sel H P
  have hpicks := hF.picks hP hperm
  rw [compEnum, hlev]
  refine (mem_enum P _ [] [] _).2 ⟨_, hpicks, (normalize_eq_ofFn P _ f fun p hp => ?_).symm⟩
  -- the glued dict holds `(p, f p)` in the pick of the component of `p`
  obtain ⟨pc, hpc, hppc⟩ := (components_cover P.ids (endpoints P) hP.1 p).1 hp
  exact (hpicks.glue hP hperm).get?_of_mem_pick hP _ (List.mem_map.2 ⟨pc, hperm.mem_iff.2 hpc, rfl⟩) (p, f p)
    (List.mem_map.2 ⟨p, (mem_sub_ids P pc p).2 ⟨hp, hppc⟩, rfl⟩)

theorem mem_compEnum_iff (sel : Sel) (H P : LGraph) (hH : H.WF) (hP : P.WF) (m : Mapping) :
    m ∈ compEnum sel H P ↔ IsMono sel H P m ∧ DistinctComponents H P m := by
  refine ⟨fun hm => ?_, fun ⟨hm, hd⟩ => mem_compEnum_of_mono sel H P hH hP m hm hd⟩
  obtain ⟨ys, hperm, hlev⟩ := levels_eq sel H P
  rw [compEnum, hlev] at hm
  obtain ⟨pks, hp, rfl⟩ := (mem_enum P _ [] [] m).1 hm
  exact (hp.glue hP hperm).mono_distinct hH hP

end Components

theorem findComp_eq (sel : Sel) (H P : LGraph) (k : Nat) (strict : Bool) (thr : Nat) :
    findComp sel H P k strict thr =
      if (comps P).length = 0 then [[]]
      else if (comps H).length < (comps P).length then findAll sel H P k thr
      else if (comps H).length > (comps P).length ∧ strict = true then []
      else if (perCc sel H P).any (fun maps => maps.isEmpty) = true then []
      else if (perCc sel H P).any (fun maps => decide (maps.length > thr)) = true then []
      else (compEnum sel H P).take (stopLen k thr) := by
  unfold findComp compEnum perCc
  simp only [List.length_map, btLevel_nil_eq]

theorem mem_findComp (sel : Sel) (H P : LGraph) (k : Nat) (strict : Bool) (thr : Nat) (m : Mapping)
    (hm : m ∈ findComp sel H P k strict thr) :
    ((comps P).length = 0 ∧ m = []) ∨ ((comps H).length < (comps P).length ∧ m ∈ findAll sel H P k thr) ∨
      m ∈ compEnum sel H P := by
  rw [findComp_eq] at hm
  by_cases h0 : (comps P).length = 0
  · rw [if_pos h0] at hm
    exact Or.inl ⟨h0, List.mem_singleton.1 hm⟩
  rw [if_neg h0] at hm
  by_cases h1 : (comps H).length < (comps P).length
  · rw [if_pos h1] at hm
    exact Or.inr (Or.inl ⟨h1, hm⟩)
  rw [if_neg h1, List.mem_ite_nil_left, List.mem_ite_nil_left, List.mem_ite_nil_left] at hm
  exact Or.inr (Or.inr (List.mem_of_mem_take hm.2.2.2))

theorem isMono_nil_of_no_nodes (sel : Sel) (H P : LGraph) (hP : P.WF) (h : P.ids = []) : IsMono sel H P [] := by
  refine ⟨by simp [h], by simp, by simp, ?_⟩
  intro e he
  have := (hP.2.1 e he).1
  rw [h] at this; cases this

theorem perCc_any_isEmpty_of_mono (sel : Sel) (H P : LGraph) (hH : H.WF) (hP : P.WF) (m : Mapping)
    (hm : IsMono sel H P m) : (perCc sel H P).any (fun maps => maps.isEmpty) = false := by
  refine List.any_eq_false.2 fun maps hmaps he => ?_
  obtain ⟨pc, hpc, rfl⟩ := List.mem_map.1 (perCc_eq sel H P ▸ hmaps)
  obtain ⟨i, hc, hi, himg⟩ := hm.monoFn.component_image hH hP hpc
  exact List.ne_nil_of_mem (a := (i, _))
    ((mem_level hP).2 ⟨hc, hi, (hm.monoFn.sub hP fun p _ hp => himg p hp).isMono (sub_WF P hP pc)⟩) (List.isEmpty_iff.1 he)

/-- `max_results` unset (`0`), any `strict_cc_count`; `hthr`, `hlen`: no threshold fires. -/
theorem mem_findComp_of_mono (sel : Sel) (H P : LGraph) (hH : H.WF) (hP : P.WF) (m : Mapping)
    (hm : IsMono sel H P m) (hd : DistinctComponents H P m) (strict : Bool) (thr : Nat)
    (hle : (comps P).length ≤ (comps H).length)
    (hstrict : strict = true → (comps H).length ≤ (comps P).length)
    (hthr : ∀ maps ∈ perCc sel H P, maps.length ≤ thr) (hlen : (compEnum sel H P).length ≤ thr) :
    m ∈ findComp sel H P 0 strict thr := by
  rw [findComp_eq]
  by_cases h0 : (comps P).length = 0
  · rw [if_pos h0, List.map_eq_nil_iff.1 (hm.keys.trans (ids_nil_of_no_comps P hP h0))]
    exact List.mem_singleton.2 rfl
  · have h4 : (perCc sel H P).any (fun maps => decide (maps.length > thr)) = false :=
      List.any_eq_false.2 fun maps hmaps he => Nat.not_le_of_lt (of_decide_eq_true he) (hthr maps hmaps)
    have h2 : ¬ ((comps H).length > (comps P).length ∧ strict = true) :=
      fun ⟨a, b⟩ => absurd (hstrict b) (Nat.not_le_of_lt a)
    rw [if_neg h0, if_neg (Nat.not_lt_of_le hle), if_neg h2, perCc_any_isEmpty_of_mono sel H P hH hP m hm, h4,
      if_neg Bool.false_ne_true, if_neg Bool.false_ne_true, List.take_of_length_le]
    · exact mem_compEnum_of_mono sel H P hH hP m hm hd
    · exact Nat.le_trans hlen (Nat.le_succ thr)

theorem search_eq (cfg : Cfg) (sel : Sel) (H P : LGraph) :
    search cfg sel H P =
      if (cfg.preFilter && quickPreFilter sel H P cfg.thr) = true then [] else guard cfg.thr (dispatch cfg sel H P) := rfl

theorem search_of_noPrefilter {cfg : Cfg} (sel : Sel) (H P : LGraph) (hf : cfg.preFilter = false) :
    search cfg sel H P = guard cfg.thr (dispatch cfg sel H P) := by
  rw [search_eq, hf]
  rfl

theorem mem_search {cfg : Cfg} {sel : Sel} {H P : LGraph} {m : Mapping} (h : m ∈ search cfg sel H P) :
    m ∈ findAll sel H P cfg.maxRes cfg.thr ∨ m ∈ findComp sel H P cfg.maxRes cfg.strict cfg.thr := by
  rw [search_eq, List.mem_ite_nil_left] at h
  replace h := mem_of_mem_guard h.2
  unfold dispatch at h
  split at h
  · exact .inl h
  · exact .inr h
  · simp only [findBt] at h
    split at h
    · exact .inl h
    · exact .inr h

end SynKit.SubgraphSearch
