import SynKitModel.NautyIR
import SynKitProofs.StrictTotal
import SynKitProofs.Core.List
import Mathlib.Data.List.Nodup
import Mathlib.Data.List.Perm.Basic
import Mathlib.Data.List.Forall2
import Mathlib.Data.List.Flatten
/-!
# The refinement and the tree of individualisations that `Graph/Canon/nauty.py` and `CRN/Topo/canon.py` share

Both refine a partition by splitting every cell along a node signature until a pass splits nothing, and both walk the
same tree of individualisations.  They differ in the signature, in what a pass writes for a cell it does not split
(the cell itself / the sorted cell) and in the order in which the members of the target cell are tried.  An instance
is an `IRSys`: `sig`, its order `lt`, `fb`, `children`, the number of passes; `S.refine` is its `_refine`, `S.leaves` the
leaves `(prefix, order)` of its search tree in visiting order.

Four things are said of a partition: it partitions the node list (`IRPartOK`), its cells lie in the node list
(`PartSub`), a node map `g` carries it onto another (`PartRel`), a function is constant on its cells (`PartConst`).
The first two speak of the flattened partition (`partSub_iff_flatten`), which a pass permutes (`step_flatten_perm`);
the other two go cell by cell through the chain: grouping a cell by a key (`irSplitBy`), the target cell and its
individualisation, the loop, then `cell`, `step`, `refine` and `leaves` of a system.  Everything about one system
follows from `IRSys.Lawful` (`fb` and `children` permute); everything about two systems related by `g` from
`IRSys.Hom` (`g` carries signatures to signatures); a system whose signatures are equal on the nodes has the same tree
as a list (`leaves_congr`).  At the loop the chain is one statement for any relation (`refineLoop_rel`; an invariant,
`refineLoop_inv`, is a relation on the diagonal), at the tree one induction along a branch
(`IRSys.leaves_induction`) and one step from a node to a child (`IRSys.child_ok`).  That the fuel of loop and tree
suffices is `IRPartOK.fuel_induction`.
-/
namespace SynKit.Canon
open SynKit.Core (filter_append_perm_or flatMap_flatten_perm length_le_flatMap forall₂_map_same forall₂_and_left_mem)

theorem sortNat_perm (l : List Nat) : (sortNat l).Perm l := sortBy_perm natLt l

theorem mem_sortNat (x : Nat) (l : List Nat) : x ∈ sortNat l ↔ x ∈ l := (sortNat_perm l).mem_iff

theorem sortNat_length (l : List Nat) : (sortNat l).length = l.length := (sortNat_perm l).length_eq

def IRPartOK (ids : List Nat) (P : List (List Nat)) : Prop := P.flatten.Perm ids ∧ ∀ c ∈ P, c ≠ []

theorem IRPartOK.length_le {ids : List Nat} {P : List (List Nat)} (h : IRPartOK ids P) : P.length ≤ ids.length := by
  rw [← h.1.length_eq, ← List.flatMap_id]
  exact length_le_flatMap id P fun c hc => List.length_pos_iff.2 (h.2 c hc)

/-- Fuel `k` is enough at `P` when `ids.length < k + P.length`: a partition of `ids` has at most `ids.length` cells, so
where every call passes on a partition with more cells the fuel never runs out. -/
theorem IRPartOK.fuel_induction {ids : List Nat}
    {motive : ∀ (k : Nat) (P : List (List Nat)), IRPartOK ids P → ids.length < k + P.length → Prop}
    (succ : ∀ k P hP hk, (∀ Q hQ (hlt : P.length < Q.length), motive k Q hQ (by omega)) → motive (k + 1) P hP hk)
    (k : Nat) (P : List (List Nat)) (hP : IRPartOK ids P) (hk : ids.length < k + P.length) : motive k P hP hk := by
  induction k generalizing P with
  | zero =>
    have := hP.length_le
    omega
  | succ k ih => exact succ k P hP hk fun Q hQ hlt => ih Q hQ (by omega)

theorem IRPartOK.nodup {ids : List Nat} {P : List (List Nat)} (h : IRPartOK ids P) (hn : ids.Nodup) {c : List Nat}
    (hc : c ∈ P) : c.Nodup :=
  (List.nodup_flatten.1 (h.1.nodup_iff.2 hn)).1 c hc

def PartSub (ids : List Nat) (P : List (List Nat)) : Prop := ∀ c ∈ P, c ⊆ ids

theorem partSub_iff_flatten {ids : List Nat} {P : List (List Nat)} : PartSub ids P ↔ P.flatten ⊆ ids := by
  constructor
  · intro h x hx
    obtain ⟨c, hc, hxc⟩ := List.mem_flatten.1 hx
    exact h c hc hxc
  · exact fun h c hc x hx => h (List.mem_flatten.2 ⟨c, hc, hx⟩)

theorem IRPartOK.partSub {ids : List Nat} {P : List (List Nat)} (h : IRPartOK ids P) : PartSub ids P :=
  partSub_iff_flatten.2 h.1.subset

/-- `g` goes from the nodes of the primed graph to the other one.  `Perm`, not equality: cells are kept sorted
by id, which `g` need not respect. -/
def CellRel (g : Nat → Nat) (c' c : List Nat) : Prop := (c'.map g).Perm c

def PartRel (g : Nat → Nat) (P' P : List (List Nat)) : Prop := List.Forall₂ (CellRel g) P' P

theorem CellRel.length_eq {g : Nat → Nat} {c' c : List Nat} (h : CellRel g c' c) : c'.length = c.length := by
  have := List.Perm.length_eq h
  simpa using this

theorem CellRel.of_perm {g : Nat → Nat} {c' c d' d : List Nat} (h : CellRel g c' c) (hd' : d'.Perm c') (hd : d.Perm c) :
    CellRel g d' d :=
  ((hd'.map g).trans h).trans hd.symm

theorem CellRel.filter {g : Nat → Nat} {c' c : List Nat} (h : CellRel g c' c) {p' p : Nat → Bool}
    (hp : ∀ w ∈ c', p (g w) = p' w) : CellRel g (c'.filter p') (c.filter p) := by
  have := List.Perm.filter p h
  rwa [List.filter_map, List.filter_congr (p := p ∘ g) hp] at this

theorem PartRel.length_eq {g : Nat → Nat} {P' P : List (List Nat)} (h : PartRel g P' P) : P'.length = P.length :=
  List.Forall₂.length_eq h

/-- `f` does not tell the members of the cell apart: it reads the same along every arrangement of the cell
(`CellConst.map_eq`). -/
def CellConst {ι : Type} (f : Nat → ι) (c : List Nat) : Prop := ∀ x ∈ c, ∀ y ∈ c, f x = f y
def PartConst {ι : Type} (f : Nat → ι) (P : List (List Nat)) : Prop := ∀ c ∈ P, CellConst f c

theorem CellConst.map_eq {ι : Type} {f : Nat → ι} {l c : List Nat} (hc : CellConst f c) (hp : l.Perm c) :
    l.map f = c.map f := by
  cases c with
  | nil => rw [hp.eq_nil]
  | cons a c' =>
    have key : ∀ l' : List Nat, l'.Perm (a :: c') → l'.map f = List.replicate (a :: c').length (f a) := fun l' hl' =>
      List.eq_replicate_iff.2 ⟨by simpa using hl'.length_eq, fun b hb => by
        obtain ⟨x, hx, rfl⟩ := List.mem_map.1 hb
        exact hc x (hl'.subset hx) a List.mem_cons_self⟩
    rw [key l hp, key _ (List.Perm.refl _)]

theorem eq_of_mem_of_length_le_one {α : Type} {l : List α} (h : l.length ≤ 1) {a b : α} (ha : a ∈ l) (hb : b ∈ l) :
    a = b := by
  match l, h with
  | [], _ => simp at ha
  | [x], _ => rw [List.mem_singleton.1 ha, List.mem_singleton.1 hb]

theorem cellConst_of_length_le_one {ι : Type} {f : Nat → ι} {c : List Nat} (h : c.length ≤ 1) : CellConst f c :=
  fun _ hx _ hy => congrArg f (eq_of_mem_of_length_le_one h hx hy)

theorem irDedup_eq_dedup {α : Type} [DecidableEq α] (l : List α) : irDedup l = l.dedup :=
  Core.eq_dedup_of_rec rfl (fun _ _ => rfl) l

theorem mem_irDedup {α : Type} [DecidableEq α] (x : α) (l : List α) : x ∈ irDedup l ↔ x ∈ l := by
  rw [irDedup_eq_dedup]
  exact List.mem_dedup

theorem nodup_irDedup {α : Type} [DecidableEq α] (l : List α) : (irDedup l).Nodup := by
  rw [irDedup_eq_dedup]
  exact List.nodup_dedup l

theorem flatten_filter_keys {κ : Type} [DecidableEq κ] (key : Nat → κ) (c : List Nat) (ks : List κ)
    (hks : ks.Nodup) :
    (ks.map fun k => c.filter fun v => decide (key v = k)).flatten.Perm
      (c.filter fun v => decide (key v ∈ ks)) := by
  induction ks with
  | nil => simp
  | cons k ks ih =>
    rw [List.nodup_cons] at hks
    simp only [List.map_cons, List.flatten_cons]
    refine ((List.Perm.append_left _ (ih hks.2)).trans
      (filter_append_perm_or c _ _ ?_)).trans ?_
    · intro v h1 h2
      simp only [decide_eq_true_eq] at h1 h2
      exact hks.1 (h1 ▸ h2)
    · apply List.Perm.of_eq
      apply List.filter_congr
      intro v _
      simp [List.mem_cons]

theorem irSplitBy_flatten_perm {κ : Type} [DecidableEq κ] (lt : κ → κ → Bool) (key : Nat → κ) (c : List Nat) :
    (irSplitBy lt key c).flatten.Perm c := by
  unfold irSplitBy
  rw [← List.flatMap_def]
  refine (List.Perm.flatMap_left _ fun k _ => sortNat_perm (c.filter fun v => decide (key v = k))).trans ?_
  rw [List.flatMap_def]
  have hnd : (sortBy lt (irDedup (c.map key))).Nodup :=
    (sortBy_perm lt _).nodup_iff.2 (nodup_irDedup _)
  refine (flatten_filter_keys key c _ hnd).trans ?_
  apply List.Perm.of_eq
  rw [List.filter_eq_self]
  intro v hv
  simp only [decide_eq_true_eq]
  rw [mem_sortBy, mem_irDedup]
  exact List.mem_map_of_mem hv

theorem mem_irSplitBy {κ : Type} [DecidableEq κ] {lt : κ → κ → Bool} {key : Nat → κ} {c d : List Nat}
    (hd : d ∈ irSplitBy lt key c) : ∃ v ∈ c, ∀ x, x ∈ d ↔ x ∈ c ∧ key x = key v := by
  unfold irSplitBy at hd
  obtain ⟨k, hk, rfl⟩ := List.mem_map.1 hd
  rw [mem_sortBy, mem_irDedup, List.mem_map] at hk
  obtain ⟨v, hv, rfl⟩ := hk
  exact ⟨v, hv, fun x => by rw [mem_sortNat, List.mem_filter, decide_eq_true_eq]⟩

theorem irSplitBy_ne_nil {κ : Type} [DecidableEq κ] (lt : κ → κ → Bool) (key : Nat → κ) (c : List Nat) :
    ∀ d ∈ irSplitBy lt key c, d ≠ [] := by
  intro d hd
  obtain ⟨v, hv, h⟩ := mem_irSplitBy hd
  exact List.ne_nil_of_mem ((h v).2 ⟨hv, rfl⟩)

theorem irSplitBy_congr {κ : Type} [DecidableEq κ] (lt : κ → κ → Bool) {key key' : Nat → κ} {c : List Nat}
    (h : ∀ v ∈ c, key v = key' v) : irSplitBy lt key c = irSplitBy lt key' c := by
  unfold irSplitBy
  rw [List.map_congr_left h]
  apply List.map_congr_left
  intro k _
  congr 1
  apply List.filter_congr
  intro v hv
  rw [h v hv]

theorem irSplitBy_rel {κ : Type} [DecidableEq κ] (lt : κ → κ → Bool) (hlt : StrictTotal lt)
    (g : Nat → Nat) (key' key : Nat → κ) (c' c : List Nat)
    (hc : CellRel g c' c) (hk : ∀ w ∈ c', key (g w) = key' w) :
    PartRel g (irSplitBy lt key' c') (irSplitBy lt key c) := by
  unfold irSplitBy
  have hkeys : sortBy lt (irDedup (c'.map key')) = sortBy lt (irDedup (c.map key)) := by
    have e : c'.map key' = (c'.map g).map key := by
      rw [List.map_map]
      exact (List.map_congr_left hk).symm
    rw [e, irDedup_eq_dedup, irDedup_eq_dedup]
    exact sortBy_eq_of_perm_strictTotal lt hlt _ _ (hc.map key).dedup
  rw [hkeys]
  exact forall₂_map_same _ _ _ fun k _ =>
    (hc.filter fun w hw => by simp only [hk w hw]).of_perm (sortNat_perm _) (sortNat_perm _)

theorem irSplitBy_const {κ : Type} [DecidableEq κ] (lt : κ → κ → Bool) (key : Nat → κ) (c : List Nat) :
    PartConst key (irSplitBy lt key c) := by
  intro d hd x hx y hy
  obtain ⟨_, _, h⟩ := mem_irSplitBy hd
  exact ((h x).1 hx).2.trans ((h y).1 hy).2.symm

theorem cellConst_of_irSplitBy_length {κ : Type} [DecidableEq κ] (lt : κ → κ → Bool) (key : Nat → κ) (c : List Nat)
    (h : (irSplitBy lt key c).length ≤ 1) : CellConst key c := by
  intro x hx y hy
  have hl : (irDedup (c.map key)).length ≤ 1 := by
    have : (irSplitBy lt key c).length = (irDedup (c.map key)).length := by
      unfold irSplitBy
      rw [List.length_map, (sortBy_perm lt _).length_eq]
    omega
  exact eq_of_mem_of_length_le_one hl ((mem_irDedup _ _).2 (List.mem_map_of_mem hx))
    ((mem_irDedup _ _).2 (List.mem_map_of_mem hy))

theorem cellRel_contains {g : Nat → Nat} {ids : List Nat} (hinj : ∀ a ∈ ids, ∀ b ∈ ids, g a = g b → a = b)
    {c' c : List Nat} (hsub : c' ⊆ ids) (hc : CellRel g c' c) {w : Nat} (hw : w ∈ ids) :
    c.contains (g w) = c'.contains w := by
  rw [Bool.eq_iff_iff, List.contains_iff_mem, List.contains_iff_mem, ← hc.mem_iff, List.mem_map]
  constructor
  · rintro ⟨w', hw', e⟩
    rw [← hinj w' (hsub hw') w hw e]
    exact hw'
  · intro h
    exact ⟨w, h, rfl⟩

/-- The `counts` component of a node signature (neighbours in each cell) under a map that carries the neighbours `nb'`
onto `nb`. -/
theorem counts_rel {g : Nat → Nat} {ids : List Nat} (hinj : ∀ a ∈ ids, ∀ b ∈ ids, g a = g b → a = b)
    {P' P : List (List Nat)} (hP : PartRel g P' P) (hsub : ∀ c ∈ P', c ⊆ ids) {nb' nb : List Nat}
    (hN : (nb'.map g).Perm nb) (hs : nb' ⊆ ids) :
    (P.map fun cell => (nb.filter fun w => cell.contains w).length) =
      P'.map fun cell => (nb'.filter fun w => cell.contains w).length := by
  symm
  apply Core.forall₂_map_eq (forall₂_and_left_mem hP hsub)
  intro c' c ⟨hc's, hc⟩
  exact (CellRel.filter hN fun w hw => cellRel_contains hinj hc's hc (hs hw)).length_eq

theorem irTargetCell_some {P pre post : List (List Nat)} {c : List Nat} (h : irTargetCell P = some (pre, c, post)) :
    P = pre ++ c :: post ∧ 1 < c.length := by
  induction P generalizing pre with
  | nil => simp [irTargetCell] at h
  | cons d rest ih =>
    simp only [irTargetCell] at h
    split at h
    · rename_i hd
      simp only [Option.some.injEq, Prod.mk.injEq] at h
      obtain ⟨rfl, rfl, rfl⟩ := h
      exact ⟨rfl, hd⟩
    · rw [Option.map_eq_some_iff] at h
      obtain ⟨⟨pre', c', post'⟩, hr, he⟩ := h
      simp only [Prod.mk.injEq] at he
      obtain ⟨rfl, rfl, rfl⟩ := he
      obtain ⟨h1, h2⟩ := ih hr
      exact ⟨by rw [h1]; rfl, h2⟩

theorem irTargetCell_none {P : List (List Nat)} (h : irTargetCell P = none) : ∀ c ∈ P, c.length ≤ 1 := by
  induction P with
  | nil => intro c hc; exact absurd hc List.not_mem_nil
  | cons d rest ih =>
    simp only [irTargetCell] at h
    split at h
    · exact absurd h (by simp)
    · rename_i hd
      rw [Option.map_eq_none_iff] at h
      intro c hc
      rcases List.mem_cons.1 hc with rfl | hc
      · omega
      · exact ih h c hc

theorem irIsDiscrete_of_targetCell_none {ids : List Nat} {P : List (List Nat)} (hok : IRPartOK ids P)
    (h : irTargetCell P = none) : irIsDiscrete P = true := by
  unfold irIsDiscrete
  rw [List.all_eq_true]
  intro c hc
  have h1 := irTargetCell_none h c hc
  have h2 : c.length ≠ 0 := fun h0 => hok.2 c hc (List.length_eq_zero_iff.1 h0)
  simp only [beq_iff_eq]
  omega

theorem cons_filter_ne_perm {c : List Nat} (hn : c.Nodup) {v : Nat} (hv : v ∈ c) :
    (v :: c.filter fun w => decide (w ≠ v)).Perm c := by
  have e : (c.filter fun w => decide (w ≠ v)) = c.erase v := by
    rw [hn.erase_eq_filter]
    exact List.filter_congr fun w _ => by simp [bne, beq_eq_decide]
  rw [e]
  exact (List.perm_cons_erase hv).symm

theorem irIndividualise_flatten (pre post : List (List Nat)) (c : List Nat) (v : Nat) :
    (irIndividualise pre c post v).flatten =
      pre.flatten ++ (v :: sortNat (c.filter fun w => decide (w ≠ v))) ++ post.flatten := by
  unfold irIndividualise
  simp only
  split
  · rename_i he
    rw [List.isEmpty_iff.1 he]
    simp [sortNat, sortBy]
  · simp

theorem mem_irIndividualise {pre post : List (List Nat)} {c d : List Nat} {v : Nat} (hv : v ∈ c)
    (hd : d ∈ irIndividualise pre c post v) : d ∈ pre ++ c :: post ∨ (d ≠ [] ∧ d ⊆ c) := by
  unfold irIndividualise at hd
  simp only [List.append_assoc, List.mem_append, List.mem_singleton] at hd
  rcases hd with hd | hd | hd | hd
  · exact Or.inl (by simp [hd])
  · exact Or.inr (hd ▸ ⟨by simp, fun x hx => List.mem_singleton.1 hx ▸ hv⟩)
  · split at hd
    · simp at hd
    · rename_i hne
      rw [List.mem_singleton.1 hd]
      refine Or.inr ⟨fun he => hne (List.isEmpty_iff.2 (List.length_eq_zero_iff.1 ?_)), fun x hx =>
        (List.mem_filter.1 ((mem_sortNat _ _).1 hx)).1⟩
      rw [← sortNat_length, he]
      rfl
  · exact Or.inl (by simp [hd])

theorem irIndividualise_ok {ids : List Nat} (hn : ids.Nodup) {pre post : List (List Nat)} {c : List Nat} {v : Nat}
    (hok : IRPartOK ids (pre ++ c :: post)) (hv : v ∈ c) (hc : 1 < c.length) :
    IRPartOK ids (irIndividualise pre c post v) ∧
    (irIndividualise pre c post v).length = (pre ++ c :: post).length + 1 := by
  have hp := cons_filter_ne_perm (hok.nodup hn (c := c) (by simp)) hv
  refine ⟨⟨?_, fun d hd => (mem_irIndividualise hv hd).elim (hok.2 d) fun h => h.1⟩, ?_⟩
  · rw [irIndividualise_flatten]
    refine List.Perm.trans ?_ hok.1
    simp only [List.flatten_append, List.flatten_cons, List.append_assoc]
    exact ((((sortNat_perm _).cons v).trans hp).append_right _).append_left _
  · have hlen : (c.filter fun w => decide (w ≠ v)).length + 1 = c.length := by simpa using hp.length_eq
    have hemp : (c.filter fun w => decide (w ≠ v)).isEmpty = false := by
      cases h : c.filter fun w => decide (w ≠ v) with
      | nil => rw [h] at hlen; simp at hlen; omega
      | cons _ _ => rfl
    unfold irIndividualise
    simp only [hemp, Bool.false_eq_true, if_false, List.length_append, List.length_cons, List.length_nil]
    omega

theorem irIndividualise_sub {ids : List Nat} {pre post : List (List Nat)} {c : List Nat} {v : Nat}
    (hs : PartSub ids (pre ++ c :: post)) (hv : v ∈ c) : PartSub ids (irIndividualise pre c post v) :=
  fun d hd => (mem_irIndividualise hv hd).elim (hs d) fun h => h.2.trans (hs c (by simp))

/-- An individualisation moves one node to the front of its cell: a function that is constant on each cell reads the
same along the flattened partition before and after. -/
theorem irIndividualise_const {ι : Type} {f : Nat → ι} {pre post : List (List Nat)} {c : List Nat} {v : Nat}
    (h : PartConst f (pre ++ c :: post)) (hcn : c.Nodup) (hv : v ∈ c) :
    PartConst f (irIndividualise pre c post v) ∧
    (irIndividualise pre c post v).flatten.map f = (pre ++ c :: post).flatten.map f := by
  have hc : CellConst f c := h c (by simp)
  refine ⟨fun d hd => (mem_irIndividualise hv hd).elim (h d) fun hs x hx y hy => hc x (hs.2 hx) y (hs.2 hy), ?_⟩
  rw [irIndividualise_flatten]
  simp only [List.flatten_append, List.flatten_cons, List.map_append]
  rw [hc.map_eq (((sortNat_perm _).cons v).trans (cons_filter_ne_perm hcn hv))]
  simp

section rel
variable {g : Nat → Nat}

theorem irIsDiscrete_rel {P' P : List (List Nat)} (hP : PartRel g P' P) : irIsDiscrete P' = irIsDiscrete P := by
  unfold irIsDiscrete
  induction hP with
  | nil => rfl
  | cons hab _ ih => simp only [List.all_cons, hab.length_eq, ih]

theorem flatten_rel_of_discrete {P' P : List (List Nat)} (hP : PartRel g P' P) (hd : irIsDiscrete P' = true) :
    P'.flatten.map g = P.flatten := by
  rw [List.map_flatten]
  congr 1
  refine (Core.forall₂_map_eq (forall₂_and_left_mem hP (List.all_eq_true.1 hd)) fun c' c ⟨h1, hc⟩ => ?_).trans
    (List.map_id P)
  obtain ⟨x, rfl⟩ := List.length_eq_one_iff.1 (beq_iff_eq.1 h1)
  exact List.singleton_perm.1 hc

theorem irTargetCell_rel {P' P : List (List Nat)} (hP : PartRel g P' P) :
    Option.Rel (fun t' t => PartRel g t'.1 t.1 ∧ CellRel g t'.2.1 t.2.1 ∧ PartRel g t'.2.2 t.2.2)
      (irTargetCell P') (irTargetCell P) := by
  induction hP with
  | nil => exact Option.Rel.none
  | @cons _ _ l' l hab hrest ih =>
    simp only [irTargetCell, hab.length_eq]
    split
    · exact Option.Rel.some ⟨List.Forall₂.nil, hab, hrest⟩
    · exact match irTargetCell l', irTargetCell l, ih with
        | _, _, .none => Option.Rel.none
        | _, _, .some h => Option.Rel.some ⟨List.Forall₂.cons hab h.1, h.2⟩

theorem irIndividualise_rel {ids : List Nat} (hinj : ∀ a ∈ ids, ∀ b ∈ ids, g a = g b → a = b)
    {pre' pre post' post : List (List Nat)} {c' c : List Nat}
    (hpre : PartRel g pre' pre) (hc : CellRel g c' c) (hpost : PartRel g post' post)
    (hs : c' ⊆ ids) {v' : Nat} (hv : v' ∈ c') :
    PartRel g (irIndividualise pre' c' post' v') (irIndividualise pre c post (g v')) := by
  have hrest : CellRel g (c'.filter fun w => decide (w ≠ v')) (c.filter fun w => decide (w ≠ g v')) :=
    hc.filter fun w hw => decide_eq_decide.2 (not_congr ⟨hinj w (hs hw) v' (hs hv), congrArg g⟩)
  unfold irIndividualise
  simp only
  rw [Core.isEmpty_of_length_eq hrest.length_eq]
  refine List.rel_append (List.rel_append (List.rel_append hpre ?_) ?_) hpost
  · exact List.Forall₂.cons (List.Perm.refl _) List.Forall₂.nil
  · split
    · exact List.Forall₂.nil
    · exact List.Forall₂.cons (hrest.of_perm (sortNat_perm _) (sortNat_perm _)) List.Forall₂.nil

end rel

def refineLoop (step : List (List Nat) → List (List Nat)) : Nat → List (List Nat) → List (List Nat)
  | 0, P => P
  | k + 1, P => if (step P).length = P.length then step P else refineLoop step k (step P)

theorem refineLoop_succ (step : List (List Nat) → List (List Nat)) (k : Nat) (P : List (List Nat)) :
    refineLoop step (k + 1) P = if (step P).length = P.length then step P else refineLoop step k (step P) := rfl

/-- The relation has to fix the number of cells because the loop's stop test compares lengths. -/
theorem refineLoop_rel {step' step : List (List Nat) → List (List Nat)} {R : List (List Nat) → List (List Nat) → Prop}
    (hlen : ∀ P' P, R P' P → P'.length = P.length) (hstep : ∀ P' P, R P' P → R (step' P') (step P))
    (k : Nat) {P' P : List (List Nat)} (h : R P' P) : R (refineLoop step' k P') (refineLoop step k P) := by
  induction k generalizing P' P with
  | zero => exact h
  | succ k ih =>
    simp only [refineLoop, hlen _ _ (hstep _ _ h), hlen _ _ h]
    split
    · exact hstep _ _ h
    · exact ih (hstep _ _ h)

theorem refineLoop_inv {step : List (List Nat) → List (List Nat)} {I : List (List Nat) → Prop}
    (hstep : ∀ P, I P → I (step P)) (k : Nat) {P : List (List Nat)} (h : I P) : I (refineLoop step k P) :=
  (refineLoop_rel (R := fun P' P => P' = P ∧ I P) (fun _ _ hR => congrArg _ hR.1)
    (fun _ P hR => ⟨congrArg step hR.1, hstep P hR.2⟩) k ⟨rfl, h⟩).2

/-- Both models start `_refine` and the root call with fuel `N + 1`: more than the number of cells a partition of the
node list can have, which is what the fuel hypotheses above and at the tree ask. -/
theorem irFuel_lt (G : LGraph) (n : Nat) : G.ids.length < G.nodes.length + 1 + n := by
  rw [LGraph.ids, List.length_map]
  omega

/-- What distinguishes one refinement search from another: the node signature w.r.t. a partition and its order, what a
pass writes for a cell it does not split, the order in which the members of the target cell are tried, and the
number of passes of `_refine` the model runs. -/
structure IRSys (κ : Type) where
  lt : κ → κ → Bool
  sig : List (List Nat) → Nat → κ
  fb : List Nat → List Nat
  children : List Nat → List Nat
  passes : Nat

namespace IRSys
variable {κ : Type} [DecidableEq κ]

def cell (S : IRSys κ) (P : List (List Nat)) (c : List Nat) : List (List Nat) :=
  if c.length ≤ 1 then [c]
  else if (irSplitBy S.lt (S.sig P) c).length > 1 then irSplitBy S.lt (S.sig P) c else [S.fb c]

def step (S : IRSys κ) (P : List (List Nat)) : List (List Nat) := P.flatMap (S.cell P)

def refine (S : IRSys κ) : List (List Nat) → List (List Nat) := refineLoop S.step S.passes

structure Lawful (S : IRSys κ) : Prop where
  fb_perm : ∀ c, (S.fb c).Perm c
  mem_children : ∀ c v, v ∈ S.children c ↔ v ∈ c

theorem cell_cases (S : IRSys κ) (P : List (List Nat)) (c : List Nat) :
    (c.length ≤ 1 ∧ S.cell P c = [c]) ∨ (S.cell P c = irSplitBy S.lt (S.sig P) c ∧ 1 < (S.cell P c).length) ∨
      ((irSplitBy S.lt (S.sig P) c).length ≤ 1 ∧ S.cell P c = [S.fb c]) := by
  unfold cell
  split
  · rename_i h; exact Or.inl ⟨h, rfl⟩
  · split
    · rename_i h; exact Or.inr (Or.inl ⟨rfl, h⟩)
    · rename_i h; exact Or.inr (Or.inr ⟨Nat.le_of_not_gt h, rfl⟩)

section one
variable {S : IRSys κ} (hS : S.Lawful)
include hS

theorem cell_flatten_perm (P : List (List Nat)) (c : List Nat) : (S.cell P c).flatten.Perm c := by
  rcases S.cell_cases P c with ⟨_, e⟩ | ⟨e, _⟩ | ⟨_, e⟩ <;> rw [e]
  · simp
  · exact irSplitBy_flatten_perm _ _ _
  · simpa using hS.fb_perm c

theorem cell_ne_nil (P : List (List Nat)) (c : List Nat) (hc : c ≠ []) : ∀ d ∈ S.cell P c, d ≠ [] := by
  rcases S.cell_cases P c with ⟨_, e⟩ | ⟨e, _⟩ | ⟨_, e⟩ <;> rw [e]
  · intro d hd; rw [List.mem_singleton.1 hd]; exact hc
  · exact irSplitBy_ne_nil _ _ _
  · intro d hd he
    rw [List.mem_singleton.1 hd] at he
    exact hc (he ▸ (hS.fb_perm c).symm).eq_nil

omit hS in
theorem cell_length_pos (S : IRSys κ) (P : List (List Nat)) (c : List Nat) : 1 ≤ (S.cell P c).length := by
  rcases S.cell_cases P c with ⟨_, e⟩ | ⟨_, h⟩ | ⟨_, e⟩
  · rw [e]; simp
  · omega
  · rw [e]; simp

theorem step_flatten_perm (P : List (List Nat)) : (S.step P).flatten.Perm P.flatten :=
  flatMap_flatten_perm _ P fun c _ => cell_flatten_perm hS P c

theorem step_ok (ids : List Nat) (P : List (List Nat)) (h : IRPartOK ids P) : IRPartOK ids (S.step P) := by
  refine ⟨(step_flatten_perm hS P).trans h.1, ?_⟩
  intro d hd
  obtain ⟨c, hc, hd⟩ := List.mem_flatMap.1 hd
  exact cell_ne_nil hS P c (h.2 c hc) d hd

omit hS in
theorem step_length_le (S : IRSys κ) (P : List (List Nat)) : P.length ≤ (S.step P).length :=
  length_le_flatMap _ P fun c _ => S.cell_length_pos P c

theorem step_sub (ids : List Nat) (P : List (List Nat)) (hs : PartSub ids P) : PartSub ids (S.step P) :=
  partSub_iff_flatten.2 fun _ hx => partSub_iff_flatten.1 hs ((step_flatten_perm hS P).subset hx)

/-- With enough fuel the last pass of the loop split nothing (`changed` is `False`): the loop did not
stop because the fuel ran out. -/
theorem refineLoop_last_pass {ids : List Nat} (k : Nat) (P : List (List Nat)) (hP : IRPartOK ids P)
    (hk : ids.length < k + P.length) :
    ∃ Q, IRPartOK ids Q ∧ refineLoop S.step k P = S.step Q ∧ (S.step Q).length = Q.length := by
  induction k, P, hP, hk using IRPartOK.fuel_induction with
  | succ k P hP _ ih =>
    simp only [refineLoop]
    split
    · rename_i h
      exact ⟨P, hP, rfl, h⟩
    · rename_i h
      exact ih _ (step_ok hS ids P hP) (Nat.lt_of_le_of_ne (S.step_length_le P) (Ne.symm h))

theorem refineLoop_fuel_add {ids : List Nat} (k : Nat) (P : List (List Nat)) (hP : IRPartOK ids P)
    (hk : ids.length < k + P.length) (d : Nat) : refineLoop S.step (k + d) P = refineLoop S.step k P := by
  induction k, P, hP, hk using IRPartOK.fuel_induction with
  | succ k P hP _ ih =>
    rw [Nat.add_right_comm, refineLoop_succ S.step (k + d) P, refineLoop_succ S.step k P]
    split
    · rfl
    · rename_i h
      exact ih _ (step_ok hS ids P hP) (Nat.lt_of_le_of_ne (S.step_length_le P) (Ne.symm h))

theorem refine_ok (ids : List Nat) (P : List (List Nat)) (h : IRPartOK ids P) : IRPartOK ids (S.refine P) :=
  refineLoop_inv (step_ok hS ids) _ h

omit hS in
theorem refine_length_le (S : IRSys κ) (P : List (List Nat)) : P.length ≤ (S.refine P).length :=
  refineLoop_inv (I := fun Q => P.length ≤ Q.length) (fun Q h => Nat.le_trans h (S.step_length_le Q)) _ (Nat.le_refl _)

theorem refine_sub (ids : List Nat) (P : List (List Nat)) (hs : PartSub ids P) : PartSub ids (S.refine P) :=
  refineLoop_inv (step_sub hS ids) _ hs

end one

/-- `g` carries the signatures of `S'` (on nodes `ids'`) to those of `S`. -/
structure Hom (S' S : IRSys κ) (g : Nat → Nat) (ids' : List Nat) : Prop where
  inj : ∀ a ∈ ids', ∀ b ∈ ids', g a = g b → a = b
  lt_eq : S'.lt = S.lt
  total : StrictTotal S.lt
  passes_eq : S'.passes = S.passes
  sig : ∀ {P' P}, PartRel g P' P → PartSub ids' P' → ∀ p ∈ ids', S.sig P (g p) = S'.sig P' p

section two
variable {S' S : IRSys κ} {g : Nat → Nat} {ids' : List Nat} (hS' : S'.Lawful) (hS : S.Lawful) (h : Hom S' S g ids')
include hS' hS h

theorem cell_rel {P' P : List (List Nat)} (hP : PartRel g P' P) (hsub : PartSub ids' P') {c' c : List Nat}
    (hs : c' ⊆ ids') (hc : CellRel g c' c) : PartRel g (S'.cell P' c') (S.cell P c) := by
  have hparts : PartRel g (irSplitBy S'.lt (S'.sig P') c') (irSplitBy S.lt (S.sig P) c) := by
    rw [h.lt_eq]
    exact irSplitBy_rel S.lt h.total g _ _ c' c hc fun w hw => h.sig hP hsub w (hs hw)
  unfold cell
  rw [hc.length_eq, hparts.length_eq]
  split
  · exact List.Forall₂.cons hc List.Forall₂.nil
  · split
    · exact hparts
    · exact List.Forall₂.cons (hc.of_perm (hS'.fb_perm c') (hS.fb_perm c)) List.Forall₂.nil

theorem step_rel {P' P : List (List Nat)} (hP : PartRel g P' P) (hsub : PartSub ids' P') :
    PartRel g (S'.step P') (S.step P) :=
  List.rel_flatMap (forall₂_and_left_mem hP hsub) fun _ _ ⟨hs, hc⟩ => cell_rel hS' hS h hP hsub hs hc

theorem refine_rel {P' P : List (List Nat)} (hP : PartRel g P' P) (hsub : PartSub ids' P') :
    PartRel g (S'.refine P') (S.refine P) := by
  unfold refine
  rw [h.passes_eq]
  exact (refineLoop_rel (R := fun P' P => PartRel g P' P ∧ PartSub ids' P') (fun _ _ hR => hR.1.length_eq)
    (fun _ _ hR => ⟨step_rel hS' hS h hR.1 hR.2, step_sub hS' ids' _ hR.2⟩) _ ⟨hP, hsub⟩).1

end two

section same
variable {S : IRSys κ} {ids : List Nat} {sig' : List (List Nat) → Nat → κ}

theorem step_congr (h : ∀ P, ∀ v ∈ ids, S.sig P v = sig' P v) {P : List (List Nat)} (hs : PartSub ids P) :
    S.step P = { S with sig := sig' }.step P := by
  unfold step
  apply List.flatMap_congr
  intro c hc
  unfold cell
  rw [irSplitBy_congr S.lt fun v hv => h P v (hs c hc hv)]

theorem refine_congr (hS : S.Lawful) (h : ∀ P, ∀ v ∈ ids, S.sig P v = sig' P v) {P : List (List Nat)}
    (hs : PartSub ids P) : S.refine P = { S with sig := sig' }.refine P :=
  (refineLoop_rel (R := fun P' P => P' = P ∧ PartSub ids P') (fun _ _ hR => hR.1 ▸ rfl)
    (fun P' P hR => ⟨by rw [← hR.1]; exact step_congr h hR.2, step_sub hS ids _ hR.2⟩) S.passes ⟨rfl, hs⟩).1

end same

section inplace
/-! Whatever can be read off the signature (`hf`) is constant on the cells of a refined partition, and reads the same,
position by position, along the orders of all leaves below a node. -/
variable {ι : Type} {S : IRSys κ} (hS : S.Lawful) {f : Nat → ι} (hf : ∀ P v w, S.sig P v = S.sig P w → f v = f w)
include hS hf

theorem cell_const (P : List (List Nat)) (c : List Nat) : PartConst f (S.cell P c) := by
  have hsig : ∀ d, CellConst (S.sig P) d → CellConst f d := fun d h x hx y hy => hf P x y (h x hx y hy)
  intro d hd
  rcases S.cell_cases P c with ⟨hc, e⟩ | ⟨e, _⟩ | ⟨hl, e⟩ <;> rw [e] at hd
  · rw [List.mem_singleton.1 hd]
    exact cellConst_of_length_le_one hc
  · exact hsig d (irSplitBy_const _ _ _ d hd)
  · rw [List.mem_singleton.1 hd]
    exact fun x hx y hy => hsig c (cellConst_of_irSplitBy_length S.lt (S.sig P) c hl)
      x ((hS.fb_perm c).subset hx) y ((hS.fb_perm c).subset hy)

theorem step_const (P : List (List Nat)) : PartConst f (S.step P) := by
  intro d hd
  obtain ⟨c, _, hdc⟩ := List.mem_flatMap.1 hd
  exact cell_const hS hf P c d hdc

omit hf in
theorem step_map (Q : List (List Nat)) (l : List (List Nat)) (h : PartConst f l) :
    (l.flatMap (S.cell Q)).flatten.map f = l.flatten.map f := by
  induction l with
  | nil => rfl
  | cons c l ih =>
    simp only [List.flatMap_cons, List.flatten_append, List.flatten_cons, List.map_append]
    rw [ih fun d hd => h d (List.mem_cons_of_mem _ hd),
      (h c List.mem_cons_self).map_eq (cell_flatten_perm hS Q c)]

theorem refine_map (P : List (List Nat)) (h : PartConst f P) : (S.refine P).flatten.map f = P.flatten.map f :=
  (refineLoop_inv (I := fun Q => PartConst f Q ∧ Q.flatten.map f = P.flatten.map f)
    (fun Q hQ => ⟨step_const hS hf Q, (step_map hS Q Q hQ.1).trans hQ.2⟩) S.passes ⟨h, rfl⟩).2

/-- Whatever partition it is given: `_refine` makes at least one pass. -/
theorem refine_const (hp : 0 < S.passes) (P : List (List Nat)) : PartConst f (S.refine P) := by
  obtain ⟨k, hk⟩ := Nat.exists_eq_succ_of_ne_zero (Nat.pos_iff_ne_zero.1 hp)
  rw [refine, hk, refineLoop_succ]
  split
  · exact step_const hS hf P
  · exact (refineLoop_inv (I := PartConst f) (fun Q _ => step_const hS hf Q) k (step_const hS hf P))

end inplace

/-- The leaves `(prefix, order)` of the search tree in the order the search visits them when nothing is pruned. -/
def leaves (S : IRSys κ) : Nat → List (List Nat) → List Nat → List (List Nat × List Nat)
  | 0, _, _ => []
  | fuel + 1, P, pfx =>
    if irIsDiscrete (S.refine P) then [(pfx, (S.refine P).flatten)]
    else
      match irTargetCell (S.refine P) with
      | none => []
      | some (pre, c, post) =>
        (S.children c).flatMap fun v => S.leaves fuel (irIndividualise pre c post v) (pfx ++ [v])

theorem leaves_succ (S : IRSys κ) (fuel : Nat) (P : List (List Nat)) (pfx : List Nat) :
    S.leaves (fuel + 1) P pfx =
      if irIsDiscrete (S.refine P) then [(pfx, (S.refine P).flatten)]
      else
        match irTargetCell (S.refine P) with
        | none => []
        | some (pre, c, post) =>
          (S.children c).flatMap fun v => S.leaves fuel (irIndividualise pre c post v) (pfx ++ [v]) := rfl

theorem leaves_induction (S : IRSys κ) {motive : Nat → List (List Nat) → List Nat → List Nat × List Nat → Prop}
    (leaf : ∀ fuel P pfx, irIsDiscrete (S.refine P) = true → motive (fuel + 1) P pfx (pfx, (S.refine P).flatten))
    (node : ∀ fuel P pfx pre c post v l, irTargetCell (S.refine P) = some (pre, c, post) → v ∈ S.children c →
      motive fuel (irIndividualise pre c post v) (pfx ++ [v]) l → motive (fuel + 1) P pfx l)
    (fuel : Nat) (P : List (List Nat)) (pfx : List Nat) : ∀ l ∈ S.leaves fuel P pfx, motive fuel P pfx l := by
  induction fuel generalizing P pfx with
  | zero => intro l hl; simp [leaves] at hl
  | succ fuel ih =>
    intro l hl
    rw [leaves_succ] at hl
    split at hl
    · rename_i hd
      rw [List.mem_singleton.1 hl]
      exact leaf fuel P pfx hd
    · split at hl
      · exact absurd hl List.not_mem_nil
      · rename_i pre c post ht
        obtain ⟨v, hv, hl⟩ := List.mem_flatMap.1 hl
        exact node fuel P pfx pre c post v l ht hv (ih _ _ l hl)

theorem leaves_prefix (S : IRSys κ) (fuel : Nat) (P : List (List Nat)) (pfx : List Nat) :
    ∀ l ∈ S.leaves fuel P pfx, pfx <+: l.1 :=
  S.leaves_induction (motive := fun _ _ pfx l => pfx <+: l.1) (fun _ _ _ _ => List.prefix_refl _)
    (fun _ _ pfx _ _ _ v _ _ _ ih => (List.prefix_append pfx [v]).trans ih) fuel P pfx

/-- Every call consumes one unit of fuel, so a leaf lies less than `fuel` levels below the node. -/
theorem leaves_depth_lt (S : IRSys κ) (fuel : Nat) (P : List (List Nat)) (pfx : List Nat) :
    ∀ l ∈ S.leaves fuel P pfx, l.1.length + 1 ≤ pfx.length + fuel := by
  refine S.leaves_induction (motive := fun fuel _ pfx l => l.1.length + 1 ≤ pfx.length + fuel) ?_ ?_ fuel P pfx
  · intro fuel P pfx _
    show pfx.length + 1 ≤ pfx.length + (fuel + 1)
    omega
  · intro fuel P pfx pre c post v l _ _ ih
    simp only [List.length_append, List.length_cons, List.length_nil] at ih
    show l.1.length + 1 ≤ pfx.length + (fuel + 1)
    omega

section tree
variable {S : IRSys κ} (hS : S.Lawful) {ids : List Nat}
include hS

theorem leaves_sub (fuel : Nat) (P : List (List Nat)) (pfx : List Nat) (hsub : PartSub ids P) (hp : pfx ⊆ ids) :
    ∀ l ∈ S.leaves fuel P pfx, l.1 ⊆ ids ∧ l.2 ⊆ ids := by
  intro l hl
  refine S.leaves_induction (motive := fun _ P pfx l => PartSub ids P → pfx ⊆ ids → l.1 ⊆ ids ∧ l.2 ⊆ ids) ?_ ?_
    fuel P pfx l hl hsub hp
  · intro _ P pfx _ hsub hp
    exact ⟨hp, partSub_iff_flatten.1 (refine_sub hS ids P hsub)⟩
  · intro _ P pfx pre c post v l ht hv ih hsub hp
    have hR := refine_sub hS ids P hsub
    rw [(irTargetCell_some ht).1] at hR
    have hv' := (hS.mem_children c v).1 hv
    exact ih (irIndividualise_sub hR hv')
      (List.append_subset.2 ⟨hp, List.cons_subset.2 ⟨hR c (by simp) hv', List.nil_subset _⟩⟩)

variable (hn : ids.Nodup)
include hn

theorem child_ok {P pre post : List (List Nat)} {c : List Nat} {v : Nat} (hok : IRPartOK ids P)
    (ht : irTargetCell (S.refine P) = some (pre, c, post)) (hv : v ∈ S.children c) :
    IRPartOK ids (irIndividualise pre c post v) ∧ P.length < (irIndividualise pre c post v).length := by
  obtain ⟨hP, hc⟩ := irTargetCell_some ht
  have hr := refine_ok hS ids P hok
  have hlen := S.refine_length_le P
  rw [hP] at hr hlen
  obtain ⟨hok', hlen'⟩ := irIndividualise_ok hn hr ((hS.mem_children c v).1 hv) hc
  exact ⟨hok', by omega⟩

theorem leaves_order_perm (fuel : Nat) (P : List (List Nat)) (pfx : List Nat) (hok : IRPartOK ids P) :
    ∀ l ∈ S.leaves fuel P pfx, l.2.Perm ids := fun l hl =>
  S.leaves_induction (motive := fun _ P _ l => IRPartOK ids P → l.2.Perm ids)
    (fun _ P _ _ hok => (refine_ok hS ids P hok).1)
    (fun _ _ _ _ _ _ _ _ ht hv ih hok => ih (child_ok hS hn hok ht hv).1)
    fuel P pfx l hl hok

theorem leaves_ne_nil (fuel : Nat) (P : List (List Nat)) (pfx : List Nat) (hok : IRPartOK ids P)
    (hf : ids.length < fuel + P.length) : S.leaves fuel P pfx ≠ [] := by
  induction fuel, P, hok, hf using IRPartOK.fuel_induction generalizing pfx with
  | succ fuel P hok _ ih =>
    rw [leaves_succ]
    split
    · simp
    · rename_i hdisc
      split
      · rename_i ht
        exact absurd (irIsDiscrete_of_targetCell_none (refine_ok hS ids P hok) ht) hdisc
      · rename_i pre c post ht
        obtain ⟨v, hv⟩ := List.exists_mem_of_length_pos (Nat.lt_trans Nat.zero_lt_one (irTargetCell_some ht).2)
        rw [← hS.mem_children] at hv
        obtain ⟨hok', hlen'⟩ := child_ok hS hn hok ht hv
        obtain ⟨l, hl⟩ := List.exists_mem_of_ne_nil _ (ih _ hok' hlen' (pfx ++ [v]))
        exact List.ne_nil_of_mem (List.mem_flatMap.2 ⟨v, hv, hl⟩)

theorem leaves_fuel_add (fuel : Nat) (P : List (List Nat)) (pfx : List Nat)
    (hok : IRPartOK ids P) (hf : ids.length < fuel + P.length) (d : Nat) :
    S.leaves (fuel + d) P pfx = S.leaves fuel P pfx := by
  induction fuel, P, hok, hf using IRPartOK.fuel_induction generalizing pfx with
  | succ fuel P hok _ ih =>
    rw [Nat.add_right_comm, leaves_succ S (fuel + d) P pfx, leaves_succ S fuel P pfx]
    split
    · rfl
    · cases ht : irTargetCell (S.refine P) with
      | none => rfl
      | some t =>
        obtain ⟨pre, c, post⟩ := t
        apply List.flatMap_congr
        intro v hv
        obtain ⟨hok', hlen'⟩ := child_ok hS hn hok ht hv
        exact ih _ hok' hlen' _

end tree

/-- The leaves of `S` are the images of the leaves of `S'`.  They correspond as sets only: `g` does not preserve the
order in which the children are tried, and the minimum label does not depend on it. -/
theorem leaves_rel {S' S : IRSys κ} {g : Nat → Nat} {ids' : List Nat} (hS' : S'.Lawful) (hS : S.Lawful)
    (h : Hom S' S g ids') (fuel : Nat) {P' P : List (List Nat)} (hP : PartRel g P' P) (hsub : PartSub ids' P')
    (pfx' : List Nat) :
    ∀ l, l ∈ S.leaves fuel P (pfx'.map g) ↔ ∃ l' ∈ S'.leaves fuel P' pfx', l = (l'.1.map g, l'.2.map g) := by
  induction fuel generalizing P' P pfx' with
  | zero => intro l; simp [leaves]
  | succ fuel ih =>
    intro l
    have hR' := refine_rel hS' hS h hP hsub
    have hRs' := refine_sub hS' ids' P' hsub
    rw [leaves_succ, leaves_succ, ← irIsDiscrete_rel hR']
    split
    · rename_i hd
      rw [← flatten_rel_of_discrete hR' hd]
      simp
    · have hT := irTargetCell_rel hR'
      generalize irTargetCell (S.refine P) = t at hT ⊢
      cases ht : irTargetCell (S'.refine P') with
      | none =>
        rw [ht] at hT
        cases hT
        simp
      | some r =>
        rw [ht] at hT
        obtain ⟨pre', c', post'⟩ := r
        obtain @⟨_, ⟨pre, c, post⟩, hpre, hcr, hpost⟩ := hT
        simp only [List.mem_flatMap, hS'.mem_children, hS.mem_children]
        rw [(irTargetCell_some ht).1] at hRs'
        have hcs : c' ⊆ ids' := hRs' c' (by simp)
        have hchild : ∀ v' ∈ c', ∀ l,
            l ∈ S.leaves fuel (irIndividualise pre c post (g v')) (pfx'.map g ++ [g v']) ↔
              ∃ l' ∈ S'.leaves fuel (irIndividualise pre' c' post' v') (pfx' ++ [v']), l = (l'.1.map g, l'.2.map g) :=
          fun v' hv' => by
            have := ih (irIndividualise_rel h.inj hpre hcr hpost hcs hv') (irIndividualise_sub hRs' hv') (pfx' ++ [v'])
            rwa [List.map_append] at this
        constructor
        · rintro ⟨v, hv, hl⟩
          obtain ⟨v', hv', rfl⟩ := List.mem_map.1 (hcr.mem_iff.2 hv)
          obtain ⟨l', hl', rfl⟩ := (hchild v' hv' l).1 hl
          exact ⟨l', ⟨v', hv', hl'⟩, rfl⟩
        · rintro ⟨l', ⟨v', hv', hl'⟩, rfl⟩
          exact ⟨g v', hcr.mem_iff.1 (List.mem_map.2 ⟨v', hv', rfl⟩), (hchild v' hv' _).2 ⟨l', hl', rfl⟩⟩

theorem leaves_congr {S : IRSys κ} {ids : List Nat} {sig' : List (List Nat) → Nat → κ} (hS : S.Lawful)
    (h : ∀ P, ∀ v ∈ ids, S.sig P v = sig' P v) (fuel : Nat) {P : List (List Nat)} (hs : PartSub ids P)
    (pfx : List Nat) : S.leaves fuel P pfx = { S with sig := sig' }.leaves fuel P pfx := by
  induction fuel generalizing P pfx with
  | zero => rfl
  | succ fuel ih =>
    rw [leaves_succ, leaves_succ, ← refine_congr hS h hs]
    split
    · rfl
    · cases ht : irTargetCell (S.refine P) with
      | none => rfl
      | some t =>
        obtain ⟨pre, c, post⟩ := t
        apply List.flatMap_congr
        intro v hv
        have hR := refine_sub hS ids P hs
        rw [(irTargetCell_some ht).1] at hR
        exact ih (irIndividualise_sub hR ((hS.mem_children c v).1 hv)) _

theorem leaves_map {ι : Type} {S : IRSys κ} (hS : S.Lawful) {f : Nat → ι}
    (hf : ∀ P v w, S.sig P v = S.sig P w → f v = f w) (hp : 0 < S.passes) {ids : List Nat} (hn : ids.Nodup)
    (fuel : Nat) (P : List (List Nat)) (pfx : List Nat) (hok : IRPartOK ids P) :
    ∀ l ∈ S.leaves fuel P pfx, l.2.map f = (S.refine P).flatten.map f := by
  intro l hl
  refine S.leaves_induction (motive := fun _ P _ l => IRPartOK ids P → l.2.map f = (S.refine P).flatten.map f)
    (fun _ _ _ _ _ => rfl) ?_ fuel P pfx l hl hok
  intro _ P _ pre c post v l ht hv ih hok
  have hr := refine_ok hS ids P hok
  have hh := refine_const hS hf hp P
  obtain ⟨hP, hc⟩ := irTargetCell_some ht
  rw [hS.mem_children] at hv
  rw [hP] at hr hh
  obtain ⟨hq1, hq2⟩ := irIndividualise_const hh (hr.nodup hn (c := c) (by simp)) hv
  rw [ih (irIndividualise_ok hn hr hv hc).1, refine_map hS hf _ hq1, hq2, hP]

end IRSys

end SynKit.Canon
