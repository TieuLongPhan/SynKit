import SynKitProofs.Core.Dict
import SynKitProofs.GmlGraphLemmas
import SynKitProofs.Core.Ensure
/-! `Gml.getRc` (the `get_rc` the GML entry points call) is idempotent: `getRc (getRc I) = getRc I` for
every graph `I`, no well-formedness needed.  A centre has a normal form (`getRc_normal`): changed bonds, then unchanged
H–H bonds, pairwise non-parallel, each with a dict of the shape `rcEdgeAttrs` writes (`RcAttrs`), and a node list that
is a function of the bond list (`nodesF`).  On such a bond list every round is the fresh round `gstep`, whose fold is
known (`fold_gstep`), so each loop, run on its own result, rebuilds it bond for bond (`fold_gstep_norm`) and passes over
what the other loop wrote. -/
namespace SynKit.Gml
open Rd Core

/-- `_ensure_node` on a graph; on the node list it is `Core.pushN`. -/
def ens (f : Nat → Attrs) (rc : LGraph) (n : Nat) : LGraph :=
  if rc.hasNode n then rc else { rc with nodes := rc.nodes ++ [(n, f n)] }

/-- The dict `_ensure_node_hh` gives a new node. -/
def hhAttrs (a : Attrs) : Attrs :=
  let a' := if Dict.contains a "typesGH" then a else Dict.set a "typesGH" hhFallback
  Dict.set (pick a' rcKeys) "typesGH" (Attrs.get a' "typesGH")

theorem ensureNode_eq (I rc : LGraph) (n : Nat) :
    ensureNode I rc n = ens (fun n => pick (I.attrs n) rcKeys) rc n := rfl

theorem ensureNodeHH_eq (I rc : LGraph) (n : Nat) :
    ensureNodeHH I rc n = ens (fun n => hhAttrs (I.attrs n)) rc n := rfl

theorem ens_eq (f : Nat → Attrs) (rc : LGraph) (n : Nat) : ens f rc n = ⟨pushN f rc.nodes n, rc.edges⟩ := by
  unfold ens pushN LGraph.hasNode LGraph.ids
  split <;> rfl

theorem ens_present (f : Nat → Attrs) (rc : LGraph) (n : Nat) (h : n ∈ rc.nodes.map (·.1)) : ens f rc n = rc := by
  unfold ens; rw [if_pos (LGraph.hasNode_iff.2 h)]

theorem pick_cons (a : Attrs) (k : String) (ks : List String) :
    pick a (k :: ks) = match Dict.get? a k with
      | some v => (k, v) :: pick a ks
      | none => pick a ks := by
  unfold pick
  rw [List.filterMap_cons]
  cases Dict.get? a k <;> rfl

theorem get?_pick (a : Attrs) (keys : List String) (k : String) :
    Dict.get? (pick a keys) k = if k ∈ keys then Dict.get? a k else none := by
  induction keys with
  | nil => simp [pick, Dict.get?]
  | cons k0 ks ih =>
    rw [pick_cons]
    cases h0 : Dict.get? a k0 with
    | none =>
      simp only [ih, List.mem_cons]
      by_cases hk : k = k0
      · subst hk; simp [h0]
      · simp [hk]
    | some v =>
      simp only [Dict.get?, List.mem_cons]
      by_cases hk : k0 = k
      · subst hk; simp [h0]
      · have hk' : ¬ k = k0 := fun e => hk e.symm
        simp [hk, hk', ih]

theorem pick_congr (a b : Attrs) (keys : List String) (h : ∀ k ∈ keys, Dict.get? a k = Dict.get? b k) :
    pick a keys = pick b keys :=
  List.filterMap_congr fun k hk => by rw [h k hk]

theorem pick_pick (a : Attrs) (keys : List String) : pick (pick a keys) keys = pick a keys := by
  apply pick_congr
  intro k hk
  rw [get?_pick]; simp [hk]

theorem hhCore_eq (a : Attrs) (w : Val) (h : Dict.get? a "typesGH" = some w) :
    Dict.set (pick a rcKeys) "typesGH" (Attrs.get a "typesGH") = pick a rcKeys := by
  apply Dict.set_eq_self
  rw [get?_pick]
  simp [rcKeys, Attrs.get, Dict.getD, h]

theorem hhAttrs_eq (a : Attrs) : ∃ a' w, Dict.get? a' "typesGH" = some w ∧ hhAttrs a = pick a' rcKeys ∧
    Attrs.get a' "element" = Attrs.get a "element" := by
  unfold hhAttrs
  by_cases hc : Dict.contains a "typesGH" = true
  · obtain ⟨w, hw⟩ := Dict.contains_iff_get?.1 hc
    refine ⟨a, w, hw, ?_, rfl⟩
    simp only [hc, if_true]
    exact hhCore_eq a w hw
  · refine ⟨Dict.set a "typesGH" hhFallback, hhFallback, Dict.get?_set_self _ _ _, ?_, ?_⟩
    · simp only [hc]
      exact hhCore_eq _ _ (Dict.get?_set_self _ _ _)
    · exact Attrs.get_set_other (by decide)

theorem hhAttrs_idem (a : Attrs) : hhAttrs (hhAttrs a) = hhAttrs a := by
  obtain ⟨a', w, hw, he, _⟩ := hhAttrs_eq a
  have hg : Dict.get? (pick a' rcKeys) "typesGH" = some w := by
    rw [get?_pick]; simp [rcKeys, hw]
  rw [he]
  unfold hhAttrs
  have hc : Dict.contains (pick a' rcKeys) "typesGH" = true := Dict.contains_iff_get?.2 ⟨w, hg⟩
  simp only [hc, if_true]
  rw [hhCore_eq _ w hg, pick_pick]

theorem element_pick (a : Attrs) : Attrs.get (pick a rcKeys) "element" = Attrs.get a "element" := by
  simp [Attrs.get, Dict.getD, get?_pick, rcKeys]

theorem element_hhAttrs (a : Attrs) : Attrs.get (hhAttrs a) "element" = Attrs.get a "element" := by
  obtain ⟨a', w, _, he, hel⟩ := hhAttrs_eq a
  rw [he, element_pick, hel]

private def RcAttrs (a : Attrs) : Prop := ∃ x y z, a = [("order", x), ("standard_order", y), ("is_mtg", z)]

theorem norm_rcEdgeAttrs (a : Attrs) : RcAttrs (rcEdgeAttrs a) := ⟨_, _, _, rfl⟩

theorem rcEdgeAttrs_norm (a : Attrs) (h : RcAttrs a) : rcEdgeAttrs a = a := by
  obtain ⟨x, y, z, rfl⟩ := h
  simp [rcEdgeAttrs, Attrs.get, Dict.getD, Dict.get?]

theorem changedStd_rcEdgeAttrs (a : Attrs) : changedStd (rcEdgeAttrs a) = changedStd a := by
  simp [changedStd, rcEdgeAttrs, Attrs.get, Dict.getD, Dict.get?]

theorem foldSet_norm (a b : Attrs) (h : RcAttrs b) :
    (rcEdgeAttrs a).foldl (fun d kv => Dict.set d kv.1 kv.2) b = rcEdgeAttrs a := by
  obtain ⟨x, y, z, rfl⟩ := h
  simp [rcEdgeAttrs, Dict.set]

def ends (e : Nat × Nat × Attrs) : Nat × Nat := (e.1, e.2.1)

def samePair (a b : Nat × Nat) : Bool := (a.1 = b.1 && a.2 = b.2) || (a.1 = b.2 && a.2 = b.1)

theorem sameEdge_eq (e : Nat × Nat × Attrs) (u v : Nat) : sameEdge e u v = samePair (ends e) (u, v) := rfl

private def gstep (f : Nat → Attrs) (rc : LGraph) (e : Nat × Nat × Attrs) : LGraph :=
  addEdge (ens f (ens f rc e.1) e.2.1) e.1 e.2.1 (rcEdgeAttrs e.2.2)

def norm (e : Nat × Nat × Attrs) : Nat × Nat × Attrs := (e.1, e.2.1, rcEdgeAttrs e.2.2)

/-- A round that takes the bond `e`: both ends are made nodes, and between two nodes `add_edge` touches the bond list
only. -/
theorem gstep_eq (f : Nat → Attrs) (rc : LGraph) (e : Nat × Nat × Attrs) :
    gstep f rc e = if rc.hasEdge e.1 e.2.1 then ⟨pushN f (pushN f rc.nodes e.1) e.2.1, rc.edges.map fun e' =>
        if sameEdge e' e.1 e.2.1 then
          (e'.1, e'.2.1, (rcEdgeAttrs e.2.2).foldl (fun d kv => Dict.set d kv.1 kv.2) e'.2.2) else e'⟩
      else ⟨pushN f (pushN f rc.nodes e.1) e.2.1, rc.edges ++ [norm e]⟩ := by
  have hu : e.1 ∈ (pushN f (pushN f rc.nodes e.1) e.2.1).map (·.1) :=
    mem_ids_pushN.2 (.inl (mem_ids_pushN.2 (.inr rfl)))
  have hv : e.2.1 ∈ (pushN f (pushN f rc.nodes e.1) e.2.1).map (·.1) := mem_ids_pushN.2 (.inr rfl)
  unfold gstep
  rw [ens_eq, ens_eq]
  -- with the node list opaque, unification has no `pushN` to unfold
  generalize pushN f (pushN f rc.nodes e.1) e.2.1 = N at hu hv ⊢
  exact addEdge_of_present ⟨N, rc.edges⟩ _ _ _ hu hv

theorem gstep_fresh (f : Nat → Attrs) (rc : LGraph) (e : Nat × Nat × Attrs) (h : rc.hasEdge e.1 e.2.1 = false) :
    gstep f rc e = ⟨pushN f (pushN f rc.nodes e.1) e.2.1, rc.edges ++ [norm e]⟩ := by
  rw [gstep_eq, h]
  rfl

theorem gstep_dup (f : Nat → Attrs) (rc : LGraph) (e : Nat × Nat × Attrs) (h : rc.hasEdge e.1 e.2.1 = true) :
    gstep f rc e = ⟨pushN f (pushN f rc.nodes e.1) e.2.1, rc.edges.map fun e' =>
      if sameEdge e' e.1 e.2.1 then
        (e'.1, e'.2.1, (rcEdgeAttrs e.2.2).foldl (fun d kv => Dict.set d kv.1 kv.2) e'.2.2) else e'⟩ := by
  rw [gstep_eq, if_pos h]

theorem nodesF_map_ends (f : Nat → Attrs) (es es' : List (Nat × Nat × Attrs)) (h : es.map ends = es'.map ends)
    (ns : List (Nat × Attrs)) : nodesF f ns es = nodesF f ns es' := by
  have key : ∀ es, nodesF f ns es = (es.map ends).foldl (fun ns p => pushN f (pushN f ns p.1) p.2) ns :=
    fun es => by rw [List.foldl_map]; rfl
  rw [key, key, h]

private theorem eta (g : LGraph) : (⟨g.nodes, g.edges⟩ : LGraph) = g := by cases g; rfl

theorem ends_norm (e : Nat × Nat × Attrs) : ends (norm e) = ends e := rfl

theorem fold_gstep (f : Nat → Attrs) (stp : LGraph → Nat × Nat × Attrs → LGraph) :
    ∀ (es : List (Nat × Nat × Attrs)) (rc : LGraph),
    (∀ rc' : LGraph, ∀ e ∈ es, rc'.hasEdge e.1 e.2.1 = false → stp rc' e = gstep f rc' e) →
    ((rc.edges ++ es).map ukey).Nodup →
    es.foldl stp rc = ⟨nodesF f rc.nodes es, rc.edges ++ es.map norm⟩ := by
  intro es
  induction es with
  | nil => intro rc _ _; simp [nodesF, eta]
  | cons e es ih =>
    intro rc hstp hnp
    have hfresh := hasEdge_false_of_nodup rc e es hnp
    rw [List.foldl_cons, hstp rc e List.mem_cons_self hfresh, gstep_fresh f rc e hfresh]
    rw [ih _ (fun rc' e' he' => hstp rc' e' (List.mem_cons_of_mem _ he'))]
    · simp [nodesF_cons, norm]
    · show (((rc.edges ++ [norm e]) ++ es).map ukey).Nodup
      rw [List.append_assoc, List.map_append]
      rw [List.map_append] at hnp
      exact hnp

/-- On edges that `get_rc` itself wrote (`RcAttrs`) the step changes nothing in the edge, and the attribute
function `f` (read from the result) may be replaced by `g` (read from the input) since it is only evaluated
at end points that are new. -/
theorem fold_gstep_norm (f g : Nat → Attrs) (stp : LGraph → Nat × Nat × Attrs → LGraph)
    (es : List (Nat × Nat × Attrs)) (rc : LGraph)
    (hstp : ∀ rc' : LGraph, ∀ e ∈ es, rc'.hasEdge e.1 e.2.1 = false → stp rc' e = gstep f rc' e)
    (hnp : ((rc.edges ++ es).map ukey).Nodup) (hN : ∀ e ∈ es, RcAttrs e.2.2)
    (hfg : ∀ e ∈ es, ∀ n, (n = e.1 ∨ n = e.2.1) → n ∉ rc.nodes.map (·.1) → f n = g n) :
    es.foldl stp rc = ⟨nodesF g rc.nodes es, rc.edges ++ es⟩ := by
  have hnorm : es.map norm = es :=
    map_eq_self fun e he => show (e.1, e.2.1, rcEdgeAttrs e.2.2) = e by rw [rcEdgeAttrs_norm _ (hN e he)]
  rw [fold_gstep f stp es rc hstp hnp, hnorm, nodesF_congr hfg]

/-- The in-place update of `add_edge` is invisible to whatever reads the end points only (`ends`, `ukey`). -/
theorem map_upd {κ : Type} (k : Nat × Nat × Attrs → κ) (hk : ∀ e a, k (e.1, e.2.1, a) = k e)
    (es : List (Nat × Nat × Attrs)) (u v : Nat) (F : Nat × Nat × Attrs → Attrs) :
    (es.map fun e' => if sameEdge e' u v then (e'.1, e'.2.1, F e') else e').map k = es.map k := by
  rw [List.map_map]
  refine List.map_congr_left fun e' _ => ?_
  show k (if sameEdge e' u v then (e'.1, e'.2.1, F e') else e') = k e'
  split
  · exact hk e' _
  · rfl

theorem hasEdge_of_ukeys (g g' : LGraph) (h : g.edges.map ukey = g'.edges.map ukey) (u v : Nat) :
    g.hasEdge u v = g'.hasEdge u v := by
  rw [Bool.eq_iff_iff, hasEdge_iff_ukey, hasEdge_iff_ukey, h]

theorem gstep_hasEdge_iff (f : Nat → Attrs) (rc : LGraph) (e : Nat × Nat × Attrs) (u v : Nat) :
    (gstep f rc e).hasEdge u v = true ↔ rc.hasEdge u v = true ∨ ukey e = (min u v, max u v) := by
  cases h : rc.hasEdge e.1 e.2.1 with
  | false =>
    rw [gstep_fresh f rc e h, hasEdge_iff_ukey, hasEdge_iff_ukey]
    show _ ∈ (rc.edges ++ [norm e]).map ukey ↔ _
    rw [List.map_append, List.mem_append]
    exact or_congr Iff.rfl (List.mem_singleton.trans eq_comm)
  | true =>
    rw [gstep_dup f rc e h, hasEdge_of_ukeys _ rc (map_upd ukey (fun _ _ => rfl) _ _ _ _)]
    exact ⟨Or.inl, fun h' => h'.elim id fun hk =>
      (hasEdge_iff_ukey rc u v).2 (hk ▸ (hasEdge_iff_ukey rc e.1 e.2.1).1 h)⟩

private def step1 (I rc : LGraph) (e : Nat × Nat × Attrs) : LGraph :=
  if changedStd e.2.2 then addEdge (ensureNode I (ensureNode I rc e.1) e.2.1) e.1 e.2.1 (rcEdgeAttrs e.2.2) else rc

private def step2 (I rc : LGraph) (e : Nat × Nat × Attrs) : LGraph :=
  if isHNode I e.1 && isHNode I e.2.1 then
    let rc' := ensureNodeHH I (ensureNodeHH I rc e.1) e.2.1
    if rc'.hasEdge e.1 e.2.1 then rc' else addEdge rc' e.1 e.2.1 (rcEdgeAttrs e.2.2)
  else rc

theorem getRc_eq (I : LGraph) : getRc I = I.edges.foldl (step2 I) (I.edges.foldl (step1 I) {}) := rfl

private def f1 (I : LGraph) : Nat → Attrs := fun n => pick (I.attrs n) rcKeys
private def fH (I : LGraph) : Nat → Attrs := fun n => hhAttrs (I.attrs n)

theorem step1_changed (I rc : LGraph) (e : Nat × Nat × Attrs) (h : changedStd e.2.2 = true) :
    step1 I rc e = gstep (f1 I) rc e := by
  simp only [step1, h, if_true]
  rfl

theorem step1_unchanged (I rc : LGraph) (e : Nat × Nat × Attrs) (h : changedStd e.2.2 = false) :
    step1 I rc e = rc := by
  simp [step1, h]

theorem step2_non (I rc : LGraph) (e : Nat × Nat × Attrs) (h : (isHNode I e.1 && isHNode I e.2.1) = false) :
    step2 I rc e = rc := by
  simp only [step2, h, Bool.false_eq_true, if_false]

theorem step2_fresh (I rc : LGraph) (e : Nat × Nat × Attrs) (h : (isHNode I e.1 && isHNode I e.2.1) = true)
    (hf : rc.hasEdge e.1 e.2.1 = false) : step2 I rc e = gstep (fH I) rc e := by
  have h3 : (ensureNodeHH I (ensureNodeHH I rc e.1) e.2.1).hasEdge e.1 e.2.1 = false := by
    rw [ensureNodeHH_eq, ensureNodeHH_eq, ens_eq, ens_eq]
    exact hf
  unfold step2
  rw [if_pos h]
  simp only [h3, Bool.false_eq_true, if_false]
  rfl

theorem step2_dup (I rc : LGraph) (e : Nat × Nat × Attrs) (hd : rc.hasEdge e.1 e.2.1 = true)
    (h1 : e.1 ∈ rc.nodes.map (·.1)) (h2 : e.2.1 ∈ rc.nodes.map (·.1)) : step2 I rc e = rc := by
  cases h : (isHNode I e.1 && isHNode I e.2.1) with
  | false => exact step2_non I rc e h
  | true =>
    simp only [step2, h, if_true, ensureNodeHH_eq, ens_present _ _ _ h1, ens_present _ _ _ h2, hd]

private def Inv1 (I rc : LGraph) : Prop :=
  (rc.edges.map ukey).Nodup ∧ (∀ e ∈ rc.edges, RcAttrs e.2.2 ∧ changedStd e.2.2 = true) ∧
  rc.nodes = nodesF (f1 I) [] rc.edges

theorem nodup_ukey_snoc (rc : LGraph) (e : Nat × Nat × Attrs) (hp : (rc.edges.map ukey).Nodup)
    (hd : rc.hasEdge e.1 e.2.1 = false) : ((rc.edges ++ [norm e]).map ukey).Nodup := by
  rw [List.map_append, List.nodup_append]
  refine ⟨hp, List.nodup_singleton _, ?_⟩
  intro a ha b hb
  obtain ⟨a0, ha0, rfl⟩ := List.mem_map.1 ha
  rw [List.mem_singleton.1 hb]
  exact (hasEdge_false_iff_ukey rc e.1 e.2.1).1 hd a0 ha0

theorem Inv1_step (I rc : LGraph) (e : Nat × Nat × Attrs) (h : Inv1 I rc) : Inv1 I (step1 I rc e) := by
  cases hc : changedStd e.2.2 with
  | false => rw [step1_unchanged I rc e hc]; exact h
  | true =>
    rw [step1_changed I rc e hc]
    obtain ⟨hp, ha, hn⟩ := h
    cases hd : rc.hasEdge e.1 e.2.1 with
    | false =>
      rw [gstep_fresh _ rc e hd]
      refine ⟨?_, ?_, ?_⟩
      · exact nodup_ukey_snoc rc e hp hd
      · exact List.forall_mem_append.2
          ⟨ha, List.forall_mem_singleton.2 ⟨norm_rcEdgeAttrs _, (changedStd_rcEdgeAttrs _).trans hc⟩⟩
      · show _ = nodesF (f1 I) [] (rc.edges ++ [norm e])
        rw [nodesF_snoc, ← hn]
        rfl
    | true =>
      rw [gstep_dup _ rc e hd]
      obtain ⟨hu, hv⟩ := LGraph.ends_mem_of_hasEdge (fun e0 he0 => hn ▸ ends_mem_nodesF he0) hd
      refine ⟨?_, ?_, ?_⟩
      · show ((rc.edges.map _).map ukey).Nodup
        rw [map_upd ukey fun _ _ => rfl]; exact hp
      · intro e' he'
        obtain ⟨e1, he1, rfl⟩ := List.mem_map.1 he'
        split
        · simp only [foldSet_norm _ _ (ha e1 he1).1]
          exact ⟨norm_rcEdgeAttrs _, (changedStd_rcEdgeAttrs _).trans hc⟩
        · exact ha e1 he1
      · show pushN (f1 I) (pushN (f1 I) rc.nodes e.1) e.2.1 = nodesF (f1 I) [] (rc.edges.map _)
        rw [pushN_of_mem hu, pushN_of_mem hv,
          nodesF_map_ends (f1 I) _ rc.edges (map_upd ends (fun _ _ => rfl) _ _ _ _), ← hn]

theorem Inv1_fold (I : LGraph) : Inv1 I (I.edges.foldl (step1 I) {}) := by
  exact Core.foldl_inv (fun b a _ hb => Inv1_step I b a hb) ⟨List.nodup_nil, (by intro e he; cases he), rfl⟩

theorem step1_hasEdge_iff (I rc : LGraph) (e : Nat × Nat × Attrs) (u v : Nat) :
    (step1 I rc e).hasEdge u v = true ↔
      rc.hasEdge u v = true ∨ (changedStd e.2.2 = true ∧ ukey e = (min u v, max u v)) := by
  cases hc : changedStd e.2.2 with
  | false => rw [step1_unchanged I rc e hc]; simp
  | true => rw [step1_changed I rc e hc, gstep_hasEdge_iff]; simp

theorem fold_step1_hasEdge (I : LGraph) (e : Nat × Nat × Attrs) (he : e ∈ I.edges) (hc : changedStd e.2.2 = true) :
    (I.edges.foldl (step1 I) {}).hasEdge e.1 e.2.1 = true :=
  (Core.foldl_or_iff (Q := fun rc => rc.hasEdge e.1 e.2.1 = true)
    (C := fun a => changedStd a.2.2 = true ∧ ukey a = (min e.1 e.2.1, max e.1 e.2.1))
    fun rc a => step1_hasEdge_iff I rc a e.1 e.2.1).2 (Or.inr ⟨e, he, hc, rfl⟩)

private def Inv2 (I : LGraph) (E1 : List (Nat × Nat × Attrs)) (rc : LGraph) : Prop :=
  ∃ E2, rc.edges = E1 ++ E2 ∧ rc.nodes = nodesF (fH I) (nodesF (f1 I) [] E1) E2 ∧
    ((E1 ++ E2).map ukey).Nodup ∧
    ∀ e ∈ E2, RcAttrs e.2.2 ∧ changedStd e.2.2 = false ∧ isHNode I e.1 = true ∧ isHNode I e.2.1 = true

theorem Inv2_step (I : LGraph) (E1 : List (Nat × Nat × Attrs)) (rc : LGraph)
    (hF : ∀ e ∈ I.edges, changedStd e.2.2 = true → ukey e ∈ E1.map ukey)
    (e : Nat × Nat × Attrs) (he : e ∈ I.edges) (h : Inv2 I E1 rc) : Inv2 I E1 (step2 I rc e) := by
  cases hh : (isHNode I e.1 && isHNode I e.2.1) with
  | false => rw [step2_non I rc e hh]; exact h
  | true =>
    obtain ⟨E2, hE, hN, hP, hA⟩ := h
    cases hd : rc.hasEdge e.1 e.2.1 with
    | true =>
      -- the bond is there, so its ends are nodes, and the round does nothing
      have hcl : ∀ e0 ∈ rc.edges, e0.1 ∈ rc.nodes.map (·.1) ∧ e0.2.1 ∈ rc.nodes.map (·.1) := by
        intro e0 he0
        rw [hN]
        rcases List.mem_append.1 (hE ▸ he0) with he0 | he0
        · have := ends_mem_nodesF (f := f1 I) (ns := []) he0
          exact ⟨mem_ids_nodesF.2 (Or.inl this.1), mem_ids_nodesF.2 (Or.inl this.2)⟩
        · exact ends_mem_nodesF he0
      obtain ⟨hu, hv⟩ := LGraph.ends_mem_of_hasEdge hcl hd
      rw [step2_dup I rc e hd hu hv]
      exact ⟨E2, hE, hN, hP, hA⟩
    | false =>
      rw [step2_fresh I rc e hh hd, gstep_fresh _ rc e hd]
      refine ⟨E2 ++ [norm e], ?_, ?_, ?_, ?_⟩
      · show rc.edges ++ [norm e] = _
        rw [hE, List.append_assoc]
      · show pushN (fH I) (pushN (fH I) rc.nodes e.1) e.2.1 = _
        rw [nodesF_snoc, ← hN]; rfl
      · rw [← List.append_assoc, ← hE]
        exact nodup_ukey_snoc rc e (by rw [hE]; exact hP) hd
      · simp only [Bool.and_eq_true] at hh
        refine List.forall_mem_append.2 ⟨hA, List.forall_mem_singleton.2
          ⟨norm_rcEdgeAttrs _, (changedStd_rcEdgeAttrs _).trans ?_, hh.1, hh.2⟩⟩
        -- a changed bond of `I` is joined since the first loop
        cases hc : changedStd e.2.2 with
        | false => rfl
        | true =>
          have : rc.hasEdge e.1 e.2.1 = true := by
            rw [hasEdge_iff_ukey, hE, List.map_append]
            exact List.mem_append_left _ (hF e he hc)
          rw [hd] at this; cases this

theorem getRc_normal (I : LGraph) : ∃ E1 E2, (getRc I).edges = E1 ++ E2 ∧
    (getRc I).nodes = nodesF (fH I) (nodesF (f1 I) [] E1) E2 ∧ ((E1 ++ E2).map ukey).Nodup ∧
    (∀ e ∈ E1, RcAttrs e.2.2 ∧ changedStd e.2.2 = true) ∧
    ∀ e ∈ E2, RcAttrs e.2.2 ∧ changedStd e.2.2 = false ∧ isHNode I e.1 = true ∧ isHNode I e.2.1 = true := by
  obtain ⟨hp, ha, hn⟩ := Inv1_fold I
  have hF := fold_step1_hasEdge I
  rw [getRc_eq]
  generalize I.edges.foldl (step1 I) {} = S1 at hp ha hn hF
  -- node list: `hn` alone is accepted too, but the check that unfolds `nodesF … []` compares `fH I` with `f1 I` first
  have h2 : Inv2 I S1.edges (I.edges.foldl (step2 I) S1) := Core.foldl_inv (P := Inv2 I S1.edges)
    (fun b a ha hb => Inv2_step I _ b (fun e he hc => (hasEdge_iff_ukey _ _ _).1 (hF e he hc)) a ha hb)
    ⟨[], (List.append_nil _).symm, hn.trans List.foldl_nil.symm, by rw [List.append_nil]; exact hp,
      fun _ h => nomatch h⟩
  obtain ⟨E2, h⟩ := h2
  exact ⟨_, E2, h.1, h.2.1, h.2.2.1, ha, h.2.2.2⟩

theorem getRc_idem' (I : LGraph) : getRc (getRc I) = getRc I := by
  obtain ⟨E1, E2, hE, hN, hP, ha1, hA⟩ := getRc_normal I
  generalize getRc I = R at hE hN ⊢
  -- the dicts of `R`: nodes met by the first loop carry `f1 I`, the others `fH I`
  obtain ⟨t0, ht0, ht0'⟩ := nodesF_prefix (f1 I) E1 []
  obtain ⟨t, ht, ht'⟩ := nodesF_prefix (fH I) E2 (nodesF (f1 I) [] E1)
  rw [← hN] at ht
  have hRattrs : ∀ n, R.attrs n = attrsL (nodesF (f1 I) [] E1 ++ t) n := fun n => by rw [attrs_eq_attrsL, ht]
  have hA1 : ∀ n ∈ (nodesF (f1 I) [] E1).map (·.1), R.attrs n = f1 I n := by
    intro n hn
    rw [hRattrs, attrsL_append, if_pos hn]
    exact attrsL_of_forall _ _ (by rw [ht0]; exact ht0') n hn
  have hA2 : ∀ n ∈ R.nodes.map (·.1), n ∉ (nodesF (f1 I) [] E1).map (·.1) → R.attrs n = fH I n := by
    intro n hn hn'
    rw [ht, List.map_append, List.mem_append] at hn
    rw [hRattrs, attrsL_append, if_neg hn']
    exact attrsL_of_forall _ _ ht' n (hn.resolve_left hn')
  have hEl : ∀ n ∈ R.nodes.map (·.1), Attrs.get (R.attrs n) "element" = Attrs.get (I.attrs n) "element" := by
    intro n hn
    by_cases hn' : n ∈ (nodesF (f1 I) [] E1).map (·.1)
    · rw [hA1 n hn']; exact element_pick _
    · rw [hA2 n hn hn']; exact element_hhAttrs _
  have hE1ids : ∀ e ∈ E1, e.1 ∈ (nodesF (f1 I) [] E1).map (·.1) ∧ e.2.1 ∈ (nodesF (f1 I) [] E1).map (·.1) :=
    fun e he => ends_mem_nodesF he
  have hE2ids : ∀ e ∈ E2, e.1 ∈ R.nodes.map (·.1) ∧ e.2.1 ∈ R.nodes.map (·.1) :=
    fun e he => hN ▸ ends_mem_nodesF he
  -- each loop rebuilds its own bonds and passes over the other's
  have hloop1 : R.edges.foldl (step1 R) {} = ⟨nodesF (f1 I) [] E1, E1⟩ := by
    rw [hE, List.foldl_append, fold_gstep_norm (f1 R) (f1 I) (step1 R) E1 {}
      (fun rc' e he _ => step1_changed R rc' e (ha1 e he).2)
      (List.Nodup.sublist (List.Sublist.map _ (List.sublist_append_left E1 E2)) hP) (fun e he => (ha1 e he).1)
      fun e he n hn _ => by
        have hmem : n ∈ (nodesF (f1 I) [] E1).map (·.1) := hn.elim (· ▸ (hE1ids e he).1) (· ▸ (hE1ids e he).2)
        show pick (R.attrs n) rcKeys = pick (I.attrs n) rcKeys
        rw [hA1 n hmem]; exact pick_pick _ _]
    exact Core.foldl_eq_self fun e he => step1_unchanged R _ e (hA e he).2.1
  have hloop2 : R.edges.foldl (step2 R) ⟨nodesF (f1 I) [] E1, E1⟩ = R := by
    rw [hE, List.foldl_append, Core.foldl_eq_self fun e he => step2_dup R ⟨nodesF (f1 I) [] E1, E1⟩ e
      ((hasEdge_iff_ukey _ _ _).2 (List.mem_map.2 ⟨e, he, rfl⟩)) (hE1ids e he).1 (hE1ids e he).2]
    have hH : ∀ e ∈ E2, (isHNode R e.1 && isHNode R e.2.1) = true := by
      intro e he
      obtain ⟨_, _, h3, h4⟩ := hA e he
      simp only [isHNode, Bool.and_eq_true, decide_eq_true_eq] at h3 h4 ⊢
      rw [hEl _ (hE2ids e he).1, hEl _ (hE2ids e he).2]
      exact ⟨h3, h4⟩
    rw [fold_gstep_norm (fH R) (fH I) (step2 R) E2 _ (fun rc' e he hf => step2_fresh R rc' e (hH e he) hf) hP
      (fun e he => (hA e he).1) fun e he n hn hnot => by
        have hmem : n ∈ R.nodes.map (·.1) := hn.elim (· ▸ (hE2ids e he).1) (· ▸ (hE2ids e he).2)
        show hhAttrs (R.attrs n) = hhAttrs (I.attrs n)
        rw [hA2 n hmem hnot]; exact hhAttrs_idem _]
    rw [← hN, ← hE, eta]
  rw [getRc_eq R, hloop1, hloop2]

end SynKit.Gml
