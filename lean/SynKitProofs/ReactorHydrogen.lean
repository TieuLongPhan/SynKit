import SynKitProofs.ReactorLemmas
import SynKitProofs.Core.Sort
/-! `_explicit_h` moves hydrogens and never creates or destroys them (C03, `explicitH_balance`), in three facts.  All
`Int` quantities are in half-units (one hydrogen = 2); `d = hL - hR` is the surplus of an atom's reactant side.
* `migrations_spec`: when every `d` is even and every pair component balanced, an atom carrying pair ids is the donor
  of `d / 2` migrations if `d > 0` and the receiver of `- d / 2` if `d < 0`.  Inside a component this is the receiver
  queue (`Moves`: single `takeRecip`s composed by `nil` and `append`, up to `migrateComp_spec`); across components,
  that they are disjoint and cover `affected` (`components_spec`).
* `explicitH_attrs`: the new hydrogens are appended and an old atom's label is decremented (`decH`) once for every
  pair id it carries.
* `decH_iter`: `|d| / 2` decrements bring both sides down to the smaller one. -/
namespace SynKit.Reactor

/-! Donors and receivers are lists of `(atom, amount)` with non-negative even amounts (`GoodCaps`).  `capOf`
is the amount listed for an atom, `capTotal` the amount listed in all. -/

def capOf (rc : List (Nat × Int)) (r : Nat) : Int := ((rc.filter (·.1 = r)).map (·.2)).sum
def capTotal (rc : List (Nat × Int)) : Int := (rc.map (·.2)).sum
def cntDst (ms : List (Nat × Nat)) (r : Nat) : Int := ((ms.filter (·.2 = r)).length : Int)
def cntSrc (ms : List (Nat × Nat)) (n : Nat) : Int := ((ms.filter (·.1 = n)).length : Int)
def GoodCaps (rc : List (Nat × Int)) : Prop := ∀ e ∈ rc, e.2 ≥ 0 ∧ e.2 % 2 = 0

theorem capOf_cons (r x : Nat) (c : Int) (rest : List (Nat × Int)) :
    capOf ((r, c) :: rest) x = (if r = x then c else 0) + capOf rest x := by
  unfold capOf
  by_cases h : r = x <;> simp [h]

theorem capTotal_cons (e : Nat × Int) (rest : List (Nat × Int)) : capTotal (e :: rest) = e.2 + capTotal rest := by
  simp only [capTotal, List.map_cons, List.sum_cons]

theorem goodCaps_cons (e : Nat × Int) (rest : List (Nat × Int)) :
    GoodCaps (e :: rest) ↔ (e.2 ≥ 0 ∧ e.2 % 2 = 0) ∧ GoodCaps rest := List.forall_mem_cons

theorem cntDst_cons (d r x : Nat) (ms : List (Nat × Nat)) :
    cntDst ((d, r) :: ms) x = (if r = x then 1 else 0) + cntDst ms x := by
  unfold cntDst
  rw [← List.countP_eq_length_filter, ← List.countP_eq_length_filter, List.countP_cons]
  simp only [decide_eq_true_eq]
  split <;> push_cast <;> omega

theorem cntSrc_cons (d r x : Nat) (ms : List (Nat × Nat)) :
    cntSrc ((d, r) :: ms) x = (if d = x then 1 else 0) + cntSrc ms x := by
  unfold cntSrc
  rw [← List.countP_eq_length_filter, ← List.countP_eq_length_filter, List.countP_cons]
  simp only [decide_eq_true_eq]
  split <;> push_cast <;> omega

theorem cntDst_append (a b : List (Nat × Nat)) (x : Nat) : cntDst (a ++ b) x = cntDst a x + cntDst b x := by
  unfold cntDst; rw [List.filter_append, List.length_append]; push_cast; rfl

theorem cntSrc_append (a b : List (Nat × Nat)) (x : Nat) : cntSrc (a ++ b) x = cntSrc a x + cntSrc b x := by
  unfold cntSrc; rw [List.filter_append, List.length_append]; push_cast; rfl

theorem cntDst_eq_zero (ms : List (Nat × Nat)) (n : Nat) (h : ∀ x ∈ ms, x.2 ≠ n) : cntDst ms n = 0 := by
  unfold cntDst
  rw [List.filter_eq_nil_iff.2 fun x hx => by simp [h x hx]]; rfl

theorem cntSrc_eq_zero (ms : List (Nat × Nat)) (n : Nat) (h : ∀ x ∈ ms, x.1 ≠ n) : cntSrc ms n = 0 := by
  unfold cntSrc
  rw [List.filter_eq_nil_iff.2 fun x hx => by simp [h x hx]]; rfl

theorem cntSrc_of_forall (ms : List (Nat × Nat)) (d n : Nat) (h : ∀ x ∈ ms, x.1 = d) :
    cntSrc ms n = if d = n then (ms.length : Int) else 0 := by
  split
  · rename_i hd
    unfold cntSrc
    rw [List.filter_eq_self.2 fun x hx => by rw [h x hx, hd]; exact decide_eq_true rfl]
  · rename_i hd
    exact cntSrc_eq_zero ms n fun x hx => by rw [h x hx]; exact hd

/-- Serving the migrations `ms` turns the queue `rc` into `rc'`: amounts stay even and non-negative, and every
receiver's amount, like the total, drops by two per hydrogen sent to it. -/
structure Moves (rc : List (Nat × Int)) (ms : List (Nat × Nat)) (rc' : List (Nat × Int)) : Prop where
  good : GoodCaps rc'
  cap : ∀ x, capOf rc' x + 2 * cntDst ms x = capOf rc x
  total : capTotal rc' + 2 * (ms.length : Int) = capTotal rc

theorem Moves.nil {rc : List (Nat × Int)} (h : GoodCaps rc) : Moves rc [] rc :=
  ⟨h, fun _ => add_zero _, add_zero _⟩

theorem Moves.append {a b c : List (Nat × Int)} {p q : List (Nat × Nat)} (h1 : Moves a p b) (h2 : Moves b q c) :
    Moves a (p ++ q) c := by
  refine ⟨h2.good, fun x => ?_, ?_⟩
  · rw [cntDst_append, mul_add, add_left_comm, h2.cap x, add_comm, h1.cap x]
  · rw [List.length_append, Nat.cast_add, mul_add, add_left_comm, h2.total, add_comm, h1.total]

theorem takeRecip_spec (d : Nat) {rc rc' : List (Nat × Int)} {r : Nat} (h : takeRecip rc = some (r, rc'))
    (hg : GoodCaps rc) : Moves rc [(d, r)] rc' := by
  induction rc generalizing r rc' with
  | nil => cases h
  | cons e rest ih =>
    obtain ⟨r0, cap⟩ := e
    obtain ⟨hg0, hgr⟩ := (goodCaps_cons _ _).1 hg
    simp only [takeRecip] at h
    by_cases hc : cap > 0
    · simp only [hc, if_true, Option.some.injEq, Prod.mk.injEq] at h
      obtain ⟨rfl, rfl⟩ := h
      refine ⟨(goodCaps_cons _ _).2 ⟨by simp only at hg0 ⊢; omega, hgr⟩, fun x => ?_, ?_⟩
      · rw [capOf_cons, capOf_cons, cntDst_cons, show cntDst [] x = 0 from rfl]; split <;> omega
      · rw [capTotal_cons, capTotal_cons, List.length_singleton]; simp only; omega
    · simp only [hc, if_false] at h
      obtain ⟨⟨r1, rest'⟩, ht, hy⟩ := Option.map_eq_some_iff.1 h
      simp only [Prod.mk.injEq] at hy
      obtain ⟨rfl, rfl⟩ := hy
      obtain ⟨a1, a4, a5⟩ := ih ht hgr
      refine ⟨(goodCaps_cons _ _).2 ⟨hg0, a1⟩, fun x => ?_, ?_⟩
      · rw [capOf_cons, capOf_cons, ← a4 x]; omega
      · rw [capTotal_cons, capTotal_cons, ← a5]; omega

theorem giveN_spec (donor : Nat) (k : Nat) {rc rc' : List (Nat × Int)} {ms : List (Nat × Nat)}
    (h : giveN donor k rc = some (ms, rc')) (hg : GoodCaps rc) :
    Moves rc ms rc' ∧ ms.length = k ∧ ∀ x ∈ ms, x.1 = donor := by
  induction k generalizing rc ms rc' with
  | zero =>
    simp only [giveN, Option.some.injEq, Prod.mk.injEq] at h
    obtain ⟨rfl, rfl⟩ := h
    exact ⟨.nil hg, rfl, fun _ h => (List.not_mem_nil h).elim⟩
  | succ k ih =>
    simp only [giveN] at h
    cases ht : takeRecip rc with
    | none => simp [ht] at h
    | some y =>
      obtain ⟨r, rc1⟩ := y
      simp only [ht] at h
      obtain ⟨⟨ms1, rc2⟩, hgN, hz⟩ := Option.map_eq_some_iff.1 h
      simp only [Prod.mk.injEq] at hz
      obtain ⟨rfl, rfl⟩ := hz
      have m1 := takeRecip_spec donor ht hg
      obtain ⟨m2, l2, d2⟩ := ih hgN m1.good
      exact ⟨m1.append m2, by rw [List.length_cons, l2], List.forall_mem_cons.2 ⟨rfl, d2⟩⟩

/-- One step of a fold that threads an `Option` and stays `none` once a step fails (the loops of `migrateComp` and
`migrations`): if the fold succeeds, so did its first step. -/
theorem foldl_some_cons {σ α : Type} {f : Option σ → α → Option σ} (hnone : ∀ a, f none a = none) {a : α} {l : List α}
    {s s' : σ} (h : (a :: l).foldl f (some s) = some s') :
    ∃ s1, f (some s) a = some s1 ∧ l.foldl f (some s1) = some s' := by
  rw [List.foldl_cons] at h
  cases hs : f (some s) a with
  | none => rw [hs, Core.foldl_eq_self fun a _ => hnone a] at h; cases h
  | some s1 => exact ⟨s1, rfl, hs ▸ h⟩

theorem two_mul_half {a : Int} (h0 : a ≥ 0) (h2 : a % 2 = 0) : 2 * (((a / 2).toNat : Nat) : Int) = a := by omega

/-- The loop of `migrateComp`. -/
theorem fold_spec (donors : List (Nat × Int)) (ms0 : List (Nat × Nat)) (rc0 : List (Nat × Int))
    (ms : List (Nat × Nat)) (rc' : List (Nat × Int))
    (h : donors.foldl (fun (acc : Option (List (Nat × Nat) × List (Nat × Int))) d =>
      match acc with
      | none => none
      | some (ms, rc) => (giveN d.1 (d.2 / 2).toNat rc).map fun x => (ms ++ x.1, x.2)) (some (ms0, rc0)) = some (ms, rc'))
    (hg : GoodCaps rc0) (hd : GoodCaps donors) :
    ∃ ms1, ms = ms0 ++ ms1 ∧ Moves rc0 ms1 rc' ∧ (∀ n, 2 * cntSrc ms1 n = capOf donors n) ∧
      2 * (ms1.length : Int) = capTotal donors := by
  induction donors generalizing ms0 rc0 with
  | nil =>
    simp only [List.foldl_nil, Option.some.injEq, Prod.mk.injEq] at h
    obtain ⟨rfl, rfl⟩ := h
    exact ⟨[], by simp, .nil hg, by simp [cntSrc, capOf], by simp [capTotal]⟩
  | cons d rest ih =>
    obtain ⟨n0, a⟩ := d
    obtain ⟨ha, hdr⟩ := (goodCaps_cons _ _).1 hd
    obtain ⟨_, hs, h⟩ := foldl_some_cons (fun _ => rfl) h
    obtain ⟨⟨msA, rcA⟩, hgN, rfl⟩ := Option.map_eq_some_iff.1 hs
    obtain ⟨mA, lA, dA⟩ := giveN_spec n0 _ hgN hg
    obtain ⟨msB, e, mB, sB, tB⟩ := ih (ms0 ++ msA) rcA h mA.good hdr
    -- the donor gives away `a / 2` hydrogens, that is its whole (even) amount `a`
    have hlen : 2 * (msA.length : Int) = a := by rw [lA]; exact two_mul_half ha.1 ha.2
    refine ⟨msA ++ msB, by rw [e, List.append_assoc], mA.append mB, fun n => ?_, ?_⟩
    · rw [cntSrc_append, capOf_cons, ← sB n, mul_add, cntSrc_of_forall msA n0 n dA]
      split
      · rw [hlen]
      · rw [mul_zero]
    · rw [capTotal_cons, List.length_append, Nat.cast_add, mul_add, hlen, tB]

theorem capOf_bounds (rc : List (Nat × Int)) (hg : GoodCaps rc) (x : Nat) : 0 ≤ capOf rc x ∧ capOf rc x ≤ capTotal rc := by
  induction rc with
  | nil => exact ⟨le_refl _, le_refl _⟩
  | cons e rest ih =>
    obtain ⟨r, c⟩ := e
    obtain ⟨hc, hgr⟩ := (goodCaps_cons _ _).1 hg
    obtain ⟨i1, i2⟩ := ih hgr
    rw [capOf_cons, capTotal_cons]
    simp only at hc ⊢
    split <;> omega

theorem migrateComp_spec (donors recips : List (Nat × Int)) (ms : List (Nat × Nat))
    (h : migrateComp donors recips = some ms) (hg : GoodCaps recips) (hd : GoodCaps donors)
    (hbal : capTotal recips = capTotal donors) :
    (∀ n, 2 * cntSrc ms n = capOf donors n) ∧ (∀ x, 2 * cntDst ms x = capOf recips x) := by
  unfold migrateComp at h
  obtain ⟨⟨ms', rc'⟩, hf, hms⟩ := Option.map_eq_some_iff.1 h
  simp only at hms; subst hms
  obtain ⟨ms1, e1, mv, src, tot⟩ := fold_spec donors [] recips ms' rc' hf hg hd
  rw [List.nil_append] at e1; subst e1
  -- as many hydrogens were served as the queue held, so nothing is left in it, for any atom
  have htot := mv.total
  exact ⟨src, fun x => by have := mv.cap x; have := capOf_bounds rc' mv.good x; omega⟩

/-! In one component (`compMigrations`) an atom gives or takes its surplus once per occurrence in the list
(`List.count`), so the statements add up over components as they are; that an atom of `affected` occurs in exactly
one component is used once, in `migrations_spec`. -/

theorem insertSorted_eq (x : Nat) (l : List Nat) : insertSorted x l = Core.insertBy (· ≤ ·) x l := by
  induction l with
  | nil => rfl
  | cons y ys ih => simp only [insertSorted, Core.insertBy, ih]

theorem sortNat_perm (l : List Nat) : (sortNat l).Perm l := by
  rw [show sortNat l = Core.sortBy (· ≤ ·) l from
    congrArg (fun f => l.foldr f []) (funext fun x => funext (insertSorted_eq x))]
  exact Core.sortBy_perm

theorem capOf_pick (c : List Nat) (P : Nat → Bool) (g : Nat → Int) (n : Nat) :
    capOf ((c.filter P).map fun m => (m, g m)) n = (c.count n : Int) * (if P n = true then g n else 0) := by
  induction c with
  | nil => simp [capOf]
  | cons z zs ih =>
    rw [List.count_cons, Nat.cast_add, add_mul, ← ih, List.filter_cons]
    by_cases hzn : z = n
    · subst hzn
      by_cases hP : P z = true <;> simp [hP, capOf_cons, add_comm]
    · by_cases hP : P z = true <;> simp [hP, capOf_cons, hzn]

theorem goodCaps_pick (c : List Nat) (P : Nat → Bool) (g : Nat → Int)
    (h : ∀ n ∈ c, P n = true → g n ≥ 0 ∧ g n % 2 = 0) : GoodCaps ((c.filter P).map fun m => (m, g m)) := by
  intro e he
  obtain ⟨n, hn, rfl⟩ := List.mem_map.1 he
  exact h n (List.mem_filter.1 hn).1 (List.mem_filter.1 hn).2

theorem capTotal_pairs (l : List Nat) (g : Nat → Int) : capTotal (l.map fun m => (m, g m)) = (l.map g).sum := by
  unfold capTotal; rw [List.map_map]; rfl

theorem sum_split_sign (c : List Nat) (d : Nat → Int) :
    (c.map d).sum = (((c.filter fun n => d n > 0).map d).sum) - (((c.filter fun n => d n < 0).map fun n => - d n).sum) := by
  induction c with
  | nil => rfl
  | cons z zs ih =>
    rw [List.map_cons, List.sum_cons, ih, List.filter_cons, List.filter_cons]
    by_cases h1 : d z > 0 <;> by_cases h2 : d z < 0 <;>
      simp only [h1, h2, decide_true, decide_false, if_true, Bool.false_eq_true, if_false, List.map_cons,
        List.sum_cons] <;> omega

theorem compMigrations_spec (I : LGraph) (comp : List Nat) (p : List (Nat × Nat))
    (h : compMigrations I comp = some p)
    (hev : ∀ n ∈ comp, dOf I n % 2 = 0) (hbal : (comp.map (dOf I)).sum = 0) :
    (∀ n, 2 * cntSrc p n = (comp.count n : Int) * if dOf I n > 0 then dOf I n else 0) ∧
    (∀ n, 2 * cntDst p n = (comp.count n : Int) * if dOf I n < 0 then - dOf I n else 0) := by
  unfold compMigrations at h
  simp only at h
  have hperm := sortNat_perm comp
  have hev' : ∀ n ∈ sortNat comp, dOf I n % 2 = 0 := fun n hn' => hev n (hperm.mem_iff.1 hn')
  have hgd := goodCaps_pick (sortNat comp) (fun n => dOf I n > 0) (dOf I) fun n hn' hp => by
    have := hev' n hn'; simp only [decide_eq_true_eq] at hp; omega
  have hgr := goodCaps_pick (sortNat comp) (fun n => dOf I n < 0) (fun n => - dOf I n) fun n hn' hp => by
    have := hev' n hn'; simp only [decide_eq_true_eq] at hp; omega
  -- as many hydrogens offered as accepted
  have hb : capTotal (((sortNat comp).filter fun n => dOf I n < 0).map fun n => (n, - dOf I n)) =
      capTotal (((sortNat comp).filter fun n => dOf I n > 0).map fun n => (n, dOf I n)) := by
    have hs := sum_split_sign (sortNat comp) (dOf I)
    have hsum : ((sortNat comp).map (dOf I)).sum = (comp.map (dOf I)).sum := by
      simp only [List.sum_eq_foldr]
      exact (hperm.map _).foldr_eq 0
    rw [hsum, hbal] at hs
    rw [capTotal_pairs, capTotal_pairs]; omega
  obtain ⟨s1, s2⟩ := migrateComp_spec _ _ p h hgr hgd hb
  refine ⟨fun n => ?_, fun n => ?_⟩
  · rw [s1 n, capOf_pick, hperm.count_eq]; simp only [decide_eq_true_eq]
  · rw [s2 n, capOf_pick, hperm.count_eq]; simp only [decide_eq_true_eq]

theorem dedupNat_eq (l : List Nat) : dedupNat l = l.dedup :=
  Core.eq_dedup_of_rec rfl (fun _ _ => rfl) l

theorem mem_dedupNat (l : List Nat) (x : Nat) : x ∈ dedupNat l ↔ x ∈ l := by
  rw [dedupNat_eq]
  exact List.mem_dedup

theorem nodup_dedupNat (l : List Nat) : (dedupNat l).Nodup := by
  rw [dedupNat_eq]
  exact List.nodup_dedup l

/-- The components that meet `cl` and those that do not split `cs`; the former are merged with `cl`. -/
theorem mem_flatten_mergeComp (cs : List (List Nat)) (cl : List Nat) (x : Nat) :
    x ∈ (mergeComp cs cl).flatten ↔ x ∈ cs.flatten ∨ x ∈ cl := by
  unfold mergeComp
  simp only [List.flatten_append, List.flatten_cons, List.flatten_nil, List.append_nil, List.mem_append, mem_dedupNat]
  rw [← (List.filter_append_perm (fun c : List Nat => c.any (· ∈ cl)) cs).flatten.mem_iff, List.flatten_append,
    List.mem_append, or_left_comm, or_assoc]

theorem nodup_flatten_mergeComp (cs : List (List Nat)) (cl : List Nat) (h : cs.flatten.Nodup) :
    (mergeComp cs cl).flatten.Nodup := by
  unfold mergeComp
  simp only [List.flatten_append, List.flatten_cons, List.flatten_nil, List.append_nil]
  have hsplit := (List.filter_append_perm (fun c : List Nat => c.any (· ∈ cl)) cs).flatten.nodup_iff.2 h
  rw [List.flatten_append] at hsplit
  obtain ⟨_, hmiss, hdisj⟩ := List.nodup_append.1 hsplit
  refine List.nodup_append.2 ⟨hmiss, nodup_dedupNat _, fun x hx y hy hxy => ?_⟩
  subst hxy
  rcases List.mem_append.1 ((mem_dedupNat _ _).1 hy) with hy | hy
  · exact hdisj x hy x hx rfl
  · -- a component that does not meet `cl` holds no member of `cl`
    obtain ⟨c, hc, hxc⟩ := List.mem_flatten.1 hx
    have hnone := (List.mem_filter.1 hc).2
    simp only [Bool.not_eq_true', List.any_eq_false, decide_eq_true_eq] at hnone
    exact hnone x hxc hy

theorem components_spec (p2n : List (Val × List Nat)) :
    (components p2n).flatten.Nodup ∧ ∀ x, x ∈ (components p2n).flatten ↔ x ∈ p2n.flatMap (·.2) :=
  ⟨Core.foldl_inv (P := fun cs : List (List Nat) => cs.flatten.Nodup)
      (fun cs kv _ h => nodup_flatten_mergeComp cs kv.2 h) List.nodup_nil,
    fun x => (Core.foldl_or_iff (Q := fun cs : List (List Nat) => x ∈ cs.flatten) (C := fun kv => x ∈ kv.2)
      fun cs kv => mem_flatten_mergeComp cs kv.2 x).trans (by simp [List.mem_flatMap])⟩

theorem migfold_spec (I : LGraph) (cs : List (List Nat)) (ms0 ms : List (Nat × Nat))
    (h : cs.foldl (fun (acc : Option (List (Nat × Nat))) comp =>
      match acc with
      | none => none
      | some ms => (compMigrations I comp).map fun x => ms ++ x) (some ms0) = some ms)
    (hev : ∀ n ∈ cs.flatten, dOf I n % 2 = 0) (hbal : ∀ c ∈ cs, (c.map (dOf I)).sum = 0) :
    ∀ n, 2 * cntSrc ms n = 2 * cntSrc ms0 n + (cs.flatten.count n : Int) * (if dOf I n > 0 then dOf I n else 0) ∧
         2 * cntDst ms n = 2 * cntDst ms0 n + (cs.flatten.count n : Int) * (if dOf I n < 0 then - dOf I n else 0) := by
  induction cs generalizing ms0 with
  | nil =>
    simp only [List.foldl_nil, Option.some.injEq] at h
    subst h; intro n; simp
  | cons c rest ih =>
    obtain ⟨_, hs, h⟩ := foldl_some_cons (fun _ => rfl) h
    obtain ⟨p, hc, rfl⟩ := Option.map_eq_some_iff.1 hs
    simp only [List.flatten_cons] at hev
    obtain ⟨s1, s2⟩ := compMigrations_spec I c p hc
      (fun n hn' => hev n (List.mem_append_left _ hn')) (hbal c (List.mem_cons_self))
    have := ih (ms0 ++ p) h (fun n hn' => hev n (List.mem_append_right _ hn'))
      (fun c' hc' => hbal c' (List.mem_cons_of_mem _ hc'))
    intro n
    obtain ⟨t1, t2⟩ := this n
    rw [cntSrc_append] at t1
    rw [cntDst_append] at t2
    rw [List.flatten_cons, List.count_append, Nat.cast_add, add_mul, add_mul, ← s1 n, ← s2 n, t1, t2, mul_add, mul_add,
      add_assoc, add_assoc]
    exact ⟨rfl, rfl⟩

theorem migrations_spec (I : LGraph) (ms : List (Nat × Nat)) (hm : migrations I = some ms)
    (hev : ∀ n ∈ affected I, dOf I n % 2 = 0) (hbal : componentsBalanced I = true) (n : Nat) :
    2 * cntSrc ms n = (if n ∈ affected I ∧ dOf I n > 0 then dOf I n else 0) ∧
    2 * cntDst ms n = (if n ∈ affected I ∧ dOf I n < 0 then - dOf I n else 0) := by
  have cn := (components_spec (pairToNodes I)).1
  have cm : ∀ x, x ∈ (components (pairToNodes I)).flatten ↔ x ∈ affected I := (components_spec (pairToNodes I)).2
  have hb : ∀ c ∈ components (pairToNodes I), (c.map (dOf I)).sum = 0 := fun c hc => by
    simpa using List.all_eq_true.1 hbal c hc
  unfold migrations at hm
  have := migfold_spec I _ [] ms hm (fun x hx => hev x ((cm x).1 hx)) hb n
  rw [show cntSrc [] n = 0 from rfl, show cntDst [] n = 0 from rfl, mul_zero, zero_add, zero_add, cn.count,
    if_congr (cm n) rfl rfl] at this
  by_cases hn : n ∈ affected I <;>
    simpa only [hn, if_true, if_false, Nat.cast_one, Nat.cast_zero, one_mul, zero_mul, true_and, false_and] using this

theorem fold_upd (l : List Nat) (G : LGraph) (f : Attrs → Attrs) :
    (l.foldl (fun G n => updNode G n f) G).ids = G.ids ∧
    ∀ v ∈ G.ids, (l.foldl (fun G n => updNode G n f) G).attrs v = f^[l.count v] (G.attrs v) := by
  refine Core.foldl_inv_prefix (f := fun G n => updNode G n f) (l := l) (s := []) (b := G)
    (P := fun s H => H.ids = G.ids ∧ ∀ v ∈ G.ids, H.attrs v = f^[s.count v] (G.attrs v))
    (fun s H n _ h => ⟨(updNode_ids H n f).trans h.1, fun v hv => ?_⟩) ⟨rfl, fun _ _ => rfl⟩
  rw [updNode_attrs H n f v (h.1 ▸ hv), h.2 v hv, List.count_append, List.count_singleton]
  by_cases hn : n = v
  · rw [if_pos hn, if_pos (beq_iff_eq.2 hn), Function.iterate_succ_apply']
  · rw [if_neg hn, if_neg (by simpa using hn), Nat.add_zero]

theorem explicitH_attrs (I I' : LGraph) (h : explicitH I = some I') :
    ∃ ms, migrations I = some ms ∧ I'.ids = I.ids ++ (newHNodes (nextId I) ms).map (·.1) ∧
      ∀ n ∈ I.ids, I'.attrs n = decH^[(affected I).count n] (I.attrs n) := by
  unfold explicitH at h
  cases hm : migrations I with
  | none => simp [hm] at h
  | some ms =>
    simp only [hm, Option.some.injEq] at h
    obtain ⟨hids, hat⟩ := fold_upd (affected I) ⟨I.nodes ++ newHNodes (nextId I) ms, I.edges ++ newHEdges (nextId I) ms⟩ decH
    refine ⟨ms, rfl, ?_, fun n hn => ?_⟩
    · rw [← h, hids]; simp [LGraph.ids]
    · rw [← h, hat n (by simp only [LGraph.ids, List.map_append, List.mem_append]; exact Or.inl hn)]
      exact congrArg _ (LGraph.attrs_append_left (g' := I) rfl hn)

def TgWF (a : Attrs) : Prop :=
  3 ≤ (tupList (tupGet (Attrs.get a "typesGH") 0)).length ∧ 3 ≤ (tupList (tupGet (Attrs.get a "typesGH") 1)).length

instance (a : Attrs) : Decidable (TgWF a) := inferInstanceAs (Decidable (_ ∧ _))

theorem getD_take_mid (t : List Val) (x : Val) (h : 3 ≤ t.length) :
    (t.take 2 ++ [x] ++ t.drop 3).getD 2 Val.none = x ∧ (t.take 2 ++ [x] ++ t.drop 3).length = t.length := by
  match t, h with
  | a :: b :: c :: rest, _ => exact ⟨rfl, rfl⟩

theorem tup2_0 (X Y : List Val) : tupList (tupGet (.tup [.tup X, .tup Y]) 0) = X := rfl
theorem tup2_1 (X Y : List Val) : tupList (tupGet (.tup [.tup X, .tup Y]) 1) = Y := rfl

theorem decH_get (a : Attrs) :
    Attrs.get (decH a) "typesGH" =
      .tup [.tup ((tupList (tupGet (Attrs.get a "typesGH") 0)).take 2 ++
                   [if hL a - hR a ≥ 0 then Val.num (hL a - 2)
                    else (tupList (tupGet (Attrs.get a "typesGH") 0)).getD 2 Val.none] ++
                   (tupList (tupGet (Attrs.get a "typesGH") 0)).drop 3),
            .tup ((tupList (tupGet (Attrs.get a "typesGH") 1)).take 2 ++
                   [if hL a - hR a ≥ 0 then (tupList (tupGet (Attrs.get a "typesGH") 1)).getD 2 Val.none
                    else Val.num (hR a - 2)] ++
                   (tupList (tupGet (Attrs.get a "typesGH") 1)).drop 3)] := by
  have hLa : hL a = numOf ((tupList (tupGet (Attrs.get a "typesGH") 0)).getD 2 Val.none) := rfl
  have hRa : hR a = numOf ((tupList (tupGet (Attrs.get a "typesGH") 1)).getD 2 Val.none) := rfl
  unfold decH
  simp only [Attrs.get_set_self, ← hLa, ← hRa]
  split <;> rfl

theorem decH_spec (a : Attrs) (hw : TgWF a) :
    TgWF (decH a) ∧
    hL (decH a) = (if hL a - hR a ≥ 0 then hL a - 2 else hL a) ∧
    hR (decH a) = (if hL a - hR a ≥ 0 then hR a else hR a - 2) := by
  obtain ⟨w0, w1⟩ := hw
  have hLd : hL (decH a) = numOf ((tupList (tupGet (Attrs.get (decH a) "typesGH") 0)).getD 2 Val.none) := rfl
  have hRd : hR (decH a) = numOf ((tupList (tupGet (Attrs.get (decH a) "typesGH") 1)).getD 2 Val.none) := rfl
  unfold TgWF
  rw [hLd, hRd, decH_get, tup2_0, tup2_1, (getD_take_mid _ _ w0).1, (getD_take_mid _ _ w1).1, (getD_take_mid _ _ w0).2,
    (getD_take_mid _ _ w1).2]
  refine ⟨⟨w0, w1⟩, ?_, ?_⟩ <;> split <;> rfl

theorem decH_iter (k : Nat) (a : Attrs) (hw : TgWF a) (hk : 2 * (k : Int) = |hL a - hR a|) :
    hL (decH^[k] a) = min (hL a) (hR a) ∧ hR (decH^[k] a) = min (hL a) (hR a) := by
  induction k generalizing a with
  | zero =>
    have : hL a - hR a = 0 := abs_eq_zero.1 hk.symm
    rw [Function.iterate_zero, id_eq]
    omega
  | succ k ih =>
    obtain ⟨w', l', r'⟩ := decH_spec a hw
    rw [Function.iterate_succ_apply]
    push_cast at hk
    by_cases hd : hL a - hR a ≥ 0
    · rw [if_pos hd] at l' r'
      rw [abs_of_nonneg hd] at hk
      obtain ⟨e1, e2⟩ := ih (decH a) w' (by rw [l', r', abs_of_nonneg (by omega)]; omega)
      rw [e1, e2, l', r', min_eq_right (by omega), min_eq_right (by omega)]
      exact ⟨rfl, rfl⟩
    · rw [if_neg hd] at l' r'
      rw [abs_of_neg (not_le.1 hd)] at hk
      obtain ⟨e1, e2⟩ := ih (decH a) w' (by rw [l', r', abs_of_nonpos (by omega)]; omega)
      rw [e1, e2, l', r', min_eq_left (by omega), min_eq_left (by omega)]
      exact ⟨rfl, rfl⟩

theorem even_of_two_mul_eq_abs {d : Int} {k : Nat} (h : 2 * (k : Int) = |d|) : d % 2 = 0 :=
  Int.emod_eq_zero_of_dvd (Int.dvd_natAbs.1 ⟨k, (Int.abs_eq_natAbs d ▸ h).symm⟩)

/-- With both sides at the smaller one, the larger side has lost the surplus, which is what the migrations carry. -/
theorem conserve_arith (l r : Int) :
    min l r + (if l - r > 0 then l - r else 0) = l ∧ min l r + (if l - r < 0 then -(l - r) else 0) = r := by
  omega

end SynKit.Reactor
