import SynKitProofs.IRTree
import SynKitProofs.Core.Fold
/-!
# The search over the tree of an `IRSys`, with and without a depth cap

`gSearch` walks the tree of `S` with a state `β`: `upd` is the leaf case, `pr cp b` the test that skips the child with
prefix `cp` in state `b` (the partial-label test of `nauty.py`; constantly `false` in `canon.py`).  When a skipped branch
holds no leaf that would change the state (`PruneInvisible`) the search is the left fold of `upd` over `S.leaves`.

`gSearchCapped` is `_search` under `max_depth = d`: the test `depth > d` at the entry of every call, and the flag that a
call beyond the cap returns ends every enclosing loop, the state staying as it is at that moment.  For any prune test:
a run without the flag is the uncapped run, a cap that no leaf exceeds is never hit, the state changes only by leaf
cases at depth `≤ d`, and from a state in which nothing is pruned the first leaf decides whether any leaf is reached.
Without pruning the run is the fold over the leaves before the first one deeper than `d` (`crnVisited`).
-/
namespace SynKit.Canon

section Search
variable {κ : Type} [DecidableEq κ] {β : Type} (S : IRSys κ) (upd : β → List Nat × List Nat → β)
  (pr : List Nat → β → Bool)

def gSearch : Nat → List (List Nat) → List Nat → β → β
  | 0, _, _, b => b
  | fuel + 1, P, pfx, b =>
    if irIsDiscrete (S.refine P) then upd b (pfx, (S.refine P).flatten)
    else
      match irTargetCell (S.refine P) with
      | none => b
      | some (pre, c, post) =>
        (S.children c).foldl (fun b v =>
          if pr (pfx ++ [v]) b then b else gSearch fuel (irIndividualise pre c post v) (pfx ++ [v]) b) b

def PruneInvisible : Prop :=
  ∀ cp b, pr cp b = true → ∀ ls : List (List Nat × List Nat), (∀ l ∈ ls, cp <+: l.1) → ls.foldl upd b = b

variable {S upd pr}

theorem gSearch_eq_fold (hpr : PruneInvisible upd pr) (fuel : Nat) (P : List (List Nat)) (pfx : List Nat) (b : β) :
    gSearch S upd pr fuel P pfx b = (S.leaves fuel P pfx).foldl upd b := by
  induction fuel generalizing P pfx b with
  | zero => rfl
  | succ fuel ih =>
    simp only [gSearch, IRSys.leaves]
    split
    · rfl
    · cases ht : irTargetCell (S.refine P) with
      | none => rfl
      | some t =>
        obtain ⟨pre, c, post⟩ := t
        simp only [List.foldl_flatMap]
        apply List.foldl_ext
        intro b v _
        split
        · rename_i hp
          -- every leaf below the skipped child extends its prefix
          exact (hpr _ _ hp _ (S.leaves_prefix fuel _ _)).symm
        · exact ih _ _ _

end Search

end SynKit.Canon

namespace SynKit.CrnCanon

def crnVisited (d : Nat) (ls : List (List Nat × List Nat)) : List (List Nat × List Nat) :=
  ls.takeWhile fun l => decide (l.1.length ≤ d)

def crnAnyDeeper (d : Nat) (ls : List (List Nat × List Nat)) : Bool := ls.any fun l => decide (d < l.1.length)

theorem crnAnyDeeper_false_iff (d : Nat) (a : List (List Nat × List Nat)) :
    crnAnyDeeper d a = false ↔ ∀ l ∈ a, l.1.length ≤ d := by
  simp only [crnAnyDeeper, List.any_eq_false, decide_eq_true_eq, Nat.not_lt]

theorem crnAnyDeeper_eq_true_iff (d : Nat) (a : List (List Nat × List Nat)) :
    crnAnyDeeper d a = true ↔ ∃ l ∈ a, d < l.1.length := by
  simp only [crnAnyDeeper, List.any_eq_true, decide_eq_true_eq]

theorem crnVisited_append_of_deeper (d : Nat) (a b : List (List Nat × List Nat)) (h : crnAnyDeeper d a = true) :
    crnVisited d (a ++ b) = crnVisited d a := by
  induction a with
  | nil => simp [crnAnyDeeper] at h
  | cons x a ih =>
    simp only [crnVisited, List.cons_append, List.takeWhile_cons]
    split
    · rename_i hx
      rw [crnAnyDeeper, List.any_cons, Bool.or_eq_true, decide_eq_true_eq] at h
      exact congrArg (x :: ·) (ih (h.resolve_left (Nat.not_lt.2 (of_decide_eq_true hx))))
    · rfl

theorem crnVisited_append_of_none_deeper (d : Nat) (a b : List (List Nat × List Nat)) (h : crnAnyDeeper d a = false) :
    crnVisited d (a ++ b) = a ++ crnVisited d b :=
  List.takeWhile_append_of_pos fun l hl => decide_eq_true ((crnAnyDeeper_false_iff d a).1 h l hl)

theorem crnVisited_self_of_none_deeper (d : Nat) (a : List (List Nat × List Nat)) (h : crnAnyDeeper d a = false) :
    crnVisited d a = a := by
  have := crnVisited_append_of_none_deeper d a [] h
  simpa [crnVisited] using this

theorem crnAnyDeeper_append (d : Nat) (a b : List (List Nat × List Nat)) :
    crnAnyDeeper d (a ++ b) = (crnAnyDeeper d a || crnAnyDeeper d b) := by
  simp [crnAnyDeeper, List.any_append]

theorem mem_crnVisited {d : Nat} {ls : List (List Nat × List Nat)} {l : List Nat × List Nat}
    (h : l ∈ crnVisited d ls) : l ∈ ls ∧ l.1.length ≤ d :=
  ⟨(List.takeWhile_sublist _).subset h, of_decide_eq_true (List.all_eq_true.1 List.all_takeWhile l h)⟩

theorem crnVisited_eq_nil_iff (d : Nat) (l : List Nat × List Nat) (rest : List (List Nat × List Nat)) :
    crnVisited d (l :: rest) = [] ↔ d < l.1.length := by
  simp only [crnVisited, List.takeWhile_cons]
  by_cases hx : l.1.length ≤ d
  · simp [hx]
  · simp [hx]; omega

end SynKit.CrnCanon

namespace SynKit.Canon
open SynKit.Core (foldl_flag_sticky foldl_flag_false_eq foldl_flag_stays_false)
open SynKit.CrnCanon (crnVisited crnAnyDeeper crnVisited_append_of_deeper crnVisited_append_of_none_deeper
  crnVisited_self_of_none_deeper crnAnyDeeper_append crnVisited_eq_nil_iff crnAnyDeeper_eq_true_iff)

section Capped
variable {κ : Type} [DecidableEq κ] {β : Type} (S : IRSys κ) (upd : β → List Nat × List Nat → β)
  (pr : List Nat → β → Bool)

/-- In the loop over the children the state is `(state, stopped)`: once a child returned the flag the loop is left,
which the fold models by passing the state through. -/
def gSearchCapped (d : Nat) : Nat → Nat → List (List Nat) → List Nat → β → β × Bool
  | 0, _, _, _, b => (b, false)
  | fuel + 1, depth, P, pfx, b =>
    if depth > d then (b, true)
    else if irIsDiscrete (S.refine P) then (upd b (pfx, (S.refine P).flatten), false)
    else
      match irTargetCell (S.refine P) with
      | none => (b, false)
      | some (pre, c, post) =>
        (S.children c).foldl (fun st v =>
          if st.2 then st
          else if pr (pfx ++ [v]) st.1 then st
          else gSearchCapped d fuel (depth + 1) (irIndividualise pre c post v) (pfx ++ [v]) st.1) (b, false)

/-- One call of the three recursions on the same arguments — the capped search, the search, the leaves — under the
case distinction they share: the cap is exceeded (capped search only), the refined partition is discrete, it has no
target cell, or the loop over the children runs. -/
theorem gCall_cases (d fuel depth : Nat) (P : List (List Nat)) (pfx : List Nat) (b : β) :
    (d < depth ∧ gSearchCapped S upd pr d (fuel + 1) depth P pfx b = (b, true)) ∨
    (depth ≤ d ∧ irIsDiscrete (S.refine P) = true ∧
      gSearchCapped S upd pr d (fuel + 1) depth P pfx b = (upd b (pfx, (S.refine P).flatten), false) ∧
      gSearch S upd pr (fuel + 1) P pfx b = upd b (pfx, (S.refine P).flatten) ∧
      S.leaves (fuel + 1) P pfx = [(pfx, (S.refine P).flatten)]) ∨
    (depth ≤ d ∧ irIsDiscrete (S.refine P) = false ∧ irTargetCell (S.refine P) = none ∧
      gSearchCapped S upd pr d (fuel + 1) depth P pfx b = (b, false) ∧
      gSearch S upd pr (fuel + 1) P pfx b = b ∧ S.leaves (fuel + 1) P pfx = []) ∨
    (∃ pre c post, depth ≤ d ∧ irIsDiscrete (S.refine P) = false ∧ irTargetCell (S.refine P) = some (pre, c, post) ∧
      gSearchCapped S upd pr d (fuel + 1) depth P pfx b =
        (S.children c).foldl (fun st v =>
          if st.2 then st
          else if pr (pfx ++ [v]) st.1 then st
          else gSearchCapped S upd pr d fuel (depth + 1) (irIndividualise pre c post v) (pfx ++ [v]) st.1)
          (b, false) ∧
      gSearch S upd pr (fuel + 1) P pfx b =
        (S.children c).foldl (fun b v =>
          if pr (pfx ++ [v]) b then b
          else gSearch S upd pr fuel (irIndividualise pre c post v) (pfx ++ [v]) b) b ∧
      S.leaves (fuel + 1) P pfx =
        (S.children c).flatMap fun v => S.leaves fuel (irIndividualise pre c post v) (pfx ++ [v])) := by
  simp only [gSearchCapped, gSearch, IRSys.leaves]
  by_cases hd : depth > d
  · exact Or.inl ⟨hd, if_pos hd⟩
  · rw [if_neg hd]
    cases hdis : irIsDiscrete (S.refine P)
    · cases ht : irTargetCell (S.refine P) with
      | none => exact Or.inr (Or.inr (Or.inl ⟨Nat.le_of_not_gt hd, rfl, rfl, rfl, rfl, rfl⟩))
      | some t => exact Or.inr (Or.inr (Or.inr ⟨t.1, t.2.1, t.2.2, Nat.le_of_not_gt hd, rfl, rfl, rfl, rfl, rfl⟩))
    · exact Or.inr (Or.inl ⟨Nat.le_of_not_gt hd, rfl, rfl, rfl, rfl⟩)

variable {S upd pr}

theorem gSearchCapped_flag_false (d fuel depth : Nat) (P : List (List Nat)) (pfx : List Nat) (b r : β)
    (h : gSearchCapped S upd pr d fuel depth P pfx b = (r, false)) : r = gSearch S upd pr fuel P pfx b := by
  induction fuel generalizing depth P pfx b r with
  | zero => exact (Prod.mk.inj h).1.symm
  | succ fuel ih =>
    rcases gCall_cases S upd pr d fuel depth P pfx b with
      ⟨_, e⟩ | ⟨_, _, e, eS, _⟩ | ⟨_, _, _, e, eS, _⟩ | ⟨pre, c, post, _, _, _, e, eS, _⟩
    · rw [e] at h
      exact absurd (Prod.mk.inj h).2 (by decide)
    · rw [e] at h
      rw [eS]
      exact (Prod.mk.inj h).1.symm
    · rw [e] at h
      rw [eS]
      exact (Prod.mk.inj h).1.symm
    · rw [e] at h
      rw [eS]
      refine foldl_flag_false_eq _ _ (fun _ _ => rfl) (S.children c) ?_ b r h
      intro s v r' _ hr'
      simp only [Bool.false_eq_true, if_false] at hr'
      split at hr'
      · rename_i hp
        rw [if_pos hp]
        exact (Prod.mk.inj hr').1.symm
      · rename_i hp
        rw [if_neg hp]
        exact ih _ _ _ _ _ hr'

/-- Whatever is pruned or cut: the state only ever changes by the leaf case at a leaf of depth `≤ d`. -/
theorem gSearchCapped_inv (d : Nat) (I : β → Prop) (fuel depth : Nat) (P : List (List Nat)) (pfx : List Nat) (b : β)
    (hdep : depth = pfx.length) (hupd : ∀ b, ∀ l ∈ S.leaves fuel P pfx, l.1.length ≤ d → I b → I (upd b l))
    (hb : I b) : I (gSearchCapped S upd pr d fuel depth P pfx b).1 := by
  induction fuel generalizing depth P pfx b with
  | zero => exact hb
  | succ fuel ih =>
    rcases gCall_cases S upd pr d fuel depth P pfx b with
      ⟨_, e⟩ | ⟨hd, _, e, _, eL⟩ | ⟨_, _, _, e, _, _⟩ | ⟨pre, c, post, _, _, _, e, _, eL⟩
    · rw [e]; exact hb
    · rw [e]
      exact hupd b _ (eL ▸ List.mem_singleton.2 rfl) (hdep ▸ hd) hb
    · rw [e]; exact hb
    · rw [e]
      rw [eL] at hupd
      refine Core.foldl_inv (P := fun st : β × Bool => I st.1) ?_ hb
      intro st v hv hI
      split
      · exact hI
      · split
        · exact hI
        · exact ih _ _ _ _ (by simp [hdep]) (fun b l hl => hupd b l (List.mem_flatMap.2 ⟨v, hv, hl⟩)) hI

theorem foldl_capped_eq_visited {γ : Type} (upd : β → List Nat × List Nat → β) (d : Nat) (child : γ → β → β × Bool)
    (lv : γ → List (List Nat × List Nat)) (cs : List γ)
    (h : ∀ v ∈ cs, ∀ b, child v b = ((crnVisited d (lv v)).foldl upd b, crnAnyDeeper d (lv v))) (b : β) :
    cs.foldl (fun acc v => if acc.2 then acc else child v acc.1) (b, false) =
      ((crnVisited d (cs.flatMap lv)).foldl upd b, crnAnyDeeper d (cs.flatMap lv)) := by
  induction cs generalizing b with
  | nil => rfl
  | cons v cs ih =>
    rw [List.foldl_cons, List.flatMap_cons]
    simp only [Bool.false_eq_true, if_false]
    rw [h v List.mem_cons_self b, crnAnyDeeper_append]
    cases hany : crnAnyDeeper d (lv v) with
    | true =>
      rw [foldl_flag_sticky _ (fun s w => by simp), crnVisited_append_of_deeper d _ _ hany]
      rfl
    | false =>
      rw [ih (fun w hw => h w (List.mem_cons_of_mem _ hw)), crnVisited_append_of_none_deeper d _ _ hany,
        List.foldl_append, crnVisited_self_of_none_deeper d _ hany]
      rfl

section wf
variable (hS : S.Lawful) {ids : List Nat} (hn : ids.Nodup)
include hS hn

theorem gSearchCapped_no_stop (d fuel depth : Nat) (P : List (List Nat)) (pfx : List Nat) (b : β)
    (hok : IRPartOK ids P) (hf : ids.length < fuel + P.length) (hdep : depth = pfx.length)
    (hle : ∀ l ∈ S.leaves fuel P pfx, l.1.length ≤ d) :
    (gSearchCapped S upd pr d fuel depth P pfx b).2 = false := by
  induction fuel, P, hok, hf using IRPartOK.fuel_induction generalizing depth pfx b with
  | succ fuel P hok hf ih =>
    -- the node has a leaf below it, which extends its prefix
    obtain ⟨l0, hm⟩ := List.exists_mem_of_ne_nil _ (IRSys.leaves_ne_nil hS hn (fuel + 1) P pfx hok hf)
    have h1 := (S.leaves_prefix (fuel + 1) P pfx l0 hm).length_le
    have h2 := hle l0 hm
    rcases gCall_cases S upd pr d fuel depth P pfx b with
      ⟨_, _⟩ | ⟨_, _, e, _, _⟩ | ⟨_, _, _, e, _, _⟩ | ⟨pre, c, post, _, _, ht, e, _, eL⟩
    · omega
    · rw [e]
    · rw [e]
    · rw [e]
      rw [eL] at hle
      apply foldl_flag_stays_false
      intro s v hv
      obtain ⟨hok', hlen'⟩ := IRSys.child_ok hS hn hok ht hv
      simp only [Bool.false_eq_true, if_false]
      split
      · rfl
      · exact ih _ hok' hlen' _ _ _ (by simp [hdep]) fun l hl' => hle l (List.mem_flatMap.2 ⟨v, hv, hl'⟩)

/-- From a state in which nothing is pruned (`best = None`) the descent to the first leaf is never pruned, and the
first call beyond the cap ends the whole search; `J` is any property that the first leaf case establishes and every
leaf case keeps. -/
theorem gSearchCapped_first (d : Nat) (b0 : β) (hb0 : ∀ cp, pr cp b0 = false) (J : β → Prop)
    (hJ : ∀ b l, J b → J (upd b l)) (fuel depth : Nat) (P : List (List Nat)) (pfx : List Nat)
    (l0 : List Nat × List Nat) (rest : List (List Nat × List Nat))
    (hok : IRPartOK ids P) (hf : ids.length < fuel + P.length) (hdep : depth = pfx.length)
    (hL : S.leaves fuel P pfx = l0 :: rest) :
    (d < l0.1.length → gSearchCapped S upd pr d fuel depth P pfx b0 = (b0, true)) ∧
    (l0.1.length ≤ d → J (upd b0 l0) → J (gSearchCapped S upd pr d fuel depth P pfx b0).1) := by
  induction fuel, P, hok, hf using IRPartOK.fuel_induction generalizing depth pfx rest with
  | succ fuel P hok hf ih =>
    have hpre := (S.leaves_prefix (fuel + 1) P pfx l0 (hL ▸ List.mem_cons_self)).length_le
    rcases gCall_cases S upd pr d fuel depth P pfx b0 with
      ⟨_, e⟩ | ⟨_, _, e, _, eL⟩ | ⟨_, _, _, _, _, eL⟩ | ⟨pre, c, post, _, _, ht, e, _, eL⟩
    · rw [e]
      exact ⟨fun _ => rfl, fun h => by omega⟩
    · rw [e]
      rw [eL, List.cons.injEq] at hL
      have : l0.1.length = pfx.length := by rw [← hL.1]
      exact ⟨fun h => by omega, fun _ h => hL.1 ▸ h⟩
    · rw [eL] at hL
      exact absurd hL (by simp)
    · rw [e]
      rw [eL] at hL
      cases hch : S.children c with
      | nil => rw [hch] at hL; exact absurd hL (by simp)
      | cons v vs =>
        obtain ⟨hok', hlen'⟩ := IRSys.child_ok hS hn hok ht (hch ▸ List.mem_cons_self)
        rw [hch, List.flatMap_cons] at hL
        cases hLv : S.leaves fuel (irIndividualise pre c post v) (pfx ++ [v]) with
        | nil => exact absurd hLv (IRSys.leaves_ne_nil hS hn fuel _ _ hok' (by omega))
        | cons l1 rest1 =>
          rw [hLv, List.cons_append, List.cons.injEq] at hL
          obtain ⟨rfl, _⟩ := hL
          obtain ⟨hA, hB⟩ := ih _ hok' hlen' (depth + 1) _ rest1 (by simp [hdep]) hLv
          rw [List.foldl_cons]
          simp only [hb0, Bool.false_eq_true, if_false]
          constructor
          · intro hlt'
            rw [hA hlt']
            exact foldl_flag_sticky _ (fun _ _ => rfl) vs b0
          · intro hle' hJ0
            refine Core.foldl_inv (P := fun st : β × Bool => J st.1) ?_ (hB hle' hJ0)
            intro st w _ hI
            split
            · exact hI
            · split
              · exact hI
              · exact gSearchCapped_inv d J fuel _ _ _ st.1 (by simp [hdep]) (fun b l _ _ => hJ b l) hI

/-- With `best = None` as the state: the run ends with `None` exactly when the first leaf lies beyond the cap, and then
the flag is up. -/
theorem gSearchCapped_none_iff {γ : Type} {upd : Option γ → List Nat × List Nat → Option γ}
    {pr : List Nat → Option γ → Bool} (hpr : ∀ cp, pr cp none = false) (hupd : ∀ b l, upd b l ≠ none)
    (d fuel depth : Nat) (P : List (List Nat)) (pfx : List Nat)
    (hok : IRPartOK ids P) (hf : ids.length < fuel + P.length) (hdep : depth = pfx.length) :
    ((gSearchCapped S upd pr d fuel depth P pfx none).1 = none ↔
      ∃ l rest, S.leaves fuel P pfx = l :: rest ∧ d < l.1.length) ∧
    ((gSearchCapped S upd pr d fuel depth P pfx none).1 = none →
      gSearchCapped S upd pr d fuel depth P pfx none = (none, true)) := by
  obtain ⟨l0, rest, hL⟩ := List.exists_cons_of_ne_nil (IRSys.leaves_ne_nil hS hn fuel P pfx hok hf)
  obtain ⟨hA, hB⟩ := gSearchCapped_first hS hn d none hpr (· ≠ none) (fun b l _ => hupd b l) fuel depth P pfx l0 rest
    hok hf hdep hL
  rw [hL]
  by_cases hd : d < l0.1.length
  · rw [hA hd]
    exact ⟨⟨fun _ => ⟨l0, rest, rfl, hd⟩, fun _ => rfl⟩, fun _ => rfl⟩
  · have hne := hB (Nat.le_of_not_lt hd) (hupd none l0)
    refine ⟨⟨fun h => absurd h hne, ?_⟩, fun h => absurd h hne⟩
    rintro ⟨l, rest', he, hlt'⟩
    rw [List.cons.injEq] at he
    exact absurd (he.1 ▸ hlt') hd

theorem gSearchCapped_eq_visited (hpr : ∀ cp b, pr cp b = false) (d fuel depth : Nat) (P : List (List Nat))
    (pfx : List Nat) (b : β) (hok : IRPartOK ids P) (hf : ids.length < fuel + P.length) (hdep : depth = pfx.length) :
    gSearchCapped S upd pr d fuel depth P pfx b =
      ((crnVisited d (S.leaves fuel P pfx)).foldl upd b, crnAnyDeeper d (S.leaves fuel P pfx)) := by
  induction fuel, P, hok, hf using IRPartOK.fuel_induction generalizing depth pfx b with
  | succ fuel P hok hf ih =>
    rcases gCall_cases S upd pr d fuel depth P pfx b with
      ⟨hd, e⟩ | ⟨hd, _, e, _, eL⟩ | ⟨_, _, _, e, _, eL⟩ | ⟨pre, c, post, _, _, ht, e, _, eL⟩
    · -- entered beyond the cap: every leaf below lies deeper, and there is one
      rw [e]
      obtain ⟨l0, rest, hL⟩ := List.exists_cons_of_ne_nil (IRSys.leaves_ne_nil hS hn (fuel + 1) P pfx hok hf)
      have h0 := (S.leaves_prefix (fuel + 1) P pfx l0 (hL ▸ List.mem_cons_self)).length_le
      rw [hL, (crnVisited_eq_nil_iff d l0 rest).2 (by omega),
        (crnAnyDeeper_eq_true_iff d _).2 ⟨l0, List.mem_cons_self, by omega⟩]
      rfl
    · rw [e, eL]
      have hx : pfx.length ≤ d := by omega
      simp [crnVisited, crnAnyDeeper, hx]
    · rw [e, eL]
      rfl
    · rw [e, eL]
      simp only [hpr, Bool.false_eq_true, if_false]
      refine foldl_capped_eq_visited upd d
        (fun v b => gSearchCapped S upd pr d fuel (depth + 1) (irIndividualise pre c post v) (pfx ++ [v]) b)
        (fun v => S.leaves fuel (irIndividualise pre c post v) (pfx ++ [v])) (S.children c) ?_ b
      intro v hv b'
      obtain ⟨hok', hlen'⟩ := IRSys.child_ok hS hn hok ht hv
      exact ih _ hok' hlen' _ _ _ (by simp [hdep])

end wf
end Capped

theorem irMaxDepth_foldl_le (ls : List (List Nat × List Nat)) (m d : Nat) :
    ls.foldl (fun m l => Nat.max m (irLeafDepth l)) m ≤ d ↔ m ≤ d ∧ ∀ l ∈ ls, l.1.length ≤ d := by
  induction ls generalizing m with
  | nil => simp
  | cons a ls ih =>
    rw [List.foldl_cons, ih, Nat.max_le, and_assoc]
    simp only [List.mem_cons, forall_eq_or_imp, irLeafDepth]

theorem irMaxDepth_le_iff (ls : List (List Nat × List Nat)) (d : Nat) :
    irMaxDepth ls ≤ d ↔ ∀ l ∈ ls, l.1.length ≤ d := by
  unfold irMaxDepth
  rw [irMaxDepth_foldl_le]
  simp

/-- Every call consumes a unit of fuel, so below the root no leaf lies deeper than the fuel less one. -/
theorem irMaxDepth_leaves_le {κ : Type} [DecidableEq κ] (S : IRSys κ) (n : Nat) (P : List (List Nat)) :
    irMaxDepth (S.leaves (n + 1) P []) ≤ n := by
  rw [irMaxDepth_le_iff]
  intro l hl
  have := S.leaves_depth_lt _ _ _ l hl
  simp only [List.length_nil] at this
  omega

/-- If no member attained the maximum, `irMaxDepth_le_iff` would put the maximum below itself. -/
theorem irMaxDepth_attained (ls : List (List Nat × List Nat)) (h : ls ≠ []) :
    ∃ l ∈ ls, l.1.length = irMaxDepth ls := by
  obtain ⟨a, ha⟩ := List.exists_mem_of_ne_nil ls h
  have hle := (irMaxDepth_le_iff ls _).1 (Nat.le_refl (irMaxDepth ls))
  apply Classical.byContradiction
  intro hne
  have hlt : ∀ l ∈ ls, l.1.length < irMaxDepth ls := fun l hl =>
    Nat.lt_of_le_of_ne (hle l hl) fun e => hne ⟨l, hl, e⟩
  have := (irMaxDepth_le_iff ls (irMaxDepth ls - 1)).2 fun l hl => Nat.le_sub_one_of_lt (hlt l hl)
  have := hlt a ha
  omega

end SynKit.Canon
