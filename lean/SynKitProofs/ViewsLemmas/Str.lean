import SynKitModel.ViewsRaw
import SynKitProofs.ViewsLemmas.Basic
import SynKitProofs.Core.List
/-!
# Reaction strings: `parse ∘ print` round trip (C16, string view)

Two notions carry `strip` / `split` through the parser: a printed term is a `GoodTerm` (no whitespace, none of
the separator characters, does not start with `∅`), and a printed side or rule is `Tight` (it starts and ends in
a non-blank, so `strip` peels padding off either end: `strip_left`, `strip_pad`). The printed text is nested
joins (`fmtSide_cases`, `fmtLine_suffix_shape`) and the parser undoes one join per level: `split '+'` of the
joined terms gives the terms back (`parseSide_terms`), a term parses to its entry (`parsePart_fmtTerm`), and
a side contains neither `>` nor `|` (`fmtSide_no_sep`), which is what the two outer splits need (`parseCore`,
`parseLine_fmtLine`). Beside the round trip: the regex test of `parse_rxns` on printed lines
(`hasRuleSuffix_fmtLine`, `hasRuleSuffix_fmtLine_plain`), and that whatever parses has no species twice on a side
(`parseLine_nodup`).
-/
namespace SynKit.Views.Str

theorem digitVal_digitChar : ∀ d < 10, digitVal (digitChar d) = d := by decide

theorem isDigit_digitChar (d : Nat) : isDigit (digitChar d) = true := by
  unfold digitChar; split <;> decide

theorem revDigits_foldr (fuel : Nat) : ∀ n, n < fuel →
    (revDigits fuel n).foldr (fun c a => 10 * a + digitVal c) 0 = n := by
  induction fuel with
  | zero => intro n h; omega
  | succ fuel ih =>
    intro n h
    unfold revDigits
    by_cases h10 : n < 10
    · simp only [h10, if_true, List.foldr_cons, List.foldr_nil]
      rw [digitVal_digitChar n h10]; omega
    · simp only [h10, if_false, List.foldr_cons]
      rw [ih (n / 10) (by omega), digitVal_digitChar _ (Nat.mod_lt _ (by omega))]
      omega

theorem digits_roundtrip' (n : Nat) : digitsToNat (natToDigits n) = n := by
  unfold digitsToNat natToDigits
  rw [List.foldl_reverse]
  exact revDigits_foldr (n + 1) n (by omega)

theorem revDigits_ne_nil (fuel n : Nat) : revDigits (fuel + 1) n ≠ [] := by
  unfold revDigits; split <;> simp

theorem natToDigits_ne_nil (n : Nat) : natToDigits n ≠ [] := by
  unfold natToDigits
  intro h
  exact revDigits_ne_nil n n (List.reverse_eq_nil_iff.1 h)

theorem revDigits_all_digit (fuel : Nat) : ∀ n, ∀ c ∈ revDigits fuel n, isDigit c = true := by
  induction fuel with
  | zero => intro n c h; simp [revDigits] at h
  | succ fuel ih =>
    intro n c h
    unfold revDigits at h
    split at h
    · simp only [List.mem_singleton] at h; subst h; exact isDigit_digitChar _
    · simp only [List.mem_cons] at h
      rcases h with h | h
      · subst h; exact isDigit_digitChar _
      · exact ih _ c h

theorem natToDigits_all_digit (n : Nat) : ∀ c ∈ natToDigits n, isDigit c = true := by
  intro c h
  unfold natToDigits at h
  exact revDigits_all_digit _ _ c (List.mem_reverse.1 h)

theorem isDigit_iff (c : Char) : isDigit c = true ↔ 48 ≤ c.toNat ∧ c.toNat ≤ 57 := by
  simp [isDigit]

theorem isAsciiLetter_iff (c : Char) :
    isAsciiLetter c = true ↔ (65 ≤ c.toNat ∧ c.toNat ≤ 90) ∨ (97 ≤ c.toNat ∧ c.toNat ≤ 122) := by
  simp [isAsciiLetter]

theorem isWs_false_of_range (c : Char) (h1 : 33 ≤ c.toNat) (h2 : c.toNat ≤ 126) : isWs c = false := by
  simp only [isWs, Bool.or_eq_false_iff, Bool.and_eq_false_iff, decide_eq_false_iff_not, beq_eq_false_iff_ne]
  omega

theorem okChar_iff (c : Char) :
    okChar c = true ↔ isWs c = false ∧ c ≠ '+' ∧ c ≠ '*' ∧ c ≠ '|' ∧ c ≠ '>' := by
  simp [okChar, and_assoc]

theorem ne_of_toNat_ne {c d : Char} (h : c.toNat ≠ d.toNat) : c ≠ d := fun e => h (by rw [e])

theorem okChar_of_isDigit (c : Char) (h : isDigit c = true) : okChar c = true := by
  rw [isDigit_iff] at h
  rw [okChar_iff]
  refine ⟨isWs_false_of_range c (by omega) (by omega), ?_, ?_, ?_, ?_⟩ <;>
    · apply ne_of_toNat_ne; simp; omega

theorem isDigit_false_of_letter (c : Char) (h : isAsciiLetter c = true) : isDigit c = false := by
  rw [isAsciiLetter_iff] at h
  rw [← Bool.not_eq_true, isDigit_iff]; omega

theorem ne_empty_of_letter (c : Char) (h : isAsciiLetter c = true) : c ≠ '∅' := by
  rw [isAsciiLetter_iff] at h
  apply ne_of_toNat_ne; simp; omega

theorem ne_empty_of_digit (c : Char) (h : isDigit c = true) : c ≠ '∅' := by
  rw [isDigit_iff] at h
  apply ne_of_toNat_ne; simp; omega

theorem plus_not_mem_ws (p : List Char) (hp : ∀ c ∈ p, isWs c = true) : '+' ∉ p :=
  fun hc => absurd (hp _ hc) (by decide)

def rstrip (l : List Char) : List Char := (l.reverse.dropWhile isWs).reverse

theorem strip_eq (l : List Char) : strip l = rstrip (l.dropWhile isWs) := rfl

theorem rstrip_prefix (l : List Char) : rstrip l <+: l := by
  have := List.reverse_prefix.2 (List.dropWhile_suffix isWs (l := l.reverse))
  rwa [List.reverse_reverse] at this

theorem rstrip_all_ws (p : List Char) (h : ∀ c ∈ p, isWs c = true) : rstrip p = [] := by
  unfold rstrip
  rw [Core.dropWhile_all fun c hc => h c (List.mem_reverse.1 hc)]; rfl

theorem rstrip_append_stop (a : List Char) (x : Char) (b : List Char) (hx : isWs x = false) :
    rstrip (a ++ x :: b) = a ++ x :: rstrip b := by
  unfold rstrip
  rw [List.reverse_append, List.reverse_cons, List.append_assoc, List.dropWhile_append]
  split
  · rename_i h
    simp [List.isEmpty_iff.1 h, hx]
  · simp

/-- What may follow the rule in a printed suffix stays of that shape under `rstrip`. -/
theorem rstrip_blank {t : List Char} (ht : t = [] ∨ ∃ r, t = ' ' :: r) :
    rstrip t = [] ∨ ∃ r, rstrip t = ' ' :: r := by
  rcases ht with rfl | ⟨r, rfl⟩
  · exact Or.inl rfl
  · rcases List.prefix_cons_iff.1 (rstrip_prefix (' ' :: r)) with h | ⟨t, h, _⟩
    · exact Or.inl h
    · exact Or.inr ⟨t, h⟩

def Tight (t : List Char) : Prop :=
  (∃ x r, t = x :: r ∧ isWs x = false) ∧ (∃ r z, t = r ++ [z] ∧ isWs z = false)

theorem strip_left (p t b : List Char) (hp : ∀ c ∈ p, isWs c = true) (ht : Tight t) :
    strip (p ++ t ++ b) = t ++ rstrip b := by
  obtain ⟨⟨x, r, hxr, hx⟩, ⟨r', z, hrz, hz⟩⟩ := ht
  rw [strip_eq]
  have : List.dropWhile isWs (p ++ t ++ b) = t ++ b := by
    rw [hxr, List.append_assoc, List.cons_append]
    exact Core.dropWhile_append_stop hp hx
  rw [this, hrz, List.append_assoc, List.singleton_append, rstrip_append_stop _ _ _ hz]
  simp

theorem strip_pad (p1 t p2 : List Char) (h1 : ∀ c ∈ p1, isWs c = true) (h2 : ∀ c ∈ p2, isWs c = true)
    (ht : Tight t) : strip (p1 ++ t ++ p2) = t := by
  rw [strip_left p1 t p2 h1 ht, rstrip_all_ws _ h2, List.append_nil]

theorem Tight_of_noWs (t : List Char) (hne : t ≠ []) (h : ∀ c ∈ t, isWs c = false) : Tight t := by
  constructor
  · cases t with
    | nil => exact absurd rfl hne
    | cons x r => exact ⟨x, r, rfl, h x (List.mem_cons_self)⟩
  · refine ⟨t.dropLast, t.getLast hne, (List.dropLast_concat_getLast hne).symm, h _ (List.getLast_mem hne)⟩

theorem Tight_append (a m b : List Char) (ha : Tight a) (hb : Tight b) : Tight (a ++ m ++ b) := by
  obtain ⟨⟨x, r, hxr, hx⟩, _⟩ := ha
  obtain ⟨_, ⟨r', z, hrz, hz⟩⟩ := hb
  constructor
  · exact ⟨x, r ++ m ++ b, by simp [hxr], hx⟩
  · exact ⟨a ++ m ++ r', z, by simp [hrz], hz⟩

theorem strip_tight (t : List Char) (ht : Tight t) : strip t = t := by
  have := strip_pad [] t [] (by simp) (by simp) ht
  simpa using this

theorem splitOn_not_mem (c : Char) (a : List Char) (h : c ∉ a) : splitOn c a = [a] := by
  induction a with
  | nil => rfl
  | cons x a ih =>
    simp only [List.mem_cons, not_or] at h
    simp only [splitOn, if_neg (Ne.symm h.1), ih h.2]

theorem splitOn_append (c : Char) (a b : List Char) (h : c ∉ a) :
    splitOn c (a ++ c :: b) = a :: splitOn c b := by
  induction a with
  | nil => simp [splitOn]
  | cons x a ih =>
    simp only [List.mem_cons, not_or] at h
    simp only [List.cons_append, splitOn, if_neg (Ne.symm h.1), ih h.2]

theorem splitWsAux_noWs (t : List Char) (h : ∀ c ∈ t, isWs c = false) :
    ∀ cur, splitWsAux t cur = if (cur ++ t).isEmpty then [] else [cur ++ t] := by
  induction t with
  | nil => intro cur; simp [splitWsAux]
  | cons x t ih =>
    intro cur
    simp only [splitWsAux, h x (List.mem_cons_self), Bool.false_eq_true, if_false]
    rw [ih (fun c hc => h c (List.mem_cons_of_mem _ hc))]
    simp

theorem splitWs_noWs (t : List Char) (hne : t ≠ []) (h : ∀ c ∈ t, isWs c = false) :
    splitWs t = [t] := by
  unfold splitWs
  rw [splitWsAux_noWs t h]
  simp [hne]

theorem splitFirst_append (c : Char) (a b : List Char) (h : c ∉ a) :
    splitFirst c (a ++ c :: b) = some (a, b) := by
  induction a with
  | nil => simp [splitFirst]
  | cons x a ih =>
    simp only [List.mem_cons, not_or] at h
    simp only [List.cons_append, splitFirst, if_neg (Ne.symm h.1), ih h.2]

theorem splitFirst_none (c : Char) (a : List Char) (h : c ∉ a) : splitFirst c a = none := by
  induction a with
  | nil => rfl
  | cons x a ih =>
    simp only [List.mem_cons, not_or] at h
    simp only [splitFirst, if_neg (Ne.symm h.1), ih h.2]

theorem splitArrow_append (a b : List Char) (h : '>' ∉ a) :
    splitArrow (a ++ '>' :: '>' :: b) = some (a, b) := by
  induction a with
  | nil => simp [splitArrow]
  | cons x a ih =>
    simp only [List.mem_cons, not_or] at h
    have ih := ih h.2
    cases a with
    | nil =>
      simp only [List.nil_append] at ih
      simp only [List.cons_append, List.nil_append, splitArrow]
      simp [Ne.symm h.1]
    | cons y a =>
      simp only [List.cons_append] at ih
      simp only [List.cons_append, splitArrow, ih]
      simp [Ne.symm h.1]

theorem wfLabel_unpack (s : String) (h : WfLabel s = true) :
    ∃ x xs, s.toList = x :: xs ∧ isAsciiLetter x = true ∧ ∀ c ∈ s.toList, okChar c = true := by
  unfold WfLabel at h
  split at h
  · exact absurd h (by simp)
  · rename_i x xs hx
    simp only [Bool.and_eq_true, List.all_eq_true] at h
    exact ⟨x, xs, hx, h.1, by rw [hx]; exact h.2⟩

def GoodTerm (t : List Char) : Prop :=
  (∃ x r, t = x :: r ∧ x ≠ '∅') ∧ ∀ c ∈ t, okChar c = true

theorem GoodTerm.ne_nil {t : List Char} (h : GoodTerm t) : t ≠ [] := by
  obtain ⟨⟨x, r, hx, _⟩, _⟩ := h; simp [hx]

theorem GoodTerm.noWs {t : List Char} (h : GoodTerm t) : ∀ c ∈ t, isWs c = false :=
  fun c hc => ((okChar_iff c).1 (h.2 c hc)).1

theorem GoodTerm.tight {t : List Char} (h : GoodTerm t) : Tight t :=
  Tight_of_noWs t h.ne_nil h.noWs

theorem GoodTerm.no_plus {t : List Char} (h : GoodTerm t) : '+' ∉ t :=
  fun hc => ((okChar_iff _).1 (h.2 _ hc)).2.1 rfl

theorem map_star_id (t : List Char) (h : '*' ∉ t) :
    t.map (fun c => if c = '*' then ' ' else c) = t := by
  have : ∀ c ∈ t, (if c = '*' then ' ' else c) = id c := fun c hc => if_neg fun e : c = '*' => h (e ▸ hc)
  rw [List.map_congr_left this, List.map_id]

theorem fmtTerm_good (s : String) (c : Nat) (hs : WfLabel s = true) : GoodTerm (fmtTerm (s, c)) := by
  obtain ⟨x, xs, hsx, hx, hall⟩ := wfLabel_unpack s hs
  unfold fmtTerm
  split
  · exact ⟨⟨x, xs, hsx, ne_empty_of_letter x hx⟩, hall⟩
  · constructor
    · obtain ⟨d, ds, hd⟩ := List.exists_cons_of_ne_nil (natToDigits_ne_nil c)
      refine ⟨d, ds ++ s.toList, by simp [hd], ne_empty_of_digit d ?_⟩
      exact natToDigits_all_digit c d (by simp [hd])
    · intro ch hch
      simp only [List.mem_append] at hch
      rcases hch with hch | hch
      · exact okChar_of_isDigit _ (natToDigits_all_digit c ch hch)
      · exact hall ch hch

theorem parsePart_fmtTerm (out : Side) (s : String) (c : Nat) (hs : WfLabel s = true) (hc : 0 < c) :
    parsePart out (fmtTerm (s, c)) = .ok (accum out s c) := by
  obtain ⟨x, xs, hsx, hx, hall⟩ := wfLabel_unpack s hs
  have hg := fmtTerm_good s c hs
  have hstar : (fmtTerm (s, c)).map (fun c => if c = '*' then ' ' else c) = fmtTerm (s, c) :=
    map_star_id _ (fun hc => ((okChar_iff _).1 (hg.2 _ hc)).2.2.1 rfl)
  have hstrip : strip (fmtTerm (s, c)) = fmtTerm (s, c) := strip_tight _ hg.tight
  have hsplit : splitWs (fmtTerm (s, c)) = [fmtTerm (s, c)] := splitWs_noWs _ hg.ne_nil hg.noWs
  have hxd : isDigit x = false := isDigit_false_of_letter x hx
  unfold parsePart
  simp only [hstar, hstrip, hsplit]
  by_cases h1 : c = 1
  · subst h1
    have : fmtTerm (s, 1) = x :: xs := by simp [fmtTerm, hsx]
    rw [this]
    simp only [List.takeWhile, hxd, List.dropWhile]
    rw [← hsx, String.ofList_toList]
  · have : fmtTerm (s, c) = natToDigits c ++ x :: xs := by simp [fmtTerm, h1, hsx]
    rw [this, Core.takeWhile_append_stop (natToDigits_all_digit c) hxd,
      Core.dropWhile_append_stop (natToDigits_all_digit c) hxd]
    obtain ⟨d, ds, hd⟩ := List.exists_cons_of_ne_nil (natToDigits_ne_nil c)
    rw [hd]
    simp only [hx, if_true]
    rw [← hd, digits_roundtrip', ← hsx, String.ofList_toList]
    simp [hc]

theorem parseParts_terms (l : Side) : ∀ out : Side, (∀ kv ∈ l, WfLabel kv.1 = true ∧ 0 < kv.2) →
    parseParts out (l.map fmtTerm) = .ok (l.foldl (fun o kv => accum o kv.1 kv.2) out) := by
  induction l with
  | nil => intro out _; rfl
  | cons kv l ih =>
    intro out h
    obtain ⟨k, c⟩ := kv
    have hkc := h (k, c) List.mem_cons_self
    simp only [List.map_cons, parseParts, parsePart_fmtTerm out k c hkc.1 hkc.2, List.foldl_cons]
    exact ih _ (fun kv hkv => h kv (List.mem_cons_of_mem _ hkv))

theorem intercalate_cons_cons (sep x y : List Char) (rest : List (List Char)) :
    intercalate sep (x :: y :: rest) = x ++ sep ++ intercalate sep (y :: rest) := rfl

theorem intercalate_cons (sep : List Char) (ts : List (List Char)) : ∀ t,
    intercalate sep (t :: ts) = t ++ ts.flatMap (sep ++ ·) := by
  induction ts with
  | nil =>
    intro t
    simp [intercalate]
  | cons u ts ih =>
    intro t
    rw [intercalate_cons_cons, ih]
    simp

theorem mem_intercalate (sep : List Char) (c : Char) (t : List Char) (ts : List (List Char))
    (h : c ∈ intercalate sep (t :: ts)) : c ∈ sep ∨ ∃ u ∈ t :: ts, c ∈ u := by
  rw [intercalate_cons] at h
  simp only [List.mem_append, List.mem_flatMap] at h
  rcases h with h | ⟨u, hu, h | h⟩
  · exact Or.inr ⟨t, List.mem_cons_self, h⟩
  · exact Or.inl h
  · exact Or.inr ⟨u, List.mem_cons_of_mem _ hu, h⟩

theorem intercalate_tight (ts : List (List Char)) : ∀ t, (∀ t' ∈ t :: ts, Tight t') →
    Tight (intercalate plusSep (t :: ts)) := by
  induction ts with
  | nil => intro t h; exact h t List.mem_cons_self
  | cons t' ts ih =>
    intro t h
    rw [intercalate_cons_cons]
    exact Tight_append _ _ _ (h t List.mem_cons_self)
      (ih t' (fun u hu => h u (List.mem_cons_of_mem _ hu)))

theorem splitOn_intercalate (ts : List (List Char)) : ∀ (t p : List Char),
    (∀ c ∈ p, isWs c = true) → (∀ t' ∈ t :: ts, GoodTerm t') →
    (splitOn '+' (p ++ intercalate plusSep (t :: ts))).map strip = t :: ts := by
  induction ts with
  | nil =>
    intro t p hp h
    have ht := h t List.mem_cons_self
    have hnp : '+' ∉ p ++ t := by
      simp only [List.mem_append, not_or]
      exact ⟨plus_not_mem_ws p hp, ht.no_plus⟩
    simp only [intercalate]
    rw [splitOn_not_mem _ _ hnp]
    have := strip_pad p t [] hp (by simp) ht.tight
    simp only [List.append_nil] at this
    simp [this]
  | cons t' ts ih =>
    intro t p hp h
    have ht := h t List.mem_cons_self
    have hnp : '+' ∉ p ++ t ++ [' '] := by
      simp only [List.mem_append, not_or, List.mem_singleton]
      exact ⟨⟨plus_not_mem_ws p hp, ht.no_plus⟩, by decide⟩
    have hrw : p ++ intercalate plusSep (t :: t' :: ts) =
        (p ++ t ++ [' ']) ++ '+' :: ([' '] ++ intercalate plusSep (t' :: ts)) := by
      simp [intercalate_cons_cons, plusSep]
    rw [hrw, splitOn_append _ _ _ hnp, List.map_cons,
      ih t' [' '] (by simp; decide) (fun u hu => h u (List.mem_cons_of_mem _ hu)),
      strip_pad p t [' '] hp (by simp; decide) ht.tight]

theorem emptySym_tight : Tight emptySym :=
  Tight_of_noWs _ (by simp [emptySym]) (by simp [emptySym]; decide)

/-- `split ∘ join` on printed terms: the parts `from_str` hands to `parsePart` are the terms themselves. -/
theorem parseSide_terms (t : List Char) (ts : List (List Char)) (h : ∀ u ∈ t :: ts, GoodTerm u)
    (p1 p2 : List Char) (h1 : ∀ c ∈ p1, isWs c = true) (h2 : ∀ c ∈ p2, isWs c = true) :
    parseSide (p1 ++ intercalate plusSep (t :: ts) ++ p2) = parseParts [] (t :: ts) := by
  unfold parseSide
  simp only [strip_pad p1 _ p2 h1 h2 (intercalate_tight ts t fun u hu => (h u hu).tight)]
  have hsplit := splitOn_intercalate ts t [] (by simp) h
  rw [List.nil_append] at hsplit
  obtain ⟨⟨x, r, rfl, hx⟩, _⟩ := h t List.mem_cons_self
  have hcond : ¬ (intercalate plusSep ((x :: r) :: ts) = [] ∨
      intercalate plusSep ((x :: r) :: ts) = emptySym) := by
    rw [intercalate_cons, List.cons_append]
    simp only [emptySym, List.cons.injEq, not_or]
    exact ⟨by simp, fun h => hx h.1⟩
  rw [if_neg hcond, hsplit, List.filter_eq_self.2]
  intro u hu
  simpa using (h u hu).ne_nil

theorem fmtSide_cases (m : Side) (hl : WfLabels m) :
    (m = [] ∧ fmtSide m = emptySym) ∨
      ∃ t ts, (sortSide m).map fmtTerm = t :: ts ∧ fmtSide m = intercalate plusSep (t :: ts) ∧
        ∀ u ∈ t :: ts, GoodTerm u := by
  cases m with
  | nil => exact Or.inl ⟨rfl, rfl⟩
  | cons kv m =>
    cases hs : (sortSide (kv :: m)).map fmtTerm with
    | nil => cases (sortSide_eq_nil_iff _).1 (List.map_eq_nil_iff.1 hs)
    | cons t ts =>
      refine Or.inr ⟨t, ts, rfl, hs ▸ rfl, fun u hu => ?_⟩
      obtain ⟨kv', hkv', rfl⟩ := List.mem_map.1 (hs ▸ hu)
      exact fmtTerm_good kv'.1 kv'.2 (wfLabels_sortSide _ hl kv' hkv')

theorem fmtSide_tight (m : Side) (hl : WfLabels m) : Tight (fmtSide m) := by
  rcases fmtSide_cases m hl with ⟨_, h⟩ | ⟨t, ts, _, h, hg⟩ <;> rw [h]
  · exact emptySym_tight
  · exact intercalate_tight ts t fun u hu => (hg u hu).tight

theorem side_roundtrip_pad (m : Side) (hm : WfSide m) (hl : WfLabels m) (p1 p2 : List Char)
    (h1 : ∀ c ∈ p1, isWs c = true) (h2 : ∀ c ∈ p2, isWs c = true) :
    parseSide (p1 ++ fmtSide m ++ p2) = .ok (sortSide m) := by
  rcases fmtSide_cases m hl with ⟨rfl, h⟩ | ⟨t, ts, hts, h, hg⟩
  · unfold parseSide
    rw [h, strip_pad p1 _ p2 h1 h2 emptySym_tight]
    rfl
  · have hws := wfSide_of_perm (sortSide_perm m) hm
    rw [h, parseSide_terms t ts hg p1 p2 h1 h2, ← hts,
      parseParts_terms _ _ (fun kv hkv => ⟨wfLabels_sortSide m hl kv hkv, hws.2 kv hkv⟩),
      foldl_accum _ _ (by simpa [Dict.keys] using hws.1)]
    simp

theorem fmtSide_no_sep (m : Side) (hl : WfLabels m) : '|' ∉ fmtSide m ∧ '>' ∉ fmtSide m := by
  have key : ∀ c ∈ fmtSide m, c ≠ '|' ∧ c ≠ '>' := by
    intro c hc
    rcases fmtSide_cases m hl with ⟨_, h⟩ | ⟨t, ts, _, h, hg⟩ <;> rw [h] at hc
    · simp only [emptySym, List.mem_singleton] at hc; subst hc; decide
    · rcases mem_intercalate _ _ _ _ hc with h | ⟨u, hu, hcu⟩
      · simp only [plusSep, List.mem_cons, List.not_mem_nil, or_false] at h
        rcases h with h | h | h <;> subst h <;> decide
      · have := (okChar_iff c).1 ((hg u hu).2 c hcu)
        exact ⟨this.2.2.2.1, this.2.2.2.2⟩
  exact ⟨fun h => (key _ h).1 rfl, fun h => (key _ h).2 rfl⟩

theorem matchRuleAt_head (rule tail' : List Char) (hne : rule ≠ []) (hr : ∀ c ∈ rule, isWs c = false)
    (ht : tail' = [] ∨ ∃ r, tail' = ' ' :: r) :
    matchRuleAt ('r' :: 'u' :: 'l' :: 'e' :: '=' :: (rule ++ tail')) = some rule := by
  obtain ⟨x, r, hxr⟩ := List.exists_cons_of_ne_nil hne
  have hx : isWs x = false := hr x (by simp [hxr])
  have h0 : isWs '=' = false := by decide
  have htake : List.takeWhile (fun c => !isWs c) (rule ++ tail') = rule := by
    rcases ht with rfl | ⟨r', rfl⟩
    · rw [List.append_nil]; exact Core.takeWhile_all fun c hc => by simp [hr c hc]
    · exact Core.takeWhile_append_stop (fun c hc => by simp [hr c hc]) (by decide)
  have hdrop : List.dropWhile isWs (rule ++ tail') = rule ++ tail' := by
    rw [hxr, List.cons_append, List.dropWhile_cons_of_neg (by simp [hx])]
  simp only [matchRuleAt, List.dropWhile, h0, hdrop, htake]
  simp only [hxr, List.isEmpty_cons, Bool.false_eq_true, if_false]

theorem wfRule_list (r : String) (h : WfRule r) : r.toList ≠ [] ∧ ∀ c ∈ r.toList, isWs c = false := by
  refine ⟨fun hnil => h.1 ?_, h.2⟩
  rw [← String.ofList_toList (s := r), hnil]

/-- The line is `core ++ " | rule=" ++ rule ++ tail`, spelled with `'|' ::` at the split point so that
`splitFirst_append` applies as it stands. -/
theorem fmtLine_suffix_shape (f : StrFlags) (hf : f.includeRule = true) (e : Rxn) (hr : WfRule e.rule) :
    ∃ tail, (tail = [] ∨ ∃ r, tail = ' ' :: r) ∧
      fmtLine f e = (fmtSide e.reactants ++ arrow ++ fmtSide e.products ++ [' ']) ++
        '|' :: (' ' :: 'r' :: 'u' :: 'l' :: 'e' :: '=' :: (e.rule.toList ++ tail)) := by
  have h1 : "rule=".toList = ['r', 'u', 'l', 'e', '='] := rfl
  have h2 : "id=".toList = ['i', 'd', '='] := rfl
  have h3 : (e.rule != "") = true := by simp [hr.1]
  unfold fmtLine
  simp only [hf, h3, Bool.and_self, if_true, h1, h2]
  cases f.includeId with
  | false => exact ⟨[], Or.inl rfl, by simp [intercalate]⟩
  | true => exact ⟨' ' :: 'i' :: 'd' :: '=' :: e.id.toList, Or.inr ⟨_, rfl⟩, by simp [intercalate]⟩

theorem fmtLine_plain (f : StrFlags) (hf : f.includeRule = false) (hi : f.includeId = false) (e : Rxn) :
    fmtLine f e = fmtSide e.reactants ++ arrow ++ fmtSide e.products := by
  unfold fmtLine
  simp [hf, hi]

theorem core_no_bar (e : Rxn) (hl : WfLabels e.reactants ∧ WfLabels e.products) :
    '|' ∉ fmtSide e.reactants ++ arrow ++ fmtSide e.products := by
  simp only [List.mem_append, not_or, arrow]
  exact ⟨⟨(fmtSide_no_sep e.reactants hl.1).1, by decide⟩, (fmtSide_no_sep e.products hl.2).1⟩

/-- `pad` is the blank the printer puts in front of `|` when a suffix follows. -/
theorem parseCore (e : Rxn) (hs : WfSide e.reactants ∧ WfSide e.products)
    (hl : WfLabels e.reactants ∧ WfLabels e.products) (pad : List Char) (hpad : ∀ c ∈ pad, isWs c = true) :
    ∃ l r, splitArrow (strip (fmtSide e.reactants ++ arrow ++ fmtSide e.products ++ pad)) = some (l, r) ∧
      parseSide l = .ok (sortSide e.reactants) ∧ parseSide r = .ok (sortSide e.products) := by
  have hcore : strip (fmtSide e.reactants ++ arrow ++ fmtSide e.products ++ pad) =
      (fmtSide e.reactants ++ [' ']) ++ '>' :: '>' :: ([' '] ++ fmtSide e.products) := by
    have := strip_pad [] (fmtSide e.reactants ++ arrow ++ fmtSide e.products) pad (by simp) hpad
      (Tight_append _ _ _ (fmtSide_tight e.reactants hl.1) (fmtSide_tight e.products hl.2))
    rw [List.nil_append] at this
    rw [this]; simp [arrow]
  have harrow : '>' ∉ fmtSide e.reactants ++ [' '] := by
    simp only [List.mem_append, not_or]; exact ⟨(fmtSide_no_sep e.reactants hl.1).2, by decide⟩
  have hpr := side_roundtrip_pad e.reactants hs.1 hl.1 [] [' '] (by simp) (by simp; decide)
  have hpp := side_roundtrip_pad e.products hs.2 hl.2 [' '] [] (by simp; decide) (by simp)
  rw [List.nil_append] at hpr
  rw [List.append_nil] at hpp
  exact ⟨_, _, hcore ▸ splitArrow_append _ _ harrow, hpr, hpp⟩

/-- What a printed line parses to in the two ways of handing it over that keep its rule: the `| rule=R` suffix is
there and is parsed, or the line is the bare `lhs >> rhs` (then nothing is split off, whatever `sfx` says). -/
theorem parseLine_fmtLine (f : StrFlags) (e : Rxn) (ex : Option String) (sfx : Bool)
    (hm : (f.includeRule = true ∧ sfx = true) ∨ (f.includeRule = false ∧ f.includeId = false))
    (hs : WfSide e.reactants ∧ WfSide e.products) (hl : WfLabels e.reactants ∧ WfLabels e.products)
    (hr : f.includeRule = true → WfRule e.rule) :
    parseLine ex sfx (fmtLine f e) =
      .ok ⟨(match ex with
            | some x => some x
            | none => if f.includeRule then some e.rule else none),
        sortSide e.reactants, sortSide e.products⟩ := by
  rcases hm with ⟨hf, rfl⟩ | ⟨hf, hid⟩
  · obtain ⟨hrne, hrws⟩ := wfRule_list e.rule (hr hf)
    obtain ⟨tail, htail, hline⟩ := fmtLine_suffix_shape f hf e (hr hf)
    have hbar : '|' ∉ fmtSide e.reactants ++ arrow ++ fmtSide e.products ++ [' '] := by
      rw [List.mem_append, not_or]
      exact ⟨core_no_bar e hl, by decide⟩
    have hsplit := splitFirst_append '|' _ (' ' :: 'r' :: 'u' :: 'l' :: 'e' :: '=' :: (e.rule.toList ++ tail)) hbar
    -- `strip` takes the blank in front of `rule=` and, behind the rule, at most an end of `tail`
    have hmeta : strip (' ' :: 'r' :: 'u' :: 'l' :: 'e' :: '=' :: (e.rule.toList ++ tail)) =
        'r' :: 'u' :: 'l' :: 'e' :: '=' :: (e.rule.toList ++ rstrip tail) :=
      strip_left [' '] ('r' :: 'u' :: 'l' :: 'e' :: '=' :: e.rule.toList) tail (by simp; decide)
        (Tight_append ['r', 'u', 'l', 'e', '='] [] _ (Tight_of_noWs _ (by simp) (by decide))
          (Tight_of_noWs _ hrne hrws))
    have hsearch : searchRule ('r' :: 'u' :: 'l' :: 'e' :: '=' :: (e.rule.toList ++ rstrip tail)) =
        some e.rule.toList := by
      simp only [searchRule, matchRuleAt_head _ _ hrne hrws (rstrip_blank htail)]
    obtain ⟨l, r, hsa, hpr, hpp⟩ := parseCore e hs hl [' '] (by simp; decide)
    unfold parseLine
    cases ex <;> simp only [if_true, hf, hline, hsplit, hmeta, hsearch, hsa, hpr, hpp, String.ofList_toList]
  · have hsplit : (if sfx = true then splitFirst '|' (fmtSide e.reactants ++ arrow ++ fmtSide e.products)
        else none) = none := by
      split
      · exact splitFirst_none _ _ (core_no_bar e hl)
      · rfl
    obtain ⟨l, r, hsa, hpr, hpp⟩ := parseCore e hs hl [] (by simp)
    rw [List.append_nil] at hsa
    unfold parseLine
    cases ex <;> simp only [hf, Bool.false_eq_true, if_false, fmtLine_plain f hf hid e, hsplit, hsa, hpr, hpp]

theorem addGen_ok (st : PState) (rule : String) (hr : rule ≠ "") (r p : Side) (hne : r ≠ [] ∨ p ≠ []) :
    ∃ st', st.addGen ⟨some rule, r, p⟩ = .ok st' ∧
      st'.net.rxns.map Rxn.content = st.net.rxns.map Rxn.content ++ [(rule, r, p)] := by
  unfold PState.addGen
  simp only [isEmpty_and_false hne, Bool.false_eq_true, if_false, Option.getD_some, normRule, if_neg hr]
  refine ⟨_, rfl, ?_⟩
  simp [Rxn.content]

theorem parseLinesFrom_fmt (f : StrFlags) (hf : f.includeRule = true) (es : List Rxn) :
    ∀ st : PState,
    (∀ e ∈ es, (WfSide e.reactants ∧ WfSide e.products) ∧ (e.reactants ≠ [] ∨ e.products ≠ []) ∧
      (WfLabels e.reactants ∧ WfLabels e.products) ∧ WfRule e.rule) →
    ∃ st', parseLinesFrom true "r" st (es.map (fmtLine f)) = .ok st' ∧
      st'.net.rxns.map Rxn.content = st.net.rxns.map Rxn.content ++ es.map Rxn.sortedContent := by
  induction es with
  | nil => intro st _; exact ⟨st, rfl, by simp⟩
  | cons e es ih =>
    intro st h
    obtain ⟨hs, hne, hl, hr⟩ := h e List.mem_cons_self
    obtain ⟨st1, hadd, hst1⟩ := addGen_ok st e.rule hr.1 _ _
      (hne.imp (mt (sortSide_eq_nil_iff _).1) (mt (sortSide_eq_nil_iff _).1))
    obtain ⟨st', hrest, hst'⟩ := ih st1 (fun e' he' => h e' (List.mem_cons_of_mem _ he'))
    refine ⟨st', ?_, ?_⟩
    · simp only [List.map_cons, parseLinesFrom, if_true, hf,
        parseLine_fmtLine f e none true (Or.inl ⟨hf, rfl⟩) hs hl (fun _ => hr), hadd, hrest]
    · rw [hst', hst1]; simp [Rxn.sortedContent]

theorem strings_roundtrip' (f : StrFlags) (hf : f.includeRule = true) (N : Net) (h : WfStrNet N) :
    ∃ N', parseLines (fmtLines f N) = .ok N' ∧
      N'.rxns.map Rxn.content = (if f.sort then sortRxns N.rxns else N.rxns).map Rxn.sortedContent := by
  have hsub : ∀ e ∈ (if f.sort then sortRxns N.rxns else N.rxns), e ∈ N.rxns :=
    fun e he => (printed_perm f.sort N.rxns).mem_iff.1 he
  obtain ⟨st', hparse, hst'⟩ := parseLinesFrom_fmt f hf (if f.sort then sortRxns N.rxns else N.rxns) {}
    (fun e he => ⟨h.sides e (hsub e he), h.nonEmpty e (hsub e he), h.labels e (hsub e he),
      h.rules e (hsub e he)⟩)
  refine ⟨st'.net, ?_, ?_⟩
  · unfold parseLines fmtLines
    rw [hparse]
  · rw [hst']; rfl

theorem hasRuleSuffix_no_bar (l : List Char) (h : '|' ∉ l) : hasRuleSuffix l = false := by
  induction l with
  | nil => rfl
  | cons c cs ih =>
    simp only [List.mem_cons, not_or] at h
    have hc : c ≠ '|' := fun e => h.1 e.symm
    simp only [hasRuleSuffix, hc, decide_false, Bool.false_and, Bool.false_or]
    exact ih h.2

theorem hasRuleSuffix_of_bar (pre rest : List Char)
    (h : (matchRuleAt (rest.dropWhile isWs)).isSome = true) :
    hasRuleSuffix (pre ++ '|' :: rest) = true := by
  induction pre with
  | nil => simp [hasRuleSuffix, h]
  | cons c cs ih => simp only [List.cons_append, hasRuleSuffix, ih, Bool.or_true]

theorem hasRuleSuffix_fmtLine (f : StrFlags) (hf : f.includeRule = true) (e : Rxn) (hr : WfRule e.rule) :
    hasRuleSuffix (fmtLine f e) = true := by
  obtain ⟨hrne, hrws⟩ := wfRule_list e.rule hr
  obtain ⟨tail, htail, hline⟩ := fmtLine_suffix_shape f hf e hr
  rw [hline]
  apply hasRuleSuffix_of_bar
  have h1 : isWs ' ' = true := by decide
  have h2 : isWs 'r' = false := by decide
  simp only [List.dropWhile, h1, h2]
  rw [matchRuleAt_head _ tail hrne hrws htail]
  rfl

theorem hasRuleSuffix_fmtLine_plain (f : StrFlags) (hf : f.includeRule = false) (hi : f.includeId = false)
    (e : Rxn) (hl : WfLabels e.reactants ∧ WfLabels e.products) :
    hasRuleSuffix (fmtLine f e) = false := by
  rw [fmtLine_plain f hf hi e]
  exact hasRuleSuffix_no_bar _ (core_no_bar e hl)

theorem parsePart_shape (out o : Side) (part : List Char) (h : parsePart out part = .ok o) :
    o = out ∨ ∃ k c, o = accum out k c := by
  unfold parsePart at h
  simp only at h
  split at h
  · simp at h
  · split at h
    · split at h
      · simp only [Except.ok.injEq] at h; subst h
        split
        · exact Or.inr ⟨_, _, rfl⟩
        · exact Or.inl rfl
      · simp only [Except.ok.injEq] at h; subst h; exact Or.inr ⟨_, _, rfl⟩
    · simp only [Except.ok.injEq] at h; subst h; exact Or.inr ⟨_, _, rfl⟩
  · split at h
    · split at h
      · simp only [Except.ok.injEq] at h; subst h; exact Or.inr ⟨_, _, rfl⟩
      · simp only [Except.ok.injEq] at h; subst h; exact Or.inl rfl
    · simp only [Except.ok.injEq] at h; subst h; exact Or.inr ⟨_, _, rfl⟩

theorem parseParts_nodup (parts : List (List Char)) : ∀ (out o : Side), out.keys.Nodup →
    parseParts out parts = .ok o → o.keys.Nodup := by
  induction parts with
  | nil =>
    intro out o h hp
    rw [← Except.ok.inj hp]; exact h
  | cons p ps ih =>
    intro out o h hp
    unfold parseParts at hp
    split at hp
    · rename_i o1 h1
      apply ih o1 o _ hp
      rcases parsePart_shape _ _ _ h1 with rfl | ⟨k, c, rfl⟩
      · exact h
      · exact Dict.nodup_keys_set h
    · simp at hp

theorem parseSide_nodup (t : List Char) (m : Side) (h : parseSide t = .ok m) :
    m.keys.Nodup := by
  unfold parseSide at h
  simp only at h
  split at h
  · rw [← Except.ok.inj h]; exact List.nodup_nil
  · exact parseParts_nodup _ [] m List.nodup_nil h

theorem parseLine_nodup (rule : Option String) (sfx : Bool) (line : List Char) (pl : ParsedLine)
    (h : parseLine rule sfx line = .ok pl) :
    pl.reactants.keys.Nodup ∧ pl.products.keys.Nodup := by
  unfold parseLine at h
  simp only at h
  split at h
  · simp at h
  · split at h
    · simp at h
    · rename_i rs hrs
      split at h
      · simp at h
      · rename_i ps hps
        rw [← Except.ok.inj h]
        exact ⟨parseSide_nodup _ _ hrs, parseSide_nodup _ _ hps⟩

end SynKit.Views.Str
