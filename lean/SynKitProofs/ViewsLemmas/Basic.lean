import SynKitModel.Views
import SynKitProofs.Core.Sort
import SynKitProofs.Core.Dict
/-!
# Facts shared by the three views of C16

The model's insertion sort as an instance of `Core.sortBy` (`sortSide`, `sortRxns` permute), accumulation into a
side, `Net.addRxn` on well-formed input and the loop over it that both graph importers end in (`addRxn_ok`,
`addRxn_loop`), the `species_to_mol` pass.
-/
namespace SynKit.Views

theorem insertBy_eq {α : Type} (le : α → α → Bool) (x : α) (l : List α) :
    insertBy le x l = Core.insertBy (fun a b => ¬ le b a) x l := by
  induction l with
  | nil => rfl
  | cons y ys ih => simp only [insertBy, Core.insertBy, ih, ite_not]

theorem sortBy_eq {α : Type} (le : α → α → Bool) (l : List α) :
    sortBy le l = Core.sortBy (fun a b => ¬ le b a) l := by
  induction l with
  | nil => rfl
  | cons x xs ih => rw [sortBy, ih, insertBy_eq, Core.sortBy_cons]

theorem sortBy_perm {α : Type} (le : α → α → Bool) (l : List α) : (sortBy le l).Perm l :=
  sortBy_eq le l ▸ Core.sortBy_perm

theorem sortBy_map {α β : Type} (le : β → β → Bool) (g : α → β) (l : List α) :
    sortBy le (l.map g) = (sortBy (fun a b => le (g a) (g b)) l).map g := by
  rw [sortBy_eq, sortBy_eq]
  exact Core.sortBy_map g (fun _ _ _ _ => Iff.rfl)

theorem sortRxns_perm (l : List Rxn) : (sortRxns l).Perm l := sortBy_perm _ _

theorem sortSide_perm (m : Side) : (sortSide m).Perm m := sortBy_perm _ m

theorem sortSide_eq_nil_iff (m : Side) : sortSide m = [] ↔ m = [] := by
  unfold sortSide
  rw [sortBy_eq]
  exact Core.sortBy_eq_nil_iff

theorem wfSide_of_perm {m m' : Side} (p : m'.Perm m) (hm : WfSide m) : WfSide m' :=
  ⟨(p.map _).nodup_iff.2 hm.1, fun kv hkv => hm.2 kv (p.mem_iff.1 hkv)⟩

theorem wfLabels_sortSide (m : Side) (hm : WfLabels m) : WfLabels (sortSide m) :=
  fun kv hkv => hm kv ((sortSide_perm m).mem_iff.1 hkv)

theorem printed_perm (b : Bool) (l : List Rxn) : (if b then sortRxns l else l).Perm l := by
  split
  · exact sortRxns_perm l
  · exact List.Perm.refl _

theorem isEmpty_and_false {α β : Type} {r : List α} {p : List β} (h : r ≠ [] ∨ p ≠ []) :
    (r.isEmpty && p.isEmpty) = false :=
  Bool.and_eq_false_iff.2 (h.imp List.isEmpty_eq_false_iff.2 List.isEmpty_eq_false_iff.2)

theorem keys_sub_of_sub {α : Type} (x e : Dict α) (h : ∀ p ∈ x, p ∈ e) (s : String) (hs : s ∈ x.keys) :
    s ∈ e.keys := by
  obtain ⟨v, hv⟩ := Dict.exists_mem_of_mem_keys hs
  exact Dict.mem_keys_of_mem (h _ hv)

theorem mem_rxnSpecies (N : Net) (s : String) :
    s ∈ N.rxnSpecies ↔ ∃ e ∈ N.rxns, s ∈ e.reactants.keys ∨ s ∈ e.products.keys := by
  unfold Net.rxnSpecies Rxn.speciesOf
  simp only [List.mem_flatMap, List.mem_append]

theorem accum_fresh (out : Side) (k : String) (c : Nat) (h : k ∉ out.keys) :
    accum out k c = out ++ [(k, c)] := by
  unfold accum Dict.getD
  rw [(Dict.get?_eq_none_iff out k).2 h, Dict.set_of_not_mem h, Option.getD_none, Nat.zero_add]

theorem foldl_accum (l out : Side) (h : (out.keys ++ l.keys).Nodup) :
    l.foldl (fun o kv => accum o kv.1 kv.2) out = out ++ l := by
  have hn := List.nodup_append.1 h
  have := Core.foldl_eq_append (g := id) (r := fun y x : String × Nat => y.1 ≠ x.1)
    (fun acc kv _ hy => accum_fresh acc kv.1 kv.2 fun hm => by
      obtain ⟨y, hy', e⟩ := List.mem_map.1 hm
      exact hy y hy' e) out
    (fun kv hkv y hy e => hn.2.2 y.1 (List.mem_map_of_mem hy) kv.1 (List.mem_map_of_mem hkv) e)
    (by rw [List.map_id]; exact List.pairwise_map.1 hn.2.1)
  rwa [List.map_id] at this

theorem normSide_wf (m : Side) (h : WfSide m) : normSide m = m := by
  unfold normSide
  rw [List.foldl_ext _ (fun out kv => accum out kv.1 kv.2) [] (fun b a ha => if_pos (h.2 a ha)),
    foldl_accum m [] h.1, List.nil_append]

theorem addRxn_ok (N0 : Net) (r p : Side) (rule eid : String) (hr : WfSide r) (hp : WfSide p)
    (hne : r ≠ [] ∨ p ≠ []) (hid : eid ∉ N0.ids) :
    N0.addRxn r p rule eid =
      .ok { N0 with rxns := N0.rxns ++ [⟨eid, normRule rule, r, p⟩],
                    species := (r.keys ++ p.keys).foldl setAdd N0.species } := by
  unfold Net.addRxn
  simp only [normSide_wf r hr, normSide_wf p hp, hid, if_false, isEmpty_and_false hne,
    Bool.false_eq_true, Rxn.speciesOf]

/-- Both graph importers end in a loop that hands each collected item, read as the reaction `rx x`, to
`Net.addRxn`; `hcons` is one turn of it. -/
theorem addRxn_loop {α : Type} (loop : Net → List α → Except Err Net) (rx : α → Rxn)
    (hnil : ∀ N, loop N [] = .ok N)
    (hcons : ∀ N N' x xs, (rx x).reactants ≠ [] ∨ (rx x).products ≠ [] →
      N.addRxn (rx x).reactants (rx x).products (rx x).rule (rx x).id = .ok N' → loop N (x :: xs) = loop N' xs) :
    ∀ (xs : List α) (N0 : Net),
      (∀ x ∈ xs, ((rx x).reactants ≠ [] ∨ (rx x).products ≠ []) ∧ WfSide (rx x).reactants ∧
        WfSide (rx x).products) →
      (N0.ids ++ xs.map fun x => (rx x).id).Nodup →
      ∃ N1, loop N0 xs = .ok N1 ∧
        N1.rxns = N0.rxns ++ xs.map (fun x => { rx x with rule := normRule (rx x).rule }) ∧
        N1.mol = N0.mol ∧ ∀ s, s ∈ N1.species ↔ s ∈ N0.species ∨ s ∈ xs.flatMap fun x => (rx x).speciesOf := by
  intro xs
  induction xs with
  | nil => intro N0 _ _; exact ⟨N0, hnil N0, by simp, rfl, by simp⟩
  | cons x rest ih =>
    intro N0 hwf hnd
    obtain ⟨hne, hwr, hwp⟩ := hwf x List.mem_cons_self
    have hx : (rx x).id ∉ N0.ids := fun hh =>
      (List.nodup_append.1 hnd).2.2 _ hh _ List.mem_cons_self rfl
    obtain ⟨N1, h1, h2, h3, h4⟩ := ih
      { N0 with rxns := N0.rxns ++ [{ rx x with rule := normRule (rx x).rule }],
                species := (rx x).speciesOf.foldl setAdd N0.species }
      (fun y hy => hwf y (List.mem_cons_of_mem _ hy)) (by simpa [Net.ids] using hnd)
    refine ⟨N1, ?_, ?_, h3, fun s => ?_⟩
    · rw [hcons N0 _ x rest hne (addRxn_ok N0 _ _ _ _ hwr hwp hne hx)]
      exact h1
    · rw [h2, List.append_assoc, List.map_cons, List.singleton_append]
    · rw [h4, mem_foldl_setAdd, List.flatMap_cons, List.mem_append (s := (rx x).speciesOf)]
      exact or_assoc

/-- The loop body of the `species_to_mol` pass of both graph importers (`importMol`, `importMolS`). -/
def molSet (N : Net) (l : String) (m : Option String) : Net :=
  match m with
  | some m => if l ∈ N.species then { N with mol := N.mol.set l m } else N
  | none => N

theorem molSet_rxns (N : Net) (l : String) (m : Option String) : (molSet N l m).rxns = N.rxns := by
  unfold molSet; split
  · split <;> rfl
  · rfl

theorem molSet_species (N : Net) (l : String) (m : Option String) : (molSet N l m).species = N.species := by
  unfold molSet; split
  · split <;> rfl
  · rfl

theorem molSet_get (N : Net) (l : String) (m : Option String) (s : String) :
    (molSet N l m).mol.get? s = (if s = l ∧ l ∈ N.species then m else none).or (N.mol.get? s) := by
  unfold molSet
  cases m with
  | none => simp
  | some m =>
    by_cases hl : l ∈ N.species
    · by_cases hs : s = l
      · simp [hl, hs, Dict.get?_set_self]
      · simp [hl, hs, Dict.get?_set_other _ _ _ _ hs]
    · simp [hl]

theorem foldl_molSet (f : String → Option String) : ∀ (l : List String), l.Nodup → ∀ N1 : Net,
    (l.foldl (fun N s => molSet N s (f s)) N1).rxns = N1.rxns ∧
    (l.foldl (fun N s => molSet N s (f s)) N1).species = N1.species ∧
    ∀ s, (l.foldl (fun N s => molSet N s (f s)) N1).mol.get? s =
      (if s ∈ l ∧ s ∈ N1.species then f s else none).or (N1.mol.get? s) := by
  intro l
  induction l with
  | nil => intro _ N1; simp
  | cons a l ih =>
    intro hnd N1
    rw [List.nodup_cons] at hnd
    obtain ⟨h1, h2, h3⟩ := ih hnd.2 (molSet N1 a (f a))
    refine ⟨h1.trans (molSet_rxns _ _ _), h2.trans (molSet_species _ _ _), fun s => ?_⟩
    rw [List.foldl_cons, h3 s, molSet_species, molSet_get]
    by_cases hsa : s = a
    · subst hsa
      simp [hnd.1]
    · simp [hsa]

end SynKit.Views
