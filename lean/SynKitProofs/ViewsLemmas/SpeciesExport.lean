import SynKitProofs.ViewsLemmas.Basic
import SynKitProofs.Core.Upsert
import SynKitProofs.Core.List
/-!
# Species graph, exporter side (`hypergraph_to_species_graph`)

The exporter is a left fold of one-pair `Step`s over the arc list, each a keyed upsert on `(src, dst)`, so every
arc is built from the steps of its own pair (`grouped_arcs`, `ArcOf`). `ArcInv` says what the arcs carry after the
steps `L`; for a well-formed network the node list is never extended, so the exported graph is described by
`ExportFacts`.
-/
namespace SynKit.Views.Sp

structure Step where
  r : String
  p : String
  eid : String
  rule : String
  rc : Nat
  pc : Nat

def stepsOf (e : Rxn) : List Step :=
  e.reactants.flatMap fun rk => e.products.map fun pk => ⟨rk.1, pk.1, e.id, e.rule, rk.2, pk.2⟩

def stepG (g : SGraph) (t : Step) : SGraph :=
  { nodes := touchNode (touchNode g.nodes t.r) t.p,
    edges := upsertArc g.edges t.r t.p t.eid t.rule t.rc t.pc }

theorem addArcs_eq (g : SGraph) (e : Rxn) : addArcs g e = (stepsOf e).foldl stepG g := by
  unfold addArcs stepsOf
  rw [List.foldl_flatMap]
  congr 1
  funext g rk
  rw [List.foldl_map]
  rfl

def allSteps (N : Net) : List Step := N.rxns.flatMap stepsOf

def spNodes (b : Bool) (N : Net) : List SNode :=
  N.species.map fun s => ⟨s, some s, if b then N.mol.get? s else none⟩

theorem toSpeciesGraph_eq (b : Bool) (N : Net) :
    toSpeciesGraph b N = (allSteps N).foldl stepG ⟨spNodes b N, []⟩ := by
  unfold toSpeciesGraph allSteps
  rw [List.foldl_flatMap]
  have : addArcs = fun acc x => List.foldl stepG acc (stepsOf x) := by
    funext g e
    exact addArcs_eq g e
  rw [this]
  rfl

theorem mem_stepsOf (e : Rxn) (t : Step) :
    t ∈ stepsOf e ↔ t.eid = e.id ∧ t.rule = e.rule ∧ (t.r, t.rc) ∈ e.reactants ∧ (t.p, t.pc) ∈ e.products := by
  unfold stepsOf
  simp only [List.mem_flatMap, List.mem_map]
  constructor
  · rintro ⟨rk, hrk, pk, hpk, rfl⟩
    exact ⟨rfl, rfl, hrk, hpk⟩
  · rintro ⟨h1, h2, h3, h4⟩
    refine ⟨(t.r, t.rc), h3, (t.p, t.pc), h4, ?_⟩
    cases t; simp_all

def stepE (es : List SEdge) (t : Step) : List SEdge := upsertArc es t.r t.p t.eid t.rule t.rc t.pc

def updArc (a : SEdge) (t : Step) : SEdge :=
  { a with via := setAdd a.via t.eid, rules := setAdd a.rules t.rule,
           rMap := a.rMap.set t.eid t.rc, pMap := a.pMap.set t.eid t.pc,
           stoichR := min a.stoichR t.rc, stoichP := min a.stoichP t.pc }

def newArc (t : Step) : SEdge := ⟨t.r, t.p, [t.eid], [t.rule], t.rc, t.pc, [(t.eid, t.rc)], [(t.eid, t.pc)]⟩

def fArc (t : Step) (a : SEdge) : SEdge := if a.src = t.r ∧ a.dst = t.p then updArc a t else a

def Distinct (es : List SEdge) : Prop := es.Pairwise (fun a b => ¬(a.src = b.src ∧ a.dst = b.dst))

theorem fArc_rules (t : Step) (a : SEdge) (s : String) : s ∈ a.rules → s ∈ (fArc t a).rules := by
  unfold fArc; split
  · intro h; exact (mem_setAdd _ _ _).2 (Or.inl h)
  · exact id

def arcKey (a : SEdge) : String × String := (a.src, a.dst)
def stepKey (t : Step) : String × String := (t.r, t.p)

/-- `G.add_edge(r, p)` with the bookkeeping of one `(reaction, r, p)` triple is a keyed upsert on `(src, dst)`. -/
theorem stepE_eq (es : List SEdge) (t : Step) :
    stepE es t = Core.upsertBy arcKey (stepKey t) (updArc · t) (newArc t) es := by
  induction es with
  | nil => rfl
  | cons a rest ih =>
    unfold stepE at ih ⊢
    simp only [upsertArc, Core.upsertBy, arcKey, stepKey, Prod.mk.injEq, ih]
    rfl

theorem grouped_arcs (L : List Step) :
    Core.Grouped arcKey stepKey (fun t a => updArc a t) newArc L (L.foldl stepE []) :=
  Core.grouped_foldl (fun es t _ => stepE_eq es t) (fun _ => rfl) (fun _ _ => rfl) L

/-- Needed for `ArcInv.maps`: a later step with the same `(r, p, eid)` overwrites the two map entries. Holds
for a well-formed network (`functional_allSteps`). -/
def Functional (L : List Step) : Prop :=
  ∀ t ∈ L, ∀ t' ∈ L, t.r = t'.r → t.p = t'.p → t.eid = t'.eid → t.rc = t'.rc ∧ t.pc = t'.pc

structure ArcInv (L : List Step) (es : List SEdge) : Prop where
  distinct : Distinct es
  via_iff : ∀ a ∈ es, ∀ eid, eid ∈ a.via ↔ ∃ t ∈ L, t.r = a.src ∧ t.p = a.dst ∧ t.eid = eid
  via_ne : ∀ a ∈ es, a.via ≠ []
  maps : ∀ a ∈ es, ∀ t ∈ L, t.r = a.src → t.p = a.dst →
    a.rMap.get? t.eid = some t.rc ∧ a.pMap.get? t.eid = some t.pc
  cover : ∀ t ∈ L, ∃ a ∈ es, a.src = t.r ∧ a.dst = t.p

theorem ArcInv.of_via {L : List Step} {es : List SEdge} (h : ArcInv L es) {a : SEdge} (ha : a ∈ es) {eid : String}
    (he : eid ∈ a.via) : ∃ t ∈ L, t.r = a.src ∧ t.p = a.dst ∧ t.eid = eid ∧
      a.rMap.get? eid = some t.rc ∧ a.pMap.get? eid = some t.pc := by
  obtain ⟨t, ht, h1, h2, rfl⟩ := (h.via_iff a ha eid).1 he
  exact ⟨t, ht, h1, h2, rfl, h.maps a ha t ht h1 h2⟩

def ArcOf (ts : List Step) (a : SEdge) : Prop :=
  (∀ eid, eid ∈ a.via ↔ ∃ t ∈ ts, t.eid = eid) ∧
    ∀ t ∈ ts, a.rMap.get? t.eid = some t.rc ∧ a.pMap.get? t.eid = some t.pc

theorem arcOf_new (t : Step) : ArcOf [t] (newArc t) :=
  ⟨fun eid => by simp [newArc, eq_comm], fun t' ht' => by
    rw [List.mem_singleton.1 ht']; exact ⟨Dict.get?_set_self [] _ _, Dict.get?_set_self [] _ _⟩⟩

theorem arcOf_upd {ts : List Step} {a : SEdge} {t : Step}
    (hF : ∀ t' ∈ ts, t'.eid = t.eid → t'.rc = t.rc ∧ t'.pc = t.pc) (h : ArcOf ts a) :
    ArcOf (ts ++ [t]) (updArc a t) := by
  refine ⟨fun eid => ?_, fun t' ht' => ?_⟩
  · show eid ∈ setAdd a.via t.eid ↔ _
    rw [mem_setAdd, h.1 eid, Core.exists_mem_concat_eq Step.eid]
  · show (a.rMap.set t.eid t.rc).get? t'.eid = _ ∧ (a.pMap.set t.eid t.pc).get? t'.eid = _
    rw [Dict.get?_set, Dict.get?_set]
    rcases List.mem_append.1 ht' with ht' | ht'
    · by_cases he : t'.eid = t.eid
      · rw [if_pos he, if_pos he, (hF t' ht' he).1, (hF t' ht' he).2]; exact ⟨rfl, rfl⟩
      · rw [if_neg he, if_neg he]; exact h.2 t' ht'
    · rw [List.mem_singleton.1 ht', if_pos rfl, if_pos rfl]; exact ⟨rfl, rfl⟩

theorem mem_group_arc {L : List Step} {a : SEdge} {t : Step} :
    t ∈ Core.group stepKey L (arcKey a) ↔ t ∈ L ∧ t.r = a.src ∧ t.p = a.dst :=
  Core.mem_group.trans (and_congr_right' Prod.ext_iff)

theorem arcInv_fold (L : List Step) (hF : Functional L) : ArcInv L (L.foldl stepE []) := by
  have G := grouped_arcs L
  have hA := G.forall_built (P := ArcOf) (fun t _ => arcOf_new t) (fun ts a t ht hts h =>
    arcOf_upd (fun t' ht' he =>
      hF t' (hts t' ht').1 t ht (congrArg Prod.fst (hts t' ht').2) (congrArg Prod.snd (hts t' ht').2) he) h)
  generalize L.foldl stepE [] = es at G hA
  refine ⟨?_, fun a ha eid => ?_, fun a ha hnil => ?_, fun a ha t ht h1 h2 => ?_, fun t ht => ?_⟩
  · exact (List.pairwise_map.1 G.nodup).imp fun hne hab => hne (Prod.ext hab.1 hab.2)
  · rw [(hA a ha).1 eid]
    simp only [mem_group_arc, and_assoc]
  · obtain ⟨t, ht⟩ := G.exists_step ha
    have : t.eid ∈ a.via := ((hA a ha).1 _).2 ⟨t, Core.mem_group.2 ht, rfl⟩
    rw [hnil] at this; cases this
  · exact (hA a ha).2 t (mem_group_arc.2 ⟨ht, h1, h2⟩)
  · obtain ⟨a, ha, hk⟩ := List.mem_map.1 (G.cover t ht)
    exact ⟨a, ha, congrArg Prod.fst hk, congrArg Prod.snd hk⟩

theorem foldl_stepG_edges (L : List Step) (g : SGraph) : (L.foldl stepG g).edges = L.foldl stepE g.edges :=
  (List.foldl_hom SGraph.edges fun _ _ => rfl).symm

theorem touchNode_of_mem (ns : List SNode) (i : String) (h : i ∈ ns.map (·.id)) : touchNode ns i = ns := by
  obtain ⟨n, hn, rfl⟩ := List.mem_map.1 h
  exact if_pos (List.any_eq_true.2 ⟨n, hn, decide_eq_true rfl⟩)

theorem foldl_stepG_nodes (L : List Step) (g : SGraph)
    (h : ∀ t ∈ L, t.r ∈ g.nodes.map (·.id) ∧ t.p ∈ g.nodes.map (·.id)) : (L.foldl stepG g).nodes = g.nodes :=
  Core.foldl_inv (P := fun g' : SGraph => g'.nodes = g.nodes) (f := stepG) (fun g' t ht hg => by
    show touchNode (touchNode g'.nodes t.r) t.p = g.nodes
    rw [hg, touchNode_of_mem _ _ (h t ht).1, touchNode_of_mem _ _ (h t ht).2]) rfl

theorem mem_allSteps (N : Net) (t : Step) : t ∈ allSteps N ↔
    ∃ e ∈ N.rxns, t.eid = e.id ∧ t.rule = e.rule ∧ (t.r, t.rc) ∈ e.reactants ∧ (t.p, t.pc) ∈ e.products := by
  simp only [allSteps, List.mem_flatMap, mem_stepsOf]

theorem functional_allSteps (N : Net) (hN : WfNet N) : Functional (allSteps N) := by
  intro t ht t' ht' h1 h2 h3
  obtain ⟨e, he, hid, _, hr, hp⟩ := (mem_allSteps N t).1 ht
  obtain ⟨e', he', hid', _, hr', hp'⟩ := (mem_allSteps N t').1 ht'
  have hee : e = e' :=
    List.inj_on_of_nodup_map (f := fun e : Rxn => e.id) hN.idsNodup he he' (hid.symm.trans (h3.trans hid'))
  subst hee
  obtain ⟨wr, wp⟩ := hN.sides e he
  exact ⟨Dict.val_unique wr.1 hr (h1 ▸ hr'),
    Dict.val_unique wp.1 hp (h2 ▸ hp')⟩

theorem step_species (N : Net) (hN : WfNet N) (t : Step) (ht : t ∈ allSteps N) :
    t.r ∈ N.species ∧ t.p ∈ N.species := by
  obtain ⟨e, he, _, _, hr, hp⟩ := (mem_allSteps N t).1 ht
  exact ⟨hN.speciesSup _ (List.mem_flatMap.2 ⟨e, he, List.mem_append_left _ (Dict.mem_keys_of_mem hr)⟩),
    hN.speciesSup _ (List.mem_flatMap.2 ⟨e, he, List.mem_append_right _ (Dict.mem_keys_of_mem hp)⟩)⟩

theorem spNodes_ids (b : Bool) (N : Net) : (spNodes b N).map (·.id) = N.species := by
  unfold spNodes
  rw [List.map_map]
  exact List.map_id _

/-- Every species of a reaction is in the species set, so `add_edge` never creates a node. -/
theorem toSpeciesGraph_nodes (b : Bool) (N : Net) (hN : WfNet N) : (toSpeciesGraph b N).nodes = spNodes b N := by
  rw [toSpeciesGraph_eq]
  exact foldl_stepG_nodes _ _ (fun t ht => by rw [spNodes_ids]; exact step_species N hN t ht)

theorem mem_edgesIter (g : SGraph) (a : SEdge) :
    a ∈ g.edgesIter ↔ a ∈ g.edges ∧ a.src ∈ g.nodes.map (·.id) := by
  unfold SGraph.edgesIter
  simp only [List.mem_flatMap, List.mem_filter, decide_eq_true_eq, List.mem_map]
  constructor
  · rintro ⟨n, hn, ha, h⟩; exact ⟨ha, n, hn, h.symm⟩
  · rintro ⟨ha, n, hn, h⟩; exact ⟨n, hn, ha, h.symm⟩

structure ExportFacts (N : Net) (g : SGraph) : Prop where
  label : ∀ i, g.labelOf i = i
  edges_eq : g.edges = (allSteps N).foldl stepE []
  arcInv : ArcInv (allSteps N) g.edges
  iter : ∀ a, a ∈ g.edgesIter ↔ a ∈ g.edges

theorem ExportFacts.coeff {N : Net} {g : SGraph} (hg : ExportFacts N g) {a : SEdge} (ha : a ∈ g.edges) {eid : String}
    (he : eid ∈ a.via) : ∃ e ∈ N.rxns, e.id = eid ∧ ∃ rc pc, a.rMap.get? eid = some rc ∧ a.pMap.get? eid = some pc ∧
      (a.src, rc) ∈ e.reactants ∧ (a.dst, pc) ∈ e.products := by
  obtain ⟨t, ht, h1, h2, h3, hr, hp⟩ := hg.arcInv.of_via ha he
  obtain ⟨e, he', e1, _, e2, e3⟩ := (mem_allSteps N t).1 ht
  exact ⟨e, he', e1.symm.trans h3, t.rc, t.pc, hr, hp, h1 ▸ e2, h2 ▸ e3⟩

theorem export_facts (b : Bool) (N : Net) (hN : WfNet N) : ExportFacts N (toSpeciesGraph b N) := by
  have hnodes := toSpeciesGraph_nodes b N hN
  have hedges : (toSpeciesGraph b N).edges = (allSteps N).foldl stepE [] := by
    rw [toSpeciesGraph_eq, foldl_stepG_edges]
  generalize toSpeciesGraph b N = g at hnodes hedges
  have hA : ArcInv (allSteps N) g.edges := hedges ▸ arcInv_fold _ (functional_allSteps N hN)
  refine ⟨fun i => ?_, hedges, hA, fun a => ?_⟩
  · unfold SGraph.labelOf
    split
    · next n hn =>
      obtain ⟨s, _, rfl⟩ := List.mem_map.1 (hnodes ▸ List.mem_of_find?_eq_some hn)
      have hs := List.find?_some hn
      exact of_decide_eq_true hs
    · rfl
  · rw [mem_edgesIter, hnodes, spNodes_ids]
    refine ⟨And.left, fun ha => ⟨ha, ?_⟩⟩
    obtain ⟨eid, heid⟩ := List.exists_mem_of_ne_nil _ (hA.via_ne a ha)
    obtain ⟨t, ht, h1, _⟩ := (hA.via_iff a ha eid).1 heid
    exact h1 ▸ (step_species N hN t ht).1

end SynKit.Views.Sp
