import SynKitModel.Gml
import SynKitProofs.GmlLemmas
import SynKitProofs.Match
import SynKitProofs.Core.Dict
/-! Renumbering a shaped ITS graph keeps its shape (`itsShape_relabel`), and the re-indexed export is the plain export of
the renumbered ITS (`itsToGml_reindex`): renumbering the two sides and taking the sides of the renumbered ITS differ in
`atom_map` only (`side_relabel`), which the writer does not read. -/
namespace SynKit.Gml
open SynKit.Match

theorem forall_relabel (g : LGraph) (f : Nat → Nat) (P Q : Attrs → Prop) (hn : ∀ q ∈ g.nodes, P q.2)
    (he : ∀ e ∈ g.edges, Q e.2.2) :
    (∀ q ∈ (g.relabel f).nodes, P q.2) ∧ ∀ e ∈ (g.relabel f).edges, Q e.2.2 :=
  ⟨List.forall_mem_map.2 hn, List.forall_mem_map.2 he⟩

theorem itsShape_relabel (I : LGraph) (hs : ItsShape I) (f : Nat → Nat) (hf : InjOnIds I f) :
    ItsShape (I.relabel f) :=
  ⟨LGraph.wf_relabel hs.1 hf, forall_relabel I f (nodeShape · = true) (edgeShape · = true) hs.2.1 hs.2.2⟩

theorem indexMap_injOn (g : LGraph) : InjOnIds g (indexMap g) := by
  intro a ha b hb e
  simp only [indexMap, LGraph.hasNode_iff.2 ha, LGraph.hasNode_iff.2 hb, if_true] at e
  exact (List.idxOf_inj ha).1 (Nat.succ.inj e)

theorem injOn_indexMap (I : LGraph) (hs : ItsShape I) : InjOnIds I (indexMap (side 0 I)) :=
  (indexMap_injOn (side 0 I)).of_ids_eq (side_ids 0 I hs.2.1).symm

theorem side_relabel_edges (i : Nat) (I : LGraph) (f : Nat → Nat) :
    (side i (I.relabel f)).edges = ((side i I).relabel f).edges := by
  simp only [side, LGraph.relabel, List.filterMap_map, List.map_filterMap]
  refine List.filterMap_congr fun e _ => ?_
  simp only [Function.comp, Rd.sideEdge_eq, Option.map_map]
  rfl

theorem sideAttrs_renumber (i n m : Nat) (a : Attrs) (h : nodeShape a = true) :
    sideAttrs i (m, a) = Dict.set (sideAttrs i (n, a)) "atom_map" (.num (2 * (m : Int))) := by
  obtain ⟨e, ar, hc, c, nb, ar', hc', c', nb', h1, _⟩ := nodeShape_unpack a h
  rw [(sideAttrs_rows i (n, a) h1).2, (sideAttrs_rows i (m, a) h1).2]
  split <;> rfl

/-- `sideNode` writes `atom_map` from the node id, so a side of the renumbered ITS is the renumbered side with `atom_map`
set again. -/
theorem side_relabel (i : Nat) (I : LGraph) (hn : ∀ p ∈ I.nodes, nodeShape p.2 = true) (f : Nat → Nat) :
    side i (I.relabel f) = setAtomMap ((side i I).relabel f) := by
  refine LGraph.ext ?_ (side_relabel_edges i I f)
  rw [side_nodes i _ (List.forall_mem_map.2 hn), setAtomMap,
    LGraph.nodes_relabel, LGraph.nodes_relabel, side_nodes i I hn, List.map_map, List.map_map, List.map_map]
  exact List.map_congr_left fun p hp => Prod.ext rfl (sideAttrs_renumber i p.1 (f p.1) p.2 (hn p hp))

theorem nodeLabel_set_atomMap (a : Attrs) (x : Val) : nodeLabel (Dict.set a "atom_map" x) = nodeLabel a := by
  simp only [nodeLabel, elemOf, chargeOf, Dict.get?_set_other a "atom_map" x _ (by decide : "element" ≠ "atom_map"),
    Dict.get?_set_other a "atom_map" x _ (by decide : "charge" ≠ "atom_map")]

theorem sideItems_setAtomMap (g : LGraph) (c : List Nat) : sideItems (setAtomMap g) c = sideItems g c := by
  unfold sideItems setAtomMap
  rw [List.filter_map, List.map_map]
  exact congrArg _ (List.map_congr_left fun p _ => by simp only [Function.comp, nodeItem, nodeLabel_set_atomMap])

theorem findChanged_setAtomMap (L R : LGraph) : findChanged (setAtomMap L) (setAtomMap R) = findChanged L R := by
  unfold findChanged
  rw [setAtomMap_ids]
  refine List.filter_congr fun n hn => ?_
  rw [LGraph.hasNode, setAtomMap_ids, ← LGraph.hasNode]
  by_cases hR : R.hasNode n = true
  · rw [setAtomMap_attrs L n hn, setAtomMap_attrs R n (LGraph.hasNode_iff.1 hR),
      Attrs.get_set_other (by decide : "charge" ≠ "atom_map"), Attrs.get_set_other (by decide : "charge" ≠ "atom_map")]
  · rw [Bool.not_eq_true] at hR
    rw [hR, Bool.false_and, Bool.false_and]

theorem relabel_sides (I : LGraph) (hs : ItsShape I) (f : Nat → Nat) :
    findChanged ((side 0 I).relabel f) ((side 1 I).relabel f) =
      findChanged (side 0 (I.relabel f)) (side 1 (I.relabel f)) ∧
    ∀ i c, sideItems ((side i I).relabel f) c = sideItems (side i (I.relabel f)) c :=
  ⟨by rw [side_relabel 0 I hs.2.1, side_relabel 1 I hs.2.1, findChanged_setAtomMap],
    fun i c => by rw [side_relabel i I hs.2.1, sideItems_setAtomMap]⟩

theorem itsToGml_reindex (I : LGraph) (hs : ItsShape I) :
    itsToGml false true I = itsToGml false false (I.relabel (indexMap (side 0 I))) := by
  obtain ⟨hch, hside⟩ := relabel_sides I hs (indexMap (side 0 I))
  rw [itsToGml_full, ← hch, ← hside 0, ← hside 1]
  exact (writeRule_reindex (side 0 I) (side 1 I) I).trans (writeRule_false _ _ _)

end SynKit.Gml
