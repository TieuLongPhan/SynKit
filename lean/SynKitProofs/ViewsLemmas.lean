import SynKitProofs.ViewsLemmas.Basic
import SynKitProofs.ViewsLemmas.Str
import SynKitProofs.ViewsLemmas.Bip
import SynKitProofs.ViewsLemmas.SpeciesExport
import SynKitProofs.ViewsLemmas.Species
/-!
# Lemmas for C16 (network views)

`Basic` is shared; `Str` (reaction strings), `Bip` (bipartite graph), `SpeciesExport` + `Species` (species graph)
are independent of each other. The property theorems are in `SynKitProofs/Props/C16.lean`.
-/
