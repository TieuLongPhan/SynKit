import SynKitModel.Canon
import SynKitProofs.Core.Sort
import SynKitProofs.Core.Fold
/-!
# Bool-valued strict total orders

`StrictTotal`, and with respect to such an order: sorting (`sortBy`), permutations (`perms`), the first
minimum (`minBy`), lexicographic products (`lexIte`, `lexOr`, `ltLex`), `natLt`, `pairLt`.  Nothing here mentions
attribute values; the order on values and on serialisations is in `CanonOrder`.
-/
namespace SynKit.Canon

structure StrictTotal {α : Type} (lt : α → α → Bool) : Prop where
  irrefl : ∀ a, lt a a = false
  trans : ∀ a b c, lt a b = true → lt b c = true → lt a c = true
  total : ∀ a b, lt a b = true ∨ a = b ∨ lt b a = true

theorem StrictTotal.asymm {α : Type} {lt : α → α → Bool} (h : StrictTotal lt) (a b : α)
    (hab : lt a b = true) : lt b a = false :=
  Bool.eq_false_iff.2 fun hba => Bool.eq_false_iff.1 (h.irrefl a) (h.trans _ _ _ hab hba)

theorem StrictTotal.eq_of_not_lt {α : Type} {lt : α → α → Bool} (h : StrictTotal lt) (a b : α)
    (hab : lt a b = false) (hba : lt b a = false) : a = b := by
  rcases h.total a b with h1 | h1 | h1
  · exact absurd h1 (Bool.eq_false_iff.1 hab)
  · exact h1
  · exact absurd h1 (Bool.eq_false_iff.1 hba)

theorem StrictTotal.le_trans {α : Type} {lt : α → α → Bool} (h : StrictTotal lt) (a b c : α)
    (hba : lt b a = false) (hcb : lt c b = false) : lt c a = false := by
  refine Bool.eq_false_iff.2 fun hca => ?_
  rcases h.total b a with h1 | rfl | h1
  · exact Bool.eq_false_iff.1 hba h1
  · exact Bool.eq_false_iff.1 hcb hca
  · exact Bool.eq_false_iff.1 hcb (h.trans _ _ _ hca h1)

theorem insertBy_eq {α : Type} (lt : α → α → Bool) (x : α) (l : List α) :
    insertBy lt x l = Core.insertBy (fun a b => ¬ lt b a) x l := by
  induction l with
  | nil => rfl
  | cons y ys ih => simp only [insertBy, Core.insertBy, ih, ite_not]

theorem sortBy_eq {α : Type} (lt : α → α → Bool) (l : List α) :
    sortBy lt l = Core.sortBy (fun a b => ¬ lt b a) l :=
  congrArg (fun f => l.foldr f []) (funext fun x => funext (insertBy_eq lt x))

theorem sortBy_perm {α : Type} (lt : α → α → Bool) (xs : List α) : (sortBy lt xs).Perm xs := by
  rw [sortBy_eq]
  exact Core.sortBy_perm

theorem mem_sortBy {α : Type} (lt : α → α → Bool) (z : α) (l : List α) :
    z ∈ sortBy lt l ↔ z ∈ l := (sortBy_perm lt l).mem_iff

theorem sortBy_eq_of_perm {α : Type} (lt : α → α → Bool)
    (hirr : ∀ a, lt a a = false) (htr : ∀ a b c, lt a b = true → lt b c = true → lt a c = true)
    (xs ys : List α) (hp : xs.Perm ys)
    (htot : ∀ a ∈ xs, ∀ b ∈ xs, lt a b = true ∨ a = b ∨ lt b a = true) :
    sortBy lt xs = sortBy lt ys := by
  rw [sortBy_eq, sortBy_eq]
  exact Core.sortBy_not_flip_eq_of_perm hp (fun a _ => by rw [hirr]; exact Bool.false_ne_true)
    (fun a _ b _ c _ => htr a b c) fun a ha b hb => or_left_comm.1 (htot a ha b hb)

theorem sortBy_eq_of_perm_strictTotal {α : Type} (lt : α → α → Bool) (h : StrictTotal lt)
    (xs ys : List α) (hp : xs.Perm ys) : sortBy lt xs = sortBy lt ys :=
  sortBy_eq_of_perm lt h.irrefl h.trans xs ys hp fun a _ b _ => h.total a b

theorem sortBy_map {α β : Type} (f : α → β) (lt : α → α → Bool) (lt' : β → β → Bool)
    (h : ∀ a b, lt' (f a) (f b) = lt a b) (xs : List α) :
    sortBy lt' (xs.map f) = (sortBy lt xs).map f := by
  rw [sortBy_eq, sortBy_eq]
  exact Core.sortBy_map f fun a _ b _ => by rw [h]

theorem mem_insertions_append {α : Type} (x : α) (l₁ l₂ : List α) :
    l₁ ++ x :: l₂ ∈ insertions x (l₁ ++ l₂) := by
  induction l₁ with
  | nil => cases l₂ <;> exact List.mem_cons_self
  | cons y ys ih => exact List.mem_cons_of_mem _ (List.mem_map_of_mem ih)

theorem mem_insertions {α : Type} (x : α) (l o : List α) :
    o ∈ insertions x l ↔ ∃ l₁ l₂, l = l₁ ++ l₂ ∧ o = l₁ ++ x :: l₂ := by
  refine ⟨fun h => ?_, fun ⟨l₁, l₂, hl, ho⟩ => hl ▸ ho ▸ mem_insertions_append x l₁ l₂⟩
  induction l generalizing o with
  | nil => exact ⟨[], [], rfl, List.mem_singleton.1 h⟩
  | cons y ys ih =>
    rcases List.mem_cons.1 h with rfl | h
    · exact ⟨[], y :: ys, rfl, rfl⟩
    · obtain ⟨o', ho', rfl⟩ := List.mem_map.1 h
      obtain ⟨l₁, l₂, rfl, rfl⟩ := ih _ ho'
      exact ⟨y :: l₁, l₂, rfl, rfl⟩

theorem mem_perms {α : Type} (l o : List α) : o ∈ perms l ↔ o.Perm l := by
  induction l generalizing o with
  | nil => exact List.mem_singleton.trans ⟨fun h => h ▸ .refl _, List.Perm.eq_nil⟩
  | cons x xs ih =>
    simp only [perms, List.mem_flatMap]
    constructor
    · rintro ⟨p, hp, ho⟩
      obtain ⟨l₁, l₂, rfl, rfl⟩ := (mem_insertions x p o).1 ho
      exact List.perm_middle.trans (((ih _).1 hp).cons x)
    · intro h
      obtain ⟨l₁, l₂, rfl⟩ := List.append_of_mem (h.mem_iff.2 List.mem_cons_self)
      exact ⟨l₁ ++ l₂, (ih _).2 (List.perm_middle.symm.trans h).cons_inv, mem_insertions_append x l₁ l₂⟩

theorem minBy_cons {α : Type} (lt : α → α → Bool) (x y : α) (ys : List α) :
    minBy lt x (y :: ys) = minBy lt (if lt y x then y else x) ys := rfl

theorem minBy_mem {α : Type} (lt : α → α → Bool) (x : α) (xs : List α) :
    minBy lt x xs ∈ x :: xs := by
  refine Core.foldl_inv (P := (· ∈ x :: xs)) (fun b a ha hb => ?_) List.mem_cons_self
  split
  · exact List.mem_cons_of_mem _ ha
  · exact hb

/-- Invariant of the fold: the running best is not above anything seen so far.  `f` need not be injective. -/
theorem minBy_key_least {α γ : Type} (lt : γ → γ → Bool) (h : StrictTotal lt) (f : α → γ) (x : α)
    (xs : List α) : ∀ z ∈ x :: xs, lt (f z) (f (minBy (fun a b => lt (f a) (f b)) x xs)) = false := by
  refine Core.foldl_inv_prefix (P := fun s b => ∀ z ∈ x :: s, lt (f z) (f b) = false) (s := [])
    (fun s b a _ hb z hz => ?_) fun z hz => ?_
  · rw [← List.cons_append, List.mem_append, List.mem_singleton] at hz
    split
    · rcases hz with hz | rfl
      · exact h.le_trans _ _ _ (h.asymm _ _ ‹_›) (hb z hz)
      · exact h.irrefl _
    · rcases hz with hz | rfl
      · exact hb z hz
      · exact Bool.eq_false_iff.2 ‹_›
  · rw [List.mem_singleton.1 hz]
    exact h.irrefl _

theorem minBy_least {α : Type} (lt : α → α → Bool) (h : StrictTotal lt) (x : α) (xs : List α) :
    ∀ z ∈ x :: xs, lt z (minBy lt x xs) = false :=
  minBy_key_least lt h id x xs

theorem minBy_congr {α : Type} (lt : α → α → Bool) (h : StrictTotal lt) (x y : α) (xs ys : List α)
    (hset : ∀ z, z ∈ x :: xs ↔ z ∈ y :: ys) : minBy lt x xs = minBy lt y ys := by
  apply h.eq_of_not_lt
  · exact minBy_least lt h y ys _ ((hset _).mp (minBy_mem lt x xs))
  · exact minBy_least lt h x xs _ ((hset _).mpr (minBy_mem lt y ys))

theorem exists_key_congr {α β γ : Type} {as : List α} {bs : List β} {φ : β → α} {f : α → γ} {g : β → γ}
    (hrel : ∀ a, a ∈ as ↔ ∃ b ∈ bs, a = φ b) (hkey : ∀ b ∈ bs, f (φ b) = g b) (k : γ) :
    (∃ a ∈ as, f a = k) ↔ ∃ b ∈ bs, g b = k := by
  constructor
  · rintro ⟨a, ha, rfl⟩
    obtain ⟨b, hb, rfl⟩ := (hrel a).1 ha
    exact ⟨b, hb, (hkey b hb).symm⟩
  · rintro ⟨b, hb, rfl⟩
    exact ⟨_, (hrel _).2 ⟨b, hb, rfl⟩, hkey b hb⟩

theorem minBy_key_congr {α β γ : Type} (lt : γ → γ → Bool) (h : StrictTotal lt) (f : α → γ) (g : β → γ)
    (x : α) (xs : List α) (y : β) (ys : List β)
    (hset : ∀ k, (∃ a ∈ x :: xs, f a = k) ↔ (∃ b ∈ y :: ys, g b = k)) :
    f (minBy (fun a b => lt (f a) (f b)) x xs) = g (minBy (fun a b => lt (g a) (g b)) y ys) := by
  apply h.eq_of_not_lt
  · obtain ⟨b, hb, hbk⟩ := (hset _).mp ⟨_, minBy_mem (fun a b => lt (f a) (f b)) x xs, rfl⟩
    rw [← hbk]
    exact minBy_key_least lt h g y ys b hb
  · obtain ⟨a, ha, hak⟩ := (hset _).mpr ⟨_, minBy_mem (fun a b => lt (g a) (g b)) y ys, rfl⟩
    rw [← hak]
    exact minBy_key_least lt h f x xs a ha

theorem StrictTotal.pullback {α β : Type} {lt : β → β → Bool} (h : StrictTotal lt) (f : α → β)
    (hinj : ∀ a b, f a = f b → a = b) (lt' : α → α → Bool) (hlt : ∀ a b, lt' a b = lt (f a) (f b)) :
    StrictTotal lt' where
  irrefl a := by rw [hlt]; exact h.irrefl _
  trans a b c := by rw [hlt, hlt, hlt]; exact h.trans _ _ _
  total a b := by
    rw [hlt, hlt]
    rcases h.total (f a) (f b) with h1 | h1 | h1
    · exact Or.inl h1
    · exact Or.inr (Or.inl (hinj _ _ h1))
    · exact Or.inr (Or.inr h1)

/-- Lexicographic product in the if-then-else shape used by `serNodeLt`, `serEdgeLt`, `Ser.lt`. -/
def lexIte {α β : Type} (lt₁ : α → α → Bool) (lt₂ : β → β → Bool) (a b : α × β) : Bool :=
  if lt₁ a.1 b.1 then true else if lt₁ b.1 a.1 then false else lt₂ a.2 b.2

theorem lexIte_iff {α β : Type} {lt₁ : α → α → Bool} (lt₂ : β → β → Bool) (h₁ : StrictTotal lt₁)
    (a b : α × β) :
    lexIte lt₁ lt₂ a b = true ↔ lt₁ a.1 b.1 = true ∨ (a.1 = b.1 ∧ lt₂ a.2 b.2 = true) := by
  unfold lexIte
  cases e1 : lt₁ a.1 b.1
  · cases e2 : lt₁ b.1 a.1
    · simp [h₁.eq_of_not_lt _ _ e1 e2]
    · have hne : a.1 ≠ b.1 := fun h => by rw [h, h₁.irrefl] at e2; cases e2
      simp [hne]
  · simp

theorem lexIte_trans {α β : Type} {lt₁ : α → α → Bool} {lt₂ : β → β → Bool} (h₁ : StrictTotal lt₁)
    {a b c : α × β} (h₂ : lt₂ a.2 b.2 = true → lt₂ b.2 c.2 = true → lt₂ a.2 c.2 = true) :
    lexIte lt₁ lt₂ a b = true → lexIte lt₁ lt₂ b c = true → lexIte lt₁ lt₂ a c = true := by
  rw [lexIte_iff lt₂ h₁, lexIte_iff lt₂ h₁, lexIte_iff lt₂ h₁]
  rintro (hab | ⟨e1, hab⟩) (hbc | ⟨e2, hbc⟩)
  · exact Or.inl (h₁.trans _ _ _ hab hbc)
  · exact Or.inl (e2 ▸ hab)
  · exact Or.inl (e1 ▸ hbc)
  · exact Or.inr ⟨e1.trans e2, h₂ hab hbc⟩

theorem lexIte_total {α β : Type} {lt₁ : α → α → Bool} {lt₂ : β → β → Bool} (h₁ : StrictTotal lt₁)
    {a b : α × β} (h₂ : lt₂ a.2 b.2 = true ∨ a.2 = b.2 ∨ lt₂ b.2 a.2 = true) :
    lexIte lt₁ lt₂ a b = true ∨ a = b ∨ lexIte lt₁ lt₂ b a = true := by
  rw [lexIte_iff lt₂ h₁, lexIte_iff lt₂ h₁]
  rcases h₁.total a.1 b.1 with h | h | h
  · exact Or.inl (Or.inl h)
  · rcases h₂ with h' | h' | h'
    · exact Or.inl (Or.inr ⟨h, h'⟩)
    · exact Or.inr (Or.inl (Prod.ext h h'))
    · exact Or.inr (Or.inr (Or.inr ⟨h.symm, h'⟩))
  · exact Or.inr (Or.inr (Or.inl h))

theorem lexIte_strictTotal {α β : Type} (lt₁ : α → α → Bool) (lt₂ : β → β → Bool)
    (h₁ : StrictTotal lt₁) (h₂ : StrictTotal lt₂) : StrictTotal (lexIte lt₁ lt₂) where
  irrefl a := by simp [lexIte, h₁.irrefl, h₂.irrefl]
  trans _ _ _ := lexIte_trans h₁ (h₂.trans _ _ _)
  total _ _ := lexIte_total h₁ (h₂.total _ _)

theorem natLt_strictTotal : StrictTotal natLt where
  irrefl a := by simp [natLt]
  trans a b c := by simp only [natLt, decide_eq_true_eq]; omega
  total a b := by simp only [natLt, decide_eq_true_eq]; omega

/-- The `or`/`and` spelling of the same product (`pairLt`, `edgeLt`). -/
def lexOr {α β : Type} [BEq α] (lt₁ : α → α → Bool) (lt₂ : β → β → Bool) (a b : α × β) : Bool :=
  lt₁ a.1 b.1 || (a.1 == b.1 && lt₂ a.2 b.2)

theorem lexOr_eq_lexIte {α β : Type} [BEq α] [LawfulBEq α] {lt₁ : α → α → Bool} (h₁ : StrictTotal lt₁)
    (lt₂ : β → β → Bool) : lexOr lt₁ lt₂ = lexIte lt₁ lt₂ := by
  funext a b
  rw [Bool.eq_iff_iff, lexIte_iff lt₂ h₁]
  simp [lexOr]

theorem lexOr_strictTotal {α β : Type} [BEq α] [LawfulBEq α] {lt₁ : α → α → Bool} {lt₂ : β → β → Bool}
    (h₁ : StrictTotal lt₁) (h₂ : StrictTotal lt₂) : StrictTotal (lexOr lt₁ lt₂) :=
  lexOr_eq_lexIte h₁ lt₂ ▸ lexIte_strictTotal lt₁ lt₂ h₁ h₂

/-- `pairLt` unfolds to `lexOr natLt natLt`. -/
theorem pairLt_strictTotal : StrictTotal pairLt :=
  lexOr_strictTotal natLt_strictTotal natLt_strictTotal

/-- `ltLex lt` on two non-empty lists is the `lexIte` step on (head, tail). -/
theorem ltLex_strictTotal {α : Type} (lt : α → α → Bool) (h : StrictTotal lt) :
    StrictTotal (ltLex lt) where
  irrefl a := by
    induction a with
    | nil => rfl
    | cons x xs ih => simp [ltLex, h.irrefl, ih]
  trans a := by
    induction a with
    | nil =>
      intro b c hab hbc
      cases b with
      | nil => cases hab
      | cons y ys =>
        cases c with
        | nil => cases hbc
        | cons z zs => rfl
    | cons x xs ih =>
      intro b c hab hbc
      cases b with
      | nil => cases hab
      | cons y ys =>
        cases c with
        | nil => cases hbc
        | cons z zs => exact lexIte_trans h (a := (x, xs)) (b := (y, ys)) (c := (z, zs)) (ih ys zs) hab hbc
  total a := by
    induction a with
    | nil =>
      intro b
      cases b with
      | nil => exact Or.inr (Or.inl rfl)
      | cons y ys => exact Or.inl rfl
    | cons x xs ih =>
      intro b
      cases b with
      | nil => exact Or.inr (Or.inr rfl)
      | cons y ys =>
        rcases lexIte_total h (a := (x, xs)) (b := (y, ys)) (ih ys) with h' | h' | h'
        · exact Or.inl h'
        · exact Or.inr (Or.inl (by rw [(Prod.mk.inj h').1, (Prod.mk.inj h').2]))
        · exact Or.inr (Or.inr h')

theorem ltLex_take_of_prefix {α : Type} (lt : α → α → Bool) :
    ∀ (seg a b : List α), ltLex lt (a.take seg.length) seg = true → seg <+: b →
      ltLex lt a b = true := by
  intro seg
  induction seg with
  | nil =>
    intro a b h _
    simp [ltLex] at h
  | cons s seg ih =>
    intro a b h hb
    obtain ⟨t, rfl⟩ := hb
    cases a with
    | nil => rfl
    | cons x a' =>
      simp only [List.length_cons, List.take_succ_cons, List.cons_append, ltLex] at h ⊢
      cases e1 : lt x s
      · cases e2 : lt s x
        · simp only [e1, e2, Bool.false_eq_true, if_false] at h ⊢
          exact ih a' (seg ++ t) h (List.prefix_append _ _)
        · simp [e1, e2] at h
      · simp

end SynKit.Canon
