import SynKitModel.Gml
import SynKitProofs.Core.Graph
/-! What the GML proofs say about the model alone, in this order: the label syntax (`parseLabel ∘ render`); the shape
predicates unpacked; the two sides of a shaped ITS graph: atoms (`side_nodes`, and `NodeViews`, all that is read off a
shaped node), bonds (`Rd.sideAttr`, `Rd.side_edge?_eq`), the atoms listed as changed (`mem_findChanged`); the rule
`NXToGML` writes for three graphs (`ruleOf`; with re-indexing it is that of the renumbered graphs, `writeRule_reindex`)
and where it puts each atom and bond (`writer_nodes`, `writer_edges`); `setAtomMap` (every node's `atom_map` set to its
id: what `sideNode` and `implicit_hydrogen(reindex=True)` both do). -/
namespace SynKit.Gml

theorem digitChar_props (d : Nat) (h : d < 10) :
    (digitChar d).isDigit = true ∧ isElemChar (digitChar d) = false ∧ digitVal (digitChar d) = d ∧
    digitChar d ≠ '+' ∧ digitChar d ≠ '-' := by
  have : ∀ d : Fin 10, (digitChar d.1).isDigit = true ∧ isElemChar (digitChar d.1) = false ∧
      digitVal (digitChar d.1) = d.1 ∧ digitChar d.1 ≠ '+' ∧ digitChar d.1 ≠ '-' := by decide
  exact this ⟨d, h⟩

theorem fromDec_snoc (ds : List Char) (d : Char) : fromDec (ds ++ [d]) = fromDec ds * 10 + digitVal d := by
  simp [fromDec]

theorem decAux_spec (fuel : Nat) : ∀ (n : Nat) (acc : List Char), n < fuel →
    ∃ ds, decAux fuel n acc = ds ++ acc ∧ ds ≠ [] ∧ (∀ ch ∈ ds, ch.isDigit = true ∧ isElemChar ch = false) ∧
      fromDec ds = n := by
  induction fuel with
  | zero => intro n acc h; omega
  | succ fuel ih =>
    intro n acc h
    have hd := digitChar_props (n % 10) (Nat.mod_lt _ (by omega))
    -- the digits of `n / 10` (none if that is 0), then the last digit
    obtain ⟨ds, h1, h3, h4⟩ : ∃ ds, decAux (fuel + 1) n acc = ds ++ digitChar (n % 10) :: acc ∧
        (∀ ch ∈ ds, ch.isDigit = true ∧ isElemChar ch = false) ∧ fromDec ds = n / 10 := by
      unfold decAux
      split
      · next h0 => exact ⟨[], rfl, by simp, h0.symm⟩
      · obtain ⟨ds, h1, _, h3, h4⟩ := ih (n / 10) (digitChar (n % 10) :: acc) (by omega)
        exact ⟨ds, h1, h3, h4⟩
    refine ⟨ds ++ [digitChar (n % 10)], by rw [h1, List.append_assoc]; rfl, by simp, fun ch hch => ?_, ?_⟩
    · rcases List.mem_append.1 hch with h | h
      · exact h3 ch h
      · rw [List.mem_singleton.1 h]; exact ⟨hd.1, hd.2.1⟩
    · rw [fromDec_snoc, h4, hd.2.2.1]; omega

theorem toDec_spec (n : Nat) :
    toDec n ≠ [] ∧ (∀ ch ∈ toDec n, ch.isDigit = true ∧ isElemChar ch = false) ∧ fromDec (toDec n) = n := by
  obtain ⟨ds, h1, h⟩ := decAux_spec (n + 1) n [] (by omega)
  rw [List.append_nil] at h1
  exact (show toDec n = ds from h1) ▸ h

theorem parse_signed (e : List Char) (he : alpha e) (ds : List Char)
    (hds : ∀ ch ∈ ds, ch.isDigit = true ∧ isElemChar ch = false) (s : Char) (hs : s = '+' ∨ s = '-') :
    parseLabel (e ++ (ds ++ [s])) =
      (e, if s = '+' then (if ds = [] then (1 : Int) else (fromDec ds : Nat))
        else -(if ds = [] then (1 : Int) else (fromDec ds : Nat))) := by
  have hsD : s.isDigit = false ∧ isElemChar s = false := by rcases hs with rfl | rfl <;> decide
  obtain ⟨y, ys, hd⟩ := List.exists_cons_of_ne_nil (l := ds ++ [s]) (by simp)
  have hy : isElemChar y = false := by
    rcases List.mem_append.1 (hd ▸ List.mem_cons_self : y ∈ ds ++ [s]) with h | h
    · exact (hds y h).2
    · rw [List.mem_singleton.1 h]; exact hsD.2
  have t1 : (e ++ (ds ++ [s])).takeWhile isElemChar = e := by rw [hd]; exact Core.takeWhile_append_stop he.2 hy
  have d1 : (e ++ (ds ++ [s])).dropWhile isElemChar = ds ++ [s] := by rw [hd]; exact Core.dropWhile_append_stop he.2 hy
  have t2 : (ds ++ [s]).takeWhile Char.isDigit = ds := Core.takeWhile_append_stop (fun x hx => (hds x hx).1) hsD.1
  have d2 : (ds ++ [s]).dropWhile Char.isDigit = [s] := Core.dropWhile_append_stop (fun x hx => (hds x hx).1) hsD.1
  unfold parseLabel
  simp only [t1, d1, t2, d2, he.1, if_false]
  rcases hs with rfl | rfl <;> simp

theorem label_roundtrip' (e : List Char) (c : Int) (he : alpha e) : parseLabel (render e c) = (e, c) := by
  unfold render chargeStr
  by_cases hpos : c > 0
  · simp only [hpos, if_true]
    by_cases h1 : c = 1
    · subst h1; exact parse_signed e he [] (by simp) '+' (.inl rfl)
    · obtain ⟨n1, n2, n3⟩ := toDec_spec c.toNat
      rw [if_neg h1, parse_signed e he _ n2 '+' (.inl rfl), if_pos rfl, if_neg n1, n3, Int.toNat_of_nonneg (by omega)]
  · simp only [hpos, if_false]
    by_cases hneg : c < 0
    · simp only [hneg, if_true]
      by_cases h1 : c = -1
      · subst h1; exact parse_signed e he [] (by simp) '-' (.inr rfl)
      · obtain ⟨n1, n2, n3⟩ := toDec_spec (-c).toNat
        rw [if_neg h1, parse_signed e he _ n2 '-' (.inr rfl), if_neg (by decide), if_neg n1, n3,
          Int.toNat_of_nonneg (by omega), Int.neg_neg]
    · have : c = 0 := by omega
      subst this
      have t1 := Core.takeWhile_all he.2
      have d1 := Core.dropWhile_all he.2
      unfold parseLabel
      simp [t1, d1, he.1]

theorem orderLabel_roundtrip' (h : Int) (hh : h = 2 ∨ h = 3 ∨ h = 4 ∨ h = 6) :
    labelOrder (orderLabel (.num h)) = .num h := by
  rcases hh with rfl | rfl | rfl | rfl <;> decide

theorem nodeShape_unpack (a : Attrs) (h : nodeShape a = true) :
    ∃ e ar hc c nb ar' hc' c' nb',
      Dict.get? a "typesGH" = some (.tup [.tup [.str e, ar, hc, .num c, nb], .tup [.str e, ar', hc', .num c', nb']]) ∧
      alpha e.toList ∧ Dict.get? a "element" = some (.str e) ∧ Dict.get? a "charge" = some (.num c) ∧
      c % 2 = 0 ∧ c' % 2 = 0 := by
  unfold nodeShape at h
  split at h
  · rename_i e ar hc c nb e' ar' hc' c' nb' heq
    simp only [Bool.and_eq_true, decide_eq_true_eq] at h
    obtain ⟨⟨⟨⟨⟨h1, h2⟩, h3⟩, h4⟩, h5⟩, h6⟩ := h
    subst h1
    exact ⟨e, ar, hc, c, nb, ar', hc', c', nb', heq, h2, h5, h6, h3, h4⟩
  · simp at h

theorem edgeShape_unpack (a : Attrs) (h : edgeShape a = true) :
    ∃ x y, Dict.get? a "order" = some (.tup [.num x, .num y]) ∧ stdOrder x = true ∧ stdOrder y = true ∧
      ¬ (x = 0 ∧ y = 0) := by
  unfold edgeShape at h
  split at h
  · rename_i x y heq
    simp only [Bool.and_eq_true, Bool.not_eq_true', Bool.and_eq_false_iff, decide_eq_false_iff_not] at h
    exact ⟨x, y, heq, h.1.1, h.1.2, fun hxy => h.2.elim (fun h2 => h2 hxy.1) fun h2 => h2 hxy.2⟩
  · simp at h

theorem stdOrder_cases (x : Int) (h : stdOrder x = true) : x = 0 ∨ x = 2 ∨ x = 3 ∨ x = 4 ∨ x = 6 := by
  simpa only [stdOrder, Bool.or_eq_true, decide_eq_true_eq, or_assoc] using h

theorem stdOrder_pos (x : Int) (h : stdOrder x = true) (h0 : x ≠ 0) : x > 0 := by
  have := stdOrder_cases x h
  omega

def sideAttrs (i : Nat) (p : Nat × Attrs) : Attrs :=
  match sideNode i p with
  | some q => q.2
  | none => []

theorem sideAttrs_rows (i : Nat) (p : Nat × Attrs) {e e' : String} {ar hc nb ar' hc' nb' : Val} {c c' : Int}
    (h : Dict.get? p.2 "typesGH" = some (.tup [.tup [.str e, ar, hc, .num c, nb], .tup [.str e', ar', hc', .num c', nb']])) :
    sideNode i p = some (p.1, sideAttrs i p) ∧
    sideAttrs i p = if i = 0 then
        [("element", .str e), ("aromatic", ar), ("hcount", hc), ("charge", .num c), ("atom_map", .num (2 * (p.1 : Int)))]
      else [("element", .str e'), ("aromatic", ar'), ("hcount", hc'), ("charge", .num c'), ("atom_map", .num (2 * (p.1 : Int)))] := by
  unfold sideAttrs sideNode
  simp only [h]
  by_cases hi : i = 0 <;> simp [hi, tupGet]

theorem row_views (e : String) (ar hc m : Val) (c : Int) :
    elemOf [("element", .str e), ("aromatic", ar), ("hcount", hc), ("charge", .num c), ("atom_map", m)] = e.toList ∧
    chargeOf [("element", .str e), ("aromatic", ar), ("hcount", hc), ("charge", .num c), ("atom_map", m)] = c / 2 ∧
    Attrs.get [("element", .str e), ("aromatic", ar), ("hcount", hc), ("charge", .num c), ("atom_map", m)] "charge" = .num c := by
  simp [elemOf, chargeOf, Attrs.get, Dict.getD, Dict.get?]

theorem side_nodes (i : Nat) (I : LGraph) (h : ∀ p ∈ I.nodes, nodeShape p.2 = true) :
    (side i I).nodes = I.nodes.map fun p => (p.1, sideAttrs i p) := by
  simp only [side]
  refine List.filterMap_eq_map_iff_forall_eq_some.2 fun p hp => ?_
  obtain ⟨e, ar, hc, c, nb, ar', hc', c', nb', h1, _⟩ := nodeShape_unpack p.2 (h p hp)
  exact (sideAttrs_rows i p h1).1

theorem side_ids (i : Nat) (I : LGraph) (h : ∀ p ∈ I.nodes, nodeShape p.2 = true) : (side i I).ids = I.ids := by
  simp [LGraph.ids, side_nodes i I h, List.map_map, Function.comp_def]

theorem side_attrs (i : Nat) (I : LGraph) (hn : I.ids.Nodup) (h : ∀ p ∈ I.nodes, nodeShape p.2 = true)
    (p : Nat × Attrs) (hp : p ∈ I.nodes) : (side i I).attrs p.1 = sideAttrs i p :=
  LGraph.attrs_of_mem (by rw [side_ids i I h]; exact hn) (by rw [side_nodes i I h]; exact List.mem_map.2 ⟨p, hp, rfl⟩)

/-- What the writer and `nodeView` read off a shaped ITS node `p` with elements `e`, `e` and charges `c`, `c'`: from its own
dict (a `context` node) and from its dict on either side (`left` / `right` nodes). -/
structure NodeViews (p : Nat × Attrs) (e : String) (c c' : Int) : Prop where
  isAlpha : alpha e.toList
  even : c % 2 = 0
  even' : c' % 2 = 0
  view : ∀ (I : LGraph) (n : Nat), I.attrs n = p.2 → nodeView I n = .tup [.str e, .num c, .str e, .num c']
  elem : elemOf p.2 = e.toList
  charge : chargeOf p.2 = c / 2
  elem0 : elemOf (sideAttrs 0 p) = e.toList
  charge0 : chargeOf (sideAttrs 0 p) = c / 2
  elem1 : elemOf (sideAttrs 1 p) = e.toList
  charge1 : chargeOf (sideAttrs 1 p) = c' / 2
  get0 : Attrs.get (sideAttrs 0 p) "charge" = .num c
  get1 : Attrs.get (sideAttrs 1 p) "charge" = .num c'

theorem shaped_views (p : Nat × Attrs) (h : nodeShape p.2 = true) : ∃ e c c', NodeViews p e c c' := by
  obtain ⟨e, ar, hc, c, nb, ar', hc', c', nb', h1, h2, h3, h4, h5, h6⟩ := nodeShape_unpack p.2 h
  have s0 := (sideAttrs_rows 0 p h1).2
  have s1 := (sideAttrs_rows 1 p h1).2
  rw [if_pos rfl] at s0
  rw [if_neg Nat.one_ne_zero] at s1
  obtain ⟨a0, b0, g0⟩ := row_views e ar hc (.num (2 * (p.1 : Int))) c
  obtain ⟨a1, b1, g1⟩ := row_views e ar' hc' (.num (2 * (p.1 : Int))) c'
  rw [← s0] at a0 b0 g0
  rw [← s1] at a1 b1 g1
  refine ⟨e, c, c', h2, h5, h6, ?_, ?_, ?_, a0, b0, a1, b1, g0, g1⟩
  · intro I n hI
    simp [nodeView, hI, Attrs.get, Dict.getD, h1, tupGet]
  · simp [elemOf, h3]
  · simp [chargeOf, h4]

theorem itsShape_alpha (K : LGraph) (hs : ItsShape K) {n : Nat} (hn : n ∈ K.ids) : alpha (elemOf (K.attrs n)) := by
  obtain ⟨p, hp, rfl⟩ := List.mem_map.1 hn
  obtain ⟨e, c, c', v⟩ := shaped_views p (hs.2.1 p hp)
  rw [LGraph.attrs_of_mem hs.1.1 hp, v.elem]
  exact v.isAlpha

namespace Rd

/-- `its_decompose` rewrites the dict of each bond by `sideAttr i` or drops the bond, whatever the dict holds. -/
def sideAttr (i : Nat) (a : Attrs) : Option Attrs :=
  match Dict.get? a "order" with
  | some (.tup [.num x, .num y]) =>
    if (if i = 0 then x else y) > 0 then some [("order", .num (if i = 0 then x else y))] else none
  | _ => none

theorem sideEdge_eq (i : Nat) (e : Nat × Nat × Attrs) :
    sideEdge i e = (sideAttr i e.2.2).map fun a => (e.1, e.2.1, a) := by
  unfold sideEdge sideAttr
  generalize Dict.get? e.2.2 "order" = o
  split
  · simp only; split <;> split <;> rfl
  · next h =>
    split
    · next x y => exact absurd rfl (h x y)
    · rfl

theorem sideEdge_ends (i : Nat) (e e' : Nat × Nat × Attrs) (hs : sideEdge i e = some e') :
    e'.1 = e.1 ∧ e'.2.1 = e.2.1 := by
  rw [sideEdge_eq] at hs
  obtain ⟨a, -, rfl⟩ := Option.map_eq_some_iff.1 hs
  exact ⟨rfl, rfl⟩

theorem mem_side_edges (i : Nat) (I : LGraph) (e' : Nat × Nat × Attrs) :
    e' ∈ (side i I).edges ↔ ∃ e ∈ I.edges, sideEdge i e = some e' :=
  List.mem_filterMap

theorem side_edge?_eq (i : Nat) (I : LGraph) (hI : I.WF) (u v : Nat) :
    (side i I).edge? u v = (I.edge? u v).bind (sideAttr i) := by
  have : (side i I).edges = I.edges.filterMap fun e => (sideAttr i e.2.2).map fun a => (e.1, e.2.1, a) :=
    List.filterMap_congr fun e _ => sideEdge_eq i e
  rw [LGraph.edge?_congr (g' := ⟨[], _⟩) this, LGraph.edge?_filterMap_attrs _ [] I.nodes u v hI.2.2]

end Rd

theorem sideEdge_shape (i : Nat) (e : Nat × Nat × Attrs) (x y : Int)
    (h : Dict.get? e.2.2 "order" = some (.tup [.num x, .num y])) :
    sideEdge i e = if (if i = 0 then x else y) > 0 then some (e.1, e.2.1, [("order", .num (if i = 0 then x else y))])
      else none := by
  simp [sideEdge, h]

theorem mem_findChanged_iff (L R : LGraph) (n : Nat) :
    n ∈ findChanged L R ↔
      n ∈ L.ids ∧ n ∈ R.ids ∧ Attrs.get (L.attrs n) "charge" ≠ Attrs.get (R.attrs n) "charge" := by
  simp only [findChanged, List.mem_filter, Bool.and_eq_true, decide_eq_true_eq, LGraph.hasNode_iff]

theorem Rd.mem_findChanged_left (L R : LGraph) (n : Nat) (h : n ∈ findChanged L R) : n ∈ L.ids :=
  ((mem_findChanged_iff L R n).1 h).1

theorem mem_findChanged (I : LGraph) (hs : ItsShape I) (p : Nat × Attrs) (hp : p ∈ I.nodes) {e : String} {c c' : Int}
    (v : NodeViews p e c c') :
    p.1 ∈ findChanged (side 0 I) (side 1 I) ↔ c ≠ c' := by
  obtain ⟨hwf, hns, _⟩ := hs
  have hid : p.1 ∈ I.ids := List.mem_map.2 ⟨p, hp, rfl⟩
  rw [mem_findChanged_iff, side_ids 0 I hns, side_ids 1 I hns, side_attrs 0 I hwf.1 hns p hp,
    side_attrs 1 I hwf.1 hns p hp, v.get0, v.get1]
  exact ⟨fun h e => h.2.2 (by rw [e]), fun h => ⟨hid, hid, fun e => h (by injection e)⟩⟩

def ruleOf (L R K : LGraph) : Rule :=
  { left := sideItems L (findChanged L R), context := ctxItems K (findChanged L R),
    right := sideItems R (findChanged L R) }

theorem writeRule_false (L R K : LGraph) : writeRule false L R K = ruleOf L R K := by
  simp [writeRule, LGraph.relabel_id', ruleOf]

theorem writeRule_reindex (L R K : LGraph) :
    writeRule true L R K = writeRule false (L.relabel (indexMap L)) (R.relabel (indexMap L)) (K.relabel (indexMap L)) :=
  (writeRule_false _ _ _).symm

theorem itsToGml_full (I : LGraph) :
    itsToGml false false I =
      { left := sideItems (side 0 I) (findChanged (side 0 I) (side 1 I)),
        context := ctxItems I (findChanged (side 0 I) (side 1 I)),
        right := sideItems (side 1 I) (findChanged (side 0 I) (side 1 I)) } :=
  writeRule_false (side 0 I) (side 1 I) I

theorem itsToGml_exported (core ri : Bool) (I : LGraph) :
    itsToGml core ri I = itsToGml false ri (if core then getRc I else I) := by
  cases core <;> rfl

theorem nodeItem_mem_side (I : LGraph) (hs : ItsShape I) (i : Nat) (ch : List Nat) (p : Nat × Attrs) (hp : p ∈ I.nodes)
    (hin : p.1 ∈ ch) : Item.node p.1 (render (elemOf (sideAttrs i p)) (chargeOf (sideAttrs i p))) ∈ sideItems (side i I) ch := by
  refine List.mem_append_right _ (List.mem_map.2 ⟨(p.1, sideAttrs i p), List.mem_filter.2 ⟨?_, by simpa using hin⟩, rfl⟩)
  rw [side_nodes i I hs.2.1]; exact List.mem_map.2 ⟨p, hp, rfl⟩

theorem writer_nodes (I : LGraph) (hs : ItsShape I) (p : Nat × Attrs) (hp : p ∈ I.nodes) :
    ∃ e c c', alpha e.toList ∧ nodeView I p.1 = .tup [.str e, .num c, .str e, .num c'] ∧
      (if c = c' then Item.node p.1 (render e.toList (c / 2)) ∈ (itsToGml false false I).context
       else Item.node p.1 (render e.toList (c / 2)) ∈ (itsToGml false false I).left ∧
            Item.node p.1 (render e.toList (c' / 2)) ∈ (itsToGml false false I).right) := by
  obtain ⟨e, c, c', v⟩ := shaped_views p (hs.2.1 p hp)
  refine ⟨e, c, c', v.isAlpha, v.view I p.1 (LGraph.attrs_of_mem hs.1.1 hp), ?_⟩
  have hm := mem_findChanged I hs p hp v
  rw [itsToGml_full]
  by_cases hcc : c = c'
  · rw [if_pos hcc]
    have hnot : p.1 ∉ findChanged (side 0 I) (side 1 I) := fun h => (hm.1 h) hcc
    refine List.mem_map.2 ⟨p, List.mem_filter.2 ⟨hp, by simpa using hnot⟩, ?_⟩
    simp only [nodeItem, nodeLabel, v.elem, v.charge]
  · rw [if_neg hcc]
    have h0 := nodeItem_mem_side I hs 0 _ p hp (hm.2 hcc)
    have h1 := nodeItem_mem_side I hs 1 _ p hp (hm.2 hcc)
    rw [v.elem0, v.charge0] at h0
    rw [v.elem1, v.charge1] at h1
    exact ⟨h0, h1⟩

theorem edgeItem_mem_side (I : LGraph) (i : Nat) (ch : List Nat) (ed : Nat × Nat × Attrs) (he : ed ∈ I.edges) (x y : Int)
    (h : Dict.get? ed.2.2 "order" = some (.tup [.num x, .num y])) (hpos : (if i = 0 then x else y) > 0) :
    Item.edge ed.1 ed.2.1 (orderLabel (.num (if i = 0 then x else y))) ∈ sideItems (side i I) ch := by
  refine List.mem_append_left _ (List.mem_map.2 ⟨(ed.1, ed.2.1, [("order", .num (if i = 0 then x else y))]), ?_, ?_⟩)
  · exact List.mem_filterMap.2 ⟨ed, he, by rw [sideEdge_shape i ed x y h, if_pos hpos]⟩
  · simp [edgeItem, edgeOrderVal, Dict.getD, Dict.get?]

theorem writer_edges (I : LGraph) (hs : ItsShape I) (ed : Nat × Nat × Attrs) (he : ed ∈ I.edges) :
    ∃ x y, Attrs.get ed.2.2 "order" = .tup [.num x, .num y] ∧ stdOrder x = true ∧ stdOrder y = true ∧
      (x ≠ 0 → Item.edge ed.1 ed.2.1 (orderLabel (.num x)) ∈ (itsToGml false false I).left) ∧
      (y ≠ 0 → Item.edge ed.1 ed.2.1 (orderLabel (.num y)) ∈ (itsToGml false false I).right) := by
  obtain ⟨x, y, h1, hx, hy, _⟩ := edgeShape_unpack ed.2.2 (hs.2.2 ed he)
  rw [itsToGml_full]
  exact ⟨x, y, by simp [Attrs.get, Dict.getD, h1], hx, hy,
    fun h0 => edgeItem_mem_side I 0 _ ed he x y h1 (stdOrder_pos x hx h0),
    fun h0 => edgeItem_mem_side I 1 _ ed he x y h1 (stdOrder_pos y hy h0)⟩

/-- `data["atom_map"] = node` on every node. -/
def setAtomMap (r : LGraph) : LGraph :=
  { r with nodes := r.nodes.map fun p => (p.1, Dict.set p.2 "atom_map" (.num (2 * (p.1 : Int)))) }

theorem setAtomMap_ids (r : LGraph) : (setAtomMap r).ids = r.ids := by
  simp [setAtomMap, LGraph.ids, List.map_map, Function.comp_def]

theorem setAtomMap_attrs (r : LGraph) (v : Nat) (hv : v ∈ r.ids) :
    (setAtomMap r).attrs v = Dict.set (r.attrs v) "atom_map" (.num (2 * (v : Int))) :=
  LGraph.attrs_map_nodes (g' := setAtomMap r) rfl (fun _ _ => rfl) hv

end SynKit.Gml
