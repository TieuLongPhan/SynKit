import SynKitProofs.ReprFoldIn
import SynKitModel.ITS
/-!
`implicit_hydrogen(graph, preserve_atom_maps, reindex=False)` (`synkit/Graph/Hyrogen/_misc.py`) in closed form: a node is
`gone` iff it is a non-preserved hydrogen with a heavy neighbour (`mem_gone_iff`), and the result is
`foldInW wset g (gone g K)` (`implicitHydrogen_eq_foldInW`): the folded form of `ReprFoldIn.lean` over the nodes that go,
with `hcount` written on every heavy atom.  The hydrogen total is then `totalH_foldInW`; the result depends only on the
labelled graph (`SameMol`, `implicitH_congr`), which lets `Props/C01.lean` pass from `decompose (construct G H)` to `(G, H)`.
-/
namespace SynKit.Repr.ImplH
open SynKit.Core

/-- `data["element"] == "H" and data["atom_map"] in preserve_atom_maps`. -/
def keepsH (K : List Nat) (a : Attrs) : Bool :=
  isH a && (match atomMapOf a with | some m => K.contains m | none => false)

/-- `preserved_hydrogens` (node ids, in node order). -/
def pres (g : LGraph) (K : List Nat) : List Nat := (g.nodes.filter fun p => keepsH K p.2).map (·.1)

/-- membership in `hydrogen_to_remove`. -/
def goes (g : LGraph) (K : List Nat) (v : Nat) : Bool :=
  isH (g.attrs v) && !(pres g K).contains v && hasHeavyNbr g v

/-- the hydrogens `implicit_hydrogen` removes. -/
def gone (g : LGraph) (K : List Nat) : List Nat := g.ids.filter (goes g K)

theorem mem_gone (g : LGraph) (K : List Nat) (n : Nat) : n ∈ gone g K ↔ goes g K n = true :=
  ⟨fun h => (List.mem_filter.1 h).2, fun h => List.mem_filter.2 ⟨by
    by_contra hc
    simp [goes, LGraph.attrs_of_not_mem hc, isH_nil] at h, h⟩⟩

theorem mem_pres (g : LGraph) (hn : g.ids.Nodup) (K : List Nat) (v : Nat) :
    v ∈ pres g K ↔ v ∈ g.ids ∧ keepsH K (g.attrs v) = true :=
  mem_filter_ids hn (keepsH K)

theorem pres_nodup (g : LGraph) (hn : g.ids.Nodup) (K : List Nat) : (pres g K).Nodup := by
  unfold pres
  exact List.Nodup.sublist (List.Sublist.map _ List.filter_sublist) hn

theorem isH_of_mem_pres (g : LGraph) (hn : g.ids.Nodup) (K : List Nat) (v : Nat) (h : v ∈ pres g K) :
    isH (g.attrs v) = true := by
  have := ((mem_pres g hn K v).1 h).2
  unfold keepsH at this
  exact (Bool.and_eq_true_iff.1 this).1

theorem mem_gone_iff (g : LGraph) (hn : g.ids.Nodup) (K : List Nat) (n : Nat) :
    n ∈ gone g K ↔ isH (g.attrs n) = true ∧ keepsH K (g.attrs n) = false ∧ hasHeavyNbr g n = true := by
  rw [mem_gone, goes, Bool.and_eq_true, Bool.and_eq_true, Bool.not_eq_true', ← Bool.not_eq_true,
    List.contains_iff_mem, mem_pres g hn K, and_assoc]
  by_cases hu : n ∈ g.ids
  · simp [hu]
  · have : isH (g.attrs n) = false := by rw [LGraph.attrs_of_not_mem hu]; exact isH_nil
    simp [this]

/-- The guard of hydrogen conservation: a hydrogen node that is removed carries no count of its own and has
exactly one heavy neighbour, which takes it over.  Hydrogens without a heavy neighbour stay and need no guard. -/
def FoldGuard (g : LGraph) (K : List Nat) : Prop :=
  ∀ p ∈ g.nodes, isH p.2 = true → keepsH K p.2 = false → heavyNbrs g p.1 ≠ 0 →
    hcnt p.2 = 0 ∧ heavyNbrs g p.1 = 1

instance (g : LGraph) (K : List Nat) : Decidable (FoldGuard g K) := by unfold FoldGuard; infer_instance

def FoldGuardStrict (g : LGraph) (K : List Nat) : Prop :=
  ∀ p ∈ g.nodes, isH p.2 = true → keepsH K p.2 = false → hcnt p.2 = 0 ∧ heavyNbrs g p.1 = 1

instance (g : LGraph) (K : List Nat) : Decidable (FoldGuardStrict g K) := by
  unfold FoldGuardStrict; infer_instance

theorem foldGuard_of_strict (g : LGraph) (K : List Nat) (h : FoldGuardStrict g K) : FoldGuard g K :=
  fun p hp hH hk _ => h p hp hH hk

theorem foldGuard_of_hValence (g : LGraph) (K : List Nat) (hv : HValence g) : FoldGuard g K := by
  intro p hp hH _ hne
  have := hv p hp hH
  exact ⟨this.1, by omega⟩

theorem hasHeavyNbr_false_iff (g : LGraph) (v : Nat) : hasHeavyNbr g v = false ↔ heavyNbrs g v = 0 := by
  rw [← Bool.not_eq_true, hasHeavyNbr_iff, not_not]

/-! `g1of` and `g2of` name the `let`s of the model, and its `preserved` is `pres (g1of g) K` (`implicitHydrogen_eq` is `rfl`):
every heavy atom absorbs its hydrogen neighbours, the preserved hydrogens are read off, every heavy neighbour of a preserved
one gives one back. -/

def nHof (g : LGraph) (v : Nat) : Int := (((g.neighbors v).filter fun n => isH (g.attrs n)).length : Nat)

def F1 (g : LGraph) (p : Nat × Attrs) : Nat × Attrs :=
  if isH p.2 then p else (p.1, Dict.set p.2 "hcount" (.num (hraw p.2 + 2 * nHof g p.1)))

def g1of (g : LGraph) : LGraph := { g with nodes := g.nodes.map (F1 g) }

def decA (a : Attrs) : Attrs := Dict.set a "hcount" (.num (hraw a - 2))

def g2of (g1 : LGraph) (P : List Nat) : LGraph :=
  P.foldl (fun g' h =>
    (g'.neighbors h).foldl (fun g'' n => if isH (g''.attrs n) then g'' else updAttrs g'' n decA) g') g1

theorem implicitHydrogen_eq (g : LGraph) (K : List Nat) :
    implicitHydrogen g K =
      { nodes := (g2of (g1of g) (pres (g1of g) K)).nodes.filter fun p =>
          !(isH p.2 && !((pres (g1of g) K).contains p.1) &&
            hasHeavyNbr (g2of (g1of g) (pres (g1of g) K)) p.1)
        edges := (g2of (g1of g) (pres (g1of g) K)).edges.filter fun e =>
          !(isH ((g2of (g1of g) (pres (g1of g) K)).attrs e.1) && !((pres (g1of g) K).contains e.1) &&
            hasHeavyNbr (g2of (g1of g) (pres (g1of g) K)) e.1) &&
          !(isH ((g2of (g1of g) (pres (g1of g) K)).attrs e.2.1) && !((pres (g1of g) K).contains e.2.1) &&
            hasHeavyNbr (g2of (g1of g) (pres (g1of g) K)) e.2.1) } :=
  rfl

theorem F1_fst (g : LGraph) (p : Nat × Attrs) : (F1 g p).1 = p.1 := by
  unfold F1; split <;> rfl

theorem isH_F1 (g : LGraph) (p : Nat × Attrs) : isH (F1 g p).2 = isH p.2 := by
  unfold F1; split
  · rfl
  · exact isH_set_hcount _ _

theorem keepsH_F1 (g : LGraph) (K : List Nat) (p : Nat × Attrs) : keepsH K (F1 g p).2 = keepsH K p.2 := by
  by_cases h : isH p.2 = true
  · simp [F1, h]
  · have h' := isH_F1 g p
    simp only [Bool.not_eq_true] at h
    simp [keepsH, h', h]

theorem pres_g1of (g : LGraph) (K : List Nat) : pres (g1of g) K = pres g K := by
  unfold pres g1of
  rw [List.filter_map, List.map_map, show ((fun p : Nat × Attrs => keepsH K p.2) ∘ F1 g) = fun p => keepsH K p.2 from
    funext (keepsH_F1 g K)]
  exact List.map_congr_left fun p _ => F1_fst g p

theorem isH_decA (a : Attrs) : isH (decA a) = isH a := isH_set_hcount a _

def decN : Nat → Attrs → Attrs
  | 0, a => a
  | k + 1, a => decN k (decA a)

theorem decN_zero (a : Attrs) : decN 0 a = a := rfl

theorem decN_eq_iterate (k : Nat) (a : Attrs) : decN k a = decA^[k] a := by
  induction k generalizing a with
  | zero => rfl
  | succ k ih => exact ih (decA a)

/-- list of `hcount -= 1` targets, in execution order. -/
def decTargets (g : LGraph) (P : List Nat) : List Nat :=
  P.flatMap fun h => (g.neighbors h).filter fun n => !(isH (g.attrs n))

theorem decTargets_congr {g g' : LGraph} (hH : ∀ n, isH (g'.attrs n) = isH (g.attrs n)) (he : g'.edges = g.edges)
    (P : List Nat) : decTargets g' P = decTargets g P := by
  unfold decTargets LGraph.neighbors
  rw [he]
  exact List.flatMap_congr fun x _ => List.filter_congr fun m _ => congrArg (!·) (hH m)

theorem g2of_eq (P : List Nat) : ∀ g : LGraph,
    g2of g P = { g with nodes := (decTargets g P).foldl (updAt decA) g.nodes } := by
  induction P with
  | nil => intro g; rfl
  | cons h P ih =>
    intro g
    have hstep : g2of g (h :: P) =
        g2of ((g.neighbors h).foldl (fun g'' n => if isH (g''.attrs n) then g'' else updAttrs g'' n decA) g) P := rfl
    rw [hstep, foldl_updIfHeavy decA isH_decA, ih, decTargets_congr (isH_attrs_foldl_updAt decA isH_decA g _) rfl]
    simp only [decTargets, List.flatMap_cons, List.foldl_append]

theorem isH_attrs_g1of (g : LGraph) (n : Nat) : isH ((g1of g).attrs n) = isH (g.attrs n) :=
  isH_attrs_map_nodes (g' := g1of g) rfl (F1_fst g) (isH_F1 g) n

theorem count_decTargets (g : LGraph) (P : List Nat) (hP : P.Nodup) (v : Nat)
    (hv : isH (g.attrs v) = false) :
    (decTargets g P).count v = ((g.neighbors v).filter fun n => P.contains n).length := by
  unfold decTargets
  rw [List.count_flatMap, ← sum_count P hP]
  congr 1
  apply List.map_congr_left
  intro h _
  simp only [Function.comp]
  rw [List.count_filter (by simp [hv]), count_nbrs_symm]

theorem count_decTargets_H (g : LGraph) (P : List Nat) (v : Nat) (hv : isH (g.attrs v) = true) :
    (decTargets g P).count v = 0 := by
  rw [List.count_eq_zero]
  unfold decTargets
  intro hmem
  obtain ⟨h, _, hm⟩ := List.mem_flatMap.1 hmem
  have := (List.mem_filter.1 hm).2
  simp [hv] at this

theorem hasHeavyNbr_of_nbr_heavy (g : LGraph) (v n : Nat) (hv : isH (g.attrs v) = false)
    (hn : n ∈ g.neighbors v) : hasHeavyNbr g n = true := by
  unfold hasHeavyNbr
  rw [List.any_eq_true]
  exact ⟨v, LGraph.mem_neighbors_comm.1 hn, by rw [hv]; rfl⟩

theorem nH_sub (g : LGraph) (hn : g.ids.Nodup) (K : List Nat) (v : Nat) (hv : isH (g.attrs v) = false) :
    ((g.neighbors v).filter fun n => isH (g.attrs n)).length =
      ((g.neighbors v).filter fun n => (pres g K).contains n).length + absorbed g (gone g K) v := by
  rw [filter_split (fun n => isH (g.attrs n)) (fun n => (pres g K).contains n)]
  unfold absorbed
  congr 1
  · congr 1
    apply List.filter_congr
    intro n _
    by_cases h : n ∈ pres g K
    · simp [h, isH_of_mem_pres g hn K n h]
    · simp [h]
  · congr 1
    apply List.filter_congr
    intro n hnv
    rw [show decide (n ∈ gone g K) = goes g K n by rw [Bool.eq_iff_iff, decide_eq_true_eq, mem_gone]]
    unfold goes
    rw [hasHeavyNbr_of_nbr_heavy g v n hv hnv, Bool.and_true, Bool.and_comm]

theorem g2_nodes (g : LGraph) (hn : g.ids.Nodup) (K : List Nat) :
    (g2of (g1of g) (pres g K)).nodes = g.nodes.map (foldNodeW wset g (gone g K)) := by
  rw [g2of_eq, decTargets_congr (isH_attrs_g1of g) rfl]
  show (decTargets g (pres g K)).foldl (updAt decA) (g.nodes.map (F1 g)) = _
  rw [foldl_updAt, List.map_map]
  apply List.map_congr_left
  intro p hp
  have hattr := LGraph.attrs_of_mem hn hp
  simp only [Function.comp, F1_fst]
  by_cases hH : isH p.2 = true
  · have h0 : (decTargets g (pres g K)).count p.1 = 0 :=
      count_decTargets_H g _ p.1 (by rw [hattr]; exact hH)
    simp [h0, F1, foldNodeW, hH]
  · simp only [Bool.not_eq_true] at hH
    have hc := count_decTargets g (pres g K) (pres_nodup g hn K) p.1 (by rw [hattr]; exact hH)
    have hs := nH_sub g hn K p.1 (by rw [hattr]; exact hH)
    simp only [F1, foldNodeW, wset, hH, Bool.false_eq_true, if_false, iterate_add_hcount_set (f := decA) fun _ => rfl, hc, nHof]
    congr 3
    rw [hs]; push_cast; ring

theorem isH_attrs_g2 (g : LGraph) (hn : g.ids.Nodup) (K : List Nat) (n : Nat) :
    isH ((g2of (g1of g) (pres g K)).attrs n) = isH (g.attrs n) :=
  isH_attrs_map_nodes (g2_nodes g hn K) (foldNodeW_fst wset g _) (isH_foldNodeW addsH_wset g _) n

theorem g2_edges (g : LGraph) (K : List Nat) : (g2of (g1of g) (pres g K)).edges = g.edges := by
  rw [g2of_eq]; rfl

theorem hasHeavyNbr_g2 (g : LGraph) (hn : g.ids.Nodup) (K : List Nat) (v : Nat) :
    hasHeavyNbr (g2of (g1of g) (pres g K)) v = hasHeavyNbr g v :=
  hasHeavyNbr_congr (congrArg (nbrsOf · v) (g2_edges g K)) fun n _ => isH_attrs_g2 g hn K n

theorem implicitHydrogen_eq_foldInW (g : LGraph) (hn : g.ids.Nodup) (K : List Nat) :
    implicitHydrogen g K = foldInW wset g (gone g K) := by
  have hgo : ∀ n, (!goes g K n) = decide (n ∉ gone g K) := fun n => by
    rw [Bool.eq_iff_iff, decide_eq_true_eq, mem_gone]; simp
  rw [implicitHydrogen_eq, pres_g1of]
  refine LGraph.ext ?_ ?_
  · show (g2of (g1of g) (pres g K)).nodes.filter _ = (g.nodes.filter _).map _
    simp only [hasHeavyNbr_g2 g hn K]
    rw [g2_nodes g hn K, List.filter_map]
    congr 1
    apply List.filter_congr
    intro p hp
    simp only [Function.comp, isH_foldNodeW addsH_wset, foldNodeW_fst, ← hgo, goes, LGraph.attrs_of_mem hn hp]
  · show (g2of (g1of g) (pres g K)).edges.filter _ = g.edges.filter _
    rw [g2_edges]
    apply List.filter_congr
    intro e _
    simp only [isH_attrs_g2 g hn K, hasHeavyNbr_g2 g hn K]
    rw [Bool.decide_and, ← hgo, ← hgo]
    rfl

theorem implicitH_ids_nodup (g : LGraph) (hn : g.ids.Nodup) (K : List Nat) :
    (implicitHydrogen g K).ids.Nodup := by
  rw [implicitHydrogen_eq_foldInW g hn]; exact foldInW_ids_nodup hn

theorem implicitH_wf (g : LGraph) (hwf : g.WF) (K : List Nat) : (implicitHydrogen g K).WF := by
  rw [implicitHydrogen_eq_foldInW g hwf.1]; exact foldInW_wf hwf

theorem totalH_implicitH (g : LGraph) (hwf : g.WF) (K : List Nat) (hg : FoldGuard g K) :
    totalH (implicitHydrogen g K) = totalH g := by
  rw [implicitHydrogen_eq_foldInW g hwf.1]
  refine totalH_foldInW addsH_wset g hwf _ fun d hd => ?_
  obtain ⟨h1, h2, h3⟩ := (mem_gone_iff g hwf.1 K d).1 hd
  obtain ⟨h4, h5⟩ := hg _ (LGraph.attrs_mem (List.mem_filter.1 hd).1) h1 h2 ((hasHeavyNbr_iff g d).1 h3)
  exact ⟨h1, h4, h5⟩

/-- The body of `SynKit.ITS.MolEq` (`Props/C01.lean`). -/
def SameMol (A B : LGraph) : Prop :=
  (∀ n, n ∈ A.ids ↔ n ∈ B.ids) ∧
  (∀ n ∈ A.ids, ∀ k ∈ SynKit.ITS.molKeys, (A.attrs n).get k = (B.attrs n).get k) ∧
  (∀ u v, (A.edge? u v).map (·.get "order") = (B.edge? u v).map (·.get "order"))

def hrawV : Val → Int
  | .num h => h
  | _ => 0

def atomMapV : Val → Option Nat
  | .num h => if h % 2 = 0 ∧ h ≥ 0 then some (h / 2).toNat else none
  | _ => none

theorem hraw_eq_get (a : Attrs) : hraw a = hrawV (a.get "hcount") := by
  unfold hraw Attrs.get Dict.getD
  cases h : Dict.get? a "hcount" with
  | none => rfl
  | some v => cases v <;> rfl

theorem atomMapOf_eq_get (a : Attrs) : atomMapOf a = atomMapV (a.get "atom_map") := by
  unfold atomMapOf Attrs.get Dict.getD
  cases h : Dict.get? a "atom_map" with
  | none => rfl
  | some v => cases v <;> rfl

theorem isH_eq_get (a : Attrs) : isH a = decide (a.get "element" = .str "H") := rfl

section Congr
variable {A B : LGraph} (hAB : SameMol A B)
include hAB

theorem SameMol.get_eq (n : Nat) (k : String) (hk : k ∈ SynKit.ITS.molKeys) :
    (A.attrs n).get k = (B.attrs n).get k := by
  by_cases h : n ∈ A.ids
  · exact hAB.2.1 n h k hk
  · rw [LGraph.attrs_of_not_mem h, LGraph.attrs_of_not_mem fun h' => h ((hAB.1 n).2 h')]

theorem SameMol.isH_eq (n : Nat) : isH (A.attrs n) = isH (B.attrs n) := by
  rw [isH_eq_get, isH_eq_get, hAB.get_eq n "element" (by decide)]

theorem SameMol.hraw_eq (n : Nat) : hraw (A.attrs n) = hraw (B.attrs n) := by
  rw [hraw_eq_get, hraw_eq_get, hAB.get_eq n "hcount" (by decide)]

theorem SameMol.keepsH_eq (K : List Nat) (n : Nat) : keepsH K (A.attrs n) = keepsH K (B.attrs n) := by
  unfold keepsH
  rw [hAB.isH_eq n, atomMapOf_eq_get, atomMapOf_eq_get, hAB.get_eq n "atom_map" (by decide)]

theorem SameMol.hasEdge_eq (u v : Nat) : A.hasEdge u v = B.hasEdge u v := by
  have := congrArg Option.isSome (hAB.2.2 u v)
  simpa [LGraph.hasEdge] using this

theorem SameMol.neighbors_perm (hA : A.WF) (hB : B.WF) (v : Nat) :
    (A.neighbors v).Perm (B.neighbors v) := by
  rw [List.perm_ext_iff_of_nodup (LGraph.neighbors_nodup hA v) (LGraph.neighbors_nodup hB v)]
  intro x
  rw [LGraph.mem_neighbors_iff, LGraph.mem_neighbors_iff, hAB.hasEdge_eq]

theorem SameMol.heavyNbrs_eq (hA : A.WF) (hB : B.WF) (v : Nat) : heavyNbrs A v = heavyNbrs B v := by
  unfold heavyNbrs
  have : (fun n => !(isH (A.attrs n))) = fun n => !(isH (B.attrs n)) := by
    funext n; rw [hAB.isH_eq n]
  rw [this]
  exact ((hAB.neighbors_perm hA hB v).filter _).length_eq

theorem SameMol.hasHeavyNbr_eq (hA : A.WF) (hB : B.WF) (v : Nat) : hasHeavyNbr A v = hasHeavyNbr B v := by
  rw [Bool.eq_iff_iff, hasHeavyNbr_iff, hasHeavyNbr_iff, hAB.heavyNbrs_eq hA hB v]

theorem SameMol.gone_iff (hA : A.WF) (hB : B.WF) (K : List Nat) (n : Nat) : n ∈ gone A K ↔ n ∈ gone B K := by
  rw [mem_gone_iff A hA.1, mem_gone_iff B hB.1, hAB.isH_eq n, hAB.keepsH_eq K n, hAB.hasHeavyNbr_eq hA hB n]

theorem SameMol.absorbed_eq (hA : A.WF) (hB : B.WF) (K : List Nat) (v : Nat) :
    absorbed A (gone A K) v = absorbed B (gone B K) v := by
  unfold absorbed
  rw [show (fun n => decide (n ∈ gone A K)) = fun n => decide (n ∈ gone B K) from
    funext fun n => decide_eq_decide.2 (hAB.gone_iff hA hB K n)]
  exact ((hAB.neighbors_perm hA hB v).filter _).length_eq

end Congr

theorem get_set_hcount (a : Attrs) (x : Val) (k : String) :
    Attrs.get (Dict.set a "hcount" x) k = if k = "hcount" then x else Attrs.get a k := by
  by_cases h : k = "hcount"
  · rw [if_pos h, h]; exact Attrs.get_set_self
  · rw [if_neg h]; exact Attrs.get_set_other h

theorem foldNodeW_wset_get (g : LGraph) (D : List Nat) (n : Nat) (k : String) :
    Attrs.get (foldNodeW wset g D (n, g.attrs n)).2 k =
      if isH (g.attrs n) = false ∧ k = "hcount"
      then .num (hraw (g.attrs n) + 2 * (absorbed g D n : Int)) else Attrs.get (g.attrs n) k := by
  unfold foldNodeW wset
  by_cases h : isH (g.attrs n) = true
  · simp [h]
  · simp only [Bool.not_eq_true] at h
    simp only [h, Bool.false_eq_true, if_false, get_set_hcount, true_and]

theorem implicitH_congr (A B : LGraph) (hAB : SameMol A B) (hA : A.WF) (hB : B.WF) (K : List Nat) :
    SameMol (implicitHydrogen A K) (implicitHydrogen B K) := by
  rw [implicitHydrogen_eq_foldInW A hA.1, implicitHydrogen_eq_foldInW B hB.1]
  refine ⟨fun n => ?_, fun n hn k hk => ?_, fun u v => ?_⟩
  · rw [mem_foldInW_ids, mem_foldInW_ids, hAB.1 n, hAB.gone_iff hA hB K n]
  · obtain ⟨h1, h2⟩ := mem_foldInW_ids.1 hn
    rw [foldInW_attrs h1 h2, foldInW_attrs ((hAB.1 n).1 h1) (mt (hAB.gone_iff hA hB K n).2 h2), foldNodeW_wset_get,
      foldNodeW_wset_get, hAB.isH_eq n, hAB.hraw_eq n, hAB.absorbed_eq hA hB K n, hAB.get_eq n k hk]
  · rw [foldInW_edge?, foldInW_edge?,
      if_congr (and_congr (not_congr (hAB.gone_iff hA hB K u)) (not_congr (hAB.gone_iff hA hB K v))) rfl rfl]
    split
    · exact hAB.2.2 u v
    · rfl

theorem totalH_congr (A B : LGraph) (hAB : SameMol A B) (hA : A.ids.Nodup) (hB : B.ids.Nodup) :
    totalH A = totalH B := by
  -- over the ids, which the two graphs list in some order each, with equal summands
  have h1 : ∀ g : LGraph, g.ids.Nodup → totalH g = (g.ids.map fun v => hval (v, g.attrs v)).sum := fun g hg => by
    rw [totalH_eq, ← atomsOf_ids g hg, atomsOf, List.map_map]; rfl
  have hf : (A.ids.map fun v => hval (v, A.attrs v)) = A.ids.map fun v => hval (v, B.attrs v) :=
    List.map_congr_left fun v _ => by simp only [hval, hcnt, hAB.isH_eq v, hAB.hraw_eq v]
  rw [h1 A hA, h1 B hB, hf]
  exact (((List.perm_ext_iff_of_nodup hA hB).2 hAB.1).map _).sum_eq

theorem foldGuard_congr (A B : LGraph) (hAB : SameMol A B) (hA : A.WF) (hB : B.WF) (K : List Nat)
    (h : FoldGuard B K) : FoldGuard A K := by
  intro p hp
  have hid : p.1 ∈ B.ids := (hAB.1 p.1).1 (List.mem_map.2 ⟨p, hp, rfl⟩)
  -- the guard of `B` at the node `p.1`, every reading of `B` replaced by the equal reading of `A`
  have := h _ (LGraph.attrs_mem hid)
  rwa [← hAB.isH_eq, ← hAB.keepsH_eq, ← hAB.heavyNbrs_eq hA hB, hcnt, ← hAB.hraw_eq, ← hcnt,
    LGraph.attrs_of_mem hA.1 hp] at this

end SynKit.Repr.ImplH
