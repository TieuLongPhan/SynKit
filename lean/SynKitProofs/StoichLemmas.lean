import Mathlib.LinearAlgebra.Matrix.Rank
import SynKitModel.Stoich
import SynKitProofs.Core.Sort
import SynKitProofs.Core.Fold
import SynKitProofs.Core.Sum
/-!
Lemmas for C17, in the order of the model. `strLt` is `<` on the code points (`strLt_iff`; Mathlib's lexicographic
order on `List ℕ`) and `sortBy` the shared insertion sort, so its output is sorted by `codes ∘ key`, and determined by
the elements when the keys are distinct. `buildS_ok` says what `build_S` returns: the two orders and the matrix in closed
form. The executable checkers (`sumTo`, `allTo` over `Nat`-indexed entry functions of core `Rat`) are read as Mathlib
matrices over `ℚ` through `toMat`, `toVec` and the three entry equations `toMat_mulVec`, `toMat_vecMul`, `toMat_mul`;
rank is Mathlib's `Matrix.rank`. Positive kernel vectors are kept in elementary form (`PosKer`) for the decision logic of
`is_conservative` / `is_consistent`, whose three-valued answers are specified by `Verdict v T F N` and proved by one rule
per leaf and per test of the code.
-/
open Matrix SynKit.Store

namespace SynKit.Stoich

theorem codesLt_iff : ∀ a b : List Nat, codesLt a b = true ↔ a < b
  | _, [] => by cases ‹List Nat› <;> simp [codesLt]
  | [], _ :: _ => by simp [codesLt]
  | x :: xs, y :: ys => by
    rw [codesLt, List.cons_lt_cons_iff, ← codesLt_iff xs ys]
    rcases lt_trichotomy x y with h | h | h
    · simp [h]
    · simp [h]
    · simp [h, h.not_gt, h.ne']

def codes (s : String) : List Nat := s.toList.map Char.toNat

theorem codes_inj {a b : String} (h : codes a = codes b) : a = b := by
  apply String.toList_injective
  exact List.map_injective_iff.2 (fun c d h => Char.toNat_inj.1 h) h

theorem strLt_iff (a b : String) : strLt a b = true ↔ codes a < codes b := codesLt_iff _ _

theorem insertBy_eq {α : Type} (key : α → String) (x : α) (l : List α) :
    insertBy key x l = Core.insertBy (fun a b => ¬ strLt (key b) (key a)) x l := by
  induction l with
  | nil => rfl
  | cons y ys ih => simp only [insertBy, Core.insertBy, ih, ite_not]

theorem sortBy_eq {α : Type} (key : α → String) (l : List α) :
    sortBy key l = Core.sortBy (fun a b => ¬ strLt (key b) (key a)) l := by
  induction l with
  | nil => rfl
  | cons x xs ih => rw [sortBy, ih, insertBy_eq, Core.sortBy_cons]

theorem sortBy_perm {α : Type} (key : α → String) (l : List α) : (sortBy key l).Perm l := by
  rw [sortBy_eq]; exact Core.sortBy_perm

theorem sortBy_map {α β : Type} (f : α → β) (key : β → String) (l : List α) :
    sortBy key (l.map f) = (sortBy (fun a => key (f a)) l).map f := by
  rw [sortBy_eq, sortBy_eq]
  exact Core.sortBy_map f fun _ _ _ _ => Iff.rfl

theorem sortBy_sorted {α : Type} (key : α → String) (l : List α) :
    (sortBy key l).Pairwise fun a b => codes (key a) ≤ codes (key b) := by
  rw [sortBy_eq]
  exact Core.sortBy_pairwise (fun _ _ _ _ h => le_of_lt ((strLt_iff _ _).1 (not_not.1 h)))
    (fun _ _ _ _ h => not_lt.1 (mt (strLt_iff _ _).2 h)) fun _ _ _ _ _ _ => le_trans

theorem sortBy_eq_of_perm {α : Type} (key : α → String) (l₁ l₂ : List α) (hp : l₁.Perm l₂)
    (hk : (l₁.map key).Nodup) : sortBy key l₁ = sortBy key l₂ := by
  have h₁ := sortBy_sorted key l₁
  have h₂ := sortBy_sorted key l₂
  rw [sortBy_eq] at h₁ h₂ ⊢
  rw [sortBy_eq]
  exact Core.sortBy_eq_of_perm_of_pairwise hp
    (fun a ha b hb hab hba => List.inj_on_of_nodup_map hk ha hb (codes_inj (le_antisymm hab hba))) h₁ h₂

theorem rxnOrder_perm (N : Net) : (rxnOrder N).Perm N.edges :=
  (sortBy_perm _ _).trans (sortBy_perm _ _)

theorem sumCoeff_eq_sum (side : Side) (s : String) :
    sumCoeff side s = (side.map fun kv => if kv.1 = s then (kv.2 : Int) else 0).sum := by
  rw [← Core.isum_eq_sum]
  unfold sumCoeff
  congr
  funext acc kv
  split <;> simp

theorem sumCoeff_cons (kv : String × Nat) (rest : Side) (x : String) :
    sumCoeff (kv :: rest) x = (if kv.1 = x then (kv.2 : Int) else 0) + sumCoeff rest x := by
  rw [sumCoeff_eq_sum, sumCoeff_eq_sum, List.map_cons, List.sum_cons]

theorem sumCoeff_eq_zero (side : Side) (x : String) (h : x ∉ side.keys) : sumCoeff side x = 0 := by
  induction side with
  | nil => rfl
  | cons kv rest ih =>
    rw [Dict.keys, List.map_cons, List.mem_cons, not_or] at h
    rw [sumCoeff_cons, if_neg (Ne.symm h.1), ih h.2]; rfl

theorem sumCoeff_eq_coeff (side : Side) (h : side.keys.Nodup) (s : String) :
    sumCoeff side s = coeff side s := by
  induction side with
  | nil => rfl
  | cons kv rest ih =>
    rw [Dict.keys, List.map_cons, List.nodup_cons] at h
    rw [sumCoeff_cons, ih h.2]
    simp only [coeff, Dict.getD, Dict.get?]
    split
    · next hk => rw [(Dict.get?_eq_none_iff rest s).2 (hk ▸ h.1)]; simp
    · simp

theorem buildS_ok {N : Net} {res : SResult} (h : buildS N = .ok res) :
    res = ⟨speciesOrder N, (rxnOrder N).map (·.rule),
      (speciesOrder N).map fun s => (rxnOrder N).map fun e => sumCoeff e.products s - sumCoeff e.reactants s⟩ := by
  unfold buildS at h
  split at h
  · cases h
  · cases h
    simp only [matSub, buildSPlus, buildSMinus, List.zipWith_map_left, List.zipWith_map_right, List.zipWith_self]

theorem entryI_map {α β : Type} (rows : List α) (cols : List β) (f : α → β → Int) (i j : Nat)
    (hi : i < rows.length) (hj : j < cols.length) :
    entryI (rows.map fun s => cols.map (f s)) i j = f rows[i] cols[j] := by
  simp [entryI, List.getD_eq_getElem?_getD, hi, hj]

theorem allTo_iff (n : Nat) (p : Nat → Bool) : allTo n p = true ↔ ∀ i, i < n → p i = true := by
  induction n with
  | zero => simp [allTo]
  | succ n ih => simp only [allTo, Bool.and_eq_true, ih, Nat.forall_lt_succ_right]

theorem anyTo_iff (n : Nat) (p : Nat → Bool) : anyTo n p = true ↔ ∃ i, i < n ∧ p i = true := by
  induction n with
  | zero => simp [anyTo]
  | succ n ih => simp only [anyTo, Bool.or_eq_true, ih, Nat.exists_lt_succ_right]

theorem sumTo_eq_range (n : Nat) (f : Nat → ℚ) : sumTo n f = ∑ i ∈ Finset.range n, f i := by
  induction n with
  | zero => rfl
  | succ n ih => rw [sumTo, ih, Finset.sum_range_succ]

theorem sumTo_eq_sum (n : Nat) (f : Nat → ℚ) : sumTo n f = ∑ i : Fin n, f i :=
  (sumTo_eq_range n f).trans (Finset.sum_range f)

def toMat (m n : ℕ) (S : Ent) : Matrix (Fin m) (Fin n) ℚ := Matrix.of fun i j => S i j

def toVec (n : ℕ) (v : QVec) : Fin n → ℚ := fun j => vget v j

theorem toMat_entT (m n : ℕ) (S : Ent) : toMat n m (entT S) = (toMat m n S)ᵀ := rfl

theorem toMat_mulVec (m n : ℕ) (A : Ent) (x : ℕ → ℚ) (i : Fin m) :
    (toMat m n A).mulVec (fun j : Fin n => x j) i = sumTo n fun j => A i j * x j := by
  rw [sumTo_eq_sum]; rfl

theorem toMat_vecMul (m n : ℕ) (A : Ent) (y : ℕ → ℚ) (j : Fin n) :
    Matrix.vecMul (fun i : Fin m => y i) (toMat m n A) j = sumTo m fun i => y i * A i j := by
  rw [sumTo_eq_sum]; rfl

theorem toMat_mul (l m n : ℕ) (A B : Ent) (i : Fin l) (j : Fin n) :
    (toMat l m A * toMat m n B) i j = sumTo m fun k => A i k * B k j := by
  rw [sumTo_eq_sum]; rfl

theorem rank_of_cert {m n r : ℕ} (S : Matrix (Fin m) (Fin n) ℚ) (f : Fin r → Fin n)
    (L : Matrix (Fin r) (Fin m) ℚ) (C : Matrix (Fin r) (Fin n) ℚ)
    (hL : L * S.submatrix id f = 1) (hC : S = S.submatrix id f * C) : S.rank = r :=
  -- with `B` the selected columns: `rank S = rank (B C) ≤ rank B ≤ r` and
  -- `r = rank 1 = rank (L B) ≤ rank B ≤ rank S`
  le_antisymm
    ((congrArg rank hC).trans_le ((rank_mul_le_left _ C).trans (rank_le_width _)))
    (((congrArg rank hL).trans (rank_one.trans (Fintype.card_fin r))).symm.trans_le
      ((rank_mul_le_right L _).trans (rank_submatrix_le S id f)))

theorem finrank_ker_mulVecLin {m n : ℕ} (A : Matrix (Fin m) (Fin n) ℚ) :
    Module.finrank ℚ (LinearMap.ker A.mulVecLin) = n - A.rank := by
  have := LinearMap.finrank_range_add_finrank_ker A.mulVecLin
  rw [Module.finrank_fintype_fun_eq_card, Fintype.card_fin] at this
  exact Nat.eq_sub_of_add_eq' this

def PosKer (rows cols : ℕ) (A : Ent) (x : ℕ → ℚ) : Prop :=
  (∀ j, j < cols → 0 < x j) ∧ ∀ i, i < rows → sumTo cols (fun j => A i j * x j) = 0

def KerCols (rows cols k : ℕ) (A K : Ent) : Prop :=
  ∀ c, c < k → ∀ i, i < rows → sumTo cols (fun j => A i j * K j c) = 0

def SpansKer (rows cols k : ℕ) (A K : Ent) : Prop :=
  ∀ x : ℕ → ℚ, (∀ i, i < rows → sumTo cols (fun j => A i j * x j) = 0) →
    ∃ a : ℕ → ℚ, ∀ j, j < cols → x j = sumTo k (fun c => K j c * a c)

def Conservative (m n : ℕ) (S : Ent) : Prop := ∃ x, PosKer n m (entT S) x
def Consistent (m n : ℕ) (S : Ent) : Prop := ∃ x, PosKer m n S x

theorem checkPositiveKernel_iff (m n : ℕ) (A : Ent) (x : QVec) :
    checkPositiveKernel m n A x = true ↔ PosKer m n A (vget x) := by
  simp only [checkPositiveKernel, PosKer, Bool.and_eq_true, allTo_iff, decide_eq_true_eq]

theorem PosKer.mulVec {m n : ℕ} {A : Ent} {x : ℕ → ℚ} (h : PosKer m n A x) :
    (∀ j : Fin n, 0 < x j) ∧ (toMat m n A).mulVec (fun j : Fin n => x j) = 0 :=
  ⟨fun j => h.1 j j.2, funext fun i => (toMat_mulVec m n A x i).trans (h.2 i i.2)⟩

theorem exists_posKer_iff (m n : ℕ) (A : Ent) :
    (∃ x, PosKer m n A x) ↔ ∃ v : Fin n → ℚ, (∀ j, 0 < v j) ∧ (toMat m n A).mulVec v = 0 := by
  constructor
  · rintro ⟨x, hx⟩
    exact ⟨_, hx.mulVec⟩
  · rintro ⟨v, hpos, hk⟩
    have hv : (fun j : Fin n => if h : (j : ℕ) < n then v ⟨j, h⟩ else 0) = v :=
      funext fun j => dif_pos j.2
    refine ⟨fun j => if h : j < n then v ⟨j, h⟩ else 0, fun j hj => ?_, fun i hi => ?_⟩
    · simp only [dif_pos hj]; exact hpos _
    · have := toMat_mulVec m n A (fun j => if h : j < n then v ⟨j, h⟩ else 0) ⟨i, hi⟩
      rw [hv, hk] at this
      exact this.symm

theorem consistent_iff (m n : ℕ) (S : Ent) :
    Consistent m n S ↔ ∃ v : Fin n → ℚ, (∀ j, 0 < v j) ∧ (toMat m n S).mulVec v = 0 :=
  exists_posKer_iff m n S

theorem conservative_iff (m n : ℕ) (S : Ent) :
    Conservative m n S ↔ ∃ mv : Fin m → ℚ, (∀ i, 0 < mv i) ∧ Matrix.vecMul mv (toMat m n S) = 0 := by
  rw [Conservative, exists_posKer_iff, toMat_entT]
  simp only [Matrix.mulVec_transpose]

theorem sumTo_congr (n : ℕ) (f g : ℕ → ℚ) (h : ∀ i, i < n → f i = g i) : sumTo n f = sumTo n g := by
  rw [sumTo_eq_range, sumTo_eq_range]
  exact Finset.sum_congr rfl fun i hi => h i (Finset.mem_range.1 hi)

theorem signDef_posKer (rows cols k : ℕ) (A K : Ent) (eps : ℚ) (c : ℕ) (hc : c < k) (heps : 0 ≤ eps)
    (hK : KerCols rows cols k A K) (h : colSignDef cols K eps c = true) : ∃ x, PosKer rows cols A x := by
  simp only [colSignDef, Bool.or_eq_true, allTo_iff, decide_eq_true_eq] at h
  rcases h with h | h
  · exact ⟨fun j => K j c, fun j hj => heps.trans_lt (h j hj), hK c hc⟩
  · refine ⟨fun j => -K j c, fun j hj => neg_pos.2 ((h j hj).trans_le (neg_nonpos.2 heps)),
      fun i hi => ?_⟩
    have := hK c hc i hi
    rw [sumTo_eq_range] at this ⊢
    simp only [mul_neg, Finset.sum_neg_distrib, this, neg_zero]

theorem combo_posKer (rows cols k : ℕ) (A K : Ent) (a : QVec)
    (hK : KerCols rows cols k A K) (hpos : ∀ j, j < cols → 0 < combo k K a j) :
    PosKer rows cols A (combo k K a) := by
  refine ⟨hpos, fun i hi => ?_⟩
  simp only [combo, sumTo_eq_range, Finset.mul_sum]
  rw [Finset.sum_comm]
  apply Finset.sum_eq_zero
  intro c hc
  have := hK c (Finset.mem_range.1 hc) i hi
  rw [sumTo_eq_range] at this
  simp only [← mul_assoc, ← Finset.sum_mul, this, zero_mul]

theorem no_posKer_of_k0 (rows cols : ℕ) (A K : Ent) (hcols : 0 < cols) (hS : SpansKer rows cols 0 A K) :
    ¬ ∃ x, PosKer rows cols A x := by
  rintro ⟨x, hx, hk⟩
  obtain ⟨a, ha⟩ := hS x hk
  exact (hx 0 hcols).ne' (ha 0 hcols)

/-- With a single basis column, a positive kernel vector is a multiple of it, so the column has
one sign, and the margin makes the scan see it. -/
theorem k1_complete (rows cols : ℕ) (A K : Ent) (eps : ℚ)
    (hS : SpansKer rows cols 1 A K) (hmargin : ∀ j, j < cols → K j 0 = 0 ∨ eps < |K j 0|)
    (h : ∃ x, PosKer rows cols A x) : colSignDef cols K eps 0 = true := by
  obtain ⟨x, hx, hk⟩ := h
  obtain ⟨a, ha⟩ := hS x hk
  have hx' : ∀ j, j < cols → 0 < K j 0 * a 0 := fun j hj => by
    have := ha j hj
    rw [sumTo, sumTo, zero_add] at this
    exact this ▸ hx j hj
  have hm : ∀ j, j < cols → eps < |K j 0| := fun j hj =>
    (hmargin j hj).resolve_left fun h0 => by
      have := hx' j hj
      rw [h0, zero_mul] at this
      exact lt_irrefl _ this
  simp only [colSignDef, Bool.or_eq_true, allTo_iff, decide_eq_true_eq]
  rcases le_total 0 (a 0) with h0 | h0
  · exact Or.inl fun j hj => abs_of_pos (pos_of_mul_pos_left (hx' j hj) h0) ▸ hm j hj
  · exact Or.inr fun j hj => lt_neg.1 (abs_of_neg (neg_of_mul_pos_left (hx' j hj) h0) ▸ hm j hj)

theorem exists_scale (cols : ℕ) (x s : ℕ → ℚ) (hx : ∀ j, j < cols → 0 < x j) :
    ∃ t : ℚ, 0 < t ∧ ∀ j, j < cols → s j ≤ t * x j := by
  induction cols with
  | zero => exact ⟨1, one_pos, fun j hj => absurd hj (Nat.not_lt_zero j)⟩
  | succ n ih =>
    obtain ⟨t, ht, h⟩ := ih fun j hj => hx j (Nat.lt_succ_of_lt hj)
    refine ⟨max t (s n / x n), lt_max_of_lt_left ht, fun j hj => ?_⟩
    rcases Nat.lt_succ_iff_lt_or_eq.1 hj with hj | rfl
    · exact (h j hj).trans
        (mul_le_mul_of_nonneg_right (le_max_left _ _) (hx j (Nat.lt_succ_of_lt hj)).le)
    · exact (div_le_iff₀ (hx j j.lt_succ_self)).1 (le_max_right _ _)

/-- What the logic theorems say of a three-valued verdict `v`: `True` gives `T`, `False` gives `F` (`¬ T`, or weaker
where the code is wrong), `None` is returned only under `N`. One constructor per leaf of the code, `ite` per test. -/
def Verdict (v : Tri) (T F N : Prop) : Prop := (v = some true → T) ∧ (v = some false → F) ∧ (v = none → N)

namespace Verdict
variable {T F N : Prop}

theorem yes (h : T) : Verdict (some true) T F N := ⟨fun _ => h, nofun, nofun⟩
theorem no (h : F) : Verdict (some false) T F N := ⟨nofun, fun _ => h, nofun⟩
theorem unknown (h : N) : Verdict none T F N := ⟨nofun, nofun, fun _ => h⟩

theorem bool {b : Bool} (ht : b = true → T) (hf : b = false → F) : Verdict (some b) T F N := by
  cases b
  · exact no (hf rfl)
  · exact yes (ht rfl)

theorem ite {c : Prop} [Decidable c] {t e : Tri} (ht : c → Verdict t T F N) (he : ¬ c → Verdict e T F N) :
    Verdict (if c then t else e) T F N := by
  split
  · exact ht ‹_›
  · exact he ‹_›

theorem mono {v : Tri} {T' F' N' : Prop} (h : Verdict v T F N) (hT : T → T') (hF : F → F') (hN : N → N') :
    Verdict v T' F' N' := ⟨fun e => hT (h.1 e), fun e => hF (h.2.1 e), fun e => hN (h.2.2 e)⟩

theorem true_iff {v : Tri} {P : Prop} (h : Verdict v P (¬ P) False) : v = some true ↔ P := by
  refine ⟨h.1, fun hp => ?_⟩
  match v, h with
  | some true, _ => rfl
  | some false, h => exact absurd hp (h.2.1 rfl)
  | none, h => exact (h.2.2 rfl).elim

end Verdict

/-- The kernel-basis fall-back of `is_consistent` is right whenever it answers. -/
theorem fallback_verdict (m n k : ℕ) (S R : Ent) (eps : ℚ) (hn : 0 < n) (heps : 0 ≤ eps)
    (hK : KerCols m n k S R) (hS : SpansKer m n k S R) :
    Verdict (if (k == 0) = true then some false
      else if anyTo k (colSignDef n R eps) = true then some true else none)
      (Consistent m n S) (¬ Consistent m n S) True :=
  .ite (fun h0 => .no (by rw [beq_iff_eq] at h0; subst h0; exact no_posKer_of_k0 m n S R hn hS))
    fun _ => .ite (fun hany => .yes <| by
      obtain ⟨c, hc, hs⟩ := (anyTo_iff _ _).1 hany
      exact signDef_posKer m n k S R eps c hc heps hK hs) fun _ => .unknown trivial

def listOf (k : ℕ) (a : ℕ → ℚ) : QVec := (List.range k).map a

theorem vget_listOf (k : ℕ) (a : ℕ → ℚ) (j : ℕ) (hj : j < k) : vget (listOf k a) j = a j := by
  simp [vget, listOf, List.getD_eq_getElem?_getD, hj]

theorem sumTo_listOf (k : ℕ) (a : ℕ → ℚ) (f : ℕ → ℚ → ℚ) :
    sumTo k (fun c => f c (vget (listOf k a) c)) = sumTo k fun c => f c (a c) :=
  sumTo_congr k _ _ fun c hc => by rw [vget_listOf k a c hc]

theorem combo_recession (K : Ent) (eps a b : ℚ) (rows : ℕ)
    (h0 : ∀ i, i < rows → eps ≤ combo 3 K [a, b, 0] i) (hd : ∀ i, i < rows → K i 2 ≤ 0) :
    ∀ t : ℚ, 0 ≤ t → ∀ i, i < rows → eps ≤ combo 3 K [a, b, -t] i := by
  intro t ht i hi
  have h1 := h0 i hi
  simp only [combo, sumTo, vget, List.getD_cons_zero, List.getD_cons_succ] at h1 ⊢
  exact h1.trans (add_le_add_right (mul_le_mul_of_nonpos_left (neg_nonpos.2 ht) (hd i hi)) _)

/-- Correctness of an answer to the LP `min Σa  s.t.  K a ≥ eps` (`K : cols × k`). -/
def LPCorrectLaw (cols k : ℕ) (K : Ent) (eps : ℚ) : LPOut → Prop
  | .optimal a => ∀ j, j < cols → eps ≤ combo k K a j
  | .infeasible => ¬ ∃ a : QVec, ∀ j, j < cols → eps ≤ combo k K a j
  | .unbounded => ∃ a : QVec, ∀ j, j < cols → eps ≤ combo k K a j
  | .failed => True

/-- A positive kernel vector, scaled up, is feasible for `K a ≥ eps`. -/
theorem infeasible_no_posKer (rows cols k : ℕ) (A K : Ent) (eps : ℚ)
    (hS : SpansKer rows cols k A K) (hlp : LPCorrectLaw cols k K eps .infeasible) :
    ¬ ∃ x, PosKer rows cols A x := by
  rintro ⟨x, hx, hk⟩
  obtain ⟨a, ha⟩ := hS x hk
  obtain ⟨t, _, ht⟩ := exists_scale cols x (fun _ => eps) hx
  refine hlp ⟨listOf k (fun c => t * a c), fun j hj => (ht j hj).trans_eq ?_⟩
  rw [ha j hj, combo, sumTo_listOf k _ fun c v => K j c * v, sumTo_eq_range, sumTo_eq_range,
    Finset.mul_sum]
  exact Finset.sum_congr rfl fun c _ => mul_left_comm _ _ _

/-- Correctness of an answer to the LP `min Σv  s.t.  S v = 0, v ≥ 1` of `is_consistent`.
The objective is bounded below by `n`, so `unbounded` is never correct. -/
def LPCorrectFlux (m n : ℕ) (S : Ent) : LPOut → Prop
  | .optimal v => (∀ i, i < m → sumTo n (fun j => S i j * vget v j) = 0) ∧ ∀ j, j < n → 1 ≤ vget v j
  | .infeasible => ¬ ∃ v : QVec, (∀ i, i < m → sumTo n (fun j => S i j * vget v j) = 0) ∧ ∀ j, j < n → 1 ≤ vget v j
  | .unbounded => False
  | .failed => True

theorem maxAbs_nonneg (n : ℕ) (v : QVec) : 0 ≤ maxAbs n v := by
  unfold maxAbs
  simp only
  split
  · exact zero_le_one
  · refine Core.foldl_inv (P := fun acc : ℚ => 0 ≤ acc) (fun acc j _ h => ?_) le_rfl
    split
    · rename_i hlt; exact (h.trans_lt hlt).le
    · exact h

theorem lpObsCOf_optimal (m n : ℕ) (S : Ent) (eps tol : ℚ) (v : QVec) (heps1 : eps < 1) (htol : 0 ≤ tol)
    (hlp : LPCorrectFlux m n S (.optimal v)) :
    lpObsCOf m n S eps tol (.optimal v) = .optimal true true := by
  have hr : allTo m (fun i =>
      decide (absQ (sumTo n fun j => S i j * vget v j) ≤ tol * maxAbs n v)) = true :=
    (allTo_iff _ _).2 fun i hi => decide_eq_true <| by
      rw [hlp.1 i hi]
      exact (if_neg (lt_irrefl 0)).trans_le (mul_nonneg htol (maxAbs_nonneg n v))
  have hp : allTo n (fun j => decide (eps < vget v j)) = true :=
    (allTo_iff _ _).2 fun j hj => decide_eq_true (heps1.trans_le (hlp.2 j hj))
  rw [lpObsCOf, hr, hp]

/-- A positive kernel vector, scaled up, is feasible for `S v = 0, v ≥ 1`. -/
theorem infeasible_not_consistent (m n : ℕ) (S : Ent) (hlp : LPCorrectFlux m n S .infeasible) :
    ¬ Consistent m n S := by
  rintro ⟨x, hx, hk⟩
  obtain ⟨t, _, ht⟩ := exists_scale n x (fun _ => 1) hx
  refine hlp ⟨listOf n (fun j => t * x j), fun i hi => ?_, fun j hj => ?_⟩
  · rw [sumTo_listOf n _ fun j v => S i j * v, sumTo_congr n _ (fun j => t * (S i j * x j))
      fun j _ => mul_left_comm _ _ _, sumTo_eq_range, ← Finset.mul_sum, ← sumTo_eq_range, hk i hi,
      mul_zero]
  · rw [vget_listOf n _ j hj]; exact ht j hj

def LPOptimalLaw (cols k : ℕ) (K : Ent) (eps : ℚ) (a : QVec) : Prop :=
  (∀ j, j < cols → eps ≤ combo k K a j) ∧
  ∀ a' : QVec, (∀ j, j < cols → eps ≤ combo k K a' j) → sumTo k (vget a) ≤ sumTo k (vget a')

/-- At an optimum of `min Σa, K a ≥ eps` some constraint is tight (otherwise every coefficient
could be lowered a little), so the strict test `np.all(K a > eps)` fails. -/
theorem lp_optimum_is_tight (cols k : ℕ) (K : Ent) (eps : ℚ) (a : QVec) (hk : 0 < k)
    (hopt : LPOptimalLaw cols k K eps a) : ¬ ∀ j, j < cols → eps < combo k K a j := by
  intro hstrict
  -- lowering every coefficient by `t⁻¹` costs constraint `j` the amount `t⁻¹ * Σ_c K j c`
  obtain ⟨t, ht, hts⟩ := exists_scale cols (fun j => combo k K a j - eps) (fun j => sumTo k (K j))
    fun j hj => sub_pos.2 (hstrict j hj)
  have hfeas : ∀ j, j < cols → eps ≤ combo k K (listOf k fun c => vget a c - t⁻¹) j := by
    intro j hj
    have hc : combo k K (listOf k fun c => vget a c - t⁻¹) j
        = combo k K a j - t⁻¹ * sumTo k (K j) := by
      rw [combo, combo, sumTo_listOf k _ fun c v => K j c * v]
      simp only [sumTo_eq_range, mul_sub, Finset.sum_sub_distrib, Finset.sum_mul, mul_comm t⁻¹]
    rw [hc]
    exact le_sub_comm.2 ((inv_mul_le_iff₀ ht).2 (hts j hj))
  have hobj := hopt.2 _ hfeas
  rw [sumTo_listOf k _ fun _ v => v] at hobj
  simp only [sumTo_eq_range, Finset.sum_sub_distrib, Finset.sum_const, Finset.card_range,
    nsmul_eq_mul] at hobj
  exact not_le_of_gt (sub_lt_self _ (mul_pos (Nat.cast_pos.2 hk) (inv_pos.2 ht))) hobj

theorem firstTrue_isSome (k : ℕ) (scan : ℕ → Bool) (h : (firstTrue k scan).isSome = true) :
    ∃ j, j < k ∧ scan j = true := by
  obtain ⟨j, hj, hs⟩ := List.find?_isSome.1 h
  exact ⟨j, List.mem_range.1 hj, hs⟩

theorem isConservativeQ_eq (m n k : ℕ) (B : Ent) (eps : ℚ) (scipy : Bool) (lp : LPOut) (hn : n ≠ 0) :
    isConservativeQ m n k B eps scipy lp =
      if k = 0 then some false
      else if k = 1 then some (colSignDef m B eps 0)
      else if (firstTrue k (colSignDef m B eps)).isSome then some true
      else if scipy then
        (if lpObsOf m k B eps lp = .optimalStrict then some true else some false) else none := by
  unfold isConservativeQ isConservativeAbs posLawAbs
  by_cases h0 : k = 0
  · simp [h0, hn]
  by_cases h1 : k = 1
  · subst h1
    simp only [hn, if_false]
    cases hsc : colSignDef m B eps 0 <;> simp [Wit.isSome]
  · simp only [hn, if_false, h0, h1, beq_iff_eq]
    cases hf : firstTrue k (colSignDef m B eps) with
    | some j => simp [Wit.isSome]
    | none =>
      cases scipy
      · simp [Wit.isSome]
      · cases hl : lpObsOf m k B eps lp <;> simp [Wit.isSome]

theorem lpObsOf_strict (m k : ℕ) (B : Ent) (eps : ℚ) (lp : LPOut) (h : lpObsOf m k B eps lp = .optimalStrict) :
    ∃ a, lp = .optimal a ∧ ∀ i, i < m → eps < combo k B a i :=
  match lp, h with
  | .optimal a, h => by
    rw [lpObsOf] at h
    split at h
    · rename_i hall
      exact ⟨a, rfl, by simpa only [allTo_iff, decide_eq_true_eq] using hall⟩
    · cases h

end SynKit.Stoich
