import Mathlib.Logic.Relation
import Mathlib.Data.List.Basic
import Mathlib.Data.List.Nodup
import SynKitModel.GraphAlg
import SynKitProofs.Core.Mapping
import SynKitProofs.NetGraphAlg
import SynKitProofs.Core.Partition

/-! The connected-components model against its specification: `Conn nodes edges`, the reflexive-transitive closure
of the (symmetric) adjacency restricted to `nodes`.  Main results: `sameComp_iff`, `mem_components_iff`,
`components_cover`, `components_disjoint`, `components_nodup`, `components_sublist`, `components_flatten_perm`,
`compIndex_spec`, `compIndex_eq_iff`.

`labels` folds the same label merge over the edges as `NetGraphAlg.labelling`, on an association list instead of a
function (`step_graph`): `labels_eq` reads it as the graph of `labelling` over the edges that `step` does not ignore
(`netEdges`).
"Equal labels ⇔ connected" (`lab_eq_iff`) is then `NetGraphAlg.labelling_spec`, whose invariant (`merge_spec`,
`foldl_merge_spec`) is short because the labels are a function there.  Grouping the graph of a function by label is grouping its domain
by the function (`componentsOf_graph`), so the components are the classes of `Core/Partition.lean` over the first node of
every label (`components_eq`), and the partition facts are read off there; so is what an injective renumbering of the
nodes does (`components_map`). -/

namespace SynKit.GraphAlg
open Core.Partition

def Adj (nodes : List Nat) (edges : List (Nat × Nat)) (u v : Nat) : Prop :=
  u ∈ nodes ∧ v ∈ nodes ∧ ((u, v) ∈ edges ∨ (v, u) ∈ edges)

def Conn (nodes : List Nat) (edges : List (Nat × Nat)) (u v : Nat) : Prop :=
  Relation.ReflTransGen (Adj nodes edges) u v

theorem Adj.symm {nodes edges u v} (h : Adj nodes edges u v) : Adj nodes edges v u :=
  ⟨h.2.1, h.1, h.2.2.symm⟩

theorem Conn.refl {nodes edges} (u : Nat) : Conn nodes edges u u := Relation.ReflTransGen.refl

theorem Conn.trans {nodes edges u v w} (h₁ : Conn nodes edges u v) (h₂ : Conn nodes edges v w) :
    Conn nodes edges u w := Relation.ReflTransGen.trans h₁ h₂

theorem Conn.symm {nodes edges u v} (h : Conn nodes edges u v) : Conn nodes edges v u := by
  induction h with
  | refl => exact Relation.ReflTransGen.refl
  | tail _ hab ih => exact Relation.ReflTransGen.head hab.symm ih

theorem Conn.of_adj {nodes edges u v} (h : Adj nodes edges u v) : Conn nodes edges u v :=
  Relation.ReflTransGen.single h

theorem Conn.equivalence (nodes : List Nat) (edges : List (Nat × Nat)) :
    Equivalence (Conn nodes edges) :=
  ⟨Conn.refl, Conn.symm, Conn.trans⟩

theorem lookup_cons (x : Nat) (p : Nat × Nat) (L : List (Nat × Nat)) :
    lookup x (p :: L) = if p.1 = x then some p.2 else lookup x L := by
  simp only [lookup, beq_iff_eq]

/-- The association list of labels is a `Mapping`; its look-up lemmas are those of `Core/Mapping.lean`. -/
theorem lookup_eq_get? (x : Nat) (L : List (Nat × Nat)) : lookup x L = Match.Mapping.get? L x := by
  induction L with
  | nil => rfl
  | cons p rest ih => rw [lookup_cons, Match.Mapping.get?_cons, ih]

theorem mem_of_lookup {x l : Nat} {L : List (Nat × Nat)} (h : lookup x L = some l) :
    (x, l) ∈ L :=
  Match.Mapping.mem_of_get? ((lookup_eq_get? x L).symm.trans h)

theorem lookup_of_mem {x l : Nat} {L : List (Nat × Nat)} (hk : (L.map Prod.fst).Nodup)
    (h : (x, l) ∈ L) : lookup x L = some l :=
  (lookup_eq_get? x L).trans (Match.Mapping.get?_of_mem hk h)

theorem lookup_graph (f : Nat → Nat) (nodes : List Nat) (x : Nat) :
    lookup x (nodes.map fun n => (n, f n)) = if x ∈ nodes then some (f x) else none := by
  rw [lookup_eq_get?]
  exact Match.Mapping.get?_map_graph

theorem step_keys (L : List (Nat × Nat)) (e : Nat × Nat) :
    (step L e).map Prod.fst = L.map Prod.fst := by
  unfold step
  split
  · simp [List.map_map, Function.comp_def]
  · rfl

theorem step_some {L : List (Nat × Nat)} {e : Nat × Nat} {la lb : Nat}
    (ha : lookup e.1 L = some la) (hb : lookup e.2 L = some lb) :
    step L e = L.map fun p => (p.1, relabel la lb p.2) := by
  unfold step
  rw [ha, hb]

theorem step_none {L : List (Nat × Nat)} {e : Nat × Nat}
    (h : lookup e.1 L = none ∨ lookup e.2 L = none) : step L e = L := by
  unfold step
  split
  · rename_i la lb ha hb
    rcases h with h | h
    · rw [h] at ha; cases ha
    · rw [h] at hb; cases hb
  · rfl

/-- The edges `step` does not ignore, turned round: `step` renames the label of `e.1` into that of `e.2`, while
`NetGraphAlg.merge f u v` renames the label of `v` into that of `u`. -/
def netEdges (nodes : List Nat) (edges : List (Nat × Nat)) : NetGraphAlg.Edges :=
  (edges.filter fun e => decide (e.1 ∈ nodes ∧ e.2 ∈ nodes)).map fun e => (e.2, e.1)

/-- The labels as `NetGraphAlg` computes them. -/
abbrev lab (nodes : List Nat) (edges : List (Nat × Nat)) : Nat → Nat := NetGraphAlg.labelling (netEdges nodes edges)

theorem mem_netEdges {nodes : List Nat} {edges : List (Nat × Nat)} {a b : Nat} :
    (a, b) ∈ netEdges nodes edges ↔ (b, a) ∈ edges ∧ b ∈ nodes ∧ a ∈ nodes := by
  simp only [netEdges, List.mem_map, List.mem_filter, decide_eq_true_eq, Prod.mk.injEq]
  constructor
  · rintro ⟨⟨x, y⟩, ⟨he, hx, hy⟩, rfl, rfl⟩
    exact ⟨he, hx, hy⟩
  · rintro ⟨he, hb, ha⟩
    exact ⟨(b, a), ⟨he, hb, ha⟩, rfl, rfl⟩

theorem step_graph (nodes : List Nat) (g : Nat → Nat) (e : Nat × Nat) :
    step (nodes.map fun n => (n, g n)) e =
      nodes.map fun n => (n, (if e.1 ∈ nodes ∧ e.2 ∈ nodes then NetGraphAlg.merge g e.2 e.1 else g) n) := by
  by_cases h : e.1 ∈ nodes ∧ e.2 ∈ nodes
  · rw [if_pos h, step_some ((lookup_graph _ _ _).trans (if_pos h.1)) ((lookup_graph _ _ _).trans (if_pos h.2)),
      List.map_map]
    refine List.map_congr_left fun n _ => ?_
    simp only [Function.comp, NetGraphAlg.merge, relabel, beq_iff_eq]
  · rw [if_neg h]
    refine step_none ?_
    rw [lookup_graph, lookup_graph]
    exact (not_and_or.1 h).imp (if_neg ·) (if_neg ·)

theorem labels_eq (nodes : List Nat) (edges : List (Nat × Nat)) :
    labels nodes edges = nodes.map fun n => (n, lab nodes edges n) := by
  unfold lab NetGraphAlg.labelling netEdges
  rw [List.foldl_map, List.foldl_filter]
  simp only [decide_eq_true_eq]
  exact List.foldl_hom (fun g : Nat → Nat => nodes.map fun n => (n, g n)) fun g e => step_graph nodes g e

theorem lookup_labels (nodes : List Nat) (edges : List (Nat × Nat)) (x : Nat) :
    lookup x (labels nodes edges) =
      if x ∈ nodes then some (lab nodes edges x) else none := by
  rw [labels_eq]
  exact lookup_graph _ _ _

theorem labels_keys (nodes : List Nat) (edges : List (Nat × Nat)) :
    (labels nodes edges).map Prod.fst = nodes := by
  rw [labels_eq]
  exact Core.map_fst_graph nodes _

theorem conn_netEdges_iff (nodes : List Nat) (edges : List (Nat × Nat)) (u v : Nat) :
    NetGraphAlg.Conn (netEdges nodes edges) u v ↔ Conn nodes edges u v := by
  constructor
  · refine NetGraphAlg.Conn.minimal (Conn.equivalence nodes edges) fun e he => ?_
    obtain ⟨he, hb, ha⟩ := mem_netEdges.1 he
    exact Conn.of_adj ⟨ha, hb, Or.inr he⟩
  · refine Relation.reflTransGen_le_of_equivalence_of_le (NetGraphAlg.Conn.equivalence _) (fun w v hab => ?_) u v
    obtain ⟨hw, hv, he | he⟩ := hab
    · exact .symm (.edge (mem_netEdges.2 ⟨he, hw, hv⟩))
    · exact .edge (mem_netEdges.2 ⟨he, hv, hw⟩)

theorem lab_eq_iff (nodes : List Nat) (edges : List (Nat × Nat)) (u v : Nat) :
    lab nodes edges u = lab nodes edges v ↔ Conn nodes edges u v :=
  (NetGraphAlg.labelling_spec _ u v).trans (conn_netEdges_iff nodes edges u v)

theorem labels_spec (nodes : List Nat) (edges : List (Nat × Nat)) :
    ∀ u v, u ∈ nodes → v ∈ nodes →
      (lookup u (labels nodes edges) = lookup v (labels nodes edges) ↔ Conn nodes edges u v) := by
  intro u v hu hv
  rw [lookup_labels, lookup_labels, if_pos hu, if_pos hv, Option.some_inj, lab_eq_iff]

theorem mem_classOf {L : List (Nat × Nat)} {l v : Nat} : v ∈ classOf L l ↔ (v, l) ∈ L := by
  unfold classOf
  simp only [List.mem_map, List.mem_filter, beq_iff_eq]
  constructor
  · rintro ⟨⟨a, b⟩, ⟨hp, rfl⟩, rfl⟩
    exact hp
  · intro h
    exact ⟨(v, l), ⟨h, rfl⟩, rfl⟩

theorem mem_componentsOf {L : List (Nat × Nat)} {c : List Nat} :
    c ∈ componentsOf L ↔ ∃ p ∈ L, isFirst L p = true ∧ classOf L p.2 = c := by
  unfold componentsOf
  simp only [List.mem_map, List.mem_filter]
  constructor
  · rintro ⟨p, ⟨hp, hf⟩, rfl⟩; exact ⟨p, hp, hf, rfl⟩
  · rintro ⟨p, hp, hf, rfl⟩; exact ⟨p, ⟨hp, hf⟩, rfl⟩

theorem componentsOf_graph (f : Nat → Nat) (xs : List Nat) :
    componentsOf (xs.map fun n => (n, f n)) = classes f xs (xs.filter (isFirstKey f xs)) := by
  have h1 (n : Nat) : isFirst (xs.map fun n => (n, f n)) (n, f n) = isFirstKey f xs n := by
    simp only [isFirst, isFirstKey, List.find?_map, Function.comp_def]
    cases xs.find? (fun y => f y == f n) <;> simp
  have h2 (n : Nat) : classOf (xs.map fun n => (n, f n)) (f n) = Core.Partition.classOf f xs n := by
    simp [classOf, Core.Partition.classOf, List.filter_map, Function.comp_def]
  unfold componentsOf classes
  rw [List.filter_map, List.map_map]
  exact (List.map_congr_left fun n _ => h2 n).trans (congrArg _ (List.filter_congr fun n _ => h1 n))

theorem components_eq (nodes : List Nat) (edges : List (Nat × Nat)) :
    components nodes edges =
      classes (lab nodes edges) nodes (nodes.filter (isFirstKey (lab nodes edges) nodes)) := by
  unfold components
  rw [labels_eq, componentsOf_graph]

theorem sameComp_eq_true_iff (nodes : List Nat) (edges : List (Nat × Nat)) (u v : Nat) :
    sameComp nodes edges u v = true ↔ u ∈ nodes ∧ v ∈ nodes ∧ lab nodes edges u = lab nodes edges v := by
  unfold sameComp
  rw [lookup_labels, lookup_labels]
  by_cases hu : u ∈ nodes <;> by_cases hv : v ∈ nodes <;>
    simp [hu, hv, @eq_comm _ (lab nodes edges v) (lab nodes edges u)]

theorem sameComp_iff (nodes : List Nat) (edges : List (Nat × Nat)) (_hn : nodes.Nodup)
    (u v : Nat) (hu : u ∈ nodes) (hv : v ∈ nodes) :
    sameComp nodes edges u v = true ↔ Conn nodes edges u v := by
  rw [sameComp_eq_true_iff, lab_eq_iff]
  exact ⟨fun h => h.2.2, fun h => ⟨hu, hv, h⟩⟩

theorem sameComp_of_not_mem (nodes : List Nat) (edges : List (Nat × Nat)) (u v : Nat)
    (h : u ∉ nodes ∨ v ∉ nodes) : sameComp nodes edges u v = false := by
  rw [Bool.eq_false_iff, Ne, sameComp_eq_true_iff]
  exact fun ⟨hu, hv, _⟩ => h.elim (· hu) (· hv)

theorem mem_components_iff (nodes : List Nat) (edges : List (Nat × Nat)) (c : List Nat) (u : Nat)
    (hc : c ∈ components nodes edges) (hu : u ∈ c) (v : Nat) :
    v ∈ c ↔ (v ∈ nodes ∧ Conn nodes edges u v) := by
  rw [components_eq] at hc
  rw [mem_iff_of_mem_classes hc hu, lab_eq_iff]
  exact and_congr_right fun _ => ⟨Conn.symm, Conn.symm⟩

theorem components_cover (nodes : List Nat) (edges : List (Nat × Nat)) (hn : nodes.Nodup)
    (v : Nat) : v ∈ nodes ↔ ∃ c ∈ components nodes edges, v ∈ c := by
  rw [components_eq]; exact (reps_firsts hn).mem_iff

theorem components_ne_nil (nodes : List Nat) (edges : List (Nat × Nat)) (c : List Nat)
    (hc : c ∈ components nodes edges) : c ≠ [] :=
  ne_nil_of_mem_classes (fun _ hr => (List.mem_filter.1 hr).1) (components_eq nodes edges ▸ hc)

theorem components_sublist (nodes : List Nat) (edges : List (Nat × Nat)) :
    ∀ c ∈ components nodes edges, c.Sublist nodes :=
  fun _ hc => sublist_of_mem_classes (components_eq nodes edges ▸ hc)

theorem components_nodup (nodes : List Nat) (edges : List (Nat × Nat)) (hn : nodes.Nodup) :
    ∀ c ∈ components nodes edges, c.Nodup :=
  fun c hc => (components_sublist nodes edges c hc).nodup hn

theorem components_disjoint (nodes : List Nat) (edges : List (Nat × Nat)) (hn : nodes.Nodup) :
    (components nodes edges).Pairwise List.Disjoint := by
  rw [components_eq]; exact (reps_firsts hn).disjoint

theorem components_length_le (nodes : List Nat) (edges : List (Nat × Nat)) :
    (components nodes edges).length ≤ nodes.length := by
  rw [components_eq, length_classes]; exact List.length_filter_le _ _

theorem compIndex_spec (nodes : List Nat) (edges : List (Nat × Nat)) (hn : nodes.Nodup)
    (v i : Nat) :
    compIndex nodes edges v = some i ↔ ∃ c, (components nodes edges)[i]? = some c ∧ v ∈ c :=
  findIdx?_contains_eq_some (components_disjoint nodes edges hn) v i

theorem compIndex_eq_none_iff (nodes : List Nat) (edges : List (Nat × Nat)) (hn : nodes.Nodup)
    (v : Nat) : compIndex nodes edges v = none ↔ v ∉ nodes := by
  rw [components_cover nodes edges hn v, compIndex, List.findIdx?_eq_none_iff]
  simp

theorem compIndex_isSome (nodes : List Nat) (edges : List (Nat × Nat)) (hn : nodes.Nodup)
    (v : Nat) (hv : v ∈ nodes) : ∃ i, compIndex nodes edges v = some i :=
  Option.ne_none_iff_exists'.1 fun h => (compIndex_eq_none_iff nodes edges hn v).1 h hv

theorem compIndex_eq_iff (nodes : List Nat) (edges : List (Nat × Nat)) (hn : nodes.Nodup)
    (u v : Nat) (hu : u ∈ nodes) (hv : v ∈ nodes) :
    compIndex nodes edges u = compIndex nodes edges v ↔ Conn nodes edges u v := by
  obtain ⟨i, hi⟩ := compIndex_isSome nodes edges hn u hu
  obtain ⟨c, hc, huc⟩ := (compIndex_spec nodes edges hn u i).1 hi
  -- `v` has the index of `u` iff it lies in the component `c` of `u`
  rw [hi, eq_comm, compIndex_spec nodes edges hn v i, hc]
  simp only [Option.some.injEq, exists_eq_left',
    mem_components_iff nodes edges c u (List.mem_of_getElem? hc) huc v, hv, true_and]

theorem components_flatten_perm (nodes : List Nat) (edges : List (Nat × Nat)) (hn : nodes.Nodup) :
    (components nodes edges).flatten.Perm nodes := by
  rw [components_eq]; exact (reps_firsts hn).flatten_perm hn

/-- The order of NetworkX `connected_components`: by first node of each component. -/
theorem components_heads_sublist (nodes : List Nat) (edges : List (Nat × Nat)) :
    ((components nodes edges).filterMap List.head?).Sublist nodes := by
  rw [components_eq, heads_classes_firsts]; exact List.filter_sublist

theorem netEdges_map {f : Nat → Nat} (hf : Function.Injective f) (nodes : List Nat) (edges : List (Nat × Nat)) :
    netEdges (nodes.map f) (edges.map fun e => (f e.1, f e.2)) =
      (netEdges nodes edges).map fun e => (f e.1, f e.2) := by
  simp only [netEdges, List.filter_map, List.map_map, Function.comp_def, List.mem_map_of_injective hf]

/-- The components of a renumbered graph are the renumbered components (order included), for an injective
renumbering: the labels are renumbered (`NetGraphAlg.labelling_map`), so equal labels stay equal labels. -/
theorem components_map {f : Nat → Nat} (hf : Function.Injective f) (nodes : List Nat) (edges : List (Nat × Nat)) :
    components (nodes.map f) (edges.map fun e => (f e.1, f e.2)) = (components nodes edges).map (List.map f) := by
  rw [components_eq, components_eq]
  exact classes_firsts_map hf fun x y => by
    rw [lab, netEdges_map hf, NetGraphAlg.labelling_map hf, NetGraphAlg.labelling_map hf, hf.eq_iff]

example : components [3, 1, 2, 5] [(1, 2), (5, 5), (2, 1)] = [[3], [1, 2], [5]] := by decide +kernel
example : components [4, 0, 7, 2, 9] [(9, 4), (2, 0), (8, 7), (0, 2), (2, 2)]
    = [[4, 9], [0, 2], [7]] := by decide +kernel
example : components [] [(1, 2)] = [] := by decide +kernel
example : sameComp [3, 1, 2, 5] [(1, 2), (5, 5), (2, 1)] 2 1 = true := by decide +kernel
example : sameComp [3, 1, 2, 5] [(1, 2), (5, 5), (2, 1)] 3 1 = false := by decide +kernel
example : compIndex [3, 1, 2, 5] [(1, 2), (5, 5), (2, 1)] 5 = some 2 := by decide +kernel
example : compIndex [3, 1, 2, 5] [(1, 2), (5, 5), (2, 1)] 4 = none := by decide +kernel
example : Conn [3, 1, 2, 5] [(1, 2), (5, 5), (2, 1)] 2 1 :=
  (sameComp_iff _ _ (by decide) 2 1 (by decide) (by decide)).1 (by decide)
example : ¬ Conn [3, 1, 2, 5] [(1, 2), (5, 5), (2, 1)] 3 1 := fun h =>
  absurd ((sameComp_iff _ _ (by decide) 3 1 (by decide) (by decide)).2 h) (by decide)

end SynKit.GraphAlg
