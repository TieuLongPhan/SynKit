import SynKitModel.BatchCache
import SynKitProofs.ClusterLemmas
/-!
# Lemmas for C14

* The cache over a heap.  `Inv`: every entry pins the two objects it was computed from, so while the entry lives no
  other object can come to hold an identity of its key.  Every op keeps it (`inv_step`: `alloc` and `free` through
  `Inv.mono`, `call` through the case principle `step_call_ind`), and under it a call returns `f` of the contents the
  caller passes (`step_of_expected`).
* `fit`: one specification per loop (`allocAll_spec`, `callAll_spec`, `worker_spec`, `workers_spec`, `freeAll_inv`),
  each saying that the loop returns the uncached results and keeps `Inv`; `fit_spec` chains them.
* `dedupe = firstOccs`.
* The two models of `BatchCluster` (this one and C13's `SynKitModel/Cluster.lean`) agree: `libCheck_bridge`,
  `clusterBatch_bridge`, and for the one-shot path `oneShot_eq_seqCls` (`iterGo`, a filtering recursion, reads the
  sequential classification `Cluster.seqCls` as C13's `outer`/`inner` do, a round of it being `Cluster.seqTab_round`).
  Batched = one-shot is then C13's `clusterRun_contig`.
-/
namespace SynKit.BatchCache

variable {C R : Type}

theorem hget_cons (i : Id) (c : C) (h : List (Id × C)) (x : Id) :
    hget ((i, c) :: h) x = if i = x then some c else hget h x := rfl

theorem hget_cons_self (i : Id) (c : C) (h : List (Id × C)) : hget ((i, c) :: h) i = some c := if_pos rfl

theorem hget_filter_ne (h : List (Id × C)) (id x : Id) :
    hget (h.filter (fun p => p.1 != id)) x = if x = id then none else hget h x := by
  induction h with
  | nil => simp [hget]
  | cons p rest ih =>
    obtain ⟨i, c⟩ := p
    by_cases hi : i = id
    · subst hi
      simp only [List.filter_cons, bne_self_eq_false, Bool.false_eq_true, if_false, ih, hget]
      by_cases hx : x = i
      · simp [hx]
      · simp [hx, Ne.symm hx]
    · have : (i != id) = true := by simp [hi]
      simp only [List.filter_cons, this, if_true, hget, ih]
      by_cases hx : i = x
      · subst hx; simp [hi]
      · simp [hx]

theorem hget_some_mem (h : List (Id × C)) (x : Id) (c : C) (hx : hget h x = some c) : (x, c) ∈ h := by
  induction h with
  | nil => cases hx
  | cons p rest ih =>
    obtain ⟨i, c'⟩ := p
    rw [hget_cons] at hx
    split at hx
    · rename_i hi; exact hi ▸ Option.some.inj hx ▸ List.mem_cons_self ..
    · exact List.mem_cons_of_mem _ (ih hx)

theorem held_alive (s : State C R) (x : Id) (c : C) (h : hget s.heap x = some c) : x ∈ aliveIds s :=
  List.mem_append_left _ (List.mem_map_of_mem (f := (·.1)) (hget_some_mem _ _ _ h))

/-- An allocation reads the same at every live identity: the one handed out is none of them. -/
theorem hget_alloc {s : State C R} {id x : Id} (c : C) (hid : id ∉ aliveIds s) (hx : x ∈ aliveIds s) :
    hget ((id, c) :: s.heap) x = hget s.heap x := by
  rw [hget_cons, if_neg fun h : id = x => hid (h ▸ hx)]

theorem cget_some_mem (cache : List (Key × Entry C R)) (key : Key) (e : Entry C R)
    (h : cget cache key = some e) : (key, e) ∈ cache := by
  induction cache with
  | nil => cases h
  | cons p rest ih =>
    obtain ⟨k, e'⟩ := p
    rw [cget] at h
    split at h
    · rename_i hk; exact hk ▸ Option.some.inj h ▸ List.mem_cons_self ..
    · exact List.mem_cons_of_mem _ (ih h)

/-- Every cache entry holds the two objects it was computed from, its value is the pure
function of their contents, and any object the caller currently holds under one of the key
identities *is* that object (same content). -/
def Inv (f : C → C → Bool → R) (s : State C R) : Prop :=
  ∀ k e, (k, e) ∈ s.cache → ∃ cs cr, e.pins = some (cs, cr) ∧ e.val = f cs cr k.inv ∧
    (∀ c, hget s.heap k.sid = some c → c = cs) ∧ (∀ c, hget s.heap k.rid = some c → c = cr)

theorem inv_init (f : C → C → Bool → R) : Inv f ({} : State C R) := by
  intro k e h; simp at h

theorem Inv.mono {f : C → C → Bool → R} {s s' : State C R} (h : Inv f s)
    (hc : ∀ ke ∈ s'.cache, ke ∈ s.cache)
    (hh : ∀ x ∈ s.cache.flatMap entryPins, ∀ c, hget s'.heap x = some c → hget s.heap x = some c) :
    Inv f s' := by
  intro k e hm
  obtain ⟨cs, cr, hp, hv, h1, h2⟩ := h k e (hc _ hm)
  have hpin : ∀ x ∈ [k.sid, k.rid], x ∈ s.cache.flatMap entryPins := fun x hx =>
    List.mem_flatMap.2 ⟨(k, e), hc _ hm, by rw [entryPins, hp]; exact hx⟩
  exact ⟨cs, cr, hp, hv, fun c hc' => h1 c (hh _ (hpin _ (List.mem_cons_self ..)) c hc'),
    fun c hc' => h2 c (hh _ (hpin _ (List.mem_cons_of_mem _ (List.mem_cons_self ..))) c hc')⟩

/-- Case principle for `call`, so that no client unfolds `step`: the state is unchanged, or (a miss on
two held objects) cache entries are dropped and the entry computed from the two contents is appended. -/
theorem step_call_ind (f : C → C → Bool → R) (cfg : Config) (s : State C R) (sid rid : Id) (inv : Bool)
    (P : State C R → Prop) (h0 : P s)
    (h1 : ∀ cs cr l, hget s.heap sid = some cs → hget s.heap rid = some cr → (∀ ke ∈ l, ke ∈ s.cache) →
      P { s with cache := l ++ [(⟨sid, rid, inv⟩, mkEntry cfg cs cr (f cs cr inv))] }) :
    P (step f cfg s (.call sid rid inv)).1 := by
  simp only [step]
  split
  · rename_i cs cr hs hr
    split
    · exact h0
    · split
      · exact h0
      · split
        · split
          · exact h0
          · rename_i hcache
            exact h1 cs cr _ hs hr fun ke hke => hcache ▸ List.mem_cons_of_mem _ hke
        · exact h1 cs cr _ hs hr fun _ hke => hke
  · exact h0

theorem call_heap (f : C → C → Bool → R) (cfg : Config) (s : State C R) (sid rid : Id) (inv : Bool) :
    (step f cfg s (.call sid rid inv)).1.heap = s.heap :=
  step_call_ind f cfg s sid rid inv (·.heap = s.heap) rfl fun _ _ _ _ _ _ => rfl

theorem inv_step (f : C → C → Bool → R) (cfg : Config) (hpin : cfg.pin = true) (s : State C R)
    (op : Op C) (hinv : Inv f s) : Inv f (step f cfg s op).1 := by
  cases op with
  | alloc id c =>
    simp only [step]
    split
    · exact hinv
    · -- a pinned identity is alive
      rename_i hid
      refine hinv.mono (fun _ hke => hke) fun x hx c' hc' => ?_
      rwa [hget_alloc c hid (List.mem_append_right _ hx)] at hc'
  | free id =>
    simp only [step]
    split
    · refine hinv.mono (fun _ hke => hke) fun x _ c' hc' => ?_
      rw [hget_filter_ne] at hc'
      split at hc'
      · exact nomatch hc'
      · exact hc'
    · exact hinv
  | call sid rid inv =>
    refine step_call_ind f cfg s sid rid inv (Inv f) hinv fun cs cr l hs hr hl k e hm => ?_
    rcases List.mem_append.1 hm with hm | hm
    · exact hinv k e (hl _ hm)
    · -- the new entry pins the two objects it was computed from
      obtain ⟨rfl, rfl⟩ := Prod.mk.inj (List.mem_singleton.1 hm)
      exact ⟨cs, cr, by rw [mkEntry, if_pos hpin], rfl,
        fun c hc => Option.some.inj (hs ▸ hc).symm, fun c hc => Option.some.inj (hr ▸ hc).symm⟩

theorem inv_run (f : C → C → Bool → R) (cfg : Config) (hpin : cfg.pin = true) (s : State C R)
    (ops : List (Op C)) (hinv : Inv f s) : Inv f (run f cfg s ops) := by
  induction ops generalizing s with
  | nil => exact hinv
  | cons op ops ih => exact ih _ (inv_step f cfg hpin s op hinv)

/-- Under `Inv`, a step returns what the property demands (`expected`: `f` of the contents the caller passed). -/
theorem step_of_expected (f : C → C → Bool → R) (cfg : Config) (hsane : cfg.Sane) (s : State C R)
    (hinv : Inv f s) (op : Op C) (r : R) (h : expected f s op = some r) : (step f cfg s op).2 = .val r := by
  cases op with
  | call sid rid inv =>
    simp only [expected] at h
    split at h
    · rename_i cs cr hs hr
      cases h
      simp only [step, hs, hr]
      split
      · rfl
      · rename_i hon
        split
        · -- hit: the entry was computed from the very objects the caller holds
          rename_i e he
          obtain ⟨cs', cr', _, hv, h1, h2⟩ := hinv _ e (cget_some_mem _ _ _ he)
          rw [hv, ← h1 _ hs, ← h2 _ hr]
        · split
          · split
            · -- an empty cache is never full when its size is at least 1
              rename_i hge _ hnil
              have := hsane (by simpa using hon)
              rw [hnil] at hge
              exact absurd hge (by simp; omega)
            · rfl
          · rfl
    · cases h
  | _ => cases h

theorem step_call_spec (f : C → C → Bool → R) (cfg : Config) (hpin : cfg.pin = true) (hsane : cfg.Sane)
    (s : State C R) (hinv : Inv f s) (sid rid : Id) (inv : Bool) (cs cr : C)
    (hs : hget s.heap sid = some cs) (hr : hget s.heap rid = some cr) :
    ∃ s', step f cfg s (.call sid rid inv) = (s', .val (f cs cr inv)) ∧ Inv f s' ∧ s'.heap = s.heap :=
  ⟨_, Prod.ext rfl (step_of_expected f cfg hsane s hinv _ _ (by simp only [expected, hs, hr])),
    inv_step f cfg hpin s _ hinv, call_heap f cfg s sid rid inv⟩

section Dedupe
variable {S : Type} [DecidableEq S]

def firstOccs : List S → List S
  | [] => []
  | x :: xs => x :: (firstOccs xs).filter (fun y => y ≠ x)

theorem dedupeLoop_spec (seen out xs : List S) :
    dedupeLoop seen out xs = out ++ (firstOccs xs).filter (fun y => y ∉ seen) := by
  induction xs generalizing seen out with
  | nil => simp [dedupeLoop, firstOccs]
  | cons x xs ih =>
    simp only [dedupeLoop, firstOccs, List.filter_cons, List.filter_filter]
    by_cases hx : x ∈ seen
    · simp only [hx, if_true, ih, not_true_eq_false, decide_false, Bool.false_eq_true, if_false]
      congr 1; apply List.filter_congr; intro y _
      by_cases hy : y = x <;> simp [hy, hx]
    · simp only [hx, if_false, ih, not_false_eq_true, decide_true, if_true, List.append_assoc,
        List.singleton_append]
      congr 2; apply List.filter_congr; intro y _
      simp only [List.mem_cons, not_or, ne_eq, Bool.decide_and, Bool.and_comm]

theorem dedupe_eq_firstOccs (xs : List S) : dedupe xs = firstOccs xs := by
  rw [dedupe, dedupeLoop_spec, List.nil_append, List.filter_eq_self.2 (by simp)]

theorem mem_firstOccs (xs : List S) (y : S) : y ∈ firstOccs xs ↔ y ∈ xs := by
  induction xs with
  | nil => simp [firstOccs]
  | cons x xs ih =>
    simp only [firstOccs, List.mem_cons, List.mem_filter, ih]
    by_cases hy : y = x <;> simp [hy]

theorem firstOccs_nodup (xs : List S) : (firstOccs xs).Nodup := by
  induction xs with
  | nil => simp [firstOccs]
  | cons x xs ih =>
    simp only [firstOccs, List.nodup_cons, List.mem_filter]
    exact ⟨by simp, ih.filter _⟩

theorem firstOccs_sublist (xs : List S) : List.Sublist (firstOccs xs) xs := by
  induction xs with
  | nil => exact List.Sublist.slnil
  | cons x xs ih => exact (List.Sublist.trans List.filter_sublist ih).cons_cons x

theorem firstOccs_of_nodup (xs : List S) (h : xs.Nodup) : firstOccs xs = xs := by
  induction xs with
  | nil => rfl
  | cons x xs ih =>
    simp only [List.nodup_cons] at h
    simp only [firstOccs, ih h.2]
    congr 1
    rw [List.filter_eq_self]
    intro y hy
    have : y ≠ x := by rintro rfl; exact h.1 hy
    simp [this]

end Dedupe

section Fit
variable {S : Type}

def HeldH (heap : List (Id × C)) : List Id → List C → Prop
  | [], [] => True
  | id :: ids, c :: cs => hget heap id = some c ∧ HeldH heap ids cs
  | _, _ => False

def Held (s : State C (List S)) (rids : List Id) (rules : List C) : Prop := HeldH s.heap rids rules

theorem Held.mono {s s' : State C (List S)} (hm : ∀ x cx, hget s.heap x = some cx → hget s'.heap x = some cx)
    {rids : List Id} {rules : List C} (hh : Held s rids rules) : Held s' rids rules := by
  induction rids generalizing rules with
  | nil => cases rules <;> exact hh
  | cons id ids ih =>
    cases rules with
    | nil => exact hh
    | cons c cs => exact ⟨hm _ _ hh.1, ih hh.2⟩

theorem step_alloc_fresh (f : C → C → Bool → R) (cfg : Config) (s : State C R) (id : Id) (c : C)
    (h : id ∉ aliveIds s) : (step f cfg s (.alloc id c)).1 = { s with heap := (id, c) :: s.heap } := by
  simp [step, h]

theorem step_free_held (f : C → C → Bool → R) (cfg : Config) (s : State C R) (id : Id) (c : C)
    (h : hget s.heap id = some c) :
    (step f cfg s (.free id)).1 = { s with heap := s.heap.filter (fun p => p.1 != id) } := by
  simp [step, h]

theorem alloc_preserves (s : State C R) (id : Id) (c : C) (h : id ∉ aliveIds s) (x : Id) (cx : C)
    (hx : hget s.heap x = some cx) : hget ((id, c) :: s.heap) x = some cx :=
  (hget_alloc c h (held_alive s x cx hx)).trans hx

/-! The standing assumptions of `batch_eq_single` come in where they are first needed: the repaired
cache (`hpin`), of size at least 1 or switched off (`hsane`), and an allocator that never hands out
the identity of a live object (`hpick`). -/
variable (f : C → C → Bool → List S) (cfg : Config) (hpin : cfg.pin = true)
include hpin

theorem freeAll_inv (ids : List Id) (s : State C (List S)) (hinv : Inv f s) :
    Inv f (freeAll f cfg s ids) := by
  induction ids generalizing s with
  | nil => exact hinv
  | cons id ids ih => exact ih _ (inv_step f cfg hpin s _ hinv)

theorem allocAll_spec (pick : State C (List S) → Id) (hpick : ValidAlloc pick) (rules : List C)
    (s : State C (List S)) (hinv : Inv f s) :
    Inv f (allocAll f cfg pick s rules).1 ∧
      Held (allocAll f cfg pick s rules).1 (allocAll f cfg pick s rules).2 rules ∧
      ∀ x cx, hget s.heap x = some cx → hget (allocAll f cfg pick s rules).1.heap x = some cx := by
  induction rules generalizing s with
  | nil => exact ⟨hinv, trivial, fun _ _ h => h⟩
  | cons c cs ih =>
    obtain ⟨i1, i2, i3⟩ := ih _ (inv_step f cfg hpin s (.alloc (pick s) c) hinv)
    simp only [allocAll]
    rw [step_alloc_fresh f cfg s _ c (hpick s)] at i1 i2 i3 ⊢
    exact ⟨i1, ⟨i3 _ _ (hget_cons_self ..), i2⟩,
      fun x cx hx => i3 x cx (alloc_preserves s _ c (hpick s) x cx hx)⟩

variable (hsane : cfg.Sane)
include hsane

theorem callAll_spec (sid : Id) (c : C) (inv : Bool) (rids : List Id) (rules : List C)
    (s : State C (List S)) (hinv : Inv f s) (hs : hget s.heap sid = some c) (hh : Held s rids rules) :
    ∃ s', callAll f cfg s sid inv rids = (s', .ok (rules.map (fun r => f c r inv))) ∧
      Inv f s' ∧ s'.heap = s.heap := by
  induction rids generalizing s rules with
  | nil =>
    cases rules with
    | nil => exact ⟨s, rfl, hinv, rfl⟩
    | cons _ _ => exact hh.elim
  | cons rid rids ih =>
    cases rules with
    | nil => exact hh.elim
    | cons cr rules =>
      obtain ⟨s1, hstep, hinv1, hheap1⟩ :=
        step_call_spec f cfg hpin hsane s hinv sid rid inv c cr hs hh.1
      obtain ⟨s2, hrest, hinv2, hheap2⟩ := ih rules s1 hinv1 (hheap1 ▸ hs)
        (Held.mono (s := s) (fun _ _ h => hheap1 ▸ h) hh.2)
      exact ⟨s2, by simp only [callAll, hstep, hrest, List.map_cons], hinv2, hheap2.trans hheap1⟩

variable [DecidableEq S] (dd : Bool) (pick : State C (List S) → Id) (hpick : ValidAlloc pick)
include hpick

theorem worker_spec (rids : List Id) (rules : List C) (inv : Bool) (s : State C (List S)) (c : C)
    (hinv : Inv f s) (hh : Held s rids rules) :
    ∃ s', worker f cfg dd pick rids inv s c = (s', .ok (single f dd rules inv c)) ∧
      Inv f s' ∧ s'.heap = s.heap := by
  have hal := step_alloc_fresh f cfg s _ c (hpick s)
  have hinv1 := inv_step f cfg hpin s (.alloc (pick s) c) hinv
  rw [hal] at hinv1
  obtain ⟨s2, hca, hinv2, hheap2⟩ := callAll_spec f cfg hpin hsane (pick s) c inv rids rules _ hinv1
    (hget_cons_self ..) (Held.mono (s := s) (alloc_preserves s _ c (hpick s)) hh)
  have hfree := step_free_held f cfg s2 (pick s) c (hheap2 ▸ hget_cons_self ..)
  refine ⟨_, by simp only [worker, hal, hca]; rfl, inv_step f cfg hpin s2 _ hinv2, ?_⟩
  -- releasing the substrate undoes its allocation: no other held object has its identity
  rw [hfree, hheap2]
  show ((pick s, c) :: s.heap).filter (fun p => p.1 != pick s) = s.heap
  rw [List.filter_cons_of_neg (by simp), List.filter_eq_self]
  exact fun p hp => by
    simpa using fun e : p.1 = pick s => hpick s (e ▸ List.mem_append_left _ (List.mem_map_of_mem hp))

theorem workers_spec (rids : List Id) (rules : List C) (inv : Bool) (batch : List C)
    (s : State C (List S)) (hinv : Inv f s) (hh : Held s rids rules) :
    ∃ s', workers f cfg dd pick rids inv s batch = (s', .ok (batch.map (single f dd rules inv))) ∧
      Inv f s' := by
  induction batch generalizing s with
  | nil => exact ⟨s, rfl, hinv⟩
  | cons c cs ih =>
    obtain ⟨s1, hw, hinv1, hh1⟩ := worker_spec f cfg hpin hsane dd pick hpick rids rules inv s c hinv hh
    obtain ⟨s2, hws, hinv2⟩ := ih s1 hinv1 (hh.mono fun _ _ h => hh1 ▸ h)
    exact ⟨s2, by simp only [workers, hw, hws, List.map_cons], hinv2⟩

theorem fit_spec (s : State C (List S)) (hinv : Inv f s) (batch rules : List C) (inv : Bool) :
    (fit f cfg dd pick s batch rules inv).2 = .ok (batch.map (single f dd rules inv)) ∧
      Inv f (fit f cfg dd pick s batch rules inv).1 := by
  obtain ⟨a1, a2, _⟩ := allocAll_spec f cfg hpin pick hpick rules s hinv
  obtain ⟨s2, hw, hinv2⟩ := workers_spec f cfg hpin hsane dd pick hpick _ rules inv batch _ a1 a2
  have hfit : fit f cfg dd pick s batch rules inv =
      (freeAll f cfg s2 (allocAll f cfg pick s rules).2, .ok (batch.map (single f dd rules inv))) := by
    simp only [fit, hw]
  rw [hfit]
  exact ⟨rfl, freeAll_inv f cfg hpin _ s2 hinv2⟩

end Fit

/-- The two chunkings are the same function (`isEmpty` test against pattern match). -/
theorem chunksAux_eq {α : Type} (k fuel : Nat) (xs : List α) : chunksAux k fuel xs = Cluster.chunks k fuel xs := by
  induction fuel generalizing xs with
  | zero => rfl
  | succ n ih => cases xs <;> simp [chunksAux, Cluster.chunks, ih]

theorem chunks_flatten {α : Type} (k : Nat) (hk : 0 < k) (xs : List α) : (chunks k xs).flatten = xs := by
  rw [chunks, chunksAux_eq]; exact Cluster.chunks_flatten k hk _ _ (Nat.le_refl _)

section Cluster
variable {α A : Type} [DecidableEq A] (attr : α → A) (iso : α → α → Bool)

theorem clusterBatch_append (ts : List (α × Nat)) (xs ys : List α) :
    clusterBatch attr iso ts (xs ++ ys) =
      ((clusterBatch attr iso ts xs).1 ++ (clusterBatch attr iso (clusterBatch attr iso ts xs).2 ys).1,
       (clusterBatch attr iso (clusterBatch attr iso ts xs).2 ys).2) := by
  induction xs generalizing ts with
  | nil => simp [clusterBatch]
  | cons x xs ih => simp [clusterBatch, ih]

theorem clusterBatches_eq (ts : List (α × Nat)) (bs : List (List α)) :
    clusterBatches attr iso ts bs = clusterBatch attr iso ts bs.flatten := by
  induction bs generalizing ts with
  | nil => simp [clusterBatches, clusterBatch]
  | cons b bs ih => simp [clusterBatches, ih, clusterBatch_append]

/-- A template of the C14 model as a template of the C13 model. -/
def toT (t : α × Nat) : Cluster.Tmpl α := ⟨t.1, t.2⟩

theorem nextClass_eq (ts : List (α × Nat)) : Int.ofNat (nextClass ts) = Cluster.newClass (ts.map toT) := by
  cases ts with
  | nil => rfl
  | cons t ts =>
    simp only [nextClass, Cluster.newClass, List.map_cons, List.foldl_cons, List.map_map, List.foldl_map,
      Function.comp_def]
    -- the first class absorbs the default `-1`, and `Int.ofNat` goes through the running maximum
    have h0 : max (-1 : Int) (toT t).cls = Int.ofNat t.2 := by simp only [toT, Int.ofNat_eq_natCast]; omega
    have hmax (a : Nat) (y : α × Nat) : max (Int.ofNat a) (toT y).cls = Int.ofNat (max a y.2) := by
      simp only [toT, Int.ofNat_eq_natCast]; omega
    rw [h0, List.foldl_hom Int.ofNat (g₂ := fun a y => max a (toT y).cls) hmax]
    rfl

theorem libCheck_bridge (ts : List (α × Nat)) (x : α) :
    Cluster.libCheck iso attr x (ts.map toT) =
      (Int.ofNat (libCheck attr iso ts x).1, (libCheck attr iso ts x).2.map toT) := by
  have hfind : ((ts.map toT).filter fun t => attr t.item = attr x).find? (fun t => iso t.item x) =
      ((ts.filter fun t => attr t.1 = attr x).find? fun t => iso t.1 x).map toT := by
    rw [List.filter_map, List.find?_map]; rfl
  unfold Cluster.libCheck libCheck
  rw [hfind]
  cases (ts.filter fun t => attr t.1 = attr x).find? fun t => iso t.1 x with
  | some t => rfl
  | none => simp only [Option.map_none, ← nextClass_eq, List.map_append, List.map_cons, List.map_nil]; rfl

theorem clusterBatch_bridge (xs : List α) : ∀ ts : List (α × Nat),
    Cluster.clusterRun iso attr xs (ts.map toT) =
      ((clusterBatch attr iso ts xs).1.map Int.ofNat, (clusterBatch attr iso ts xs).2.map toT) := by
  induction xs with
  | nil => exact fun _ => rfl
  | cons x xs ih =>
    intro ts
    rw [Cluster.clusterRun, libCheck_bridge, ih]; rfl

theorem enumFrom_eq (i : Nat) (xs : List α) : enumFrom i xs = Cluster.enumFrom i xs := by
  induction xs generalizing i with
  | nil => rfl
  | cons x xs ih => rw [enumFrom, Cluster.enumFrom, ih]

theorem lookupIdx_eq_dictGet (j : Nat) (L : List ((Nat × α) × Nat)) :
    lookupIdx j L = Cluster.dictGet (L.map fun q => (q.1.1, q.2)) j := by
  induction L with
  | nil => rfl
  | cons q L ih => obtain ⟨⟨i, a⟩, c⟩ := q; simp only [lookupIdx, List.map_cons, Cluster.dictGet, ih]

/-- `iterGo` opens a class at the head of the pending list, puts into it what the head matches and goes on with
the rest: `Cluster.seqTab_round`. -/
theorem iterGo_perm_seqTab : ∀ (fuel k : Nat) (U : List (Nat × α)), U.length ≤ fuel →
    ((iterGo attr iso fuel k U).map fun q => (q.1.1, q.2)).Perm
      ((Cluster.seqTab iso attr [] U).map fun q => (q.1, q.2 + k)) := by
  intro fuel
  induction fuel with
  | zero => intro k U h; rw [List.length_eq_zero_iff.1 (Nat.le_zero.1 h)]; exact List.Perm.refl _
  | succ fuel ih =>
    intro k U h
    cases U with
    | nil => exact List.Perm.refl _
    | cons p rest =>
      obtain ⟨i, x⟩ := p
      have hlen : (rest.filter fun jt => !Cluster.matchB iso attr x jt.2).length ≤ fuel :=
        Nat.le_trans (List.length_filter_le _ _) (Nat.le_of_succ_le_succ h)
      simp only [iterGo, List.map_cons, List.map_append, List.map_map, Function.comp_def]
      exact (List.Perm.cons _ ((ih (k + 1) _ hlen).append_left _)).trans (Cluster.seqTab_round iso attr i x rest k).symm

theorem oneShot_eq_seqCls (xs : List α) : oneShot attr iso xs = (Cluster.seqCls iso attr [] xs).map some := by
  have h := iterGo_perm_seqTab attr iso xs.length 0 (enumFrom 0 xs)
    (by rw [enumFrom_eq, ← List.length_map (f := (·.1)), Cluster.enumFrom_map_fst, List.length_range']; exact Nat.le_refl _)
  simp only [Nat.add_zero, List.map_id', enumFrom_eq] at h
  have hlook (j) := (lookupIdx_eq_dictGet j _).trans (Cluster.dictGet_of_perm_seqTab iso attr xs h j)
  unfold oneShot
  simp only [hlook, enumFrom_eq]
  rw [show (Cluster.enumFrom 0 xs).map (fun jt => (Cluster.seqCls iso attr [] xs)[jt.1]?) =
      ((Cluster.enumFrom 0 xs).map (·.1)).map (fun j => (Cluster.seqCls iso attr [] xs)[j]?) from (List.map_map ..).symm,
    Cluster.enumFrom_map_fst, ← Cluster.seqCls_length iso attr xs [], ← List.range_eq_range']
  apply List.ext_getElem <;> simp

theorem oneShot_eq_clusterBatch (xs : List α) :
    oneShot attr iso xs = (clusterBatch attr iso [] xs).1.map some := by
  have h := congrArg Prod.fst (clusterBatch_bridge attr iso xs [])
  rw [List.map_nil, Cluster.clusterRun_contig iso attr xs [] rfl, List.map_nil] at h
  rw [oneShot_eq_seqCls, List.map_injective_iff.2 (fun _ _ => Int.ofNat_inj.1) h]

/-- `h`: the one-shot branch, when it is taken (one batch, no templates), has data and uses the
configured matcher. -/
theorem fitBatches_eq_clusterBatch (isoOne : α → α → Bool) (ts : List (α × Nat)) (bs : List (List α))
    (h : ts ≠ [] ∨ (bs.flatten ≠ [] ∧ isoOne = iso)) :
    fitBatches attr iso isoOne ts bs = .ok ((clusterBatch attr iso ts bs.flatten).1.map some) := by
  unfold fitBatches
  split
  · rename_i b
    rw [List.flatten_singleton] at h ⊢
    split
    · rename_i hts
      obtain ⟨hb, rfl⟩ := h.resolve_left (fun h' => h' (List.isEmpty_iff.1 hts))
      rw [if_neg (by rwa [List.isEmpty_iff]), oneShot_eq_clusterBatch, List.isEmpty_iff.1 hts]
    · rfl
  · rw [clusterBatches_eq]

theorem fitClasses_eq_clusterBatch (isoOne : α → α → Bool) (xs : List α) (ts : List (α × Nat))
    (h : ts ≠ [] ∨ (xs ≠ [] ∧ isoOne = iso)) (batchSize : Option Int) (hk : ∀ k, batchSize = some k → 1 ≤ k) :
    fitClasses attr iso isoOne xs ts batchSize = .ok ((clusterBatch attr iso ts xs).1.map some) := by
  unfold fitClasses
  split
  · rw [fitBatches_eq_clusterBatch attr iso isoOne ts [xs] (by rwa [List.flatten_singleton]),
      List.flatten_singleton]
  · rename_i k
    have := hk k rfl
    have hflat := chunks_flatten k.toNat (by omega) xs
    rw [if_neg (by omega), fitBatches_eq_clusterBatch attr iso isoOne ts _ (by rwa [hflat]), hflat]
end Cluster

end SynKit.BatchCache
