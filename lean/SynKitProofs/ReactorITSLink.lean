import SynKitProofs.ReactorLink
import SynKitProofs.ITSRcLemmas
import SynKitProofs.Props.C01
import SynKitProofs.Props.C02
import SynKitProofs.SubgraphSearchLemmas
import SynKitProofs.Core.Dict
/-!
Ties the ITS family (C01/C02: `ITS.construct`, `ITS.getRc`) to the reactor family (C03/C04).
`ReactorLink.OwnTemplate G I T` is split into a part about the reaction (`ReactionOf G I`, `StrongLab G I`)
and a part about the template as a sub-ITS (`SubITS T I`); `construct o G H` of a balanced pair
(`RxnPairW G H`) is a `ReactionOf G`; the full ITS, its centre and their `_invert_template` are `SubITS`; the
reactant side of the full ITS has the components of the reactant graph.
`coreProj` / `fixI` compare reactions up to the product-side aromatic flag and `neighbors` entry, which
`_node_glue` cannot reproduce.
-/
namespace SynKit.ReactorLink
open SynKit.Match SynKit.Reactor SynKit.ReactorInv

/-- `I` is (the ITS of) a reaction whose reactant graph is `G`.  The product-side aromatic flag and
`neighbors` entry are free here; `StrongLab` pins them to `G`'s (gap (i) of `glue_own_template_partial`). -/
structure ReactionOf (G I : LGraph) : Prop where
  hG : WFHost G
  hI : I.WF
  ids : ∀ v, v ∈ I.ids ↔ v ∈ G.ids
  len : I.nodes.length = G.nodes.length
  hnum : ∀ v ∈ G.ids, pyGet (G.attrs v) "hcount" (.num 0) = .num (numOf (pyGet (G.attrs v) "hcount" (.num 0)))
  keys : ∀ v ∈ G.ids, hasKey (G.attrs v) "element" = true ∧ hasKey (G.attrs v) "charge" = true
  lab : ∀ v ∈ G.ids, ∃ hp cp ar nb, Attrs.get (I.attrs v) "typesGH" =
      .tup [gSide (G.attrs v), .tup [pyGet (G.attrs v) "element" (.str "*"), ar, .num hp, cp, nb]]
  ordKey : ∀ e0 ∈ G.edges, hasKey e0.2.2 "order" = true
  gE : ∀ e0 ∈ G.edges, ∃ a y, I.edge? e0.1 e0.2.1 = some a ∧
      Attrs.get a "order" = .tup [pyGet e0.2.2 "order" (.num 2), y]
  iE : ∀ e ∈ I.edges, ∃ x y, Attrs.get e.2.2 "order" = .tup [x, y] ∧
      (G.hasEdge e.1 e.2.1 = true → x ≠ .num 0) ∧ (G.hasEdge e.1 e.2.1 = false → x = .num 0 ∧ y ≠ .num 0)

/-- The product-side label keeps the substrate's aromatic flag and `neighbors` entry (what
`OwnTemplate.lab` asks: `_node_glue` copies both from the substrate). -/
def StrongLab (G I : LGraph) : Prop :=
  ∀ v ∈ G.ids, ∃ hp cp, Attrs.get (I.attrs v) "typesGH" =
      .tup [gSide (G.attrs v),
            .tup [pyGet (G.attrs v) "element" (.str "*"), pyGet (G.attrs v) "aromatic" (.bool false), .num hp, cp,
                  pyGet (G.attrs v) "neighbors" (.tup [])]]

/-- `T` is a template cut out of the reaction `I`.  `lab` compares element, hydrogen count and charge
(fields 0, 2, 3) only; `chg`: `T` contains every changed bond of `I`. -/
structure SubITS (T I : LGraph) : Prop where
  hT : WFTemplate T
  ids : ∀ v ∈ T.ids, v ∈ I.ids
  lab : ∀ v ∈ T.ids, ∀ s i, (s = 0 ∨ s = 1) → (i = 0 ∨ i = 2 ∨ i = 3) →
      tgField (T.attrs v) s i = tgField (I.attrs v) s i
  edge : ∀ te ∈ T.edges, ∃ a, I.edge? te.1 te.2.1 = some a ∧ Attrs.get a "order" = Attrs.get te.2.2 "order"
  chg : ∀ e ∈ I.edges, ordAt e.2.2 0 ≠ ordAt e.2.2 1 → T.hasEdge e.1 e.2.1 = true

theorem ReactionOf.order_at {G I : LGraph} (hR : ReactionOf G I) {u v : Nat} {a : Attrs}
    (ha : I.edge? u v = some a) :
    (G.hasEdge u v = true → ∃ e0 ∈ G.edges, ((e0.1 = u ∧ e0.2.1 = v) ∨ (e0.1 = v ∧ e0.2.1 = u)) ∧
        ordAt a 0 = pyGet e0.2.2 "order" (.num 2) ∧ ordAt a 0 ≠ .num 0) ∧
      (G.hasEdge u v = false → ordAt a 0 = .num 0 ∧ ordAt a 1 ≠ .num 0) := by
  obtain ⟨eI, heI, rfl, hend⟩ := LGraph.edge?_some_mem ha
  obtain ⟨x, y, hxy, h1, h0⟩ := hR.iE eI heI
  obtain ⟨rfl, rfl⟩ := ordAt_of_order hxy
  rw [LGraph.hasEdge_of_joins hend] at h1 h0
  refine ⟨fun hg => ?_, h0⟩
  obtain ⟨e0, he0, hend0⟩ := LGraph.hasEdge_iff.1 hg
  obtain ⟨a', y, ha', hord⟩ := hR.gE e0 he0
  rw [LGraph.edge?_of_mem hR.hI heI (LGraph.joins_trans hend (LGraph.joins_symm hend0))] at ha'
  cases ha'
  exact ⟨e0, he0, hend0, (ordAt_of_order hord).1, h1 hg⟩

theorem ownTemplate_of_sub (G I T : LGraph) (hRe : ReactionOf G I) (hlabS : StrongLab G I) (hS : SubITS T I) :
    OwnTemplate G I T := by
  obtain ⟨hT, hTids, hTlab, hTedge, hTchg⟩ := hS
  have hI0 : ∀ v ∈ G.ids, tgField (I.attrs v) 0 0 = pyGet (G.attrs v) "element" (.str "*") ∧
      tgField (I.attrs v) 0 2 = pyGet (G.attrs v) "hcount" (.num 0) ∧
      tgField (I.attrs v) 0 3 = pyGet (G.attrs v) "charge" (.num 0) := by
    intro v hv
    obtain ⟨hp, cp, ar, nb, hl⟩ := hRe.lab v hv
    exact ⟨tgField_of hl 0 0, tgField_of hl 0 2, tgField_of hl 0 3⟩
  refine
    { hG := hRe.hG, hT := hT, hI := hRe.hI, hid := ?_, ids := hRe.ids, len := hRe.len, hnum := hRe.hnum, lab := hlabS,
      tpl := ?_, gEdge := ?_, iEdge := ?_, tEdge := ?_ }
  · rw [show idMap T = idMap (left T) by rw [idMap, idMap, left_ids T hT]]
    refine isMono_idMap (left_wf T hT) ⟨fun v hv => ?_, fun e he => ?_⟩
    · rw [left_ids T hT] at hv
      have hvG : v ∈ G.ids := (hRe.ids v).1 (hTids v hv)
      refine ⟨hvG, ?_⟩
      have hl := left_attrs_get T hT v hv
      have hh := left_attrs_hcount T hT v hv
      have e1 : Attrs.get (G.attrs v) "element" = Attrs.get ((left T).attrs v) "element" := by
        rw [hl.1, hTlab v hv 0 0 (Or.inl rfl) (Or.inl rfl), (hI0 v hvG).1, pyGet_of_hasKey _ _ _ (hRe.keys v hvG).1]
      have e2 : Attrs.get (G.attrs v) "charge" = Attrs.get ((left T).attrs v) "charge" := by
        rw [hl.2, hTlab v hv 0 3 (Or.inl rfl) (Or.inr (Or.inr rfl)), (hI0 v hvG).2.2, pyGet_of_hasKey _ _ _ (hRe.keys v hvG).2]
      have e3 : hcountOf ((left T).attrs v) = hcountOf (G.attrs v) := by
        rw [hcountOf_eq, hcountOf_eq, hh, hTlab v hv 0 2 (Or.inl rfl) (Or.inr (Or.inl rfl)), (hI0 v hvG).2.1,
          numOf_pyGet_zero]
      exact (nodeOk_monoSel _ _).2 ⟨⟨e1, e2⟩, le_of_eq e3⟩
    · obtain ⟨te, hte, hkey, hpos, rfl⟩ := (mem_left_edges T e).1 he
      obtain ⟨a, ha, hord⟩ := hTedge te hte
      have hx : ordAt te.2.2 0 = ordAt a 0 := congrArg (tupGet · 0) hord.symm
      -- the bond of `I` under `te` has a positive reactant order, so it lies on a bond of `G`
      have hgE' : G.hasEdge te.1 te.2.1 = true := by
        cases hh : G.hasEdge te.1 te.2.1 with
        | true => rfl
        | false => rw [hx, ((hRe.order_at ha).2 hh).1] at hpos; exact absurd hpos (by decide)
      obtain ⟨e0, he0, hend0, hy, _⟩ := (hRe.order_at ha).1 hgE'
      refine ⟨e0.2.2, LGraph.edge?_of_mem hRe.hG.1 he0 hend0, (edgeOk_monoSel _ _).2 ?_⟩
      rw [Attrs.get_cons, if_pos rfl, hx, hy, pyGet_of_hasKey _ _ _ (hRe.ordKey e0 he0)]
  · intro v hv
    unfold hR hL
    rw [hTlab v hv 1 2 (Or.inr rfl) (Or.inr (Or.inl rfl)), hTlab v hv 0 2 (Or.inl rfl) (Or.inr (Or.inl rfl)),
      hTlab v hv 1 3 (Or.inr rfl) (Or.inr (Or.inr rfl))]
    exact ⟨rfl, rfl⟩
  · intro e0 he0
    obtain ⟨a, y, ha, hord⟩ := hRe.gE e0 he0
    refine ⟨a, ha, fun hno => ?_⟩
    obtain ⟨eI, heI, rfl, hendI⟩ := LGraph.edge?_some_mem ha
    by_cases hch : ordAt eI.2.2 0 = ordAt eI.2.2 1
    · rw [(ordAt_of_order hord).1, (ordAt_of_order hord).2] at hch
      rw [hord, ← hch]
    · exfalso
      obtain ⟨te, hte, hendt⟩ := LGraph.hasEdge_iff.1 (hTchg eI heI hch)
      obtain ⟨q1, q2, _⟩ := hT.1.2.1 te hte
      have := hno te hte
      have hl : landsOn (idMap T) te e0.1 e0.2.1 = true := by
        rw [landsOn_idMap T te q1 q2]
        exact LGraph.joins_trans hendt hendI
      rw [hl] at this; cases this
  · intro e he
    cases hh : G.hasEdge e.1 e.2.1 with
    | true => exact Or.inl rfl
    | false =>
      obtain ⟨x, y, hxy, -, hg0⟩ := hRe.iE e he
      obtain ⟨rfl, rfl⟩ := ordAt_of_order hxy
      exact Or.inr (hTchg e he (by rw [(hg0 hh).1]; exact fun h => (hg0 hh).2 h.symm))
  · intro te hte
    obtain ⟨a, ha, hord⟩ := hTedge te hte
    refine ⟨a, ha, hord, fun hg => ?_⟩
    obtain ⟨_, _, _, _, hx0⟩ := (hRe.order_at ha).1 hg
    rwa [show ordAt te.2.2 0 = ordAt a 0 from congrArg (tupGet · 0) hord.symm]

/-- A balanced mapped reaction at graph level — hypotheses on the two molecule graphs only: both as
`rsmi_to_graph` produces them (`ITS.MolWF`) on the same atoms (`ITS.SameNodes`), no `typesGH` yet, every
atom keeps its element (a string other than the wildcard), hydrogen counts are numbers, every atom
carries a `neighbors` entry. -/
structure RxnPairW (G H : LGraph) : Prop where
  molG : ITS.MolWF G
  molH : ITS.MolWF H
  same : ITS.SameNodes G H
  noTgG : ∀ p ∈ G.nodes, hasKey p.2 "typesGH" = false
  noTgH : ∀ p ∈ H.nodes, hasKey p.2 "typesGH" = false
  elem : ∀ v ∈ G.ids, ∃ s, s ≠ "*" ∧ Dict.get? (G.attrs v) "element" = some (.str s) ∧
      Dict.get? (H.attrs v) "element" = some (.str s)
  hcnt : ∀ v ∈ G.ids, (∃ h, Dict.get? (G.attrs v) "hcount" = some (.num h)) ∧
      ∃ h, Dict.get? (H.attrs v) "hcount" = some (.num h)
  nbKey : ∀ v ∈ G.ids, (∃ nb, Dict.get? (G.attrs v) "neighbors" = some nb) ∧
      ∃ nb, Dict.get? (H.attrs v) "neighbors" = some nb

/-- … in which, moreover, no atom changes its aromatic flag or its `neighbors` entry — gap (i) of
`glue_own_template_partial`: `_node_glue` copies both from the substrate, so the glued ITS carries the
substrate's values on the product side whatever the reaction does. -/
structure RxnPair (G H : LGraph) : Prop extends RxnPairW G H where
  arom : ∀ v ∈ G.ids, Dict.get? (H.attrs v) "aromatic" = Dict.get? (G.attrs v) "aromatic"
  nbrs : ∀ v ∈ G.ids, Dict.get? (H.attrs v) "neighbors" = Dict.get? (G.attrs v) "neighbors"

theorem RxnPairW.symm {G H : LGraph} (h : RxnPairW G H) : RxnPairW H G where
  molG := h.molH
  molH := h.molG
  same := fun n => (h.same n).symm
  noTgG := h.noTgH
  noTgH := h.noTgG
  elem := fun v hv => by
    obtain ⟨s, a, b, c⟩ := h.elem v ((h.same v).2 hv); exact ⟨s, a, c, b⟩
  hcnt := fun v hv => ((h.hcnt v ((h.same v).2 hv))).symm
  nbKey := fun v hv => ((h.nbKey v ((h.same v).2 hv))).symm

/-- `RxnPairW` from the parts that evaluation decides; the element and the two hydrogen counts of every atom are given. -/
theorem RxnPairW.of_atoms {G H : LGraph} (molG : ITS.MolWF G) (molH : ITS.MolWF H) (same : ITS.SameNodes G H)
    (noTgG : ∀ p ∈ G.nodes, hasKey p.2 "typesGH" = false) (noTgH : ∀ p ∈ H.nodes, hasKey p.2 "typesGH" = false)
    (el : Nat → String) (hg hh : Nat → Int)
    (h : ∀ v ∈ G.ids, el v ≠ "*" ∧ Dict.get? (G.attrs v) "element" = some (.str (el v)) ∧
      Dict.get? (H.attrs v) "element" = some (.str (el v)) ∧ Dict.get? (G.attrs v) "hcount" = some (.num (hg v)) ∧
      Dict.get? (H.attrs v) "hcount" = some (.num (hh v)) ∧ (Dict.get? (G.attrs v) "neighbors").isSome = true ∧
      (Dict.get? (H.attrs v) "neighbors").isSome = true) : RxnPairW G H where
  molG := molG
  molH := molH
  same := same
  noTgG := noTgG
  noTgH := noTgH
  elem := fun v hv => ⟨el v, (h v hv).1, (h v hv).2.1, (h v hv).2.2.1⟩
  hcnt := fun v hv => ⟨⟨_, (h v hv).2.2.2.1⟩, ⟨_, (h v hv).2.2.2.2.1⟩⟩
  nbKey := fun v hv => ⟨Option.isSome_iff_exists.1 (h v hv).2.2.2.2.2.1, Option.isSome_iff_exists.1 (h v hv).2.2.2.2.2.2⟩

theorem RxnPair.symm {G H : LGraph} (h : RxnPair G H) : RxnPair H G where
  toRxnPairW := h.toRxnPairW.symm
  arom := fun v hv => (h.arom v ((h.same v).2 hv)).symm
  nbrs := fun v hv => (h.nbrs v ((h.same v).2 hv)).symm

theorem orderOf_of_edge? {S : LGraph} {u v : Nat} {a : Attrs} (h : S.edge? u v = some a) :
    ITS.orderOf S u v = (Dict.get? a "order").getD (.num 0) := by
  unfold ITS.orderOf; rw [h]

theorem molWF_hasKey {G : LGraph} (hG : ITS.MolWF G) {v : Nat} (hv : v ∈ G.ids) {k : String}
    (hk : k ∈ ["element", "aromatic", "hcount", "charge"]) : hasKey (G.attrs v) k = true :=
  (hG.2.1 (v, G.attrs v) (LGraph.attrs_mem hv)).1 k hk

theorem molWF_wfHost {G : LGraph} (hG : ITS.MolWF G) (hno : ∀ p ∈ G.nodes, hasKey p.2 "typesGH" = false) : WFHost G := by
  refine ⟨hG.1, hno, ?_⟩
  intro e he
  obtain ⟨n, hn, hord⟩ := hG.2.2 e he
  rw [pyGet_of_get? hord]; exact hn

/-- Every atom of the ITS of a balanced pair carries the pair of the two `_default_tg` labels: the defaults of
`ITSConstruction` and of `_default_tg` differ on `neighbors` only, which both sides carry. -/
theorem construct_label (o : ITS.Opts) {G H : LGraph} (hp : RxnPairW G H) (v : Nat) (hv : v ∈ G.ids) :
    Attrs.get ((ITS.construct o G H).attrs v) "typesGH" = .tup [gSide (G.attrs v), gSide (H.attrs v)] := by
  obtain ⟨⟨nbG, nG⟩, ⟨nbH, nH⟩⟩ := hp.nbKey v hv
  rw [ITS.construct_typesGH o G H v ((ITS.construct_nodes o G H v).2 (Or.inl hv))]
  simp [ITS.sideTuple, ITS.typesKeys, ITS.nodeDefault, gSide, pyGet, Dict.getD, nG, nH]

theorem construct_order_of_mem (o : ITS.Opts) (G H : LGraph) (hG : G.WF) (hH : H.WF) (e : Nat × Nat × Attrs)
    (he : e ∈ (ITS.construct o G H).edges) :
    (G.hasEdge e.1 e.2.1 || H.hasEdge e.1 e.2.1) = true ∧
      e.2.2 = ITS.itsEdgeAttrs o.ignoreArom (ITS.orderOf G e.1 e.2.1) (ITS.orderOf H e.1 e.2.1) :=
  ITS.C01L.construct_edge?_some o G H _ _ _ (LGraph.edge?_of_mem (ITS.construct_wf o G H hG hH) he (Or.inl ⟨rfl, rfl⟩))

theorem reactionOf_construct (o : ITS.Opts) {G H : LGraph} (hp : RxnPairW G H) :
    ReactionOf G (ITS.construct o G H) := by
  have hGwf := hp.molG.1
  have hHwf := hp.molH.1
  have hIwf := ITS.construct_wf o G H hGwf hHwf
  have hids := ITS.C01L.construct_ids_of_same o hGwf.1 hHwf.1 hp.same
  refine
    { hG := molWF_wfHost hp.molG hp.noTgG, hI := hIwf, ids := fun v => by rw [hids], len := ?_, hnum := ?_, keys := ?_,
      lab := ?_, ordKey := ?_, gE := ?_, iE := ?_ }
  · simpa [LGraph.ids] using congrArg List.length hids
  · intro v hv
    obtain ⟨⟨hg, hgG⟩, _⟩ := hp.hcnt v hv
    rw [pyGet_of_get? hgG]; rfl
  · exact fun v hv => ⟨molWF_hasKey hp.molG hv (by decide), molWF_hasKey hp.molG hv (by decide)⟩
  · intro v hv
    obtain ⟨s, _, eG, eH⟩ := hp.elem v hv
    obtain ⟨_, hh, hhH⟩ := hp.hcnt v hv
    refine ⟨hh, pyGet (H.attrs v) "charge" (.num 0), pyGet (H.attrs v) "aromatic" (.bool false),
      pyGet (H.attrs v) "neighbors" (.tup []), ?_⟩
    rw [construct_label o hp v hv, pyGet_of_get? eG, ← pyGet_of_get? eH, ← pyGet_of_get? hhH]
    rfl
  · intro e0 he0
    obtain ⟨n, _, hord⟩ := hp.molG.2.2 e0 he0
    exact hasKey_of_get? hord
  · intro e0 he0
    have hg : G.hasEdge e0.1 e0.2.1 = true := LGraph.hasEdge_of_mem he0 (.inl ⟨rfl, rfl⟩)
    refine ⟨ITS.itsEdgeAttrs o.ignoreArom (ITS.orderOf G e0.1 e0.2.1) (ITS.orderOf H e0.1 e0.2.1),
      ITS.orderOf H e0.1 e0.2.1, ?_, ?_⟩
    · rw [ITS.construct_edges, hg]; rfl
    · obtain ⟨n, _, hord⟩ := hp.molG.2.2 e0 he0
      rw [ITS.construct_order, orderOf_of_edge? (LGraph.edge?_of_mem hGwf he0 (Or.inl ⟨rfl, rfl⟩)), hord,
        pyGet_of_get? hord]
      rfl
  · intro e he
    obtain ⟨hc, hattr⟩ := construct_order_of_mem o G H hGwf hHwf e he
    obtain ⟨a, _, hoa, ha1, ha0⟩ := ITS.C01L.orderOf_num G hp.molG.2.2 e.1 e.2.1
    obtain ⟨b, _, hob, hb1, _⟩ := ITS.C01L.orderOf_num H hp.molH.2.2 e.1 e.2.1
    refine ⟨.num a, .num b, by rw [hattr, ITS.construct_order, hoa, hob], fun hg => ?_,
      fun hg => ⟨by rw [ha0 hg], ?_⟩⟩
    · have := ha1 hg
      intro h; injection h with h; omega
    · rw [hg, Bool.false_or] at hc
      have := hb1 hc
      intro h; injection h with h; omega

theorem strongLab_construct (o : ITS.Opts) {G H : LGraph} (hp : RxnPair G H) : StrongLab G (ITS.construct o G H) := by
  intro v hv
  obtain ⟨s, _, eG, eH⟩ := hp.elem v hv
  obtain ⟨_, hh, hhH⟩ := hp.hcnt v hv
  refine ⟨hh, pyGet (H.attrs v) "charge" (.num 0), ?_⟩
  rw [construct_label o hp.toRxnPairW v hv, pyGet_of_get? eG, ← pyGet_of_get? eH, ← pyGet_of_get? hhH]
  unfold gSide pyGet Dict.getD
  rw [hp.arom v hv, hp.nbrs v hv]

theorem wfTemplate_construct (o : ITS.Opts) {G H : LGraph} (hp : RxnPairW G H) : WFTemplate (ITS.construct o G H) := by
  have hR := reactionOf_construct o hp
  refine ⟨hR.hI, ?_, ?_⟩
  · intro p hpn
    have hp1 : p.1 ∈ (ITS.construct o G H).ids := List.mem_map.2 ⟨p, hpn, rfl⟩
    have hpa : (ITS.construct o G H).attrs p.1 = p.2 := LGraph.attrs_of_mem hR.hI.1 hpn
    have hvG := (hR.ids p.1).1 hp1
    obtain ⟨s, hs, eG, eH⟩ := hp.elem p.1 hvG
    have hl := construct_label o hp p.1 hvG
    have hk := ITS.C01L.construct_typesGH' o G H p.1 hp1
    rw [hpa] at hl hk
    have t0 : tgField p.2 0 0 = .str s := (tgField_of hl 0 0).trans (pyGet_of_get? eG)
    have t1 : tgField p.2 1 0 = .str s := (tgField_of hl 1 0).trans (pyGet_of_get? eH)
    have hs' : Val.str s ≠ .str "*" := fun h => hs (Val.str.inj h)
    exact ⟨hasKey_of_get? hk, t0 ▸ hs', t1 ▸ hs', t0 ▸ rfl⟩
  · intro e he
    obtain ⟨_, hattr⟩ := construct_order_of_mem o G H hp.molG.1 hp.molH.1 e he
    obtain ⟨a, ha, hoa, _, _⟩ := ITS.C01L.orderOf_num G hp.molG.2.2 e.1 e.2.1
    obtain ⟨b, hb, hob, _, _⟩ := ITS.C01L.orderOf_num H hp.molH.2.2 e.1 e.2.1
    rw [hattr, hoa, hob]
    exact wfTemplate_edge_mk ha hb _

/-- `ho`: with `ignore_aromaticity` a difference below one bond is written as `standard_order = 0`, not as
the difference `ITS.WFits` asks. -/
theorem wfits_construct (o : ITS.Opts) (ho : o.ignoreArom = false) {G H : LGraph} (hp : RxnPairW G H) :
    ITS.WFits (ITS.construct o G H) := by
  refine ⟨ITS.construct_wf o G H hp.molG.1 hp.molH.1, ?_, ?_⟩
  · intro n hn
    rw [ITS.C01L.construct_typesGH' o G H n hn]; rfl
  · intro e he
    obtain ⟨_, hattr⟩ := construct_order_of_mem o G H hp.molG.1 hp.molH.1 e he
    obtain ⟨a, _, hoa, _, _⟩ := ITS.C01L.orderOf_num G hp.molG.2.2 e.1 e.2.1
    obtain ⟨b, _, hob, _, _⟩ := ITS.C01L.orderOf_num H hp.molH.2.2 e.1 e.2.1
    refine ⟨a, b, ?_, ?_⟩
    · rw [hattr, ITS.construct_order, hoa, hob]
    · rw [hattr]; exact ITS.construct_standard_order o G H e.1 e.2.1 a b ho hoa hob

theorem subITS_self (I : LGraph) (hT : WFTemplate I) : SubITS I I where
  hT := hT
  ids := fun _ h => h
  lab := fun _ _ _ _ _ _ => rfl
  edge := fun te hte => ⟨te.2.2, LGraph.edge?_of_mem hT.1 hte (Or.inl ⟨rfl, rfl⟩), rfl⟩
  chg := fun _ he _ => LGraph.hasEdge_of_mem he (Or.inl ⟨rfl, rfl⟩)

theorem rcComplete_self (I : LGraph) : RcComplete I I := fun _ hv hn => absurd hv hn

theorem rcEdgeAttrs_default (a : Attrs) :
    ITS.rcEdgeAttrs {} a = [("order", Attrs.get a "order"), ("standard_order", Attrs.get a "standard_order"),
      ("is_mtg", (Dict.get? a "is_mtg").getD (.bool false))] := by
  simp [ITS.rcEdgeAttrs, Dict.set]

theorem ordAt_rcEdgeAttrs (a : Attrs) (s : Nat) : ordAt (ITS.rcEdgeAttrs {} a) s = ordAt a s := by
  unfold ordAt; rw [ITS.rcEdgeAttrs_order]

theorem subITS_getRc (I : LGraph) (hW : ITS.WFits I) (hT : WFTemplate I) : SubITS (ITS.getRc {} I) I := by
  have hRwf := ITS.getRc_wf I hW.1
  have hsub : ∀ n ∈ (ITS.getRc {} I).ids, n ∈ I.ids := fun n hn => ITS.getRc_ids_sub hW.1 {} rfl n hn
  have htg : ∀ n ∈ (ITS.getRc {} I).ids,
      Attrs.get ((ITS.getRc {} I).attrs n) "typesGH" = Attrs.get (I.attrs n) "typesGH" :=
    fun n hn => ITS.rc_labels I hW n hn "typesGH" (by decide)
  refine { hT := ⟨hRwf, ?_, ?_⟩, ids := hsub, lab := ?_, edge := ?_, chg := ?_ }
  · intro p hp
    have hp1 : p.1 ∈ (ITS.getRc {} I).ids := List.mem_map.2 ⟨p, hp, rfl⟩
    have hpa : (ITS.getRc {} I).attrs p.1 = p.2 := LGraph.attrs_of_mem hRwf.1 hp
    have e := htg p.1 hp1
    have hk := ITS.getRc_has_typesGH hW p.1 hp1
    rw [hpa] at e hk
    refine ⟨hk, ?_⟩
    rw [tgField_of e 0 0, tgField_of e 1 0]
    exact (template_node hT (hsub _ hp1)).2
  · intro e he
    obtain ⟨eI, heI, _, rfl⟩ := ITS.getRc_edges_from {} rfl I e he
    have hI := hT.2.2 eI heI
    simp only [ITS.mkE, ordAt_rcEdgeAttrs]
    refine ⟨?_, ?_, hI.2.2.1, hI.2.2.2.1, hI.2.2.2.2.1, hI.2.2.2.2.2⟩
    · rw [rcEdgeAttrs_default]; simp [Dict.keys]
    · rw [rcEdgeAttrs_default]; rfl
  · intro v hv s i _ _
    exact tgField_of (htg v hv) s i
  · intro te hte
    have h1 := LGraph.edge?_of_mem hRwf hte (Or.inl ⟨rfl, rfl⟩)
    obtain ⟨a, ha, ho, _⟩ := ITS.rc_edge_labels I hW.1 _ _ _ h1
    exact ⟨a, ha, ho.symm⟩
  · intro e he hch
    rw [ITS.mem_rc_edge_iff_std I hW.1]
    refine ⟨e.2.2, LGraph.edge?_of_mem hW.1 he (Or.inl ⟨rfl, rfl⟩), Or.inl ?_⟩
    obtain ⟨a, b, ho, hs⟩ := hW.2.2 e he
    rw [hs]
    obtain ⟨h0, h1⟩ := ordAt_of_order ho
    rw [h0, h1] at hch
    have : a - b ≠ 0 := fun h => hch (by rw [show a = b by omega])
    simpa [ITS.stdNonzero] using this

/-- `RcComplete` at the level of the two molecule graphs: every atom all of whose bonds keep their
order keeps its hydrogen count and its charge.  (FALSE for reactions like phosphate protonation —
finding F10 — where an atom changes charge without any of its bonds changing.) -/
def CentreCovers (G H : LGraph) : Prop :=
  ∀ v ∈ G.ids, (∀ u, ITS.orderOf G v u = ITS.orderOf H v u) →
    Attrs.get (G.attrs v) "hcount" = Attrs.get (H.attrs v) "hcount" ∧
    Attrs.get (G.attrs v) "charge" = Attrs.get (H.attrs v) "charge"

theorem CentreCovers.symm {G H : LGraph} (hs : ITS.SameNodes G H) (h : CentreCovers G H) : CentreCovers H G := by
  intro v hv hu
  obtain ⟨a, b⟩ := h v ((hs v).2 hv) (fun u => (hu u).symm)
  exact ⟨a.symm, b.symm⟩

theorem rcComplete_getRc (o : ITS.Opts) (ho : o.ignoreArom = false) {G H : LGraph} (hp : RxnPairW G H)
    (hc : CentreCovers G H) : RcComplete (ITS.construct o G H) (ITS.getRc {} (ITS.construct o G H)) := by
  have hW := wfits_construct o ho hp
  have hRe := reactionOf_construct o hp
  intro v hvI hvT
  have hvG := (hRe.ids v).1 hvI
  have hsame : ∀ u, ITS.orderOf G v u = ITS.orderOf H v u := by
    intro u
    by_contra hne
    apply hvT
    rw [ITS.rc_nodes_eq_endpoints]
    refine ⟨u, ?_⟩
    rw [ITS.mem_rc_edge_iff_std _ hW.1]
    obtain ⟨a, _, hoa, _, ha0⟩ := ITS.C01L.orderOf_num G hp.molG.2.2 v u
    obtain ⟨b, _, hob, _, hb0⟩ := ITS.C01L.orderOf_num H hp.molH.2.2 v u
    have hab : a ≠ b := fun h => hne (by rw [hoa, hob, h])
    have hex : (G.hasEdge v u || H.hasEdge v u) = true := by
      by_contra h
      rw [Bool.or_eq_true, not_or, Bool.not_eq_true, Bool.not_eq_true] at h
      exact hab ((ha0 h.1).trans (hb0 h.2).symm)
    refine ⟨_, by rw [ITS.construct_edges, hex]; rfl, Or.inl ?_⟩
    rw [ITS.construct_standard_order o G H v u a b ho hoa hob]
    have : a - b ≠ 0 := by omega
    simpa [ITS.stdNonzero] using this
  obtain ⟨h1, h2⟩ := hc v hvG hsame
  have hvH := (hp.same v).1 hvG
  have e1 : numOf (pyGet (H.attrs v) "hcount" (.num 0)) = numOf (pyGet (G.attrs v) "hcount" (.num 0)) := by
    rw [numOf_pyGet_zero, numOf_pyGet_zero, h1]
  have e2 : pyGet (H.attrs v) "charge" (.num 0) = pyGet (G.attrs v) "charge" (.num 0) := by
    rw [pyGet_of_hasKey _ _ _ (molWF_hasKey hp.molG hvG (by decide)),
      pyGet_of_hasKey _ _ _ (molWF_hasKey hp.molH hvH (by decide)), h2]
  have hl := construct_label o hp v hvG
  unfold hR hL
  rw [tgField_of hl 1 2, tgField_of hl 0 2, tgField_of hl 1 3, tgField_of hl 0 3]
  exact ⟨e1, e2⟩

theorem construct_tg_swap (o : ITS.Opts) (G H : LGraph) (v : Nat) (hv : v ∈ G.ids)
    (s i : Nat) (h01 : s = 0 ∨ s = 1) :
    tgField ((ITS.construct o H G).attrs v) s i = tgField ((ITS.construct o G H).attrs v) (1 - s) i := by
  obtain ⟨g, h, e1, e2⟩ := ITS.construct_swap_typesGH o G H v ((ITS.construct_nodes o G H v).2 (Or.inl hv))
  unfold tgField
  rw [e1, e2]
  rcases h01 with rfl | rfl <;> rfl

/-- C01 (6e) read on the order pair alone. -/
theorem construct_order_swap (o : ITS.Opts) {G H : LGraph} (hp : RxnPairW G H) (u v : Nat) :
    ((ITS.construct o H G).edge? u v).map (Attrs.get · "order") =
      ((ITS.construct o G H).edge? u v).map fun x => ITS.C01L.vswap (Attrs.get x "order") := by
  have := congrArg (Option.map Prod.fst) (ITS.construct_swap o G H hp.molG hp.molH u v)
  simpa only [Option.map_map, Function.comp_def] using this

theorem subITS_invert (o : ITS.Opts) {G H : LGraph} (hp : RxnPairW G H) (T : LGraph)
    (hS : SubITS T (ITS.construct o G H)) : SubITS (invert T) (ITS.construct o H G) := by
  obtain ⟨hT, hTids, hTlab, hTedge, hTchg⟩ := hS
  have hRe := reactionOf_construct o hp
  have hIwf' := (reactionOf_construct o hp.symm).hI
  have hord : ∀ te ∈ T.edges, ∃ x, (ITS.construct o G H).edge? te.1 te.2.1 = some x ∧
      Attrs.get x "order" = .tup [.num (numOf (ordAt te.2.2 0)), .num (numOf (ordAt te.2.2 1))] := by
    intro te hte
    obtain ⟨x, hx, hxo⟩ := hTedge te hte
    obtain ⟨_, _, h0, _, h1, _⟩ := hT.2.2 te hte
    obtain ⟨-, rfl⟩ := ITS.C01L.construct_edge?_some o G H _ _ x hx
    refine ⟨_, hx, ?_⟩
    rw [ITS.construct_order] at hxo ⊢
    obtain ⟨e0, e1⟩ := ordAt_of_order hxo.symm
    rw [← e0, ← e1, ← h0, ← h1]
  -- the product-side element is the reactant-side element of the reversed reaction
  have hstr : ∀ p ∈ T.nodes, isStr (tgField p.2 1 0) = true := by
    intro p hpn
    have hp1 : p.1 ∈ T.ids := List.mem_map.2 ⟨p, hpn, rfl⟩
    have := (template_node (wfTemplate_construct o hp.symm)
      ((ITS.construct_swap_nodes o G H _).2 (hTids p.1 hp1))).2.2.2
    rwa [construct_tg_swap o G H p.1 ((hRe.ids p.1).1 (hTids p.1 hp1)) 0 0 (Or.inl rfl),
      ← hTlab p.1 hp1 1 0 (Or.inr rfl) (Or.inl rfl), LGraph.attrs_of_mem hT.1.1 hpn] at this
  refine { hT := wfTemplate_invert T hT hstr, ids := ?_, lab := ?_, edge := ?_, chg := ?_ }
  · intro v hv
    rw [invert_ids T hT] at hv
    exact (ITS.construct_swap_nodes o G H v).2 (hTids v hv)
  · intro v hv s i hs hi
    rw [invert_ids T hT] at hv
    rw [invert_attrs T hT v hv, invNode_tg _ s i hs (by omega)]
    show tgField (T.attrs v) (1 - s) i = _
    rw [hTlab v hv (1 - s) i (by omega) hi, construct_tg_swap o G H v ((hRe.ids v).1 (hTids v hv)) s i hs]
  · -- the reversed ITS carries the swapped pair, which is what `_invert_template` writes
    intro te' hte'
    obtain ⟨te, hte, _, rfl⟩ := (mem_invert_edges T hT te').1 hte'
    obtain ⟨x, hx, hxo⟩ := hord te hte
    have := construct_order_swap o hp te.1 te.2.1
    rw [hx, Option.map_some, hxo] at this
    obtain ⟨y, hy, hyo⟩ := Option.map_eq_some_iff.1 this
    exact ⟨y, hy, hyo⟩
  · -- a changed bond of the reversed ITS lies on a changed bond of the forward ITS, hence on a template bond
    intro e he hch
    have := construct_order_swap o hp e.1 e.2.1
    rw [LGraph.edge?_of_mem hIwf' he (Or.inl ⟨rfl, rfl⟩), Option.map_some] at this
    obtain ⟨x, hx, hxo⟩ := Option.map_eq_some_iff.1 this.symm
    obtain ⟨eI, heI, rfl, hendI⟩ := LGraph.edge?_some_mem hx
    obtain ⟨-, hattr⟩ := construct_order_of_mem o G H hp.molG.1 hp.molH.1 eI heI
    have hoI : Attrs.get eI.2.2 "order" = .tup [ITS.orderOf G eI.1 eI.2.1, ITS.orderOf H eI.1 eI.2.1] := by
      rw [hattr, ITS.construct_order]
    rw [hoI] at hxo
    have hchI : ordAt eI.2.2 0 ≠ ordAt eI.2.2 1 := by
      rw [(ordAt_of_order hoI).1, (ordAt_of_order hoI).2]
      rw [(ordAt_of_order hxo.symm).1, (ordAt_of_order hxo.symm).2] at hch
      exact fun h => hch h.symm
    obtain ⟨te, hte, hendt⟩ := LGraph.hasEdge_iff.1 (hTchg eI heI hchI)
    obtain ⟨x', hx', hxo'⟩ := hord te hte
    rw [LGraph.edge?_of_joins hendt,
      LGraph.edge?_of_mem hRe.hI heI (Or.inl ⟨rfl, rfl⟩)] at hx'
    cases hx'
    obtain ⟨_, _, _, h0, _, h1⟩ := hT.2.2 te hte
    have hpos : numOf (ordAt te.2.2 0) > 0 ∨ numOf (ordAt te.2.2 1) > 0 := by
      by_contra hn
      apply hchI
      rw [(ordAt_of_order hxo').1, (ordAt_of_order hxo').2, show numOf (ordAt te.2.2 0) = 0 by omega,
        show numOf (ordAt te.2.2 1) = 0 by omega]
    exact LGraph.hasEdge_of_mem ((mem_invert_edges T hT _).2 ⟨te, hte, hpos, rfl⟩) (LGraph.joins_trans hendt hendI)

theorem rcComplete_invert (o : ITS.Opts) {G H : LGraph} (hp : RxnPairW G H) (T : LGraph) (hT : WFTemplate T)
    (h : RcComplete (ITS.construct o G H) T) : RcComplete (ITS.construct o H G) (invert T) := by
  intro v hv hn
  rw [invert_ids T hT] at hn
  have hvI : v ∈ (ITS.construct o G H).ids := (ITS.construct_swap_nodes o G H v).1 hv
  have hvG : v ∈ G.ids := ((reactionOf_construct o hp).ids v).1 hvI
  obtain ⟨a, b⟩ := h v hvI hn
  unfold hR hL at a ⊢
  rw [construct_tg_swap o G H v hvG 1 2 (Or.inr rfl), construct_tg_swap o G H v hvG 0 2 (Or.inl rfl),
    construct_tg_swap o G H v hvG 1 3 (Or.inr rfl), construct_tg_swap o G H v hvG 0 3 (Or.inl rfl)]
  exact ⟨a.symm, b.symm⟩

theorem left_construct_endpoints (o : ITS.Opts) {G H : LGraph} (hp : RxnPairW G H) :
    SubgraphSearch.endpoints (left (ITS.construct o G H)) = SubgraphSearch.endpoints G := by
  -- a bond of the full ITS is on the reactant side exactly when it lies on a bond of `G`
  have hc : ∀ u v, decide (hasKey (ITS.C01L.itsF o G H u v) "order" = true ∧
      numOf (ordAt (ITS.C01L.itsF o G H u v) 0) > 0) = G.hasEdge u v := by
    intro u v
    obtain ⟨n, _, ho, h1, h0⟩ := ITS.C01L.orderOf_num G hp.molG.2.2 u v
    have e : ordAt (ITS.C01L.itsF o G H u v) 0 = .num n := by
      unfold ordAt ITS.C01L.itsF
      rw [ITS.C01L.itsEdgeAttrs_order, ho]; rfl
    have hk : hasKey (ITS.C01L.itsF o G H u v) "order" = true := hasKey_mk _ _
    rw [e, hk]
    cases hg : G.hasEdge u v
    · simp [numOf, h0 hg]
    · simp [numOf, h1 hg]
  unfold SubgraphSearch.endpoints
  rw [left_edges, ITS.C01L.construct_edges_eq, List.filter_map, List.map_map, List.map_map]
  simp only [Function.comp_def, hc]
  unfold ITS.C01L.pairsOf
  rw [List.filter_append, List.filter_eq_self.2, List.filter_eq_nil_iff.2, List.append_nil, List.map_map]
  · rfl
  · intro uv huv
    obtain ⟨e, he, rfl⟩ := List.mem_map.1 huv
    simpa using (List.mem_filter.1 he).2
  · intro uv huv
    obtain ⟨e, he, rfl⟩ := List.mem_map.1 huv
    exact LGraph.hasEdge_of_mem he (.inl ⟨rfl, rfl⟩)

theorem comps_left_construct (o : ITS.Opts) {G H : LGraph} (hp : RxnPairW G H) :
    SubgraphSearch.comps (left (ITS.construct o G H)) = SubgraphSearch.comps G := by
  unfold SubgraphSearch.comps
  rw [left_construct_endpoints o hp, left_ids _ (wfTemplate_construct o hp),
    ITS.C01L.construct_ids_of_same o hp.molG.1.1 hp.molH.1.1 hp.same]

theorem distinctComponents_full_its (o : ITS.Opts) {G H : LGraph} (hp : RxnPairW G H) :
    SubgraphSearch.DistinctComponents G (left (ITS.construct o G H)) (idMap (ITS.construct o G H)) := by
  intro p q p' q' h1 h2 hn
  rw [idMap, Mapping.get?_map_graph] at h1 h2
  split at h1 <;> cases h1
  split at h2 <;> cases h2
  rw [left_construct_endpoints o hp, left_ids _ (wfTemplate_construct o hp),
    ITS.C01L.construct_ids_of_same o hp.molG.1.1 hp.molH.1.1 hp.same] at hn
  exact hn

theorem mem_findComp_of_mono (sel : Sel) (H P : LGraph) (hH : H.WF) (hP : P.WF) (m : Mapping)
    (hm : IsMono sel H P m) (hd : SubgraphSearch.DistinctComponents H P m) (strict : Bool) (thr : Nat)
    (hle : (SubgraphSearch.comps P).length ≤ (SubgraphSearch.comps H).length)
    (hstrict : strict = true → (SubgraphSearch.comps H).length ≤ (SubgraphSearch.comps P).length)
    (hthr : ∀ maps ∈ SubgraphSearch.perCc sel H P, maps.length ≤ thr)
    (hlen : (SubgraphSearch.compEnum sel H P).length ≤ thr) :
    m ∈ SubgraphSearch.findComp sel H P 0 strict thr :=
  SubgraphSearch.mem_findComp_of_mono sel H P hH hP m hm hd strict thr hle hstrict hthr hlen

/-!
`_node_glue` copies the aromatic flag and the `neighbors` entry of the product-side label from the
substrate; a reaction in which an atom changes one of them is therefore rebuilt with the *substrate's*
values there.  `coreProj` forgets exactly these two product-side entries (element, hydrogen count and
charge of the product side and the whole reactant-side label stay); `ItsCoreEquiv` is `ItsEquiv` after
`coreProj`.  `fixI G I` is the reaction `I` with the two entries overwritten by the substrate's: it has
the same `coreProj`, and satisfies `StrongLab`. -/

def coreTg (t : Val) : Val :=
  .tup [tupGet t 0, .tup [tupGet (tupGet t 1) 0, tupGet (tupGet t 1) 2, tupGet (tupGet t 1) 3]]

def coreProj (I : LGraph) : LGraph :=
  { nodes := I.nodes.map fun p => (p.1, Dict.set p.2 "typesGH" (coreTg (Attrs.get p.2 "typesGH")))
    edges := I.edges }

def ItsCoreEquiv (a b : LGraph) : Prop := ItsEquiv (coreProj a) (coreProj b)

def fixTg (g : Attrs) (t : Val) : Val :=
  .tup [tupGet t 0, .tup [tupGet (tupGet t 1) 0, pyGet g "aromatic" (.bool false), tupGet (tupGet t 1) 2,
                          tupGet (tupGet t 1) 3, pyGet g "neighbors" (.tup [])]]

def fixI (G I : LGraph) : LGraph :=
  { nodes := I.nodes.map fun p => (p.1, Dict.set p.2 "typesGH" (fixTg (G.attrs p.1) (Attrs.get p.2 "typesGH")))
    edges := I.edges }

theorem coreTg_fixTg (g : Attrs) (t : Val) : coreTg (fixTg g t) = coreTg t := by
  unfold coreTg fixTg
  rfl

theorem fixTg_field (g : Attrs) (t : Val) {s i : Nat} (hs : s = 0 ∨ s = 1) (hi : i = 0 ∨ i = 2 ∨ i = 3) :
    tupGet (tupGet (fixTg g t) s) i = tupGet (tupGet t s) i := by
  rcases hs with rfl | rfl
  · rfl
  · rcases hi with rfl | rfl | rfl <;> rfl

theorem coreProj_fixI (G I : LGraph) : coreProj (fixI G I) = coreProj I := by
  unfold coreProj fixI
  simp only [List.map_map, LGraph.mk.injEq, and_true]
  apply List.map_congr_left
  intro p _
  simp only [Function.comp, Attrs.get_set_self, coreTg_fixTg, Dict.set_set]

theorem coreProj_ids (I : LGraph) : (coreProj I).ids = I.ids := by
  simp [coreProj, LGraph.ids, List.map_map, Function.comp_def]

theorem fixI_ids (G I : LGraph) : (fixI G I).ids = I.ids := by
  simp [fixI, LGraph.ids, List.map_map, Function.comp_def]

theorem coreProj_WF_iff (I : LGraph) : (coreProj I).WF ↔ I.WF := by
  unfold LGraph.WF; rw [coreProj_ids]; rfl

theorem fixI_WF_iff (G I : LGraph) : (fixI G I).WF ↔ I.WF := by
  unfold LGraph.WF; rw [fixI_ids]; rfl

theorem coreProj_attrs (I : LGraph) (v : Nat) (hv : v ∈ I.ids) :
    (coreProj I).attrs v = Dict.set (I.attrs v) "typesGH" (coreTg (Attrs.get (I.attrs v) "typesGH")) :=
  LGraph.attrs_map_nodes (g := I) (g' := coreProj I)
    (F := fun p => (p.1, Dict.set p.2 "typesGH" (coreTg (Attrs.get p.2 "typesGH")))) rfl (fun _ _ => rfl) hv

theorem fixI_attrs (G I : LGraph) (v : Nat) (hv : v ∈ I.ids) :
    (fixI G I).attrs v = Dict.set (I.attrs v) "typesGH" (fixTg (G.attrs v) (Attrs.get (I.attrs v) "typesGH")) :=
  LGraph.attrs_map_nodes (g := I) (g' := fixI G I)
    (F := fun p => (p.1, Dict.set p.2 "typesGH" (fixTg (G.attrs p.1) (Attrs.get p.2 "typesGH")))) rfl (fun _ _ => rfl) hv

theorem fixI_tg (G I : LGraph) (v : Nat) (hv : v ∈ I.ids) (s i : Nat) (hs : s = 0 ∨ s = 1)
    (hi : i = 0 ∨ i = 2 ∨ i = 3) : tgField ((fixI G I).attrs v) s i = tgField (I.attrs v) s i := by
  rw [fixI_attrs G I v hv]
  exact (tgField_of Attrs.get_set_self s i).trans (fixTg_field _ _ hs hi)

theorem isIso_coreProj (a b : LGraph) (m : Mapping) (h : IsIso itsSel a b m) :
    IsIso itsSel (coreProj a) (coreProj b) m :=
  h.of_nodeOk (coreProj_ids a) rfl (coreProj_ids b) rfl rfl fun x hx hok => by
    rw [coreProj_attrs a _ (h.mono.val_mem hx), coreProj_attrs b _ (h.mono.key_mem hx)]
    simp only [nodeOk, itsSel, List.all_cons, List.all_nil, Bool.and_true, Bool.not_false, Bool.true_or,
      decide_eq_true_eq] at hok ⊢
    rw [Attrs.get_set_self, Attrs.get_set_self, hok]

theorem itsEquiv_coreProj {a b : LGraph} (h : ItsEquiv a b) : ItsCoreEquiv a b := by
  rcases h with rfl | ⟨ha, hb, m, hm⟩
  · exact Or.inl rfl
  · exact Or.inr ⟨(coreProj_WF_iff a).2 ha, (coreProj_WF_iff b).2 hb, m, isIso_coreProj a b m hm⟩

theorem itsCoreEquiv_of_fix {r G I : LGraph} (h : ItsEquiv r (fixI G I)) : ItsCoreEquiv r I := by
  have := itsEquiv_coreProj h
  unfold ItsCoreEquiv at this
  rwa [coreProj_fixI] at this

theorem reactionOf_fix {G I : LGraph} (hR : ReactionOf G I) : ReactionOf G (fixI G I) ∧ StrongLab G (fixI G I) := by
  have hlabS : StrongLab G (fixI G I) := by
    intro v hv
    have hvI : v ∈ I.ids := (hR.ids v).2 hv
    obtain ⟨hp, cp, ar, nb, hl⟩ := hR.lab v hv
    refine ⟨hp, cp, ?_⟩
    rw [fixI_attrs G I v hvI, Attrs.get_set_self, hl]
    rfl
  refine ⟨{ hG := hR.hG, hI := (fixI_WF_iff G I).2 hR.hI, ids := ?_, len := ?_, hnum := hR.hnum, keys := hR.keys,
            lab := ?_, ordKey := hR.ordKey, gE := hR.gE, iE := hR.iE }, hlabS⟩
  · intro v; rw [fixI_ids]; exact hR.ids v
  · rw [← hR.len]; simp [fixI]
  · intro v hv
    obtain ⟨hp, cp, h⟩ := hlabS v hv
    exact ⟨hp, cp, _, _, h⟩

theorem subITS_fix {G I T : LGraph} (hS : SubITS T I) : SubITS T (fixI G I) where
  hT := hS.hT
  ids := fun v hv => by rw [fixI_ids]; exact hS.ids v hv
  lab := fun v hv s i hs hi => by rw [fixI_tg G I v (hS.ids v hv) s i hs hi]; exact hS.lab v hv s i hs hi
  edge := hS.edge
  chg := hS.chg

theorem rcComplete_fix {G I T : LGraph} (h : RcComplete I T) : RcComplete (fixI G I) T := by
  intro v hv hn
  rw [fixI_ids] at hv
  obtain ⟨a, b⟩ := h v hv hn
  unfold hR hL at a ⊢
  rw [fixI_tg G I v hv 1 2 (Or.inr rfl) (Or.inr (Or.inl rfl)), fixI_tg G I v hv 0 2 (Or.inl rfl) (Or.inr (Or.inl rfl)),
    fixI_tg G I v hv 1 3 (Or.inr rfl) (Or.inr (Or.inr rfl)), fixI_tg G I v hv 0 3 (Or.inl rfl) (Or.inr (Or.inr rfl))]
  exact ⟨a, b⟩

theorem ownTemplate_fix (G I T : LGraph) (hR : ReactionOf G I) (hS : SubITS T I) : OwnTemplate G (fixI G I) T :=
  ownTemplate_of_sub _ _ _ (reactionOf_fix hR).1 (reactionOf_fix hR).2 (subITS_fix hS)

end SynKit.ReactorLink
