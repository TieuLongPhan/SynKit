import SynKitModel.SubgraphSearch
import SynKitProofs.Match
import Mathlib.Data.List.Basic
import Mathlib.Data.List.Nodup
import Mathlib.Data.List.Perm.Subperm
/-! C06, `_quick_pre_filter`.  `quickLoop` is characterised by the candidate lists `cands` of the pattern nodes and
the product `estimate` of their lengths: it gives up iff `estimate = 0`, that is, some list is empty
(`estimateOf_eq_zero_iff`), or `estimate > thr * 10000` (`quickLoop_iff`, `quickPreFilter_iff`).  A monomorphism sends
every pattern node to one of its candidates (`IsMonoFn.candidate`), so an empty list rules out every match, and the
monomorphisms inject into the product of the lists (`prodList`). -/
namespace SynKit.SubgraphSearch
open SynKit.Match

/-- The host nodes `_quick_pre_filter` counts for the pattern node `n = (p, pat_data)`. -/
def cands (sel : Sel) (H P : LGraph) (n : Nat × Attrs) : List (Nat × Attrs) :=
  H.nodes.filter fun ha => nodeOk sel ha.2 n.2 && decide (degree H ha.1 ≥ degree P n.1)

/-- `count` of the loop body. -/
def candCount (sel : Sel) (H P : LGraph) (n : Nat × Attrs) : Nat := (cands sel H P n).length

def estimateOf (sel : Sel) (H P : LGraph) : List (Nat × Attrs) → Nat
  | [] => 1
  | n :: rest => candCount sel H P n * estimateOf sel H P rest

/-- The value `estimate` would reach if the loop of `_quick_pre_filter` ran to its end. -/
def estimate (sel : Sel) (H P : LGraph) : Nat := estimateOf sel H P P.nodes

theorem mem_cands (sel : Sel) (H P : LGraph) (n ha : Nat × Attrs) :
    ha ∈ cands sel H P n ↔ ha ∈ H.nodes ∧ nodeOk sel ha.2 n.2 = true ∧ degree H ha.1 ≥ degree P n.1 := by
  unfold cands
  rw [List.mem_filter, Bool.and_eq_true, decide_eq_true_eq]

theorem candCount_eq_zero_iff (sel : Sel) (H P : LGraph) (n : Nat × Attrs) :
    candCount sel H P n = 0 ↔
      ∀ ha ∈ H.nodes, ¬ (nodeOk sel ha.2 n.2 = true ∧ degree H ha.1 ≥ degree P n.1) := by
  unfold candCount cands
  simp only [List.length_eq_zero_iff, List.filter_eq_nil_iff, Bool.and_eq_true, decide_eq_true_eq]

theorem estimateOf_eq_zero_iff (sel : Sel) (H P : LGraph) (nodes : List (Nat × Attrs)) :
    estimateOf sel H P nodes = 0 ↔ ∃ n ∈ nodes, candCount sel H P n = 0 := by
  induction nodes with
  | nil => simp only [estimateOf, Nat.one_ne_zero, List.not_mem_nil, false_and, exists_false]
  | cons n rest ih => rw [estimateOf, Nat.mul_eq_zero, ih, List.exists_mem_cons_iff]

theorem estimateOf_eq_zero (sel : Sel) (H P : LGraph) (nodes : List (Nat × Attrs))
    (h : ∃ n ∈ nodes, candCount sel H P n = 0) : estimateOf sel H P nodes = 0 :=
  (estimateOf_eq_zero_iff sel H P nodes).2 h

theorem quickLoop_cons (sel : Sel) (H P : LGraph) (thr : Nat) (n : Nat × Attrs) (rest : List (Nat × Attrs)) (e : Nat) :
    quickLoop sel H P thr (n :: rest) e =
      if candCount sel H P n = 0 then true
      else if e * candCount sel H P n > thr * 10000 then true
      else quickLoop sel H P thr rest (e * candCount sel H P n) := by
  obtain ⟨p, pa⟩ := n
  rfl

/-- `e` is the running product.  `he`: on an empty list the loop returns `False` whatever `e` is. -/
theorem quickLoop_iff (sel : Sel) (H P : LGraph) (thr : Nat) (nodes : List (Nat × Attrs)) (e : Nat)
    (he : nodes ≠ [] ∨ e ≤ thr * 10000) :
    quickLoop sel H P thr nodes e = true ↔
      estimateOf sel H P nodes = 0 ∨ e * estimateOf sel H P nodes > thr * 10000 := by
  induction nodes generalizing e with
  | nil =>
    have := he.resolve_left fun h => h rfl
    simp only [quickLoop, estimateOf, Nat.one_ne_zero, false_or, Bool.false_eq_true, false_iff]
    omega
  | cons n rest ih =>
    rw [quickLoop_cons, estimateOf, ← Nat.mul_assoc, Nat.mul_eq_zero]
    by_cases h0 : candCount sel H P n = 0
    · simp only [h0, if_true, true_or]
    by_cases hgt : e * candCount sel H P n > thr * 10000
    · -- the product only grows unless a later factor is zero
      simp only [h0, hgt, if_true, if_false, false_or, true_iff]
      exact (Nat.eq_zero_or_pos _).imp_right fun hp => Nat.lt_of_lt_of_le hgt (Nat.le_mul_of_pos_right _ hp)
    · simp only [h0, hgt, if_false, false_or]
      exact ih _ (Or.inr (by omega))

/-- `hne`: for `threshold = 0` and an empty pattern the loop body never runs and the function returns `False`. -/
theorem quickPreFilter_iff (sel : Sel) (H P : LGraph) (thr : Nat) (hne : 0 < thr ∨ P.nodes ≠ []) :
    quickPreFilter sel H P thr = true ↔
      (∃ n ∈ P.nodes, candCount sel H P n = 0) ∨ estimate sel H P > thr * 10000 := by
  rw [quickPreFilter, estimate, quickLoop_iff sel H P thr P.nodes 1 (hne.symm.imp_right fun h => by omega), Nat.one_mul,
    estimateOf_eq_zero_iff]

theorem quickPreFilter_imp (sel : Sel) (H P : LGraph) (thr : Nat) (h : quickPreFilter sel H P thr = true) :
    (∃ n ∈ P.nodes, candCount sel H P n = 0) ∨ estimate sel H P > thr * 10000 := by
  refine (quickPreFilter_iff sel H P thr (Or.inr fun hn => ?_)).1 h
  rw [quickPreFilter, hn] at h
  exact Bool.false_ne_true h

/-- The image of a pattern node is one of its candidates: attributes by the node clause, degree by counting the
neighbours along the injective look-up. -/
theorem _root_.SynKit.Match.IsMonoFn.candidate {sel : Sel} {H P : LGraph} {f : Nat → Nat} (hP : P.WF)
    (h : IsMonoFn sel H P f) {n : Nat × Attrs} (hn : n ∈ P.nodes) : (f n.1, H.attrs (f n.1)) ∈ cands sel H P n := by
  have hp := LGraph.mem_ids_of_mem hn
  refine (mem_cands sel H P n _).2 ⟨LGraph.attrs_mem (h.node _ hp).1, ?_, ?_⟩
  · rw [← LGraph.attrs_of_mem hP.1 hn]; exact (h.node _ hp).2
  · simpa [degree] using (h.neighbors_subperm hP n.1).length_le

theorem no_mono_of_zero (sel : Sel) (H P : LGraph) (hP : P.WF) (n : Nat × Attrs) (hn : n ∈ P.nodes)
    (h0 : candCount sel H P n = 0) (m : Mapping) : ¬ IsMono sel H P m := fun hm =>
  List.ne_nil_of_mem (hm.monoFn.candidate hP hn) (List.length_eq_zero_iff.1 h0)

theorem allMonos_nil_of_zero (sel : Sel) (H P : LGraph) (hP : P.WF) (n : Nat × Attrs) (hn : n ∈ P.nodes)
    (h0 : candCount sel H P n = 0) : allMonos sel H P = [] := by
  rw [List.eq_nil_iff_forall_not_mem]
  intro m hm
  exact no_mono_of_zero sel H P hP n hn h0 m ((mem_allMonos sel H P hP m).1 hm)

def prodList (sel : Sel) (H P : LGraph) : List (Nat × Attrs) → List Mapping
  | [] => [[]]
  | n :: rest => (cands sel H P n).flatMap fun ha => (prodList sel H P rest).map fun m => (n.1, ha.1) :: m

theorem length_prodList (sel : Sel) (H P : LGraph) (nodes : List (Nat × Attrs)) :
    (prodList sel H P nodes).length = estimateOf sel H P nodes := by
  induction nodes with
  | nil => rfl
  | cons n rest ih =>
    simp only [prodList, estimateOf, candCount, List.length_flatMap, List.length_map, ih, List.map_const',
      List.sum_replicate_nat]

theorem mem_prodList (sel : Sel) (H P : LGraph) (nodes : List (Nat × Attrs)) (f : Nat → Nat)
    (hc : ∀ n ∈ nodes, ∃ ha ∈ cands sel H P n, ha.1 = f n.1) :
    (nodes.map fun n => (n.1, f n.1)) ∈ prodList sel H P nodes := by
  induction nodes with
  | nil => exact List.mem_singleton.2 rfl
  | cons n rest ih =>
    obtain ⟨a, ha, e⟩ := hc n List.mem_cons_self
    exact List.mem_flatMap.2 ⟨a, ha, List.mem_map.2 ⟨_, ih fun k hk => hc k (List.mem_cons_of_mem _ hk), by rw [e]; rfl⟩⟩

theorem allMonos_length_le_estimate (sel : Sel) (H P : LGraph) (hH : H.ids.Nodup) (hP : P.WF) :
    (allMonos sel H P).length ≤ estimate sel H P := by
  unfold estimate
  rw [← length_prodList]
  refine ((allMonos_nodup sel H P hH).subperm fun m hm => ?_).length_le
  have hmono := (mem_allMonos sel H P hP m).1 hm
  rw [eq_ofFn hmono.keys hP.1, ofFn, LGraph.ids, List.map_map]
  exact mem_prodList sel H P P.nodes _ fun n hn => ⟨_, hmono.monoFn.candidate hP hn, rfl⟩

end SynKit.SubgraphSearch
