import SynKitModel.ITS
import SynKitProofs.ITSRcLemmas
/-!
# The free-radius mode of `extract_k` (C02)

`SPath nb W a l`: `l` continues a simple path after `a` outside `W`.  The search `dfs` of `longest_radius_extension`
appends to its path an `SPath` through unvisited atoms as long as any within the fuel (`dfsLongest_spec`), and fuel
beyond the longest `SPath` is never used (`dfsLongest_fuel_stable'`).  The outer loop keeps: every atom in
`visited_overall` lies on a centre atom followed by an `SPath`, all visited, and the recorded path is at least as long as
that atom followed by any rival `SPath` (`Found`, `longestExt_inv`).  No graph is mentioned up to there, and `dfs` is not
looked into after.

On a graph, for steps `nb` along bonds that include every bond into an atom that is no seed: an `SPath` and its start
are distinct atoms, so `|V|` bounds its length and is fuel enough (`spath_length_lt`); an atom at distance `d` has behind
it a visited atom followed by an unvisited `SPath` climbing the levels up to `d` (`tail_exists`), which the search that
found the visited atom could have taken (`key_bound`): the recorded path has more than `d` atoms (`longestExt_gt_lvl`).
The steps of `extract_k(its, -1)` are such where every bond is changed, hence between centre atoms, or traversable
(`StdTotal`, `freeSteps_of_edge`): the ball of the radius it picks is all that can be reached from the centre
(`mem_expand_free_iff`).  At the end: `extract_k` as an induced sub-graph (`extractK_eq_induced`), for every radius and
for the free one.
-/
namespace SynKit.ITS

def HChain (nb : Nat → List Nat) : Nat → List Nat → Prop
  | _, [] => True
  | a, b :: l => b ∈ nb a ∧ HChain nb b l

/-- `l` continues a simple path after `a`: every atom is an `nb`-neighbour of the one before it, none repeats, none is
in `W`.  For the search `W` is the set of visited atoms, `a` among them. -/
def SPath (nb : Nat → List Nat) (W : List Nat) (a : Nat) (l : List Nat) : Prop :=
  HChain nb a l ∧ l.Nodup ∧ ∀ y ∈ l, y ∉ W

theorem SPath.nil {nb : Nat → List Nat} {W : List Nat} {a : Nat} : SPath nb W a [] :=
  ⟨trivial, List.nodup_nil, fun _ h => absurd h List.not_mem_nil⟩

theorem spath_cons {nb : Nat → List Nat} {W : List Nat} {a b : Nat} {l : List Nat} :
    SPath nb W a (b :: l) ↔ b ∈ nb a ∧ b ∉ W ∧ SPath nb (b :: W) b l := by
  unfold SPath
  constructor
  · rintro ⟨⟨h1, h2⟩, hnd, hav⟩
    obtain ⟨h3, h4⟩ := List.nodup_cons.1 hnd
    exact ⟨h1, hav b List.mem_cons_self, h2, h4, fun y hy hyW =>
      (List.mem_cons.1 hyW).elim (fun e => h3 (e ▸ hy)) (hav y (List.mem_cons_of_mem _ hy))⟩
  · rintro ⟨h1, h5, h2, h4, h6⟩
    exact ⟨⟨h1, h2⟩, List.nodup_cons.2 ⟨fun hb => h6 b hb List.mem_cons_self, h4⟩,
      List.forall_mem_cons.2 ⟨h5, fun y hy hyW => h6 y hy (List.mem_cons_of_mem _ hyW)⟩⟩

theorem SPath.mono {nb : Nat → List Nat} {W U : List Nat} {a : Nat} {l : List Nat} (h : SPath nb U a l)
    (hW : ∀ y ∈ W, y ∈ U) : SPath nb W a l :=
  ⟨h.1, h.2.1, fun y hy hw => h.2.2 y hy (hW y hw)⟩

/-- Another continuation `T` after `x` on a simple path.  Along `l1 ++ [x]` the set to avoid grows from `W` by these
atoms (`spath_cons`); `T` avoids `U`, which holds them all. -/
theorem SPath.splice {nb : Nat → List Nat} {U T l2 : List Nat} {x : Nat} (hT : SPath nb U x T) :
    ∀ {l1 W : List Nat} {a : Nat}, SPath nb W a (l1 ++ x :: l2) → (∀ y ∈ W, y ∈ U) → (∀ y ∈ l1 ++ [x], y ∈ U) →
      SPath nb W a (l1 ++ x :: T) := by
  intro l1
  induction l1 with
  | nil =>
    intro W a h hW hl
    obtain ⟨h1, h2, _⟩ := spath_cons.1 h
    exact spath_cons.2 ⟨h1, h2, hT.mono (List.forall_mem_cons.2 ⟨hl x List.mem_cons_self, hW⟩)⟩
  | cons b l1 ih =>
    intro W a h hW hl
    obtain ⟨h1, h2, h3⟩ := spath_cons.1 h
    exact spath_cons.2 ⟨h1, h2, ih h3 (List.forall_mem_cons.2 ⟨hl b List.mem_cons_self, hW⟩)
      fun y hy => hl y (List.mem_cons_of_mem _ hy)⟩

theorem le_longer (p q : List Nat) :
    q.length ≤ (if p.length > q.length then p else q).length ∧
      p.length ≤ (if p.length > q.length then p else q).length := by
  split <;> omega

def pick (V : List Nat) (g : Nat → List Nat) (longest : List Nat) (w : Nat) : List Nat :=
  if w ∈ V then longest else if (g w).length > longest.length then g w else longest

theorem dfsLongest_succ (nb : Nat → List Nat) (fuel node : Nat) (vis path : List Nat) :
    dfsLongest nb (fuel + 1) node vis path =
      (nb node).foldl (pick (node :: vis) (fun w => dfsLongest nb fuel w (node :: vis) (path ++ [w]))) path := rfl

theorem foldl_pick_spec (V : List Nat) (g : Nat → List Nat) (l init : List Nat) :
    (l.foldl (pick V g) init = init ∨ ∃ w ∈ l, w ∉ V ∧ l.foldl (pick V g) init = g w) ∧
    init.length ≤ (l.foldl (pick V g) init).length ∧
    ∀ w ∈ l, w ∉ V → (g w).length ≤ (l.foldl (pick V g) init).length :=
  Core.foldl_inv_prefix (f := pick V g) (l := l) (s := [])
    (P := fun s b => (b = init ∨ ∃ w ∈ s, w ∉ V ∧ b = g w) ∧ init.length ≤ b.length ∧
      ∀ w ∈ s, w ∉ V → (g w).length ≤ b.length)
    (fun s b a _ ⟨h1, h2, h3⟩ => by
      have h1' : b = init ∨ ∃ w ∈ s ++ [a], w ∉ V ∧ b = g w :=
        h1.imp id fun ⟨w, hw, r⟩ => ⟨w, List.mem_append_left _ hw, r⟩
      unfold pick
      by_cases ha : a ∈ V
      · rw [if_pos ha]
        exact ⟨h1', h2, fun w hw hV => (List.mem_append.1 hw).elim (fun h => h3 w h hV)
          fun h => absurd (List.mem_singleton.1 h ▸ ha) hV⟩
      · rw [if_neg ha]
        obtain ⟨k1, k2⟩ := le_longer (g a) b
        refine ⟨?_, Nat.le_trans h2 k1, fun w hw hV => (List.mem_append.1 hw).elim
          (fun h => Nat.le_trans (h3 w h hV) k1) fun h => List.mem_singleton.1 h ▸ k2⟩
        split
        · exact Or.inr ⟨a, List.mem_append_right _ List.mem_cons_self, ha, rfl⟩
        · exact h1')
    ⟨Or.inl rfl, Nat.le_refl _, fun w hw => absurd hw List.not_mem_nil⟩

theorem dfsLongest_spec (nb : Nat → List Nat) : ∀ (fuel node : Nat) (vis path : List Nat),
    (∃ ext, dfsLongest nb fuel node vis path = path ++ ext ∧ SPath nb (node :: vis) node ext) ∧
    ∀ ext, SPath nb (node :: vis) node ext → ext.length ≤ fuel →
      path.length + ext.length ≤ (dfsLongest nb fuel node vis path).length := by
  intro fuel
  induction fuel with
  | zero =>
    intro node vis path
    refine ⟨⟨[], (List.append_nil _).symm, SPath.nil⟩, fun ext _ hlen => ?_⟩
    rw [List.eq_nil_of_length_eq_zero (Nat.le_zero.1 hlen)]
    exact Nat.le_refl _
  | succ fuel ih =>
    intro node vis path
    rw [dfsLongest_succ]
    obtain ⟨hres, hinit, hmax⟩ := foldl_pick_spec (node :: vis)
      (fun w => dfsLongest nb fuel w (node :: vis) (path ++ [w])) (nb node) path
    refine ⟨?_, fun ext hs hlen => ?_⟩
    · rcases hres with h | ⟨w, hw, hV, h⟩
      · exact ⟨[], by rw [h, List.append_nil], SPath.nil⟩
      · obtain ⟨ext, he, hs⟩ := (ih w (node :: vis) (path ++ [w])).1
        exact ⟨w :: ext, by rw [h, he, List.append_assoc]; rfl, spath_cons.2 ⟨hw, hV, hs⟩⟩
    · cases ext with
      | nil => exact hinit
      | cons w ext =>
        obtain ⟨hw, hV, hs'⟩ := spath_cons.1 hs
        have h1 := (ih w (node :: vis) (path ++ [w])).2 ext hs' (Nat.le_of_succ_le_succ hlen)
        have h2 := hmax w hw hV
        simp only [List.length_append, List.length_cons, List.length_nil] at h1 h2 ⊢
        omega

theorem dfsLongest_fuel_stable' (nb : Nat → List Nat) : ∀ (fuel fuel' node : Nat) (vis path : List Nat), fuel ≤ fuel' →
    (∀ ext, SPath nb (node :: vis) node ext → ext.length + 1 ≤ fuel) →
    dfsLongest nb fuel' node vis path = dfsLongest nb fuel node vis path := by
  intro fuel
  induction fuel with
  | zero => intro _ node vis _ _ h; exact absurd (h [] SPath.nil) (Nat.not_succ_le_zero _)
  | succ fuel ih =>
    intro fuel' node vis path hle h
    obtain ⟨f, rfl⟩ : ∃ f, fuel' = f + 1 := ⟨fuel' - 1, by omega⟩
    rw [dfsLongest_succ, dfsLongest_succ]
    refine List.foldl_ext _ _ _ fun longest w hw => ?_
    unfold pick
    by_cases hwV : w ∈ node :: vis
    · rw [if_pos hwV, if_pos hwV]
    · have heq := ih f w (node :: vis) (path ++ [w]) (Nat.le_of_succ_le_succ hle) fun ext he =>
        Nat.le_of_succ_le_succ (h (w :: ext) (spath_cons.2 ⟨hw, hwV, he⟩))
      simp only [if_neg hwV, heq]

/-- `x` was put into `visited_overall` by a search from a centre atom `c`: it lies on `c :: ext`, a simple path outside `W`
(`c` and what was visited before), all of it visited by now, and the recorded path is at least as long as `c` followed by
any simple path outside `W` of at most `fuel` atoms. -/
def Found (nb : Nat → List Nat) (fuel : Nat) (S : List Nat) (st : List Nat × List Nat) (x : Nat) : Prop :=
  ∃ c W ext, c ∈ S ∧ c ∈ W ∧ (∀ y ∈ W, y ∈ st.2) ∧ (∀ y ∈ ext, y ∈ st.2) ∧ SPath nb W c ext ∧ x ∈ c :: ext ∧
    ∀ ext', SPath nb W c ext' → ext'.length ≤ fuel → 1 + ext'.length ≤ st.1.length

theorem Found.mono {nb : Nat → List Nat} {fuel : Nat} {S : List Nat} {st st' : List Nat × List Nat} {x : Nat}
    (h : Found nb fuel S st x) (h2 : ∀ y ∈ st.2, y ∈ st'.2) (h1 : st.1.length ≤ st'.1.length) :
    Found nb fuel S st' x := by
  obtain ⟨c, W, ext, hc, hcW, hW, hext, hs, hx, hmax⟩ := h
  exact ⟨c, W, ext, hc, hcW, fun y hy => h2 y (hW y hy), fun y hy => h2 y (hext y hy), hs, hx,
    fun ext' h hl => Nat.le_trans (hmax ext' h hl) h1⟩

/-- The recorded path is empty or a centre atom followed by a simple path that avoids it. -/
def IsResult (nb : Nat → List Nat) (S : List Nat) (L : List Nat) : Prop :=
  L = [] ∨ ∃ c W ext, c ∈ S ∧ c ∈ W ∧ L = c :: ext ∧ SPath nb W c ext

theorem extStep_inv (nb : Nat → List Nat) (fuel : Nat) (S : List Nat) (st : List Nat × List Nat) (c : Nat)
    (hc : c ∈ S) (hinv : ∀ x ∈ st.2, Found nb fuel S st x) (hres : IsResult nb S st.1) :
    (∀ x ∈ (extStep nb fuel st c).2, Found nb fuel S (extStep nb fuel st c) x) ∧
    IsResult nb S (extStep nb fuel st c).1 ∧
    (∀ y ∈ st.2, y ∈ (extStep nb fuel st c).2) ∧ c ∈ (extStep nb fuel st c).2 := by
  unfold extStep
  by_cases hcv : c ∈ st.2
  · rw [if_pos hcv]
    exact ⟨hinv, hres, fun y hy => hy, hcv⟩
  · rw [if_neg hcv]
    simp only
    -- what this search returns: `c`, then a longest simple path through atoms not visited before
    obtain ⟨⟨ext, he, hs⟩, hmax⟩ := dfsLongest_spec nb fuel c st.2 [c]
    rw [he] at hmax ⊢
    have hsub : ∀ y ∈ st.2, y ∈ unionL st.2 (c :: ext) := fun y hy => (mem_unionL _ _ _).2 (Or.inl hy)
    have hp : ∀ y ∈ c :: ext, y ∈ unionL st.2 (c :: ext) := fun y hy => (mem_unionL _ _ _).2 (Or.inr hy)
    obtain ⟨hlen, hlen'⟩ := le_longer (c :: ext) st.1
    refine ⟨?_, ?_, hsub, hp c List.mem_cons_self⟩
    · intro x hx
      rcases (mem_unionL _ _ _).1 hx with hx | hx
      · exact (hinv x hx).mono hsub hlen
      · exact ⟨c, c :: st.2, ext, hc, List.mem_cons_self, List.forall_mem_cons.2 ⟨hp c List.mem_cons_self, hsub⟩,
          fun y hy => hp y (List.mem_cons_of_mem _ hy), hs, hx,
          fun ext' h hl => Nat.le_trans (hmax ext' h hl) hlen'⟩
    · split
      · exact Or.inr ⟨c, c :: st.2, ext, hc, List.mem_cons_self, rfl, hs⟩
      · exact hres

theorem longestExt_inv (nb : Nat → List Nat) (fuel : Nat) (S : List Nat) :
    (∀ x ∈ (longestExt nb fuel S).2, Found nb fuel S (longestExt nb fuel S) x) ∧
    IsResult nb S (longestExt nb fuel S).1 ∧ (∀ c ∈ S, c ∈ (longestExt nb fuel S).2) :=
  Core.foldl_inv_prefix (f := extStep nb fuel) (l := S) (s := [])
    (P := fun s st => (∀ x ∈ st.2, Found nb fuel S st x) ∧ IsResult nb S st.1 ∧ ∀ c ∈ s, c ∈ st.2)
    (fun s st c hc ⟨h1, h2, h3⟩ => by
      obtain ⟨k1, k2, k3, k4⟩ := extStep_inv nb fuel S st c hc h1 h2
      exact ⟨k1, k2, fun y hy => (List.mem_append.1 hy).elim (fun h => k3 y (h3 y h))
        fun h => List.mem_singleton.1 h ▸ k4⟩)
    ⟨fun x hx => absurd hx List.not_mem_nil, Or.inl rfl, fun c hc => absurd hc List.not_mem_nil⟩

theorem longestExt_nil (nb : Nat → List Nat) (fuel : Nat) : (longestExt nb fuel []).1 = [] := rfl

theorem longestExt_pos (nb : Nat → List Nat) (fuel : Nat) (S : List Nat) (hS : S ≠ []) :
    1 ≤ (longestExt nb fuel S).1.length := by
  obtain ⟨hinv, _, hall⟩ := longestExt_inv nb fuel S
  obtain ⟨c, hc⟩ := List.exists_mem_of_ne_nil S hS
  obtain ⟨_, _, _, _, _, _, _, _, _, hmax⟩ := hinv c (hall c hc)
  exact hmax [] SPath.nil (Nat.zero_le _)

/-! ## On a graph: the recorded path is longer than every distance from the seeds

For any seed set `S` and any `nb` that steps along bonds only (`hnb`) and along every bond into an atom that is no seed
(`hfree`). -/

/-- From an atom `v` at distance `d` walk back towards the seeds until the first atom of `Vf`; `T'` is the way gone so
far.  What lies behind that atom is a simple path outside `Vf`, as long as the levels it climbs.  `hfree`: every bond into
an atom that is no seed may be stepped along. -/
theorem tail_exists {I : LGraph} {nb : Nat → List Nat} {S : List Nat}
    (hfree : ∀ m n, I.hasEdge m n = true → n ∉ S → n ∈ nb m) (Vf : List Nat) (hVf : ∀ c ∈ S, c ∈ Vf) :
    ∀ (d v : Nat) (T' : List Nat), Lvl I S v d → SPath nb Vf v T' → (∀ y ∈ T', ∃ i, d < i ∧ Lvl I S y i) →
    ∃ x T j, x ∈ Vf ∧ Lvl I S x j ∧ j + T.length = d + T'.length ∧ SPath nb Vf x T := by
  intro d
  induction d with
  | zero => intro v T' hv hT _; exact ⟨v, T', 0, hVf v (near_zero.1 hv.1), hv, rfl, hT⟩
  | succ d ih =>
    intro v T' hv hT hlv
    by_cases hvf : v ∈ Vf
    · exact ⟨v, T', d + 1, hvf, hv, rfl, hT⟩
    · obtain ⟨u, hu, hE⟩ := hv.pred
      -- `v` is not on the way gone: the atoms there lie at higher levels
      have hvT : v ∉ T' := fun hm => by
        obtain ⟨i, hi, hl⟩ := hlv v hm
        have := hl.unique hv
        omega
      obtain ⟨x, T, j, hx, hxj, hlen, hxT⟩ := ih u (v :: T') hu
        ⟨⟨hfree u v hE hv.not_seed, hT.1⟩, List.nodup_cons.2 ⟨hvT, hT.2.1⟩, List.forall_mem_cons.2 ⟨hvf, hT.2.2⟩⟩
        (List.forall_mem_cons.2 ⟨⟨d + 1, Nat.lt_succ_self d, hv⟩,
          fun y hy => (hlv y hy).imp fun i h => ⟨Nat.lt_of_succ_lt h.1, h.2⟩⟩)
      exact ⟨x, T, j, hx, hxj, by rw [hlen, List.length_cons]; omega, hxT⟩

section OnGraph
variable {I : LGraph} {nb : Nat → List Nat} (hnb : ∀ a b, b ∈ nb a → I.hasEdge a b = true)
include hnb

theorem chain_dist {x : Nat} {T : List Nat} : ∀ (l : List Nat) (a : Nat),
    HChain nb a (l ++ x :: T) → DistLE I a (l.length + 1) x := by
  intro l
  induction l with
  | nil => intro a h; exact DistLE.step (DistLE.refl 0) (hnb _ _ h.1)
  | cons b l ih =>
    intro a h
    exact DistLE.cons (hnb _ _ h.1) (ih b h.2)

theorem spath_length_lt (hI : I.WF) {W ext : List Nat} {c : Nat} (hc : c ∈ I.ids) (hcW : c ∈ W)
    (h : SPath nb W c ext) : ext.length + 1 ≤ I.nodes.length := by
  have hnd : (c :: ext).Nodup := List.nodup_cons.2 ⟨fun hm => h.2.2 c hm hcW, h.2.1⟩
  exact length_le_card hnd (List.forall_mem_cons.2 ⟨hc, fun y hy => by
    obtain ⟨l1, l2, rfl⟩ := List.append_of_mem hy
    exact (chain_dist hnb l1 c h.1).mem_ids hI hc⟩)

/-- A visited atom at distance `j` with a simple path of `t` unvisited atoms behind it forces a recorded path of at
least `j + t + 1` atoms: the search that found the atom could have left its path there and gone that way. -/
theorem key_bound (hI : I.WF) {S : List Nat} (hS : ∀ s ∈ S, s ∈ I.ids) {st : List Nat × List Nat} {x j : Nat}
    {T : List Nat} (hx : Found nb I.nodes.length S st x) (hxj : Lvl I S x j) (hT : SPath nb st.2 x T) :
    j + T.length + 1 ≤ st.1.length := by
  obtain ⟨c, W, ext, hc, hcW, hW, hext, hs, hxQ, hmax⟩ := hx
  have hbound : ∀ ext', SPath nb W c ext' → 1 + ext'.length ≤ st.1.length := fun ext' h =>
    hmax ext' h (Nat.le_of_succ_le (spath_length_lt hnb hI (hS c hc) hcW h))
  rcases List.mem_cons.1 hxQ with rfl | hxe
  · have hj := hxj.le (near_zero.2 hc)
    have := hbound T (hT.mono hW)
    omega
  · obtain ⟨l1, l2, rfl⟩ := List.append_of_mem hxe
    -- `x` is no farther from the seeds than along the path found
    have hj := hxj.le ⟨c, hc, chain_dist hnb l1 c hs.1⟩
    have := hbound (l1 ++ x :: T) (hT.splice hs hW fun y hy => hext y (by
      rw [List.append_cons]; exact List.mem_append_left _ hy))
    simp only [List.length_append, List.length_cons] at this
    omega

theorem longestExt_gt_lvl (hI : I.WF) {S : List Nat} (hS : ∀ s ∈ S, s ∈ I.ids)
    (hfree : ∀ m n, I.hasEdge m n = true → n ∉ S → n ∈ nb m) {v d : Nat} (hv : Lvl I S v d) :
    d + 1 ≤ (longestExt nb I.nodes.length S).1.length := by
  obtain ⟨hinv, _, hall⟩ := longestExt_inv nb I.nodes.length S
  obtain ⟨x, T, j, hx, hxj, hlen, hT⟩ := tail_exists hfree _ hall d v [] hv SPath.nil
    (fun y hy => absurd hy List.not_mem_nil)
  have := key_bound hnb hI hS (hinv x hx) hxj hT
  rw [List.length_nil] at hlen
  omega

theorem longestExt_le (hI : I.WF) {S : List Nat} (hS : ∀ s ∈ S, s ∈ I.ids) :
    (longestExt nb I.nodes.length S).1.length ≤ I.nodes.length := by
  obtain ⟨_, hres, _⟩ := longestExt_inv nb I.nodes.length S
  rcases hres with h | ⟨c, W, ext, hc, hcW, h, hs⟩
  · rw [h]; exact Nat.zero_le _
  · rw [h]; exact spath_length_lt hnb hI (hS c hc) hcW hs

end OnGraph

/-! ## The free-radius mode: `nb = freeSteps I adj`, the seeds are the centre atoms -/

/-- Every bond's `standard_order` is a non-zero number (a changed bond) or `== 0` (a bond the search may
cross); excluded: a bond without / with a non-numeric `standard_order`. -/
def StdTotal (I : LGraph) : Prop :=
  ∀ e ∈ I.edges, stdNonzero (e.2.2.get "standard_order") = true ∨ stdIsZero e.2.2 = true

instance (I : LGraph) : Decidable (StdTotal I) := by unfold StdTotal; infer_instance

theorem stdTotal_of_num {a : Attrs} {h : Int} (ha : a.get "standard_order" = .num h) :
    stdNonzero (a.get "standard_order") = true ∨ stdIsZero a = true := by
  unfold stdIsZero
  rw [ha, Attrs.get?_of_get ha (by simp)]
  by_cases h0 : h = 0 <;> simp [stdNonzero, h0]

theorem StdTotal_of_WFits {I : LGraph} (hI : WFits I) : StdTotal I := by
  intro e he
  obtain ⟨a, b, _, hs⟩ := hI.2.2 e he
  exact stdTotal_of_num hs

theorem mem_freeSteps (I : LGraph) (adj : Nat → List Nat) (v w : Nat) :
    w ∈ freeSteps I adj v ↔ w ∈ adj v ∧ ∃ a, I.edge? v w = some a ∧ stdIsZero a = true := by
  unfold freeSteps
  rw [List.mem_filter]
  constructor
  · rintro ⟨h1, h2⟩
    refine ⟨h1, ?_⟩
    cases he : I.edge? v w with
    | none => simp [he] at h2
    | some a => simp only [he] at h2; exact ⟨a, rfl, h2⟩
  · rintro ⟨h1, a, ha, hz⟩
    exact ⟨h1, by simp only [ha]; exact hz⟩

theorem freeSteps_hasEdge {I : LGraph} {adj : Nat → List Nat} {v w : Nat} (h : w ∈ freeSteps I adj v) :
    I.hasEdge v w = true := by
  obtain ⟨_, a, ha, _⟩ := (mem_freeSteps I adj v w).1 h
  exact LGraph.hasEdge_of_edge? ha

theorem freeSteps_of_edge {I : LGraph} (hI : I.WF) (hz : StdTotal I) {adj : Nat → List Nat}
    (hadj : ∀ u v, I.hasEdge u v = true → v ∈ adj u) {m n : Nat} (hE : I.hasEdge m n = true)
    (hn : n ∉ (getRc {} I).ids) : n ∈ freeSteps I adj m := by
  obtain ⟨e, he, had⟩ := LGraph.hasEdge_iff.1 hE
  refine (mem_freeSteps I adj m n).2 ⟨hadj m n hE, e.2.2, LGraph.edge?_of_mem hI he had, ?_⟩
  -- a bond the search cannot cross is a changed bond, so both its ends are centre atoms
  rcases hz e he with h | h
  · exfalso
    apply hn
    rw [getRc_ids {} rfl]
    exact ⟨e, he, Or.inl (by rw [includeEdge_default]; exact h), end_iff_adj.2 ⟨m, had.symm⟩⟩
  · exact h

theorem freeRadius_gt_lvl {I : LGraph} (hI : I.WF) (hz : StdTotal I) {adj : Nat → List Nat}
    (hadj : ∀ u v, I.hasEdge u v = true → v ∈ adj u) {v d : Nat} (hv : Lvl I (getRc {} I).ids v d) :
    d + 1 ≤ freeRadiusAdj adj I :=
  longestExt_gt_lvl (fun _ _ => freeSteps_hasEdge) hI (getRc_ids_sub hI {} rfl)
    (fun _ _ => freeSteps_of_edge hI hz hadj) hv

theorem freeRadius_le {I : LGraph} (hI : I.WF) (adj : Nat → List Nat) : freeRadiusAdj adj I ≤ I.nodes.length :=
  longestExt_le (fun _ _ => freeSteps_hasEdge) hI (getRc_ids_sub hI {} rfl)

theorem freeRadius_pos (adj : Nat → List Nat) (I : LGraph) (h : (getRc {} I).ids ≠ []) : 1 ≤ freeRadiusAdj adj I :=
  longestExt_pos _ _ _ h

theorem freeRadius_zero (adj : Nat → List Nat) (I : LGraph) (h : (getRc {} I).ids = []) : freeRadiusAdj adj I = 0 := by
  unfold freeRadiusAdj; rw [h, longestExt_nil]; rfl

/-- The fuel `I.nodes.length` in `freeRadiusAdj` is no restriction. -/
theorem dfsLongest_fuel_stable {I : LGraph} (hI : I.WF) (adj : Nat → List Nat) (c : Nat) (vis : List Nat)
    (hc : c ∈ I.ids) (k : Nat) :
    dfsLongest (freeSteps I adj) (I.nodes.length + k) c vis [c] =
      dfsLongest (freeSteps I adj) I.nodes.length c vis [c] :=
  dfsLongest_fuel_stable' _ _ _ c vis [c] (Nat.le_add_right _ _) fun _ h =>
    spath_length_lt (fun _ _ => freeSteps_hasEdge) hI hc List.mem_cons_self h

theorem getRc_eq_empty {I : LGraph} (h : (getRc {} I).ids = []) : getRc {} I = {} := by
  have hn : (getRc {} I).nodes = [] := by
    unfold LGraph.ids at h; exact List.map_eq_nil_iff.1 h
  have he : (getRc {} I).edges = [] := List.eq_nil_iff_forall_not_mem.2 fun e he =>
    List.not_mem_nil (h ▸ (getRc_edge_ends {} rfl I e he).1)
  exact (show getRc {} I = ⟨(getRc {} I).nodes, (getRc {} I).edges⟩ from rfl).trans (by rw [hn, he])

theorem mem_expand_ge_card_iff {I : LGraph} (hI : I.WF) {k : Nat} (hk : I.nodes.length ≤ k) (n : Nat) :
    n ∈ expand I (getRc {} I).ids k ↔ Reach I (getRc {} I).ids n :=
  mem_expand_card_iff hI (getRc_ids_sub hI {} rfl) hk

theorem mem_expand_free_iff {I : LGraph} (hI : I.WF) (hz : StdTotal I) {adj : Nat → List Nat}
    (hadj : ∀ u v, I.hasEdge u v = true → v ∈ adj u) (n : Nat) :
    n ∈ expand I (getRc {} I).ids (freeRadiusAdj adj I) ↔ Reach I (getRc {} I).ids n :=
  mem_expand_iff_reach fun _ hd => Nat.le_of_succ_le (freeRadius_gt_lvl hI hz hadj hd)

theorem induced_expand_nil {I : LGraph} (h : (getRc {} I).ids = []) (k : Nat) :
    induced I (expand I (getRc {} I).ids k) = {} := by
  apply induced_nil
  intro n hn
  rw [mem_expand_iff, h] at hn
  obtain ⟨s, hs, _⟩ := hn
  cases hs

/-- `extract_k` is the induced sub-graph on the ball, radius 0 on a non-empty centre excepted (there
it is the centre itself, which lacks the unchanged bonds between centre atoms). -/
theorem extractK_eq_induced {I : LGraph} {k : Nat} (h : (getRc {} I).ids ≠ [] → 0 < k) :
    extractK I k = induced I (expand I (getRc {} I).ids k) := by
  cases k with
  | succ k => rfl
  | zero =>
    have hS : (getRc {} I).ids = [] := Classical.byContradiction fun hne => Nat.lt_irrefl 0 (h hne)
    exact (getRc_eq_empty hS).trans (induced_expand_nil hS 0).symm

theorem extractK_of_nil {I : LGraph} (h : (getRc {} I).ids = []) (k : Nat) : extractK I k = {} :=
  (extractK_eq_induced fun hne => absurd h hne).trans (induced_expand_nil h k)

theorem extractFreeAdj_of_nil {I : LGraph} (adj : Nat → List Nat) (h : (getRc {} I).ids = []) :
    extractFreeAdj adj I = {} := induced_expand_nil h _

theorem ids_ne_nil_card {I : LGraph} (hI : I.WF) (h : (getRc {} I).ids ≠ []) : 0 < I.nodes.length := by
  obtain ⟨c, hc⟩ := List.exists_mem_of_ne_nil _ h
  have := List.length_pos_of_mem (getRc_ids_sub hI {} rfl c hc)
  rwa [LGraph.ids, List.length_map] at this

theorem extractK_eq_of_ge {I : LGraph} (hI : I.WF) {k : Nat} (hk : I.nodes.length ≤ k) :
    extractK I k = extractK I I.nodes.length := by
  rw [extractK_eq_induced fun h => Nat.lt_of_lt_of_le (ids_ne_nil_card hI h) hk,
    extractK_eq_induced (ids_ne_nil_card hI)]
  exact induced_congr I fun n =>
    (mem_expand_ge_card_iff hI hk n).trans (mem_expand_ge_card_iff hI (Nat.le_refl _) n).symm

theorem mem_extractK_card_iff {I : LGraph} (hI : I.WF) (n : Nat) :
    n ∈ (extractK I I.nodes.length).ids ↔ Reach I (getRc {} I).ids n := by
  rw [extractK_eq_induced (ids_ne_nil_card hI), mem_ids_induced_expand hI (getRc_ids_sub hI {} rfl),
    mem_expand_ge_card_iff hI (Nat.le_refl _)]

theorem extractFreeAdj_eq_extractK (adj : Nat → List Nat) (I : LGraph) :
    extractFreeAdj adj I = extractK I (freeRadiusAdj adj I) :=
  (extractK_eq_induced (freeRadius_pos adj I)).symm

theorem extractFreeAdj_eq_card {I : LGraph} (hI : I.WF) (hz : StdTotal I) {adj : Nat → List Nat}
    (hadj : ∀ u v, I.hasEdge u v = true → v ∈ adj u) : extractFreeAdj adj I = extractK I I.nodes.length := by
  rw [extractK_eq_induced (ids_ne_nil_card hI)]
  exact induced_congr I fun n =>
    (mem_expand_free_iff hI hz hadj n).trans (mem_expand_ge_card_iff hI (Nat.le_refl _) n).symm

theorem extractFreeAdj_whole {I : LGraph} (hI : I.WF) (adj : Nat → List Nat)
    (hall : ∀ n ∈ I.ids, n ∈ (getRc {} I).ids) : extractFreeAdj adj I = I := by
  unfold extractFreeAdj
  exact induced_all hI fun n hn => mem_expand_of_mem I _ (hall n hn)

end SynKit.ITS
