import SynKitModel.CrnIR
import SynKitProofs.CrnIRSearch
import SynKitProofs.Core.LabIso
import SynKitProofs.Core.Dict
/-!
Equivariance of the CRN search: for graphs with distinct ids related by a `CrnIso g : H → G`, every stage on `H`
is carried by `g` to the same stage on `G` (initial partition, signatures, refinement, leaves and their labels).
Proved here: `g` carries signatures to signatures (`crnSig_rel`, i.e. `crnSys_hom`), initial partition to initial
partition and labels to labels; the transport along the pass, the loop and the tree is `IRTree`'s.
-/
namespace SynKit.CrnCanon
open SynKit.Canon (CellRel PartRel PartSub IRSys sortNat_perm sortBy_eq_of_perm_strictTotal irSplitBy_rel)
open SynKit.Core (LStruct option_map_congr_of_map_eq)

/-- Raw look-ups, not `.get`: `_sig` reads an absent key as `None`, `_label` as `""`; both are functions of
`Dict.get?`, so a map that preserves the look-ups preserves signatures and labels alike. -/
def crnEdgeGet (sel : SelD) (a : Attrs) : List (Option Val) := sel.edgeKeys.map (Dict.get? a)

structure CrnIso (sel : SelD) (G H : LGraph) (g : Nat → Nat) : Prop where
  perm : (H.ids.map g).Perm G.ids
  node : ∀ p ∈ H.ids, ∀ k ∈ sel.nodeKeys, Dict.get? (G.attrs (g p)) k = Dict.get? (H.attrs p) k
  arc : ∀ p ∈ H.ids, ∀ q ∈ H.ids, (G.arc? (g p) (g q)).map (crnEdgeGet sel) = (H.arc? p q).map (crnEdgeGet sel)

theorem crnNodeKey_congr (sel : SelD) (a b : Attrs) (h : ∀ k ∈ sel.nodeKeys, Dict.get? a k = Dict.get? b k) :
    crnNodeKey sel a = crnNodeKey sel b :=
  Attrs.map_get?_congr (fun _ o => o.getD Val.none) h

theorem crnNodeLabKey_congr (sel : SelD) (a b : Attrs) (h : ∀ k ∈ sel.nodeKeys, Dict.get? a k = Dict.get? b k) :
    crnNodeLabKey sel a = crnNodeLabKey sel b :=
  Attrs.map_get?_congr (fun _ o => o.getD (.str "")) h

theorem crnEdgeGet_eq_iff (sel : SelD) (a b : Attrs) :
    crnEdgeGet sel a = crnEdgeGet sel b ↔ ∀ k ∈ sel.edgeKeys, Dict.get? a k = Dict.get? b k := by
  unfold crnEdgeGet
  exact List.map_inj_left

theorem crnEdgeSigKey_congr (sel : SelD) (a b : Attrs) (h : crnEdgeGet sel a = crnEdgeGet sel b) :
    crnEdgeSigKey sel a = crnEdgeSigKey sel b :=
  Attrs.map_get?_congr (fun k o => Canon.irNormEdgeVal k (o.getD Val.none)) ((crnEdgeGet_eq_iff sel a b).1 h)

theorem crnEdgeLabKey_congr (sel : SelD) (a b : Attrs) (h : crnEdgeGet sel a = crnEdgeGet sel b) :
    crnEdgeLabKey sel a = crnEdgeLabKey sel b :=
  Attrs.map_get?_congr (fun _ o => o.getD (.str "")) ((crnEdgeGet_eq_iff sel a b).1 h)

section chain
variable {sel : SelD} {G H : LGraph} {g : Nat → Nat}

/-- The reading of a directed graph that the search sees: raw look-ups of the selected node keys, and of the selected arc
keys through `arc?`. -/
abbrev rawS (sel : SelD) (G : LGraph) : LStruct (List (Option Val)) (Option (List (Option Val))) :=
  ⟨G.ids, fun v => sel.nodeKeys.map (Dict.get? (G.attrs v)), fun u v => (G.arc? u v).map (crnEdgeGet sel)⟩

theorem CrnIso.iso (h : CrnIso sel G H g) : (rawS sel G).Iso (rawS sel H) g :=
  ⟨h.perm, fun p hp => List.map_congr_left (h.node p hp), h.arc⟩

theorem CrnIso.inj (hG : G.ids.Nodup) (h : CrnIso sel G H g) : ∀ a ∈ H.ids, ∀ b ∈ H.ids, g a = g b → a = b :=
  h.iso.inj hG

theorem CrnIso.nodup (hG : G.ids.Nodup) (h : CrnIso sel G H g) : H.ids.Nodup :=
  List.Nodup.of_map g (h.perm.nodup_iff.2 hG)

theorem CrnIso.mem (h : CrnIso sel G H g) {p : Nat} (hp : p ∈ H.ids) : g p ∈ G.ids :=
  h.iso.mem hp

theorem CrnIso.surj (h : CrnIso sel G H g) {v : Nat} (hv : v ∈ G.ids) : ∃ p ∈ H.ids, g p = v :=
  h.iso.surj hv

theorem CrnIso.length_eq (h : CrnIso sel G H g) : G.nodes.length = H.nodes.length := by
  rw [← LGraph.ids_length, ← LGraph.ids_length]
  exact h.iso.length_eq

theorem CrnIso.hasArc (h : CrnIso sel G H g) {p q : Nat} (hp : p ∈ H.ids) (hq : q ∈ H.ids) :
    (G.arc? (g p) (g q)).isSome = (H.arc? p q).isSome := by
  have := congrArg Option.isSome (h.arc p hp q hq)
  simpa using this

theorem CrnIso.succs (h : CrnIso sel G H g) {p : Nat} (hp : p ∈ H.ids) :
    ((crnSuccs H p).map g).Perm (crnSuccs G (g p)) :=
  h.iso.filter_perm _ _ fun _ hw => h.hasArc hp hw

theorem CrnIso.preds (h : CrnIso sel G H g) {p : Nat} (hp : p ∈ H.ids) :
    ((crnPreds H p).map g).Perm (crnPreds G (g p)) :=
  h.iso.filter_perm _ _ fun _ hw => h.hasArc hw hp

theorem CrnIso.nbrs (h : CrnIso sel G H g) {p : Nat} (hp : p ∈ H.ids) :
    ((crnNbrs H p).map g).Perm (crnNbrs G (g p)) :=
  h.iso.filter_perm _ _ fun w hw => by rw [h.hasArc hp hw, h.hasArc hw hp]

theorem crnNbrs_sub (G : LGraph) (v : Nat) : crnNbrs G v ⊆ G.ids := fun _ hx => (List.mem_filter.1 hx).1

/-- The out-arc keys of `_sig` (over the successors, `getD []` never meeting its default) as a `filterMap` over the nodes. -/
theorem crnSuccs_keys (sel : SelD) (G : LGraph) (u : Nat) :
    ((crnSuccs G u).map fun w => crnEdgeSigKey sel ((G.arc? u w).getD [])) =
      G.ids.filterMap fun w => (G.arc? u w).map (crnEdgeSigKey sel) := by
  unfold crnSuccs
  induction G.ids with
  | nil => rfl
  | cons w l ih => cases h : G.arc? u w <;> simp [h, ih]

theorem crnSig_rel (hG : G.ids.Nodup) (h : CrnIso sel G H g) {P' P : List (List Nat)}
    (hP : PartRel g P' P) (hsub : PartSub H.ids P') {p : Nat} (hp : p ∈ H.ids) :
    crnSig sel G P (g p) = crnSig sel H P' p := by
  apply CrnSig.ext'
  · exact crnNodeKey_congr sel _ _ (h.node p hp)
  · simp only [crnSig]
    have := (h.preds hp).length_eq
    simpa using this.symm
  · simp only [crnSig]
    have := (h.succs hp).length_eq
    simpa using this.symm
  · exact Canon.counts_rel (h.inj hG) hP hsub (h.nbrs hp) (crnNbrs_sub H p)
  · simp only [crnSig, crnSuccs_keys]
    apply sortBy_eq_of_perm_strictTotal Canon.Val.ltList Canon.Val.ltList_strictTotal
    refine (h.perm.filterMap _).symm.trans (.of_eq ?_)
    rw [List.filterMap_map]
    exact List.filterMap_congr fun w hw =>
      option_map_congr_of_map_eq _ _ (crnEdgeSigKey_congr sel) _ _ (h.arc p hp w hw)

theorem crnSys_hom (hG : G.ids.Nodup) (h : CrnIso sel G H g) : IRSys.Hom (crnSys sel H) (crnSys sel G) g H.ids :=
  ⟨h.inj hG, rfl, CrnSig.lt_strictTotal, congrArg (· + 1) h.length_eq.symm,
    fun hP hsub _ hp => crnSig_rel hG h hP hsub hp⟩

theorem crnRefine_rel (hG : G.ids.Nodup) (h : CrnIso sel G H g) {P' P : List (List Nat)}
    (hP : PartRel g P' P) (hsub : PartSub H.ids P') :
    PartRel g (crnRefine sel H P') (crnRefine sel G P) := by
  rw [crnRefine_eq, crnRefine_eq]
  exact IRSys.refine_rel (crnSys_lawful sel H) (crnSys_lawful sel G) (crnSys_hom hG h) hP hsub

theorem crnInitPart_rel (h : CrnIso sel G H g) : PartRel g (crnInitPart sel H) (crnInitPart sel G) := by
  unfold crnInitPart
  split
  · rw [show H.ids.isEmpty = G.ids.isEmpty from List.isEmpty_map.symm.trans h.perm.isEmpty_eq]
    split
    · exact List.Forall₂.nil
    · exact List.Forall₂.cons (CellRel.of_perm h.perm (sortNat_perm _) (sortNat_perm _)) List.Forall₂.nil
  · apply irSplitBy_rel Canon.Val.ltList Canon.Val.ltList_strictTotal g _ _ H.ids G.ids h.perm
    intro w hw
    exact crnNodeKey_congr sel _ _ (h.node w hw)

theorem crnNodeSeg_rel (h : CrnIso sel G H g) (s : List Nat) (hs : s ⊆ H.ids) :
    crnNodeSeg sel G (s.map g) = crnNodeSeg sel H s := by
  unfold crnNodeSeg
  rw [List.map_map]
  apply List.map_congr_left
  intro v hv
  exact crnNodeLabKey_congr sel _ _ (h.node v (hs hv))

theorem crnBit_eq_iff (sel : SelD) (G H : LGraph) (u v u' v' : Nat) :
    crnBit sel G u v = crnBit sel H u' v' ↔
      (G.arc? u v).map (crnEdgeLabKey sel) = (H.arc? u' v').map (crnEdgeLabKey sel) := by
  unfold crnBit
  cases G.arc? u v <;> cases H.arc? u' v' <;> simp

theorem crnBit_rel (h : CrnIso sel G H g) {u v : Nat} (hu : u ∈ H.ids) (hv : v ∈ H.ids) :
    crnBit sel G (g u) (g v) = crnBit sel H u v :=
  (crnBit_eq_iff ..).2 (option_map_congr_of_map_eq _ _ (crnEdgeLabKey_congr sel) _ _ (h.arc u hu v hv))

theorem crnRows_rel (h : CrnIso sel G H g) (s : List Nat) (hs : s ⊆ H.ids) :
    crnRows sel G (s.map g) = crnRows sel H s := by
  unfold crnRows
  rw [List.zipIdx_map, List.map_map]
  apply List.map_congr_left
  intro ui hui
  simp only [Function.comp_apply, List.map_map]
  apply List.map_congr_left
  intro vj hvj
  simp only [Function.comp_apply, Prod.map_fst, Prod.map_snd, id_eq]
  split
  · rfl
  · exact crnBit_rel h (hs (List.fst_mem_of_mem_zipIdx hui)) (hs (List.fst_mem_of_mem_zipIdx hvj))

theorem crnBuildLabel_rel (h : CrnIso sel G H g) (s : List Nat) (hs : s ⊆ H.ids) :
    crnBuildLabel sel G (s.map g) = crnBuildLabel sel H s := by
  unfold crnBuildLabel
  rw [crnNodeSeg_rel h s hs, crnRows_rel h s hs]

theorem crnRootLeaves_rel (hG : G.ids.Nodup) (h : CrnIso sel G H g) :
    ∀ l, l ∈ crnRootLeaves sel G ↔ ∃ l' ∈ crnRootLeaves sel H, l = (l'.1.map g, l'.2.map g) := by
  rw [crnRootLeaves, crnRootLeaves, crnLeaves_eq, crnLeaves_eq, h.length_eq]
  exact IRSys.leaves_rel (crnSys_lawful sel H) (crnSys_lawful sel G) (crnSys_hom hG h) (H.nodes.length + 1)
    (crnInitPart_rel h) (crnInitPart_ok sel H).partSub []

theorem crnLeafLabel_rel (h : CrnIso sel G H g) (hH : H.ids.Nodup) {l' : List Nat × List Nat}
    (hl' : l' ∈ crnRootLeaves sel H) : crnLeafLabel sel G (l'.1.map g, l'.2.map g) = crnLeafLabel sel H l' :=
  crnBuildLabel_rel h l'.2 (crnRootLeaves_perm sel H hH l' hl').subset

theorem crnLeafLabels_rel (hG : G.ids.Nodup) (h : CrnIso sel G H g) (k : CrnLabel) :
    (∃ a ∈ crnRootLeaves sel G, crnLeafLabel sel G a = k) ↔ (∃ b ∈ crnRootLeaves sel H, crnLeafLabel sel H b = k) :=
  Canon.exists_key_congr (crnRootLeaves_rel hG h) (fun _ hb => crnLeafLabel_rel h (h.nodup hG) hb) k

end chain

end SynKit.CrnCanon
