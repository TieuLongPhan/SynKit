import SynKitModel.ViewsClaim
import SynKitProofs.ViewsClaimBasic
import SynKitProofs.ViewsLemmas.Str
/-!
# C16: `parse_rxns` input forms (explicit per-line rules, `prefer_suffix`) on printed lines

The loop over `(line, explicit rule)` items is the plain loop over lines wherever each item parses to what its line
parses to (`parseItemsFrom_map`). Under `itemsClaim` it does, against the lines printed WITH the rule suffix
(`itemsClaim_parse`), so the round trip is `Str.strings_roundtrip'` (`itemsClaim_roundtrip`).
-/
namespace SynKit.Views.Raw

/-- What the loop body of `parse_rxns` parses one `(line, explicit rule)` item to. -/
def itemParse (ps pf : Bool) (d : String) (it : List Char × Option String) : Except Err ParsedLine :=
  match it.2 with
  | some r => if pf && ps && hasRuleSuffix it.1 then parseLine none true it.1 else parseLine (some r) false it.1
  | none => if ps then parseLine none true it.1 else parseLine (some d) false it.1

theorem itemParse_none (ps pf : Bool) (d : String) (l : List Char) :
    itemParse ps pf d (l, none) = parseLine (if ps then none else some d) ps l := by
  -- `rfl` closes both cases too, but only after unfolding `parseLine` on either side
  cases ps <;> simp [itemParse]

theorem parseItemsFrom_cons (ps pf : Bool) (d : String) (st : PState) (it : List Char × Option String)
    (rest : List (List Char × Option String)) :
    parseItemsFrom ps pf d st (it :: rest) =
      match itemParse ps pf d it with
      | .error e => .error e
      | .ok pl =>
        match st.addGen pl with
        | .error e => .error e
        | .ok st' => parseItemsFrom ps pf d st' rest := by
  obtain ⟨l, ex⟩ := it
  cases ex <;> rfl

/-- The loop of `parse_rxns` on items is the plain loop on lines as soon as every item parses to what its line
parses to. Items and lines are two readings of one index list, so that "the same position" is "the same index". -/
theorem parseItemsFrom_map {α : Type} (ps pf ps' : Bool) (d d' : String) (xs : List α)
    (item : α → List Char × Option String) (line : α → List Char)
    (h : ∀ x ∈ xs, itemParse ps pf d (item x) = parseLine (if ps' then none else some d') ps' (line x)) :
    ∀ st : PState, parseItemsFrom ps pf d st (xs.map item) = parseLinesFrom ps' d' st (xs.map line) := by
  induction xs with
  | nil => intro st; rfl
  | cons x xs ih =>
    intro st
    have ih := ih fun y hy => h y (List.mem_cons_of_mem _ hy)
    simp only [List.map_cons, parseItemsFrom_cons, parseLinesFrom, h x List.mem_cons_self]
    cases parseLine (if ps' then none else some d') ps' (line x) with
    | error e => rfl
    | ok pl =>
      simp only []
      cases st.addGen pl with
      | error e => rfl
      | ok st' => exact ih st'

theorem _root_.SynKit.Views.parseItemsFrom_plain (parseSuffix preferSuffix : Bool) (defaultRule : String) (st : PState)
    (ls : List (List Char)) :
    parseItemsFrom parseSuffix preferSuffix defaultRule st (ls.map fun l => (l, none)) =
      parseLinesFrom parseSuffix defaultRule st ls :=
  (parseItemsFrom_map parseSuffix preferSuffix parseSuffix defaultRule defaultRule ls _ id
    (fun l _ => itemParse_none parseSuffix preferSuffix defaultRule l) st).trans (by rw [List.map_id])

theorem fmtLines_eq (f : StrFlags) (N : Net) : fmtLines f N = (printedRxns f N).map (fmtLine f) := rfl

theorem printedRxns_perm (f : StrFlags) (N : Net) : (printedRxns f N).Perm N.rxns :=
  printed_perm f.sort N.rxns

theorem mem_printedRxns (f : StrFlags) (N : Net) (e : Rxn) (he : e ∈ printedRxns f N) : e ∈ N.rxns :=
  (printedRxns_perm f N).mem_iff.1 he

theorem itemsClaim_parse (f : StrFlags) (ps pf : Bool) (d : String) (N : Net)
    (items : List (List Char × Option String)) (h : itemsClaim f ps pf N items = true) :
    parseRxnsInput ps pf d (.tuples items) = parseLines (fmtLines { f with includeRule := true } N) := by
  show (match parseItemsFrom ps pf d {} items with
    | .ok st => Except.ok st.net
    | .error e => .error e) = _
  unfold itemsClaim at h
  simp only [Bool.and_eq_true, Bool.or_eq_true, decide_eq_true_eq, Bool.not_eq_eq_eq_not,
    Bool.not_true, List.all_eq_true, Option.isNone_iff_eq_none] at h
  obtain ⟨⟨hwf, hlines⟩, hcase⟩ := h
  have hN := (wfStrNetB_iff N).1 hwf
  unfold parseLines
  rcases hcase with ⟨⟨hf, hi⟩, hrules⟩ | ⟨⟨hf, hps⟩, hpre⟩
  · -- bare lines, every rule explicit: the item parses to what the line printed WITH the suffix parses to
    have hit : items = (printedRxns f N).map fun e => (fmtLine f e, some e.rule) := by
      rw [List.zip_of_prod hlines hrules, fmtLines_eq, List.zip_map']
    have key : ∀ e ∈ printedRxns f N, itemParse ps pf d (fmtLine f e, some e.rule) =
        parseLine (if true then none else some "r") true (fmtLine { f with includeRule := true } e) := by
      intro e he
      have he' := mem_printedRxns f N e he
      simp only [itemParse, Str.hasRuleSuffix_fmtLine_plain f hf hi e (hN.labels e he'), Bool.and_false,
        Bool.false_eq_true, if_false, if_true,
        Str.parseLine_fmtLine f e (some e.rule) false (Or.inr ⟨hf, hi⟩) (hN.sides e he') (hN.labels e he')
          (fun _ => hN.rules e he'),
        Str.parseLine_fmtLine { f with includeRule := true } e none true (Or.inl ⟨rfl, rfl⟩) (hN.sides e he')
          (hN.labels e he') (fun _ => hN.rules e he')]
    rw [hit, parseItemsFrom_map ps pf true d "r" _ _ _ key {}]
    rfl
  · -- lines with the suffix, suffix parsing on: the explicit rule is there only where the suffix wins
    have hf' : ({ f with includeRule := true } : StrFlags) = f := by
      cases f; simp only at hf; subst hf; rfl
    subst hps
    have key : ∀ it ∈ items, itemParse true pf d (id it) =
        parseLine (if true then none else some "r") true it.1 := by
      intro it hit
      obtain ⟨e, he, hfe⟩ := List.mem_map.1 (show it.1 ∈ fmtLines f N from hlines ▸ List.mem_map_of_mem hit)
      obtain ⟨l, ex⟩ := it
      cases ex with
      | none => simp only [id, itemParse_none, if_true]
      | some r =>
        have hp : pf = true := hpre.resolve_right fun hn => nomatch hn _ hit
        subst hfe
        simp only [id, itemParse, hp, Str.hasRuleSuffix_fmtLine f hf e (hN.rules e (mem_printedRxns f N e he)),
          Bool.and_self, if_true]
    have := parseItemsFrom_map true pf true d "r" items id (·.1) key {}
    rw [List.map_id] at this
    rw [hf', ← hlines, this]
    rfl

theorem itemsClaim_roundtrip (f : StrFlags) (ps pf : Bool) (d : String) (N : Net)
    (items : List (List Char × Option String)) (h : itemsClaim f ps pf N items = true) :
    ∃ N', parseRxnsInput ps pf d (.tuples items) = .ok N' ∧
      N'.rxns.map Rxn.content = (printedRxns f N).map Rxn.sortedContent ∧
      (N'.rxns.map Rxn.content).Perm (N.rxns.map Rxn.sortedContent) := by
  have hwf : wfStrNetB N = true := by
    unfold itemsClaim at h
    simp only [Bool.and_eq_true] at h
    exact h.1.1
  obtain ⟨N', hN', hcont⟩ := Str.strings_roundtrip' { f with includeRule := true } rfl N
    ((wfStrNetB_iff N).1 hwf)
  refine ⟨N', (itemsClaim_parse f ps pf d N items h).trans hN', hcont, ?_⟩
  rw [hcont]
  exact (printedRxns_perm f N).map _

theorem parseRxnsInput_forms (ps pf : Bool) (d : String) (xs : List (List Char × Option String)) :
    parseRxnsInput ps pf d (.mapping xs) = parseRxnsInput ps pf d (.tuples xs) ∧
    parseRxnsInput ps pf d (.lines (xs.map (·.1)) (some (xs.map (·.2)))) =
      parseRxnsInput ps pf d (.tuples xs) := by
  refine ⟨rfl, ?_⟩
  unfold parseRxnsInput ItemsInput.pairs
  simp only [List.length_map, if_true, ← List.zip_of_prod (xs := xs) rfl rfl]

theorem parseRxnsInput_lines_none (ps pf : Bool) (d : String) (ls : List (List Char)) :
    parseRxnsInput ps pf d (.lines ls none) =
      (match parseLinesFrom ps d {} ls with
        | .ok st => .ok st.net
        | .error e => .error e) := by
  unfold parseRxnsInput ItemsInput.pairs
  simp only [parseItemsFrom_plain]
  rfl

theorem parseRxnsInput_length_mismatch (ps pf : Bool) (d : String) (ls : List (List Char))
    (rs : List (Option String)) (h : ls.length ≠ rs.length) :
    parseRxnsInput ps pf d (.lines ls (some rs)) = .error .valueError := by
  unfold parseRxnsInput ItemsInput.pairs
  simp only [if_neg h]

-- Both disjuncts of `itemsClaim` are satisfiable.
example :
    itemsClaim { includeRule := false } true false
      { species := ["A", "B"], rxns := [⟨"r_1", "R1", [("A", 2)], [("B", 1)]⟩], mol := [] }
      [("2A >> B".toList, some "R1")] = true ∧
    itemsClaim {} true true
      { species := ["A", "B"], rxns := [⟨"r_1", "R1", [("A", 2)], [("B", 1)]⟩], mol := [] }
      [("2A >> B | rule=R1".toList, some "X")] = true := by
  decide +kernel

end SynKit.Views.Raw
