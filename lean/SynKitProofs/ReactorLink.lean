import SynKitModel.Reactor
import SynKitModel.ReactorInv
import SynKitModel.ReactorConcrete
import SynKitProofs.ReactorLemmas
import SynKitProofs.ReactorInvLemmas
import SynKitProofs.Match
import SynKitProofs.ReactorGlue
/-!
Lemmas that tie the concrete glue model (C03) to the abstract reactor pipeline (C04, C05, C11), about the
definitions of `SynKitModel/ReactorConcrete.lean`.  The glue step is equivariant under renumbering as an
EQUALITY of graphs (`glue_relabel`); `left` and `invert` commute with renumbering only up to the
`atom_map = node id` they write, which neither search nor glue reads (`noMap`).  The glued graph depends on
the match only through the labels it induces (`glue_iso_of_labels`), hence matches that differ by a rule
automorphism glue to isomorphic ITS graphs (`glue_aut_iso`).  Last: gluing a reaction's own template along
the identity rebuilds the reaction (`glue_own_template_partial`, C04 step 3).
-/
namespace SynKit.ReactorLink
open SynKit.Match SynKit.Reactor SynKit.ReactorInv

theorem preimage_relabelBoth {f π : Nat → Nat} (hf : Function.Injective f) (m : Mapping) (h : Nat) :
    preimage (relabelHost f (relabelPat π m)) (f h) = (preimage m h).map π := by
  rw [relabelBoth_eq]
  unfold preimage
  rw [List.find?_map]
  simp only [Function.comp_def, hf.eq_iff, Option.map_map]

theorem landsOn_relabelBoth {f π : Nat → Nat} (hf : Function.Injective f) (hπ : Function.Injective π)
    (m : Mapping) (te : Nat × Nat × Attrs) (x y : Nat) :
    landsOn (relabelHost f (relabelPat π m)) (π te.1, π te.2.1, te.2.2) (f x) (f y) = landsOn m te x y := by
  unfold landsOn
  simp only [get?_relabelBoth hπ]
  cases m.get? te.1 <;> cases m.get? te.2.1 <;> simp [hf.eq_iff]

theorem prepNode_snd (q q' : Nat) (a : Attrs) : (prepNode (q, a)).2 = (prepNode (q', a)).2 := rfl

theorem glueNode_relabel {f π : Nat → Nat} (hf : Function.Injective f) (hπ : Function.Injective π)
    (T : LGraph) (m : Mapping) (p : Nat × Attrs) :
    glueNode (T.relabel π) (relabelHost f (relabelPat π m)) (f p.1, p.2) =
      (f (glueNode T m p).1, (glueNode T m p).2) := by
  unfold glueNode
  simp only [preimage_relabelBoth hf]
  cases preimage m p.1 with
  | none => rfl
  | some q =>
    simp only [Option.map_some]
    rw [LGraph.attrs_relabel_of_injective hπ]
    rfl

theorem tplEdgeFor_relabel {f π : Nat → Nat} (hf : Function.Injective f) (hπ : Function.Injective π)
    (T : LGraph) (m : Mapping) (x y : Nat) :
    tplEdgeFor (T.relabel π) (relabelHost f (relabelPat π m)) (f x) (f y) =
      (tplEdgeFor T m x y).map fun te => (π te.1, π te.2.1, te.2.2) := by
  unfold tplEdgeFor
  rw [LGraph.edges_relabel, List.find?_map]
  simp only [Function.comp_def, landsOn_relabelBoth hf hπ]

theorem glueHostEdge_relabel {f π : Nat → Nat} (hf : Function.Injective f) (hπ : Function.Injective π)
    (T : LGraph) (m : Mapping) (e : Nat × Nat × Attrs) :
    glueHostEdge (T.relabel π) (relabelHost f (relabelPat π m)) (f e.1, f e.2.1, e.2.2) =
      (f (glueHostEdge T m e).1, f (glueHostEdge T m e).2.1, (glueHostEdge T m e).2.2) := by
  unfold glueHostEdge
  simp only [tplEdgeFor_relabel hf hπ]
  cases tplEdgeFor T m e.1 e.2.1 <;> rfl

theorem glueNewEdge_relabel {f π : Nat → Nat} (hf : Function.Injective f) (hπ : Function.Injective π)
    (host : LGraph) (m : Mapping) (te : Nat × Nat × Attrs) :
    glueNewEdge (host.relabel f) (relabelHost f (relabelPat π m)) (π te.1, π te.2.1, te.2.2) =
      (glueNewEdge host m te).map fun e => (f e.1, f e.2.1, e.2.2) := by
  unfold glueNewEdge
  simp only [get?_relabelBoth hπ]
  cases m.get? te.1 with
  | none => rfl
  | some hu =>
    cases m.get? te.2.1 with
    | none => rfl
    | some hv =>
      simp only [Option.map_some, LGraph.hasEdge_relabel_of_injective hf]
      cases host.hasEdge hu hv <;> rfl

theorem glue_relabel {f π : Nat → Nat} (hf : Function.Injective f) (hπ : Function.Injective π)
    (host T : LGraph) (m : Mapping) :
    glue (host.relabel f) (T.relabel π) (relabelHost f (relabelPat π m)) = (glue host T m).relabel f := by
  unfold glue prepHost
  simp only [LGraph.relabel, List.map_map, List.map_append, List.filterMap_map, List.map_filterMap, LGraph.mk.injEq]
  refine ⟨List.map_congr_left fun p _ => glueNode_relabel hf hπ T m (prepNode p), ?_⟩
  congr 1
  · exact List.map_congr_left fun e _ => glueHostEdge_relabel hf hπ T m (prepEdge e)
  · exact List.filterMap_congr fun te _ => glueNewEdge_relabel hf hπ host m te

theorem relabel_WF_iff (G : LGraph) (f : Nat → Nat) (hf : Function.Injective f) : (G.relabel f).WF ↔ G.WF := by
  refine ⟨fun h => ?_, fun h => LGraph.wf_relabel_of_injective h hf⟩
  -- relabel back along a left inverse of `f`, which is injective on the image of `f`
  have hg : ∀ v, Function.invFun f (f v) = v := Function.leftInverse_invFun hf
  have := LGraph.wf_relabel (f := Function.invFun f) h fun a ha b hb e => by
    rw [LGraph.ids_relabel] at ha hb
    obtain ⟨a', -, rfl⟩ := List.mem_map.1 ha
    obtain ⟨b', -, rfl⟩ := List.mem_map.1 hb
    rw [hg, hg] at e
    rw [e]
  rwa [LGraph.relabel_relabel, funext hg, LGraph.relabel_id] at this

theorem wfHost_relabel_iff (host : LGraph) (f : Nat → Nat) (hf : Function.Injective f) :
    WFHost (host.relabel f) ↔ WFHost host := by
  unfold WFHost
  rw [relabel_WF_iff host f hf, LGraph.nodes_relabel, LGraph.edges_relabel, List.forall_mem_map, List.forall_mem_map]

theorem wfTemplate_relabel_iff (T : LGraph) (π : Nat → Nat) (hπ : Function.Injective π) :
    WFTemplate (T.relabel π) ↔ WFTemplate T := by
  unfold WFTemplate
  rw [relabel_WF_iff T π hπ, LGraph.nodes_relabel, LGraph.edges_relabel, List.forall_mem_map, List.forall_mem_map]

/-! `left` and `invert` write `atom_map = node id` into the graphs they build.  So what BUILDS a pattern or an oriented
template commutes with renumbering only under `noMap` (`noMap_left_relabel`, `noMap_invert_relabel`; `noMap_relabel` for
the template itself), and what READS one does not see the attribute (`left_noMap`, `allMonos_noMap`, `glue_noMap`,
`wfTemplate_noMap_iff`).  Each `_orient_relabel` lemma composes one of each kind with the plain equivariance
(`allMonos_relabel`, `glue_relabel`, `wfTemplate_relabel_iff`). -/

theorem noMap_relabel (G : LGraph) (π : Nat → Nat) : noMap (G.relabel π) = (noMap G).relabel π := by
  simp [noMap, LGraph.relabel, List.map_map, Function.comp_def]

theorem noMap_ids (G : LGraph) : (noMap G).ids = G.ids := by
  simp [noMap, LGraph.ids, List.map_map, Function.comp_def]

theorem noMap_attrs (G : LGraph) (v : Nat) : (noMap G).attrs v = Dict.erase (G.attrs v) "atom_map" := by
  simp only [LGraph.attrs, noMap, List.find?_map, Function.comp_def]
  cases G.nodes.find? (fun p => decide (p.1 = v)) <;> rfl

theorem noMap_edge? (G : LGraph) (u v : Nat) : (noMap G).edge? u v = G.edge? u v := rfl

theorem noMap_WF_iff (T : LGraph) : (noMap T).WF ↔ T.WF := by
  unfold LGraph.WF
  rw [noMap_ids]
  rfl

theorem hasKey_erase_other (a : Attrs) (k x : String) (h : x ≠ k) : hasKey (Dict.erase a k) x = hasKey a x := by
  rw [hasKey, Dict.get?_erase_other _ _ _ h, hasKey]

theorem pyGet_erase_other (a : Attrs) (k x : String) (d : Val) (h : x ≠ k) :
    pyGet (Dict.erase a k) x d = pyGet a x d :=
  Dict.getD_erase_other h

theorem noMap_decompSide_relabel (s : Nat) (T : LGraph) (π : Nat → Nat) :
    noMap (decompSide s (T.relabel π)) = (noMap (decompSide s T)).relabel π := by
  unfold decompSide noMap LGraph.relabel
  simp only [List.filterMap_map, List.map_filterMap, LGraph.mk.injEq]
  constructor
  · apply List.filterMap_congr
    intro p _
    simp only [Function.comp, apply_ite (Option.map _), Option.map_some, Option.map_none]
    -- the two attribute lists differ in the erased entry only
    rfl
  · apply List.filterMap_congr
    intro e _
    simp only [Function.comp, apply_ite (Option.map _), Option.map_some, Option.map_none]

theorem noMap_left_relabel (T : LGraph) (π : Nat → Nat) :
    noMap (left (T.relabel π)) = (noMap (left T)).relabel π := noMap_decompSide_relabel 0 T π

theorem noMap_invert_relabel (T : LGraph) (π : Nat → Nat) :
    noMap (invert (T.relabel π)) = (noMap (invert T)).relabel π := by
  unfold invert noMap LGraph.relabel
  simp only [List.filterMap_map, List.map_filterMap, LGraph.mk.injEq]
  constructor
  · apply List.filterMap_congr
    intro p _
    simp only [Function.comp, apply_ite (Option.map _), Option.map_some, Option.map_none]
    rfl
  · apply List.filterMap_congr
    intro e _
    simp only [Function.comp, apply_ite (Option.map _), Option.map_some, Option.map_none]

theorem decompSide_noMap (s : Nat) (T : LGraph) : decompSide s (noMap T) = decompSide s T := by
  unfold decompSide noMap
  simp only [List.filterMap_map, LGraph.mk.injEq, and_true]
  apply List.filterMap_congr
  intro p _
  simp only [Function.comp, hasKey_erase_other _ _ _ (show "typesGH" ≠ "atom_map" by decide),
    Attrs.get_erase_other (show "typesGH" ≠ "atom_map" by decide)]

theorem left_noMap (T : LGraph) : left (noMap T) = left T := decompSide_noMap 0 T

theorem nodeOk_erase (sel : Sel) (hk : "atom_map" ∉ sel.nodeKeys) (ha pa : Attrs) :
    nodeOk sel ha (Dict.erase pa "atom_map") = nodeOk sel ha pa :=
  nodeOk_congr (fun _ _ => rfl) fun _ h =>
    Attrs.get_erase_other (h.elim (fun h e => hk (e ▸ h)) fun h e => absurd (h.symm.trans e) (by decide))

theorem extendOk_noMap (sel : Sel) (hk : "atom_map" ∉ sel.nodeKeys) (ind : Bool) (H P : LGraph) :
    extendOk sel ind H (noMap P) = extendOk sel ind H P := by
  funext acc p h
  unfold extendOk
  rw [noMap_attrs, nodeOk_erase sel hk]
  rfl

theorem allMonos_noMap (sel : Sel) (hk : "atom_map" ∉ sel.nodeKeys) (H P : LGraph) :
    allMonos sel H (noMap P) = allMonos sel H P := by
  unfold allMonos
  -- the enumerator is back-tracking over the test `extendOk`, and the test is the same function
  rw [noMap_ids, extend_eq, extend_eq, extendOk_noMap sel hk]

theorem nodeGlue_congr (h p p' : Attrs) (h1 : Dict.get? p "typesGH" = Dict.get? p' "typesGH")
    (h2 : Dict.get? p "h_pairs" = Dict.get? p' "h_pairs") : nodeGlue h p = nodeGlue h p' := by
  unfold nodeGlue hasKey Attrs.get Dict.getD
  rw [h1, h2]

theorem defaultTg_erase (a : Attrs) : defaultTg (Dict.erase a "atom_map") = defaultTg a := by
  unfold defaultTg
  simp only [pyGet_erase_other _ _ _ _ (show "element" ≠ "atom_map" by decide),
    pyGet_erase_other _ _ _ _ (show "aromatic" ≠ "atom_map" by decide),
    pyGet_erase_other _ _ _ _ (show "hcount" ≠ "atom_map" by decide),
    pyGet_erase_other _ _ _ _ (show "charge" ≠ "atom_map" by decide),
    pyGet_erase_other _ _ _ _ (show "neighbors" ≠ "atom_map" by decide)]

theorem prepNode_erase_get? (q : Nat) (a : Attrs) (k : String) (hk : k ≠ "atom_map") :
    Dict.get? (prepNode (q, Dict.erase a "atom_map")).2 k = Dict.get? (prepNode (q, a)).2 k := by
  unfold prepNode setDefault
  simp only [hasKey_erase_other _ _ _ (show "typesGH" ≠ "atom_map" by decide), defaultTg_erase]
  split
  · exact Dict.get?_erase_other _ _ _ hk
  · rw [Dict.get?_set, Dict.get?_set, Dict.get?_erase_other _ _ _ hk]

theorem glueNode_noMap (T : LGraph) (m : Mapping) (p : Nat × Attrs) :
    glueNode (noMap T) m p = glueNode T m p := by
  unfold glueNode
  cases preimage m p.1 with
  | none => rfl
  | some q =>
    simp only
    rw [noMap_attrs]
    rw [nodeGlue_congr p.2 _ (prepNode (q, T.attrs q)).2
      (prepNode_erase_get? q _ _ (by decide)) (prepNode_erase_get? q _ _ (by decide))]

theorem glue_noMap (host T : LGraph) (m : Mapping) : glue host (noMap T) m = glue host T m := by
  unfold glue
  rw [funext (glueNode_noMap T m)]
  rfl

theorem wfTemplate_noMap_iff (T : LGraph) : WFTemplate (noMap T) ↔ WFTemplate T := by
  unfold WFTemplate
  rw [noMap_WF_iff]
  have hN : (noMap T).nodes = T.nodes.map fun p => (p.1, Dict.erase p.2 "atom_map") := rfl
  have hE : (noMap T).edges = T.edges := rfl
  rw [hN, hE, List.forall_mem_map]
  simp only [tgField, hasKey_erase_other _ _ _ (show "typesGH" ≠ "atom_map" by decide),
    Attrs.get_erase_other (show "typesGH" ≠ "atom_map" by decide)]

theorem noMap_orient_relabel (dir : Bool) (T : LGraph) (π : Nat → Nat) :
    noMap (orient dir (T.relabel π)) = (noMap (orient dir T)).relabel π := by
  cases dir
  · exact noMap_relabel T π
  · exact noMap_invert_relabel T π

theorem noMap_left_orient_relabel (dir : Bool) (T : LGraph) (π : Nat → Nat) :
    noMap (left (orient dir (T.relabel π))) = (noMap (left (orient dir T))).relabel π := by
  rw [← left_noMap (orient dir (T.relabel π)), noMap_orient_relabel, noMap_left_relabel, left_noMap]

theorem allMonos_left_orient_relabel {f π : Nat → Nat} (hf : Function.Injective f) (hπ : Function.Injective π)
    (sel : Sel) (hk : "atom_map" ∉ sel.nodeKeys) (dir : Bool) (host T : LGraph) :
    allMonos sel (host.relabel f) (left (orient dir (T.relabel π))) =
      (allMonos sel host (left (orient dir T))).map fun m => relabelHost f (relabelPat π m) := by
  rw [← allMonos_noMap sel hk, noMap_left_orient_relabel, allMonos_relabel hf hπ, allMonos_noMap sel hk]

theorem glue_orient_relabel {f π : Nat → Nat} (hf : Function.Injective f) (hπ : Function.Injective π)
    (dir : Bool) (host T : LGraph) (m : Mapping) :
    glue (host.relabel f) (orient dir (T.relabel π)) (relabelHost f (relabelPat π m)) =
      (glue host (orient dir T) m).relabel f := by
  rw [← glue_noMap, noMap_orient_relabel, glue_relabel hf hπ, glue_noMap]

theorem wfTemplate_orient_relabel_iff (dir : Bool) (T : LGraph) (π : Nat → Nat) (hπ : Function.Injective π) :
    WFTemplate (orient dir (T.relabel π)) ↔ WFTemplate (orient dir T) := by
  rw [← wfTemplate_noMap_iff, noMap_orient_relabel, wfTemplate_relabel_iff _ π hπ, wfTemplate_noMap_iff]

theorem glue_wf (host T : LGraph) (m : Mapping) (hH : host.WF) (hT : T.WF)
    (hinj : (m.map (·.2)).Nodup) (himg : ∀ x ∈ m, x.2 ∈ host.ids) : (glue host T m).WF := by
  have hends : ∀ e0, ((glueHostEdge T m (prepEdge e0)).1 = e0.1 ∧ (glueHostEdge T m (prepEdge e0)).2.1 = e0.2.1) :=
    fun e0 => glueHostEdge_ends T m (prepEdge e0)
  refine ⟨by rw [glue_ids]; exact hH.1, ?_, ?_⟩
  · intro e he
    rw [glue_ids]
    rcases (mem_glue_edges host T m e).1 he with ⟨e0, he0, rfl⟩ | ⟨te, hte, g1, g2, _, _⟩
    · rw [(hends e0).1, (hends e0).2]; exact hH.2.1 e0 he0
    · refine ⟨himg _ (Mapping.mem_of_get? g1), himg _ (Mapping.mem_of_get? g2), ?_⟩
      intro hc
      rw [← hc] at g2
      exact (hT.2.1 te hte).2.2 (Mapping.get?_inj hinj g1 g2)
  · rw [glue_edges, List.map_append, List.nodup_append]
    refine ⟨?_, ?_, ?_⟩
    · simp only [List.map_map, Function.comp_def, (hends _).1, (hends _).2]
      exact hH.2.2
    · rw [List.map_filterMap]
      -- two template bonds with different keys land on different pairs, `m` being injective
      refine List.Pairwise.filterMap _ ?_ (List.pairwise_map.1 hT.2.2)
      rintro te te' hne b hb b' hb' hbb
      subst hbb
      obtain ⟨e, he, rfl⟩ := Option.map_eq_some_iff.1 hb
      obtain ⟨e', he', hee⟩ := Option.map_eq_some_iff.1 hb'
      obtain ⟨g1, g2, _, _⟩ := (glueNewEdge_some host m te e).1 he
      obtain ⟨g1', g2', _, _⟩ := (glueNewEdge_some host m te' e').1 he'
      exact hne (landsOn_key_eq hinj ((landsOn_ends _ _ _ _).2 (Or.inl ⟨g1, g2⟩))
        ((landsOn_iff _ _ _ _).2 ⟨_, _, g1', g2', LGraph.pair_eq_of_key_eq hee⟩))
    · intro a ha b hb hab
      subst hab
      obtain ⟨e1, he1, rfl⟩ := List.mem_map.1 ha
      obtain ⟨e0, he0, rfl⟩ := List.mem_map.1 he1
      obtain ⟨e, he, hee⟩ := List.mem_map.1 hb
      obtain ⟨te, hte, hsome⟩ := List.mem_filterMap.1 he
      obtain ⟨_, _, _, hno⟩ := (glueNewEdge_some host m te e).1 hsome
      rw [(hends e0).1, (hends e0).2] at hee
      rw [LGraph.hasEdge_of_mem he0 (LGraph.pair_eq_of_key_eq hee.symm)] at hno
      cases hno

/-- Where the two kinds of bond of the glued graph sit: over a substrate bond what `glueHostEdge` makes of it, over a
template bond that lands on no substrate bond the template's attributes. -/
theorem glue_edge?_host {host T : LGraph} {m : Mapping} (hW : (glue host T m).WF) {e0 : Nat × Nat × Attrs}
    (he0 : e0 ∈ host.edges) {u v : Nat} (h : (e0.1 = u ∧ e0.2.1 = v) ∨ (e0.1 = v ∧ e0.2.1 = u)) :
    (glue host T m).edge? u v = some (glueHostEdge T m (prepEdge e0)).2.2 := by
  have hek := glueHostEdge_ends T m (prepEdge e0)
  exact LGraph.edge?_of_mem hW ((mem_glue_edges host T m _).2 (Or.inl ⟨e0, he0, rfl⟩)) (by rw [hek.1, hek.2]; exact h)

theorem glue_edge?_new {host T : LGraph} {m : Mapping} (hW : (glue host T m).WF) {te : Nat × Nat × Attrs}
    (hte : te ∈ T.edges) {hu hv u v : Nat} (g1 : m.get? te.1 = some hu) (g2 : m.get? te.2.1 = some hv)
    (hno : host.hasEdge hu hv = false) (h : (hu = u ∧ hv = v) ∨ (hu = v ∧ hv = u)) :
    (glue host T m).edge? u v = some te.2.2 :=
  LGraph.edge?_of_mem (e := (hu, hv, te.2.2)) hW ((mem_glue_edges host T m _).2 (Or.inr ⟨te, hte, g1, g2, rfl, hno⟩)) h

theorem itsEquiv_equivalence : Equivalence ItsEquiv := by
  refine ⟨fun a => Or.inl rfl, ?_, ?_⟩
  · rintro a b (rfl | ⟨ha, hb, m, hm⟩)
    · exact Or.inl rfl
    · exact Or.inr ⟨hb, ha, _, isIso_symm itsSel a b m ha hb hm
        (fun x _ h => nodeOk_symm_of_noH itsSel rfl _ _ h)⟩
  · rintro a b c (rfl | ⟨ha, hb, m, hm⟩) (rfl | ⟨hb', hc, m', hm'⟩)
    · exact Or.inl rfl
    · exact Or.inr ⟨hb', hc, m', hm'⟩
    · exact Or.inr ⟨ha, hb, m, hm⟩
    · exact Or.inr ⟨ha, hc, _, isIso_trans itsSel a b c m m' hc.1 hm hm'⟩

theorem itsEquiv_relabel (G : LGraph) (hG : G.WF) (f : Nat → Nat) (hf : Function.Injective f) :
    ItsEquiv (G.relabel f) G :=
  Or.inr ⟨LGraph.wf_relabel_of_injective hG hf, hG, _,
    isIso_relabel itsSel G hG f (.of_injective hf)⟩

theorem render_relabel (G : LGraph) (f : Nat → Nat) (hf : Function.Injective f) :
    render (G.relabel f) = (render G).map (·.relabel f) := by
  unfold render
  rw [if_congr (relabel_WF_iff G f hf) rfl rfl, apply_ite (List.map _)]
  rfl

theorem mem_render {G r : LGraph} (h : r ∈ render G) : r = G ∧ G.WF := by
  unfold render at h
  split at h
  · rename_i hw; exact ⟨List.mem_singleton.1 h, hw⟩
  · cases h

/-- The part of `IsMono` the glue lemmas need (no node closure, no edge clause). -/
structure Assign (host T : LGraph) (m : Mapping) : Prop where
  dom : m.map (·.1) = T.ids
  inj : (m.map (·.2)).Nodup
  img : ∀ x ∈ m, x.2 ∈ host.ids

theorem assign_of_mono (host T : LGraph) (m : Mapping) (hT : WFTemplate T)
    (hm : IsMono monoSel host (left T) m) : Assign host T m :=
  ⟨(left_ids T hT).symm ▸ hm.keys, hm.vals_nodup, fun _ hx => hm.val_mem hx⟩

theorem nodeGlue_tg_congr (h p p' : Attrs) (e : Attrs.get p "typesGH" = Attrs.get p' "typesGH") :
    Attrs.get (nodeGlue h p) "typesGH" = Attrs.get (nodeGlue h p') "typesGH" := by
  have hne : "typesGH" ≠ "h_pairs" := by decide
  unfold nodeGlue
  rw [e]
  extract_lets
  split <;> split <;> simp only [Attrs.get_set_other hne]

def OrderTransfer (T : LGraph) (m k : Mapping) : Prop :=
  ∀ te ∈ T.edges, ∀ x y, landsOn m te x y = true →
    ∃ te' ∈ T.edges, landsOn k te' x y = true ∧ Attrs.get te'.2.2 "order" = Attrs.get te.2.2 "order"

theorem mergeEdge_order_congr (a ta ta' : Attrs) (hk : (Dict.keys ta).Nodup) (hta : hasKey ta "order" = true)
    (hk' : (Dict.keys ta').Nodup) (hta' : hasKey ta' "order" = true)
    (e : Attrs.get ta "order" = Attrs.get ta' "order") :
    Attrs.get (mergeEdge a ta) "order" = Attrs.get (mergeEdge a ta') "order" := by
  rw [(mergeEdge_order a ta hk hta).1, (mergeEdge_order a ta' hk' hta').1]
  unfold ordAt
  rw [e]

theorem glue_edge_transfer (host T : LGraph) (m k : Mapping) (hH : host.WF) (hT : WFTemplate T)
    (Ak : Assign host T k)
    (hmk : OrderTransfer T m k) (hkm : OrderTransfer T k m) :
    ∀ e ∈ (glue host T m).edges, ∃ ea, (glue host T k).edge? e.1 e.2.1 = some ea ∧
      Attrs.get ea "order" = Attrs.get e.2.2 "order" := by
  have hWk : (glue host T k).WF := glue_wf host T k hH hT.1 Ak.inj Ak.img
  intro e he
  rcases (mem_glue_edges host T m e).1 he with ⟨e0, he0, rfl⟩ | ⟨te, hte, g1, g2, g3, hno⟩
  · have hem := glueHostEdge_ends T m (prepEdge e0)
    refine ⟨_, glue_edge?_host hWk he0 (Or.inl ⟨hem.1.symm, hem.2.symm⟩), ?_⟩
    rcases glueHostEdge_cases T m (prepEdge e0) with ⟨hnone, heq⟩ | ⟨te, hte, hl, heq⟩
    · rcases glueHostEdge_cases T k (prepEdge e0) with ⟨_, heq'⟩ | ⟨te', hte', hl', _⟩
      · rw [heq, heq']
      · exfalso
        obtain ⟨te'', hte'', hl'', _⟩ := hkm te' hte' _ _ hl'
        rw [hnone te'' hte''] at hl''
        cases hl''
    · obtain ⟨te', hte', hl', hord⟩ := hmk te hte _ _ hl
      rcases glueHostEdge_cases T k (prepEdge e0) with ⟨hnone', _⟩ | ⟨te'', hte'', hl'', heq''⟩
      · rw [hnone' te' hte'] at hl'
        cases hl'
      · have := tpl_edge_unique T hT.1 k Ak.inj te'' te' hte'' hte' _ _ hl'' hl'
        subst this
        rw [heq, heq'']
        have h1 := hT.2.2 te hte
        have h2 := hT.2.2 te'' hte'
        exact mergeEdge_order_congr _ _ _ h2.1 h2.2.1 h1.1 h1.2.1 hord
  · have hl : landsOn m te e.1 e.2.1 = true := (landsOn_ends _ _ _ _).2 (Or.inl ⟨g1, g2⟩)
    obtain ⟨te', hte', hl', hord⟩ := hmk te hte _ _ hl
    obtain ⟨hu, hv, k1, k2, hc⟩ := (landsOn_iff _ _ _ _).1 hl'
    have hno' : host.hasEdge hu hv = false :=
      (LGraph.hasEdge_of_joins hc).trans hno
    refine ⟨te'.2.2, glue_edge?_new hWk hte' k1 k2 hno' hc, ?_⟩
    rw [g3]; exact hord

theorem isIso_id_of (A B : LGraph) (hA : A.ids.Nodup) (hB : B.WF) (hids : ∀ v, v ∈ B.ids ↔ v ∈ A.ids)
    (hnode : ∀ v ∈ B.ids, Attrs.get (A.attrs v) "typesGH" = Attrs.get (B.attrs v) "typesGH")
    (hedge : ∀ e ∈ B.edges, ∃ ea, A.edge? e.1 e.2.1 = some ea ∧ Attrs.get ea "order" = Attrs.get e.2.2 "order")
    (hback : ∀ e ∈ A.edges, B.hasEdge e.1 e.2.1 = true) :
    IsIso itsSel A B (B.ids.map fun v => (v, v)) := by
  refine isIso_of_bijection itsSel A B (fun v => v) hA hB.1 (fun _ _ _ _ h => h)
    (fun q hq => ⟨(hids q).1 hq, by simp [nodeOk, itsSel, hnode q hq]⟩) (fun h hh => ⟨h, (hids h).2 hh, rfl⟩)
    (fun e he => ⟨(hB.2.1 e he).1, (hB.2.1 e he).2.1⟩) (fun e he => ?_) (fun p _ q _ hno => ?_)
  · obtain ⟨ea, h1, h2⟩ := hedge e he
    exact ⟨ea, h1, by simp [edgeOk, itsSel, h2]⟩
  · refine Bool.eq_false_iff.2 fun hh => ?_
    obtain ⟨e, he, hend⟩ := LGraph.hasEdge_iff.1 hh
    rw [← LGraph.hasEdge_of_joins hend, hback e he] at hno
    cases hno

theorem glue_iso_of_labels (host T : LGraph) (m k : Mapping) (hH : host.WF) (hT : WFTemplate T)
    (Am : Assign host T m) (Ak : Assign host T k)
    (hnode : ∀ p h, (p, h) ∈ k → ∃ q, (q, h) ∈ m ∧
      Attrs.get (T.attrs q) "typesGH" = Attrs.get (T.attrs p) "typesGH")
    (himg : ∀ v ∈ m.map (·.2), v ∈ k.map (·.2))
    (hmk : OrderTransfer T m k) (hkm : OrderTransfer T k m) :
    IsIso itsSel (glue host T k) (glue host T m) (host.ids.map fun v => (v, v)) := by
  have hWk : (glue host T k).WF := glue_wf host T k hH hT.1 Ak.inj Ak.img
  have hWm : (glue host T m).WF := glue_wf host T m hH hT.1 Am.inj Am.img
  have hdom : ∀ {a : Mapping}, Assign host T a → ∀ {p h : Nat}, (p, h) ∈ a → p ∈ T.ids :=
    fun A _ _ hp => A.dom ▸ List.mem_map.2 ⟨_, hp, rfl⟩
  have hlab : ∀ v ∈ host.ids, Attrs.get ((glue host T k).attrs v) "typesGH" =
      Attrs.get ((glue host T m).attrs v) "typesGH" := by
    intro v hv
    rw [glue_attrs host T k v hv, glue_attrs host T m v hv]
    cases hpk : preimage k v with
    | some p =>
      have hpv := preimage_mem k v p hpk
      obtain ⟨q, hq, htg⟩ := hnode p v hpv
      rw [glueNode_matched T k (prepNode (v, host.attrs v)) p hpk,
        glueNode_matched T m (prepNode (v, host.attrs v)) q (preimage_of_mem m Am.inj q v hq)]
      apply nodeGlue_tg_congr
      rw [prepNode_template hT (hdom Ak hpv), prepNode_template hT (hdom Am hq), htg]
    | none =>
      rw [glueNode_unmatched T k (prepNode (v, host.attrs v)) hpk, glueNode_unmatched T m (prepNode (v, host.attrs v))
        ((preimage_eq_none_iff m v).2 fun hv' => (preimage_eq_none_iff k v).1 hpk (himg v hv'))]
  have hEm := glue_edge_transfer host T m k hH hT Ak hmk hkm
  have hEk := glue_edge_transfer host T k m hH hT Am hkm hmk
  have := isIso_id_of (glue host T k) (glue host T m) hWk.1 hWm (fun v => by rw [glue_ids, glue_ids])
    (fun v hv => hlab v (by rwa [glue_ids] at hv)) hEm
    (fun e he => (hEk e he).elim fun _ h => LGraph.hasEdge_of_edge? h.1)
  rwa [glue_ids] at this

theorem landsOn_of_joins {m : Mapping} {te : Nat × Nat × Attrs} {q1 q2 hu hv x y : Nat}
    (hends : (te.1 = q1 ∧ te.2.1 = q2) ∨ (te.1 = q2 ∧ te.2.1 = q1)) (g1 : m.get? q1 = some hu)
    (g2 : m.get? q2 = some hv) (hc : (hu = x ∧ hv = y) ∨ (hu = y ∧ hv = x)) : landsOn m te x y = true := by
  rcases hends with ⟨e1, e2⟩ | ⟨e1, e2⟩
  · exact (landsOn_iff _ _ _ _).2 ⟨hu, hv, by rw [e1]; exact g1, by rw [e2]; exact g2, hc⟩
  · exact (landsOn_iff _ _ _ _).2 ⟨hv, hu, by rw [e1]; exact g2, by rw [e2]; exact g1, hc.symm.imp And.symm And.symm⟩

/-- A template bond that lands on a substrate pair under `a` is carried by the automorphism `τ` to one
that lands there under `b`, when `a = b ∘ τ`. -/
theorem orderTransfer_of_aut (T : LGraph) (τ a b : Mapping) (hτ : IsIso itsSel T T τ)
    (hab : ∀ p h, a.get? p = some h → ∃ q, τ.get? p = some q ∧ b.get? q = some h) : OrderTransfer T a b := by
  intro te hte x y hl
  obtain ⟨hu, hv, k1, k2, hc⟩ := (landsOn_iff _ _ _ _).1 hl
  obtain ⟨q1, s1, g1⟩ := hab _ _ k1
  obtain ⟨q2, s2, g2⟩ := hab _ _ k2
  obtain ⟨hu', hv', ea, t1, t2, t3, t4⟩ := hτ.mono.edge hte
  rw [s1] at t1; rw [s2] at t2
  cases t1; cases t2
  obtain ⟨te', hte', hattr, hends⟩ := LGraph.edge?_some_mem t3
  have hord : Attrs.get ea "order" = Attrs.get te.2.2 "order" := by
    simpa [edgeOk, itsSel] using t4
  exact ⟨te', hte', landsOn_of_joins hends g1 g2 hc, by rw [hattr]; exact hord⟩

theorem glue_aut_iso (host T : LGraph) (m σ k : Mapping) (hH : WFHost host) (hT : WFTemplate T)
    (Am : Assign host T m) (hσ : IsIso itsSel T T σ) (hk : composeOn T.ids m σ = some k) :
    Assign host T k ∧ IsIso itsSel (glue host T k) (glue host T m) (host.ids.map fun v => (v, v)) := by
  have kfst : k.map (·.1) = T.ids := by
    rw [((composeOn_eq_some T.ids m σ k).1 hk).2]; exact Core.map_fst_graph T.ids _
  have kfn : (k.map (·.1)).Nodup := by rw [kfst]; exact hT.1.1
  -- `k = m ∘ σ` and `m = k ∘ σ⁻¹` on the template's atoms
  have hkm : ∀ p h, k.get? p = some h → ∃ q, σ.get? p = some q ∧ m.get? q = some h :=
    fun p h hg => ((get?_composeOn hk).1 hg).2
  have hmk : ∀ q h, m.get? q = some h → ∃ p, (invMapping T σ).get? q = some p ∧ k.get? p = some h := by
    intro q h hq
    obtain ⟨hp, hσp⟩ := hσ.get?_invMapping (Am.dom ▸ Mapping.mem_keys_of_get? hq)
    exact ⟨_, hp, (get?_composeOn hk).2 ⟨hσ.mono.key_mem hσp, q, hσ.mono.get?_of_mem hT.1 hσp, hq⟩⟩
  have kmem : ∀ x ∈ k, ∃ q, σ.get? x.1 = some q ∧ m.get? q = some x.2 := fun x hx =>
    hkm _ _ (Mapping.get?_of_mem kfn hx)
  have Ak : Assign host T k := by
    refine ⟨kfst, List.Nodup.map_on ?_ (List.Nodup.of_map _ kfn), ?_⟩
    · intro x hx y hy e
      obtain ⟨q, h1, h2⟩ := kmem x hx
      obtain ⟨q', h1', h2'⟩ := kmem y hy
      rw [e] at h2
      cases Mapping.get?_inj Am.inj h2 h2'
      exact Prod.ext (Mapping.get?_inj hσ.mono.vals_nodup h1 h1') e
    · intro x hx
      obtain ⟨q, _, h2⟩ := kmem x hx
      exact Am.img (q, x.2) (Mapping.mem_of_get? h2)
  refine ⟨Ak, glue_iso_of_labels host T m k hH.1 hT Am Ak ?_ ?_
    (orderTransfer_of_aut T (invMapping T σ) m k
      (isIso_symm itsSel T T σ hT.1 hT.1 hσ fun x _ h => nodeOk_symm_of_noH itsSel rfl _ _ h) hmk)
    (orderTransfer_of_aut T σ k m hσ hkm)⟩
  · intro p h hph
    obtain ⟨q, h1, h2⟩ := kmem (p, h) hph
    refine ⟨q, Mapping.mem_of_get? h2, ?_⟩
    simpa [nodeOk, itsSel] using hσ.mono.nodeOk (Mapping.mem_of_get? h1)
  · intro v hv
    obtain ⟨x, hx, rfl⟩ := List.mem_map.1 hv
    obtain ⟨p, -, hp⟩ := hmk x.1 x.2 (Mapping.get?_of_mem (Am.dom ▸ hT.1.1) hx)
    exact List.mem_map.2 ⟨_, Mapping.mem_of_get? hp, rfl⟩

theorem monoSel_no_atom_map : "atom_map" ∉ monoSel.nodeKeys := by decide

theorem concrete_search_all (maxGroup : Nat) (comp : LGraph → LGraph → List Mapping) (dir : Bool) (host T : LGraph) :
    (concrete maxGroup comp).search .all host ((concrete maxGroup comp).pattern dir T) =
      allMonos monoSel host (left (orient dir T)) :=
  allMonos_noMap monoSel monoSel_no_atom_map host _

theorem concrete_pattern_relabel (maxGroup : Nat) (comp : LGraph → LGraph → List Mapping)
    (dir : Bool) (T : LGraph) (π : Nat → Nat) :
    (concrete maxGroup comp).pattern dir (T.relabel π) = ((concrete maxGroup comp).pattern dir T).relabel π :=
  noMap_left_orient_relabel dir T π

theorem concrete_glue_eq (maxGroup : Nat) (comp : LGraph → LGraph → List Mapping) (dir : Bool) (host T : LGraph)
    (m : Mapping) : (concrete maxGroup comp).glue dir host T m =
      if WFHost host ∧ WFTemplate (orient dir T) then render (glue host (orient dir T) m) else [] := rfl

theorem concrete_glue_relabel (maxGroup : Nat) (comp : LGraph → LGraph → List Mapping)
    {f π : Nat → Nat} (hf : Function.Injective f) (hπ : Function.Injective π)
    (dir : Bool) (host T : LGraph) (m : Mapping) :
    (concrete maxGroup comp).glue dir (host.relabel f) (T.relabel π) (relabelHost f (relabelPat π m)) =
      ((concrete maxGroup comp).glue dir host T m).map (·.relabel f) := by
  rw [concrete_glue_eq, concrete_glue_eq, glue_orient_relabel hf hπ, render_relabel _ f hf,
    if_congr (and_congr (wfHost_relabel_iff host f hf) (wfTemplate_orient_relabel_iff dir T π hπ)) rfl rfl,
    apply_ite (List.map _)]
  rfl

theorem concrete_glue_wf (maxGroup : Nat) (comp : LGraph → LGraph → List Mapping)
    (dir : Bool) (host T : LGraph) (m : Mapping) (r : LGraph)
    (hr : r ∈ (concrete maxGroup comp).glue dir host T m) : r.WF := by
  rw [concrete_glue_eq] at hr
  split at hr
  · exact (mem_render hr).1 ▸ (mem_render hr).2
  · cases hr

theorem concrete_glue_of_assign (maxGroup : Nat) (comp : LGraph → LGraph → List Mapping)
    (dir : Bool) (host T : LGraph) (m : Mapping) (hH : WFHost host) (hT : WFTemplate (orient dir T))
    (A : Assign host (orient dir T) m) :
    (concrete maxGroup comp).glue dir host T m = [glue host (orient dir T) m] := by
  rw [concrete_glue_eq, if_pos ⟨hH, hT⟩, render, if_pos (glue_wf host _ m hH.1 hT.1 A.inj A.img)]

theorem concrete_glue_of_mono (maxGroup : Nat) (comp : LGraph → LGraph → List Mapping)
    (dir : Bool) (host T : LGraph) (m : Mapping) (hH : WFHost host) (hT : WFTemplate (orient dir T))
    (hm : IsMono monoSel host (left (orient dir T)) m) :
    (concrete maxGroup comp).glue dir host T m = [glue host (orient dir T) m] :=
  concrete_glue_of_assign maxGroup comp dir host T m hH hT (assign_of_mono host _ m hT hm)

/-- Concrete form of `GlueAutInvariant` (`Props/C05.lean`), on matches of the prepared pattern. -/
theorem concrete_glue_aut (maxGroup : Nat) (comp : LGraph → LGraph → List Mapping)
    (dir : Bool) (host T : LGraph) (m σ k : Mapping)
    (hm : WFHost host → WFTemplate (orient dir T) → IsMono monoSel host (left (orient dir T)) m)
    (hσ : σ ∈ auts itsSel (orient dir T))
    (hk : composeOn (left (orient dir T)).ids m σ = some k) :
    SetEqMod ItsEquiv ((concrete maxGroup comp).glue dir host T k) ((concrete maxGroup comp).glue dir host T m) := by
  by_cases hg : WFHost host ∧ WFTemplate (orient dir T)
  · obtain ⟨hH, hT⟩ := hg
    have A := assign_of_mono host _ m hT (hm hH hT)
    have hσ' : IsIso itsSel (orient dir T) (orient dir T) σ := (mem_auts_iff hT.1 σ).1 hσ
    rw [left_ids _ hT] at hk
    obtain ⟨Ak, hiso⟩ := glue_aut_iso host _ m σ k hH hT A hσ' hk
    rw [concrete_glue_of_assign maxGroup comp dir host T m hH hT A,
      concrete_glue_of_assign maxGroup comp dir host T k hH hT Ak]
    exact SetEqMod.singleton itsEquiv_equivalence
      (Or.inr ⟨glue_wf host _ k hH.1 hT.1 Ak.inj Ak.img, glue_wf host _ m hH.1 hT.1 A.inj A.img, _, hiso⟩)
  · rw [concrete_glue_eq, concrete_glue_eq, if_neg hg, if_neg hg]
    exact SetEqMod.refl itsEquiv_equivalence _

/-- The last clause of C11 ("the symmetry pruning used during rule application never changes the set
of distinct reactions obtained compared with applying the rule at every match") for the modelled
implicit path with the repaired pruning (draft fix 0015): for every well-formed substrate, every
well-formed oriented template (`T` forwards, `invert T` backwards), every list of matches of the
prepared pattern and every group-size bound, the ITS graphs glued along the pruned matches and along
all matches are the same up to isomorphism of ITS graphs. -/
def PruningClauseModel : Prop :=
  ∀ (maxGroup : Nat) (host T : LGraph) (ms : List Mapping), WFHost host → WFTemplate T →
    (∀ m ∈ ms, IsMono monoSel host (left T) m) →
    SetEqMod ItsEquiv (implicitResults host T (pruneByAut maxGroup (left T).ids (auts itsSel T) ms))
      (implicitResults host T ms)

/-- The substrate's label of an atom as `_default_tg` writes it. -/
def gSide (a : Attrs) : Val :=
  .tup [pyGet a "element" (.str "*"), pyGet a "aromatic" (.bool false), pyGet a "hcount" (.num 0),
        pyGet a "charge" (.num 0), pyGet a "neighbors" (.tup [])]

/-- **RcComplete** (DESIGN §5 C04): every atom whose hydrogen count or charge differs between the two
sides of the reaction `I` is an atom of the template `T` (for a centre template: is an end of a
changed bond; vacuous for the full ITS; FALSE for centre templates of reactions like phosphate
protonation, finding F10). -/
def RcComplete (I T : LGraph) : Prop :=
  ∀ v ∈ I.ids, v ∉ T.ids → hR (I.attrs v) = hL (I.attrs v) ∧ tgField (I.attrs v) 1 3 = tgField (I.attrs v) 0 3

/-- `T` is a template of the reaction `I` (an ITS drawn on the atoms of its reactant graph `G`):
* `I` has `G`'s atoms, each labelled with `G`'s label on the reactant side and, on the product side,
  the same element / aromatic flag / `neighbors` entry (`lab`: reactions that change one of these
  three entries are excluded — gap (i) of `glue_own_template_partial`);
* on its atoms `T` carries the reaction's hydrogen-count change and product charge (`tpl`);
* `G`'s bonds are bonds of `I`, unchanged unless a template bond lies on them (`gEdge`); every bond
  of `I` is a bond of `G` or of `T` (`iEdge`); every template bond lies on a bond of `I` with the same
  order pair, and is not a formed bond where `G` already has a bond (`tEdge`);
* the identity is a match of the prepared pattern (`hid`, C04 step 1). -/
structure OwnTemplate (G I T : LGraph) : Prop where
  hG : WFHost G
  hT : WFTemplate T
  hI : I.WF
  hid : IsMono monoSel G (left T) (idMap T)
  ids : ∀ v, v ∈ I.ids ↔ v ∈ G.ids
  len : I.nodes.length = G.nodes.length
  hnum : ∀ v ∈ G.ids, pyGet (G.attrs v) "hcount" (.num 0) = .num (numOf (pyGet (G.attrs v) "hcount" (.num 0)))
  lab : ∀ v ∈ G.ids, ∃ hp cp, Attrs.get (I.attrs v) "typesGH" =
      .tup [gSide (G.attrs v),
            .tup [pyGet (G.attrs v) "element" (.str "*"), pyGet (G.attrs v) "aromatic" (.bool false), .num hp, cp,
                  pyGet (G.attrs v) "neighbors" (.tup [])]]
  tpl : ∀ v ∈ T.ids, hR (T.attrs v) - hL (T.attrs v) = hR (I.attrs v) - hL (I.attrs v) ∧
      tgField (T.attrs v) 1 3 = tgField (I.attrs v) 1 3
  gEdge : ∀ e0 ∈ G.edges, ∃ a, I.edge? e0.1 e0.2.1 = some a ∧
      ((∀ te ∈ T.edges, landsOn (idMap T) te e0.1 e0.2.1 = false) →
        Attrs.get a "order" = .tup [pyGet e0.2.2 "order" (.num 2), pyGet e0.2.2 "order" (.num 2)])
  iEdge : ∀ e ∈ I.edges, G.hasEdge e.1 e.2.1 = true ∨ T.hasEdge e.1 e.2.1 = true
  tEdge : ∀ te ∈ T.edges, ∃ a, I.edge? te.1 te.2.1 = some a ∧ Attrs.get a "order" = Attrs.get te.2.2 "order" ∧
      (G.hasEdge te.1 te.2.1 = true → ordAt te.2.2 0 ≠ .num 0)

theorem landsOn_idMap (T : LGraph) (te : Nat × Nat × Attrs) (h1 : te.1 ∈ T.ids) (h2 : te.2.1 ∈ T.ids) (x y : Nat) :
    landsOn (idMap T) te x y = true ↔ (te.1 = x ∧ te.2.1 = y) ∨ (te.1 = y ∧ te.2.1 = x) := by
  unfold landsOn
  rw [idMap_get? T h1, idMap_get? T h2]
  simp only [Bool.or_eq_true, Bool.and_eq_true, decide_eq_true_eq]

/-- **C04 step 3 (`GlueRebuilds`), concrete, `_partial`.** Gluing the reactant graph `G` with a
template `T` of its own reaction `I` along the identity match rebuilds `I`, up to isomorphism of ITS
graphs (the identity on atoms), under `RcComplete I T`.  Missing for the unconditional statement:
(i) reactions in which an atom changes its aromatic flag or `neighbors` entry (excluded by
`OwnTemplate.lab`, because `_node_glue` copies both from the substrate), (ii) the composition with `SynRule`
(that the graphs `ITSConstruction` / `get_rc` build satisfy `OwnTemplate` under `RxnPair`, and the centre
`RcComplete` under `CentreCovers`, is `ReactorITSLink.lean`), and (iii) the explicit-hydrogen path. -/
theorem glue_own_template_partial (G I T : LGraph) (h : OwnTemplate G I T) (hrc : RcComplete I T) :
    IsIso itsSel (glue G T (idMap T)) I (I.ids.map fun v => (v, v)) := by
  obtain ⟨hG, hT, hI, hid, hids, -, hnum, hlab, htpl, hgE, hiE, htE⟩ := h
  have A := assign_of_mono G T (idMap T) hT hid
  have hWA : (glue G T (idMap T)).WF := glue_wf G T _ hG.1 hT.1 A.inj A.img
  have hsnd : (idMap T).map (·.2) = T.ids := by
    simp [idMap, List.map_map, Function.comp_def]
  apply isIso_id_of _ I hWA.1 hI
  · intro v; rw [glue_ids]; exact hids v
  · intro v hvI
    have hvG := (hids v).1 hvI
    obtain ⟨hp, cp, hl⟩ := hlab v hvG
    have hRI : hR (I.attrs v) = hp := congrArg numOf (tgField_of hl 1 2)
    have hLI : hL (I.attrs v) = numOf (pyGet (G.attrs v) "hcount" (.num 0)) := congrArg numOf (tgField_of hl 0 2)
    have hcI1 : tgField (I.attrs v) 1 3 = cp := tgField_of hl 1 3
    have hcI0 : tgField (I.attrs v) 0 3 = pyGet (G.attrs v) "charge" (.num 0) := tgField_of hl 0 3
    by_cases hv : v ∈ T.ids
    · rw [glue_tg_matched_X G T _ (hostX_of_wfHost G hG) hT hid v v (List.mem_map.2 ⟨v, hv, rfl⟩), hl]
      obtain ⟨t1, t2⟩ := htpl v hv
      rw [hRI, hLI] at t1
      rw [hcI1] at t2
      unfold hR hL at t1
      have e1 : numOf (pyGet (G.attrs v) "hcount" (.num 0)) -
          (numOf (tgField (T.attrs v) 0 2) - numOf (tgField (T.attrs v) 1 2)) = hp := by omega
      rw [e1, t2]
      rfl
    · have hpre : preimage (idMap T) v = none :=
        (preimage_eq_none_iff _ v).2 (by rw [hsnd]; exact hv)
      rw [glue_tg_unmatched_X G T _ v hvG hpre (Or.inl (hG.2.1 _ (LGraph.attrs_mem hvG))), hl]
      obtain ⟨r1, r2⟩ := hrc v hvI hv
      rw [hRI, hLI] at r1
      rw [hcI1, hcI0] at r2
      rw [r1, r2, ← hnum v hvG]
      rfl
  · intro e he
    by_cases hg : G.hasEdge e.1 e.2.1 = true
    · obtain ⟨e0, he0, hend0⟩ := LGraph.hasEdge_iff.1 hg
      refine ⟨_, glue_edge?_host hWA he0 hend0, ?_⟩
      have hIe0 : I.edge? e0.1 e0.2.1 = some e.2.2 := LGraph.edge?_of_mem hI he (LGraph.joins_symm hend0)
      rcases glueHostEdge_cases T (idMap T) (prepEdge e0) with ⟨hnone, heq⟩ | ⟨te, hte, hl, heq⟩
      · obtain ⟨a, ha, hord⟩ := hgE e0 he0
        rw [hIe0] at ha; cases ha
        rw [heq, hord hnone]
        exact (prepEdge_order e0.2.2).1
      · obtain ⟨q1, q2, _⟩ := hT.1.2.1 te hte
        have hl' : (te.1 = e0.1 ∧ te.2.1 = e0.2.1) ∨ (te.1 = e0.2.1 ∧ te.2.1 = e0.1) :=
          (landsOn_idMap T te q1 q2 _ _).1 hl
        obtain ⟨a, ha, hord, hnz⟩ := htE te hte
        have hGte : G.hasEdge te.1 te.2.1 = true := LGraph.hasEdge_of_mem he0 (LGraph.joins_symm hl')
        rw [LGraph.edge?_of_mem hI he (LGraph.joins_symm (LGraph.joins_trans hl' hend0))] at ha
        cases ha
        rw [heq]
        have hTe := hT.2.2 te hte
        show Attrs.get (mergeEdge (prepEdgeAttrs e0.2.2) te.2.2) "order" = _
        rw [(mergeEdge_order _ _ hTe.1 hTe.2.1).1, if_neg (hnz hGte), hord]
    · have ht : T.hasEdge e.1 e.2.1 = true := (hiE e he).resolve_left hg
      obtain ⟨te, hte, hendt⟩ := LGraph.hasEdge_iff.1 ht
      obtain ⟨q1, q2, _⟩ := hT.1.2.1 te hte
      have hGno : G.hasEdge te.1 te.2.1 = false :=
        (LGraph.hasEdge_of_joins hendt).trans (Bool.eq_false_iff.2 hg)
      refine ⟨te.2.2, glue_edge?_new hWA hte (idMap_get? T q1) (idMap_get? T q2) hGno hendt, ?_⟩
      obtain ⟨a, ha, hord, _⟩ := htE te hte
      rw [LGraph.edge?_of_mem hI he (LGraph.joins_symm hendt)] at ha
      cases ha
      exact hord.symm
  · intro e' he'
    rcases (mem_glue_edges G T _ e').1 he' with ⟨e0, he0, rfl⟩ | ⟨te, hte, g1, g2, _, _⟩
    · have hek := glueHostEdge_ends T (idMap T) (prepEdge e0)
      rw [hek.1, hek.2]
      obtain ⟨a, ha, _⟩ := hgE e0 he0
      exact LGraph.hasEdge_of_edge? ha
    · obtain ⟨q1, q2, _⟩ := hT.1.2.1 te hte
      rw [idMap_get? T q1] at g1; rw [idMap_get? T q2] at g2
      rw [← Option.some.inj g1, ← Option.some.inj g2]
      obtain ⟨a, ha, _⟩ := htE te hte
      exact LGraph.hasEdge_of_edge? ha

end SynKit.ReactorLink
