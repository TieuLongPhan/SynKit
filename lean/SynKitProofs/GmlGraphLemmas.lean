import SynKitModel.Gml
import SynKitProofs.Core.Graph
import SynKitProofs.Core.Fold
/-! NetworkX graph primitives as `get_rc` and the GML reader use them: node and edge look-up,
`add_node`, `add_edge`.  Two nodes are joined iff the unordered key `ukey` of some edge is theirs.  `Closed` is what
every graph built by these primitives satisfies. -/
namespace SynKit.Gml
open SynKit.Repr

namespace Rd

/-- `LGraph.attrs` reads the node list only; `attrsL N` is `attrs` of any graph with the nodes `N`. -/
def attrsL (N : List (Nat × Attrs)) (v : Nat) : Attrs :=
  match N.find? (·.1 = v) with
  | some p => p.2
  | none => []

theorem attrs_eq_attrsL (g : LGraph) (v : Nat) : g.attrs v = attrsL g.nodes v := rfl

theorem attrsL_nil (v : Nat) : attrsL [] v = [] := rfl

theorem attrsL_cons (q : Nat × Attrs) (N : List (Nat × Attrs)) (v : Nat) :
    attrsL (q :: N) v = if q.1 = v then q.2 else attrsL N v := by
  unfold attrsL
  by_cases h : q.1 = v <;> simp [h]

theorem attrsL_not_mem (N : List (Nat × Attrs)) (v : Nat) (h : v ∉ N.map (·.1)) : attrsL N v = [] :=
  LGraph.attrs_of_not_mem (g := ⟨N, []⟩) h

theorem attrsL_append (N M : List (Nat × Attrs)) (v : Nat) :
    attrsL (N ++ M) v = if v ∈ N.map (·.1) then attrsL N v else attrsL M v := by
  split
  · rename_i h
    exact LGraph.attrs_append_left (g := ⟨N ++ M, []⟩) (g' := ⟨N, []⟩) rfl h
  · rename_i h
    exact LGraph.attrs_append_right (g := ⟨N ++ M, []⟩) (g' := ⟨M, []⟩) rfl h

theorem attrsL_of_forall (N : List (Nat × Attrs)) (f : Nat → Attrs) (h : ∀ p ∈ N, p.2 = f p.1) (n : Nat)
    (hn : n ∈ N.map (·.1)) : attrsL N n = f n :=
  h _ (LGraph.attrs_mem (g := ⟨N, []⟩) hn)

theorem attrsL_push (N : List (Nat × Attrs)) (v : Nat) (a : Attrs) (hv : v ∉ N.map (·.1)) (n : Nat) :
    attrsL (N ++ [(v, a)]) n = if n = v then a else attrsL N n := by
  rw [attrsL_append]
  by_cases hm : n ∈ N.map (·.1)
  · rw [if_pos hm, if_neg fun e : n = v => hv (e ▸ hm)]
  · rw [if_neg hm, attrsL_cons, attrsL_nil, attrsL_not_mem N n hm]
    by_cases hn : n = v
    · rw [if_pos hn, if_pos hn.symm]
    · rw [if_neg hn, if_neg fun e => hn e.symm]

def ukey (e : Nat × Nat × Attrs) : Nat × Nat := (min e.1 e.2.1, max e.1 e.2.1)

theorem hasEdge_iff_ukey (g : LGraph) (u v : Nat) : g.hasEdge u v = true ↔ (min u v, max u v) ∈ g.edges.map ukey :=
  LGraph.hasEdge_iff_key

theorem hasEdge_false_iff_ukey (g : LGraph) (u v : Nat) :
    g.hasEdge u v = false ↔ ∀ e ∈ g.edges, ukey e ≠ (min u v, max u v) := by
  rw [← Bool.not_eq_true, hasEdge_iff_ukey, List.mem_map]
  exact ⟨fun h e he hk => h ⟨e, he, hk⟩, fun h ⟨e, he, hk⟩ => h e he hk⟩

theorem hasEdge_false_of_nodup (g : LGraph) (e : Nat × Nat × Attrs) (es : List (Nat × Nat × Attrs))
    (h : ((g.edges ++ e :: es).map ukey).Nodup) : g.hasEdge e.1 e.2.1 = false := by
  rw [hasEdge_false_iff_ukey]
  intro e' he' hk
  rw [List.map_append, List.nodup_append] at h
  exact h.2.2 _ (List.mem_map.2 ⟨e', he', rfl⟩) _ (List.mem_map.2 ⟨e, List.mem_cons_self, rfl⟩) hk

theorem updAttrs_ids (g : LGraph) (v : Nat) (f : Attrs → Attrs) : (updAttrs g v f).ids = g.ids := by
  simp only [updAttrs, LGraph.ids, List.map_map]
  apply List.map_congr_left
  intro p _
  simp only [Function.comp]
  split <;> rfl

theorem addNode_ids (g : LGraph) (v : Nat) (a : Attrs) : (addNode g v a).ids = Core.pushNew g.ids v := by
  unfold addNode
  split
  · next h => rw [updAttrs_ids, Core.pushNew_of_mem (LGraph.hasNode_iff.1 h)]
  · next h => rw [Core.pushNew_of_not_mem fun hm => h (LGraph.hasNode_iff.2 hm)]; simp [LGraph.ids]

theorem addNode_edges (g : LGraph) (v : Nat) (a : Attrs) : (addNode g v a).edges = g.edges := by
  unfold addNode; split <;> rfl

theorem mem_addNode_ids (g : LGraph) (v : Nat) (a : Attrs) (n : Nat) :
    n ∈ (addNode g v a).ids ↔ n = v ∨ n ∈ g.ids := by
  rw [addNode_ids, Core.mem_pushNew]; exact or_comm

theorem updAttrs_attrs (g : LGraph) (v : Nat) (f : Attrs → Attrs) (n : Nat) (hv : v ∈ g.ids) :
    (updAttrs g v f).attrs n = if n = v then f (g.attrs v) else g.attrs n := by
  by_cases hn : n ∈ g.ids
  · rw [LGraph.attrs_map_nodes (g := g) (F := fun p => if p.1 = v then (p.1, f p.2) else p) rfl
      (fun p _ => by split <;> rfl) hn]
    by_cases h : n = v
    · rw [if_pos h, if_pos h, h]
    · rw [if_neg h, if_neg h]
  · rw [LGraph.attrs_of_not_mem (by rw [updAttrs_ids]; exact hn), if_neg fun e : n = v => hn (e ▸ hv),
      LGraph.attrs_of_not_mem hn]

theorem addNode_attrs (g : LGraph) (v : Nat) (a : Attrs) (n : Nat) :
    (addNode g v a).attrs n =
      if n = v then (if g.hasNode v then a.foldl (fun d kv => Dict.set d kv.1 kv.2) (g.attrs v) else a)
      else g.attrs n := by
  unfold addNode
  by_cases hv : g.hasNode v = true
  · rw [if_pos hv, if_pos hv]
    exact updAttrs_attrs g v _ n (LGraph.hasNode_iff.1 hv)
  · rw [if_neg hv, if_neg hv]
    exact attrsL_push g.nodes v a (fun h => hv (LGraph.hasNode_iff.2 h)) n

theorem touchNode_ids (g : LGraph) (v : Nat) : (touchNode g v).ids = Core.pushNew g.ids v := by
  unfold touchNode
  split
  · next h => rw [Core.pushNew_of_mem (LGraph.hasNode_iff.1 h)]
  · next h => rw [Core.pushNew_of_not_mem fun hm => h (LGraph.hasNode_iff.2 hm)]; simp [LGraph.ids]

theorem touchNode_edges (g : LGraph) (v : Nat) : (touchNode g v).edges = g.edges := by
  unfold touchNode; split <;> rfl

theorem mem_touchNode_ids (g : LGraph) (v n : Nat) : n ∈ (touchNode g v).ids ↔ n = v ∨ n ∈ g.ids := by
  rw [touchNode_ids, Core.mem_pushNew]; exact or_comm

theorem touchNode_attrs (g : LGraph) (v n : Nat) : (touchNode g v).attrs n = g.attrs n := by
  unfold touchNode
  split
  · rfl
  · next h =>
    have hv : v ∉ g.nodes.map (·.1) := fun h' => h (LGraph.hasNode_iff.2 h')
    refine (attrsL_push g.nodes v [] hv n).trans ?_
    split
    · next hn => rw [hn]; exact (attrsL_not_mem _ _ hv).symm
    · rfl

theorem touchNode_hasEdge (g : LGraph) (v a b : Nat) : (touchNode g v).hasEdge a b = g.hasEdge a b := by
  simp [LGraph.hasEdge, LGraph.edge?, touchNode_edges]

theorem addEdge_nodes (g : LGraph) (u v : Nat) (a : Attrs) :
    (addEdge g u v a).nodes = (touchNode (touchNode g u) v).nodes := by
  unfold addEdge; simp only; split <;> rfl

theorem touchNode_present (g : LGraph) (v : Nat) (h : g.hasNode v = true) : touchNode g v = g := by
  simp [touchNode, h]

theorem addEdge_of_present (g : LGraph) (u v : Nat) (a : Attrs) (hu : u ∈ g.ids) (hv : v ∈ g.ids) :
    addEdge g u v a = if g.hasEdge u v then ⟨g.nodes, g.edges.map fun e =>
        if sameEdge e u v then (e.1, e.2.1, a.foldl (fun d kv => Dict.set d kv.1 kv.2) e.2.2) else e⟩
      else ⟨g.nodes, g.edges ++ [(u, v, a)]⟩ := by
  have h : touchNode (touchNode g u) v = g := by
    rw [touchNode_present g u (LGraph.hasNode_iff.2 hu), touchNode_present g v (LGraph.hasNode_iff.2 hv)]
  unfold addEdge
  rw [h]

theorem addEdge_nodes_present (g : LGraph) (u v : Nat) (a : Attrs) (hu : u ∈ g.ids) (hv : v ∈ g.ids) :
    (addEdge g u v a).nodes = g.nodes := by
  rw [addEdge_of_present g u v a hu hv]
  split <;> rfl

theorem addEdge_ids (g : LGraph) (u v : Nat) (a : Attrs) : (addEdge g u v a).ids = (touchNode (touchNode g u) v).ids := by
  unfold LGraph.ids; rw [addEdge_nodes]

theorem mem_addEdge_ids (g : LGraph) (u v : Nat) (a : Attrs) (n : Nat) :
    n ∈ (addEdge g u v a).ids ↔ n = u ∨ n = v ∨ n ∈ g.ids := by
  rw [addEdge_ids, mem_touchNode_ids, mem_touchNode_ids]
  exact or_left_comm

theorem addEdge_attrs (g : LGraph) (u v : Nat) (a : Attrs) (n : Nat) : (addEdge g u v a).attrs n = g.attrs n := by
  rw [attrs_eq_attrsL, addEdge_nodes, ← attrs_eq_attrsL, touchNode_attrs, touchNode_attrs]

theorem addEdge_edges_new (g : LGraph) (u v : Nat) (a : Attrs) (h : g.hasEdge u v = false) :
    (addEdge g u v a).edges = g.edges ++ [(u, v, a)] := by
  unfold addEdge
  simp only [touchNode_hasEdge, h, Bool.false_eq_true, if_false, touchNode_edges]

theorem hasEdge_addEdge_of_ne (g : LGraph) (u v : Nat) (a : Attrs) (h : g.hasEdge u v = false) {x y : Nat}
    (hne : ukey (u, v, a) ≠ (min x y, max x y)) : (addEdge g u v a).hasEdge x y = g.hasEdge x y := by
  rw [Bool.eq_iff_iff, hasEdge_iff_ukey, hasEdge_iff_ukey, addEdge_edges_new g u v a h, List.map_append, List.mem_append]
  exact or_iff_left fun hm => hne (List.mem_singleton.1 hm).symm

theorem mem_addEdge_edges (g : LGraph) (u v : Nat) (a : Attrs) (e : Nat × Nat × Attrs) (he : e ∈ (addEdge g u v a).edges) :
    (∃ e0 ∈ g.edges, e.1 = e0.1 ∧ e.2.1 = e0.2.1) ∨ (e.1 = u ∧ e.2.1 = v) := by
  unfold addEdge at he
  simp only at he
  split at he
  · simp only [touchNode_edges, List.mem_map] at he
    obtain ⟨e0, he0, rfl⟩ := he
    refine Or.inl ⟨e0, he0, ?_⟩
    split <;> exact ⟨rfl, rfl⟩
  · simp only [touchNode_edges, List.mem_append, List.mem_singleton] at he
    rcases he with he | rfl
    · exact Or.inl ⟨e, he, rfl, rfl⟩
    · exact Or.inr ⟨rfl, rfl⟩

end Rd
open Rd

/-- `WF` without its clauses on loops and parallel bonds, which the reader's graphs are not shown to satisfy. -/
def Closed (g : LGraph) : Prop := g.ids.Nodup ∧ ∀ e ∈ g.edges, e.1 ∈ g.ids ∧ e.2.1 ∈ g.ids

/-- `add_node` and the node that `add_edge` creates: `v` joins the ids unless it is there, the bonds stay. -/
theorem closed_of_push {g g' : LGraph} {v : Nat} (h : Closed g) (hi : g'.ids = Core.pushNew g.ids v)
    (he : g'.edges = g.edges) : Closed g' := by
  have hm : ∀ n ∈ g.ids, n ∈ g'.ids := fun n hn => by rw [hi]; exact Core.mem_pushNew.2 (Or.inl hn)
  refine ⟨by rw [hi]; exact Core.nodup_pushNew h.1, fun e he' => ?_⟩
  rw [he] at he'
  exact ⟨hm _ (h.2 e he').1, hm _ (h.2 e he').2⟩

theorem closed_addNode (g : LGraph) (v : Nat) (a : Attrs) (h : Closed g) : Closed (addNode g v a) :=
  closed_of_push h (addNode_ids g v a) (addNode_edges g v a)

theorem closed_touchNode (g : LGraph) (v : Nat) (h : Closed g) : Closed (touchNode g v) :=
  closed_of_push h (touchNode_ids g v) (touchNode_edges g v)

theorem closed_addEdge (g : LGraph) (u v : Nat) (a : Attrs) (h : Closed g) : Closed (addEdge g u v a) := by
  refine ⟨?_, ?_⟩
  · rw [addEdge_ids]; exact (closed_touchNode _ _ (closed_touchNode _ _ h)).1
  · intro e he
    rw [mem_addEdge_ids, mem_addEdge_ids]
    rcases mem_addEdge_edges g u v a e he with ⟨e0, he0, h1, h2⟩ | ⟨h1, h2⟩
    · rw [h1, h2]
      exact ⟨Or.inr (Or.inr (h.2 e0 he0).1), Or.inr (Or.inr (h.2 e0 he0).2)⟩
    · exact ⟨Or.inl h1, Or.inr (Or.inl h2)⟩

theorem closed_empty : Closed {} := ⟨List.nodup_nil, by intro e he; cases he⟩

theorem closed_readSection (items : List Item) : Closed (readSection items) := by
  unfold readSection
  refine Core.foldl_inv (fun g it _ hg => ?_) closed_empty
  cases it with
  | node id l => exact closed_addNode _ _ _ hg
  | edge s t l => exact closed_addEdge _ _ _ _ hg

theorem closed_syncSide (sd ctx : LGraph) (h : Closed sd) : Closed (syncSide sd ctx) := by
  unfold syncSide
  refine Core.foldl_inv (fun g e _ hg => ?_) (Core.foldl_inv (fun g p _ hg => closed_addNode _ _ _ hg) h)
  split
  · exact hg
  · exact closed_addEdge _ _ _ _ hg

theorem closed_readLeft (r : Rule) : Closed (readLeft r) := closed_syncSide _ _ (closed_readSection _)
theorem closed_readRight (r : Rule) : Closed (readRight r) := closed_syncSide _ _ (closed_readSection _)

end SynKit.Gml
