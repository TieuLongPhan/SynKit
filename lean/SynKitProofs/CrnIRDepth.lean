import SynKitModel.CrnIR
import SynKitProofs.CrnIRSearch
/-!
The two resource bounds of the CRN search.  The fuel is enough: the last pass of `crnRefine` split nothing, and more fuel
changes neither the refined partition nor the result (`IRTree`'s `refineLoop_last_pass`, `refineLoop_fuel_add`,
`IRSys.leaves_fuel_add` at `crnSys sel G`).  The depth cap:
`crnSearchCapped` (`_search` under `max_depth = d`) is `gSearchCapped` at `crnSys sel G` without pruning
(`crnSearchCapped_eq`).  A run that returns no flag has returned what the uncapped search returns
(`crnSearchCapped_flag_false`, no hypothesis), and the capped search is exactly the fold over the leaves before the
first one deeper than `d` (`crnSearchCapped_eq_visited`; needs adequate fuel: every node of the tree has a leaf below
it); the statements at the root follow from this.  `best = None` (`_canon`'s `RuntimeError`) means that the first leaf
lies deeper than `d` (`crnIrCappedWith_none_iff`, from `gSearchCapped_none_iff`).
-/
namespace SynKit.CrnCanon
open SynKit.Canon (IRPartOK IRSys gSearchCapped gSearchCapped_flag_false gSearchCapped_eq_visited gSearchCapped_none_iff)

theorem crnLeaves_root_fuel (sel : SelD) (G : LGraph) (hn : G.ids.Nodup) (d : Nat) :
    crnLeaves sel G (G.nodes.length + 1 + d) (crnInitPart sel G) [] = crnRootLeaves sel G := by
  rw [crnRootLeaves, crnLeaves_eq]
  exact IRSys.leaves_fuel_add (crnSys_lawful sel G) hn _ _ _ (crnInitPart_ok sel G) (Canon.irFuel_lt G _) d

theorem crnIrWith_fuel (lt : CrnLabel → CrnLabel → Bool) (sel : SelD) (G : LGraph) (hn : G.ids.Nodup)
    (d : Nat) :
    crnSearch lt sel G (G.nodes.length + 1 + d) (crnInitPart sel G) [] none = crnIrWith lt sel G := by
  rw [crnSearch_eq_fold, crnIrWith_eq_fold, crnLeaves_root_fuel sel G hn d]

theorem crnRefine_fuel (sel : SelD) (G : LGraph) (P : List (List Nat)) (hok : IRPartOK G.ids P) (d : Nat) :
    crnRefineLoop sel G (G.nodes.length + 1 + d) P = crnRefine sel G P := by
  rw [crnRefine, crnRefineLoop_eq]
  exact IRSys.refineLoop_fuel_add (crnSys_lawful sel G) _ P hok (Canon.irFuel_lt G _) d

theorem crnRefine_last_pass (sel : SelD) (G : LGraph) (P : List (List Nat)) (hok : IRPartOK G.ids P) :
    ∃ Q, IRPartOK G.ids Q ∧ crnRefine sel G P = crnRefineStep sel G Q ∧
      (crnRefineStep sel G Q).length = Q.length := by
  rw [crnRefine, crnRefineLoop_eq]
  exact IRSys.refineLoop_last_pass (crnSys_lawful sel G) _ P hok (Canon.irFuel_lt G _)

theorem crnDepth_le_iff (sel : SelD) (G : LGraph) (d : Nat) :
    crnDepth sel G ≤ d ↔ ∀ l ∈ crnRootLeaves sel G, l.1.length ≤ d :=
  Canon.irMaxDepth_le_iff (crnRootLeaves sel G) d

theorem crnDepth_le_nodes (sel : SelD) (G : LGraph) : crnDepth sel G ≤ G.nodes.length := by
  show Canon.irMaxDepth (crnLeaves sel G (G.nodes.length + 1) (crnInitPart sel G) []) ≤ G.nodes.length
  rw [crnLeaves_eq]
  exact Canon.irMaxDepth_leaves_le (crnSys sel G) _ _

theorem crnSearchCapped_eq (lt) (sel : SelD) (G : LGraph) (d : Nat) :
    crnSearchCapped lt sel G d =
      gSearchCapped (crnSys sel G) (crnUpd lt sel G) (fun _ _ => false) d := by
  funext fuel
  induction fuel with
  | zero => rfl
  | succ fuel ih =>
    funext depth P pfx b
    simp only [crnSearchCapped, gSearchCapped, ih, crnRefine_eq, Bool.false_eq_true, if_false]
    rfl

theorem crnSearchCapped_flag_false (lt) (sel : SelD) (G : LGraph) (d : Nat)
    (fuel depth : Nat) (P : List (List Nat)) (pfx : List Nat) (st r : Option CrnBest)
    (h : crnSearchCapped lt sel G d fuel depth P pfx st = (r, false)) : r = crnSearch lt sel G fuel P pfx st := by
  rw [crnSearchCapped_eq] at h
  rw [crnSearch_eq]
  exact gSearchCapped_flag_false d fuel depth P pfx st r h

theorem crnSearchCapped_eq_visited (lt) (sel : SelD) (G : LGraph) (d : Nat) {ids : List Nat} (hn : ids.Nodup)
    (fuel depth : Nat) (P : List (List Nat)) (pfx : List Nat) (st : Option CrnBest)
    (hok : IRPartOK ids P) (hf : ids.length < fuel + P.length) (hdep : depth = pfx.length) :
    crnSearchCapped lt sel G d fuel depth P pfx st =
      (crnFoldLeaves lt sel G (crnVisited d (crnLeaves sel G fuel P pfx)) st,
        crnAnyDeeper d (crnLeaves sel G fuel P pfx)) := by
  rw [crnSearchCapped_eq, crnLeaves_eq]
  exact gSearchCapped_eq_visited (crnSys_lawful sel G) hn (fun _ _ => rfl) d fuel depth P pfx st hok hf hdep

theorem crnIrCappedWith_eq (lt) (sel : SelD) (G : LGraph) (hn : G.ids.Nodup) (d : Nat) :
    crnIrCappedWith lt sel G d =
      (crnFoldLeaves lt sel G (crnVisited d (crnRootLeaves sel G)) none, crnAnyDeeper d (crnRootLeaves sel G)) := by
  unfold crnIrCappedWith crnRootLeaves
  exact crnSearchCapped_eq_visited lt sel G d hn (G.nodes.length + 1) 0 (crnInitPart sel G) [] none
    (crnInitPart_ok sel G) (Canon.irFuel_lt G _) rfl

theorem crnIrCappedWith_flag_sound (lt) (sel : SelD) (G : LGraph) (d : Nat) (r : Option CrnBest)
    (h : crnIrCappedWith lt sel G d = (r, false)) : r = crnIrWith lt sel G :=
  crnSearchCapped_flag_false lt sel G d _ _ _ _ _ _ h

theorem crnIrCappedWith_full (lt) (sel : SelD) (G : LGraph) (hn : G.ids.Nodup) (d : Nat)
    (h : crnDepth sel G ≤ d) : crnIrCappedWith lt sel G d = (crnIrWith lt sel G, false) := by
  have hnone : crnAnyDeeper d (crnRootLeaves sel G) = false :=
    (crnAnyDeeper_false_iff d _).2 ((crnDepth_le_iff sel G d).1 h)
  rw [crnIrCappedWith_eq lt sel G hn d, hnone, crnVisited_self_of_none_deeper d _ hnone, crnIrWith_eq_fold]

theorem crnIrCappedWith_none_iff (lt) (sel : SelD) (G : LGraph) (hn : G.ids.Nodup) (d : Nat) :
    ((crnIrCappedWith lt sel G d).1 = none ↔ ∃ l rest, crnRootLeaves sel G = l :: rest ∧ d < l.1.length) ∧
    ((crnIrCappedWith lt sel G d).1 = none → crnIrCappedWith lt sel G d = (none, true)) := by
  rw [crnIrCappedWith, crnSearchCapped_eq, crnRootLeaves, crnLeaves_eq]
  exact gSearchCapped_none_iff (crnSys_lawful sel G) hn (fun _ => rfl) (fun b _ => crnUpdate_ne_none lt b _ _) d _ 0 _ []
    (crnInitPart_ok sel G) (Canon.irFuel_lt G _) rfl

theorem crnIrCappedWith_some (lt) (hlt : Canon.StrictTotal lt) (sel : SelD) (G : LGraph) (hn : G.ids.Nodup) (d : Nat)
    {b : CrnBest} {e : Bool} (h : crnIrCappedWith lt sel G d = (some b, e)) :
    ∃ m ∈ crnRootLeaves sel G, m.1.length ≤ d ∧
      b = ⟨crnLeafLabel sel G m, m.2, crnWithLabel sel G (crnLeafLabel sel G m) (crnVisited d (crnRootLeaves sel G))⟩ ∧
      (∀ l ∈ crnVisited d (crnRootLeaves sel G), lt (crnLeafLabel sel G l) (crnLeafLabel sel G m) = false) ∧
      ∀ p ∈ b.perms, ∃ l ∈ crnRootLeaves sel G, l.1.length ≤ d ∧ l.2 = p ∧ crnLeafLabel sel G l = b.label := by
  rw [crnIrCappedWith_eq lt sel G hn d, Prod.mk.injEq] at h
  obtain ⟨m, hm, hb, hleast, _⟩ := crnFoldLeaves_none_spec lt hlt sel G _ h.1
  refine ⟨m, (mem_crnVisited hm).1, (mem_crnVisited hm).2, hb, hleast, ?_⟩
  -- `simp only`, not `rw`: it also reduces `{ … }.perms`, which the unifier otherwise compares with `crnWithLabel …` by
  -- unfolding the tree
  simp only [hb]
  intro p hp
  obtain ⟨l', hl', hlab, rfl⟩ := (mem_crnWithLabel ..).1 hp
  exact ⟨l', (mem_crnVisited hl').1, (mem_crnVisited hl').2, rfl, hlab⟩

theorem crnCanonCapped_ok_iff (sel : SelD) (G : LGraph) (d : Nat) (b : CrnBest) (e : Bool) :
    crnCanonCapped sel G d = .ok (b, e) ↔ crnIrCapped sel G d = (some b, e) := by
  unfold crnCanonCapped
  cases crnIrCapped sel G d with
  | mk r f => cases r <;> simp

theorem crnCanonCapped_error_iff (sel : SelD) (G : LGraph) (d : Nat) :
    crnCanonCapped sel G d = .error .notFound ↔ (crnIrCapped sel G d).1 = none := by
  unfold crnCanonCapped
  cases crnIrCapped sel G d with
  | mk r f => cases r <;> simp

end SynKit.CrnCanon
