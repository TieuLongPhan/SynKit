import SynKitModel.NautyIR
import SynKitProofs.CanonLemmas
import SynKitProofs.Core.Dict
import SynKitProofs.NautyIREquiv
/-!
# The exact back-end (individualisation–refinement search) is invariant (C08)

Equal labels give equal serialisations of the canonical graphs (`serialise_eq_of_label_eq`); an isomorphism on
the covered attributes is an `IRIso` when the attributes are present (`irIso_of_isoCov`); with the equivariance
of `NautyIREquiv` and the fold of `NautyIRSearch` this gives `irCanonWith_invariant`.
-/
namespace SynKit.Canon

/-! ## Present attributes

Signature, label and `nodeKey` / `edgeKey` read an attribute with default `None`, `""`, and `0` / `False` / `""`: each is a
function of the raw look-ups (`irNodeKey_congr` …, `nodeKey_congr`, `edgeKey_congr`), and when the attribute is present
the raw look-up is read back from the label's reading and from `nodeKey` / `edgeKey`. -/

theorem get?_eq_of_getD_eq (a b : Attrs) (k : String) (d : Val)
    (ha : Dict.contains a k = true) (hb : Dict.contains b k = true) (h : getD a k d = getD b k d) :
    Dict.get? a k = Dict.get? b k := by
  obtain ⟨x, hx⟩ := Dict.contains_iff_get?.1 ha
  obtain ⟨y, hy⟩ := Dict.contains_iff_get?.1 hb
  rw [getD, getD, Dict.getD_of_get? hx, Dict.getD_of_get? hy] at h
  rw [hx, hy, h]

theorem raw_of_irNodeLabKey (a b : Attrs)
    (ha : ∀ k ∈ irNodeAttrNames, Dict.contains a k = true) (hb : ∀ k ∈ irNodeAttrNames, Dict.contains b k = true)
    (h : irNodeLabKey a = irNodeLabKey b) : ∀ k ∈ irNodeAttrNames, Dict.get? a k = Dict.get? b k := fun k hk =>
  get?_eq_of_getD_eq a b k _ (ha k hk) (hb k hk) (List.map_inj_left.1 h k hk)

theorem raw_of_nodeKey (a b : Attrs)
    (ha : ∀ k ∈ irNodeAttrNames, Dict.contains a k = true) (hb : ∀ k ∈ irNodeAttrNames, Dict.contains b k = true)
    (h : nodeKey a = nodeKey b) : ∀ k ∈ irNodeAttrNames, Dict.get? a k = Dict.get? b k := by
  intro k hk
  have ca := ha k hk
  have cb := hb k hk
  simp only [nodeKey, List.cons.injEq, and_true] at h
  simp only [irNodeAttrNames, List.mem_cons, List.not_mem_nil, or_false] at hk
  rcases hk with rfl | rfl | rfl | rfl
  · exact get?_eq_of_getD_eq _ _ _ _ ca cb h.1
  · exact get?_eq_of_getD_eq _ _ _ _ ca cb h.2.2.1
  · exact get?_eq_of_getD_eq _ _ _ _ ca cb h.2.1
  · exact get?_eq_of_getD_eq _ _ _ _ ca cb h.2.2.2

theorem nodeKey_congr (a b : Attrs) (h : ∀ k ∈ irNodeAttrNames, Dict.get? a k = Dict.get? b k) : nodeKey a = nodeKey b := by
  simp only [nodeKey, getD, Dict.getD, h "element" (by simp [irNodeAttrNames]), h "charge" (by simp [irNodeAttrNames]),
    h "aromatic" (by simp [irNodeAttrNames]), h "hcount" (by simp [irNodeAttrNames])]

theorem irEdgeGet_of_labKey (a b : Attrs)
    (ha : ∀ k ∈ irEdgeAttrNames, Dict.contains a k = true) (hb : ∀ k ∈ irEdgeAttrNames, Dict.contains b k = true)
    (h : irEdgeLabKey a = irEdgeLabKey b) : irEdgeGet a = irEdgeGet b :=
  List.map_congr_left fun k hk => get?_eq_of_getD_eq a b k _ (ha k hk) (hb k hk) (List.map_inj_left.1 h k hk)

theorem irEdgeGet_of_edgeKey (a b : Attrs)
    (ha : ∀ k ∈ irEdgeAttrNames, Dict.contains a k = true) (hb : ∀ k ∈ irEdgeAttrNames, Dict.contains b k = true)
    (h : edgeKey a = edgeKey b) : irEdgeGet a = irEdgeGet b := by
  simp only [edgeKey, List.cons.injEq, and_true] at h
  simp only [irEdgeGet, irEdgeAttrNames, List.map_cons, List.map_nil, List.cons.injEq, and_true]
  exact ⟨get?_eq_of_getD_eq _ _ _ _ (ha _ (by simp [irEdgeAttrNames])) (hb _ (by simp [irEdgeAttrNames])) h.1,
    get?_eq_of_getD_eq _ _ _ _ (ha _ (by simp [irEdgeAttrNames])) (hb _ (by simp [irEdgeAttrNames])) h.2⟩

theorem edgeKey_congr (a b : Attrs) (h : irEdgeGet a = irEdgeGet b) : edgeKey a = edgeKey b := by
  simp only [irEdgeGet, irEdgeAttrNames, List.map_cons, List.map_nil, List.cons.injEq, and_true] at h
  simp only [edgeKey, getD, Dict.getD, h.1, h.2]

theorem edge?_map_congr {γ δ : Type} (φ : Attrs → γ) (ψ : Attrs → δ) (G H : LGraph)
    (hψ : ∀ e ∈ G.edges, ∀ e' ∈ H.edges, φ e.2.2 = φ e'.2.2 → ψ e.2.2 = ψ e'.2.2) (u v u' v' : Nat)
    (h : (G.edge? u v).map φ = (H.edge? u' v').map φ) : (G.edge? u v).map ψ = (H.edge? u' v').map ψ :=
  Core.option_map_congr_of_mem (fun a ha b hb hab => by
    obtain ⟨e, he, rfl, _⟩ := LGraph.edge?_some_mem ha
    obtain ⟨e', he', rfl, _⟩ := LGraph.edge?_some_mem hb
    exact hψ e he e' he' hab) h

theorem irIso_of_isoCov (G H : LGraph) (cG : IRCovered G) (cH : IRCovered H) (g : Nat → Nat)
    (h : IsoCov G H g) : IRIso G H g := by
  refine ⟨h.perm, fun p hp => ?_, fun p hp q hq => ?_⟩
  · exact raw_of_nodeKey _ _ (cG.1 _ (LGraph.attrs_mem (h.mem hp))) (cH.1 _ (LGraph.attrs_mem hp)) (h.node p hp)
  · exact edge?_map_congr edgeKey irEdgeGet G H
      (fun e he e' he' => irEdgeGet_of_edgeKey _ _ (cG.2 e he) (cH.2 e' he')) _ _ _ _ (h.edge p hp q hq)

theorem irEdgeBits_eq_get (G H : LGraph) (s t : List Nat) (hlen : s.length = t.length)
    (h : irEdgeBits G s = irEdgeBits H t) (i j : Nat) (hij : i < j) (hj : j < s.length) :
    (G.edge? (s[i]'(by omega)) (s[j]'hj)).map irEdgeLabKey = (H.edge? (t[i]'(by omega)) (t[j]'(by omega))).map irEdgeLabKey := by
  induction s generalizing t i j with
  | nil => simp at hj
  | cons v rest ih =>
    cases t with
    | nil => simp at hlen
    | cons w rest' =>
      simp only [List.length_cons, Nat.add_right_cancel_iff] at hlen
      simp only [irEdgeBits] at h
      obtain ⟨hm, hr⟩ := List.append_inj h (by simp [hlen])
      cases j with
      | zero => omega
      | succ j' =>
        simp only [List.length_cons, Nat.add_lt_add_iff_right] at hj
        cases i with
        | zero => exact (Core.map_eq_map_getElem hm).2 j' hj (hlen ▸ hj)
        | succ i' =>
          simpa using ih rest' hlen hr i' j' (by omega) hj

theorem irEdgeBits_of_append (G H : LGraph) (o o' : List Nat) (hlen : o.length = o'.length) :
    ∀ p p' : List Nat, p.length = p'.length → irEdgeBits G (p ++ o) = irEdgeBits H (p' ++ o') →
      irEdgeBits G o = irEdgeBits H o'
  | [], [], _, h => h
  | [], _ :: _, hp, _ => by simp at hp
  | _ :: _, [], hp, _ => by simp at hp
  | v :: p, w :: p', hp, h => by
    simp only [List.length_cons, Nat.add_right_cancel_iff] at hp
    simp only [List.cons_append, irEdgeBits] at h
    exact irEdgeBits_of_append G H o o' hlen p p' hp (List.append_inj h (by simp [hp, hlen])).2

/-- The label holds a node item for every position and an edge item for every pair of positions, so the
position-wise map `o' → o` is an `IsoCov`; then `serialise_canonBy_congr`.  The items of the prefixes are peeled off first. -/
theorem serialise_eq_of_label_eq (G H : LGraph) (hG : G.WF) (hH : H.WF) (cG : IRCovered G) (cH : IRCovered H)
    (p o p' o' : List Nat) (hlen : o.length = o'.length) (ho : o.Perm G.ids) (ho' : o'.Perm H.ids)
    (h : irBuildLabel G (p ++ o) = irBuildLabel H (p' ++ o')) :
    serialise (canonBy o G) = serialise (canonBy o' H) := by
  have hn : o.Nodup := ho.nodup_iff.2 hG.1
  have hn' : o'.Nodup := ho'.nodup_iff.2 hH.1
  simp only [irBuildLabel, IRLabel.mk.injEq] at h
  obtain ⟨hnodes, hedges⟩ := h
  simp only [irNodeSeg, List.map_append] at hnodes
  obtain ⟨hnp, hno⟩ := List.append_inj' hnodes (by simp [hlen])
  have hp : p.length = p'.length := by simpa using congrArg List.length hnp
  have hpair := irEdgeBits_eq_get G H o o' hlen (irEdgeBits_of_append G H o o' hlen p p' hp hedges)
  have hmt := map_unpos_pos o o' hn' hlen
  have hedge := edge?_map_congr irEdgeLabKey edgeKey G H fun e he e' he' h =>
    edgeKey_congr _ _ (irEdgeGet_of_labKey _ _ (cG.2 e he) (cH.2 e' he') h)
  have iso : IsoCov G H (unpos o ∘ pos o') := by
    refine .of_getElem (S := covS G) (T := covS H) ho ho' hlen.symm
      (fun i hi' hi => unpos_pos_getElem o o' hn' i hi' hi) (fun i hi' hi => ?_) fun i j hi' hj' hi hj => ?_
    · exact nodeKey_congr _ _ (raw_of_irNodeLabKey _ _ (cG.1 _ (LGraph.attrs_mem (ho.subset (List.getElem_mem hi))))
        (cH.1 _ (LGraph.attrs_mem (ho'.subset (List.getElem_mem hi')))) ((Core.map_eq_map_getElem hno).2 i hi hi'))
    · show (G.edge? o[i] o[j]).map edgeKey = (H.edge? o'[i] o'[j]).map edgeKey
      rcases Nat.lt_trichotomy i j with hij | hij | hij
      · exact hedge _ _ _ _ (hpair i j hij hj)
      · subst hij
        rw [LGraph.edge?_self hG, LGraph.edge?_self hH]
      · rw [LGraph.edge?_comm (g := G), LGraph.edge?_comm (g := H)]
        exact hedge _ _ _ _ (hpair j i hij hi)
  have := serialise_canonBy_congr G H hG hH (unpos o ∘ pos o') iso o' ho'
  rw [hmt] at this
  exact this

theorem irCanonWith_label_rel (lt : IRLabel → IRLabel → Bool) (pgt : List (List Val) → IRLabel → Bool)
    (hlt : StrictTotal lt) (hp : IRPruneSound lt pgt) (prune prune' : Bool)
    (G H : LGraph) (hG : G.WF) (hH : H.WF) (g : Nat → Nat) (h : IRIso G H g) :
    (irCanonWith lt pgt prune G).map (·.1) = (irCanonWith lt pgt prune' H).map (·.1) := by
  rw [irCanonWith_eq_fold lt pgt hlt hp prune G, irCanonWith_eq_fold lt pgt hlt hp prune' H]
  have hset := irLeafLabels_rel hG hH h
  obtain ⟨a, as, hLG⟩ := List.exists_cons_of_ne_nil (irRootLeaves_ne_nil G hG.1)
  obtain ⟨b, bs, hLH⟩ := List.exists_cons_of_ne_nil (irRootLeaves_ne_nil H hH.1)
  rw [hLG, hLH] at hset ⊢
  rw [irFoldLeaves_none_cons, irFoldLeaves_none_cons, Option.map_some, Option.map_some]
  exact congrArg some (minBy_key_congr lt hlt (irLeafLabel G) (irLeafLabel H) a as b bs hset)

theorem irCanonWith_spec (lt : IRLabel → IRLabel → Bool) (pgt : List (List Val) → IRLabel → Bool)
    (hlt : StrictTotal lt) (hp : IRPruneSound lt pgt) (prune : Bool) (G : LGraph) (hG : G.WF) :
    ∃ pfx o, irCanonWith lt pgt prune G = some (irBuildLabel G (pfx ++ o), o) ∧ o.Perm G.ids ∧
      (pfx, o) ∈ irRootLeaves G ∧
      ∀ l ∈ irRootLeaves G, lt (irLeafLabel G l) (irBuildLabel G (pfx ++ o)) = false := by
  rw [irCanonWith_eq_fold lt pgt hlt hp prune G]
  have hperm := irRootLeaves_perm G hG.1
  obtain ⟨a, as, hL⟩ := List.exists_cons_of_ne_nil (irRootLeaves_ne_nil G hG.1)
  rw [hL] at hperm ⊢
  rw [irFoldLeaves_none_cons]
  have hm := minBy_mem (fun x y => lt (irLeafLabel G x) (irLeafLabel G y)) a as
  exact ⟨_, _, rfl, hperm _ hm, hm, minBy_key_least lt hlt (irLeafLabel G) a as⟩

/-- For every strict total `lt` and every lower-bound test `pgt` — in particular Python's comparison of the
rendered label strings, whenever rendering is injective — and with or without pruning on either side. -/
theorem irCanonWith_invariant (lt : IRLabel → IRLabel → Bool) (pgt : List (List Val) → IRLabel → Bool)
    (hlt : StrictTotal lt) (hp : IRPruneSound lt pgt) (prune prune' : Bool)
    (G H : LGraph) (hG : G.WF) (hH : H.WF) (cG : IRCovered G) (cH : IRCovered H)
    (g : Nat → Nat) (h : IsoCov G H g) :
    ∃ L o o', irCanonWith lt pgt prune G = some (L, o) ∧ irCanonWith lt pgt prune' H = some (L, o') ∧
      o.Perm G.ids ∧ o'.Perm H.ids ∧ serialise (canonBy o G) = serialise (canonBy o' H) := by
  have hiso := irIso_of_isoCov G H cG cH g h
  obtain ⟨p, o, e1, ho, _, _⟩ := irCanonWith_spec lt pgt hlt hp prune G hG
  obtain ⟨p', o', e2, ho', _, _⟩ := irCanonWith_spec lt pgt hlt hp prune' H hH
  have hl := irCanonWith_label_rel lt pgt hlt hp prune prune' G H hG hH g hiso
  rw [e1, e2] at hl
  simp only [Option.map_some, Option.some.injEq] at hl
  have hlen : o.length = o'.length := ho.length_eq.trans (hiso.iso.length_eq.trans ho'.length_eq.symm)
  refine ⟨irBuildLabel G (p ++ o), o, o', e1, ?_, ho, ho', ?_⟩
  · rw [e2, hl]
  · exact serialise_eq_of_label_eq G H hG hH cG cH p o p' o' hlen ho ho' hl

theorem irCanon_eq_noprune (G : LGraph) : irCanon G = irCanonWith IRLabel.lt irPartialGt false G := by
  unfold irCanon
  rw [irCanonWith_eq_fold _ _ IRLabel.lt_strictTotal irPartialGt_sound true,
    irCanonWith_eq_fold _ _ IRLabel.lt_strictTotal irPartialGt_sound false]

theorem irCanonOrder_of_eq {G : LGraph} {L : IRLabel} {o : List Nat} (e : irCanon G = some (L, o)) :
    irCanonOrder G = o := by
  rw [irCanonOrder, e]

theorem irCanon_spec (G : LGraph) (hG : G.WF) :
    ∃ pfx, irCanon G = some (irBuildLabel G (pfx ++ irCanonOrder G), irCanonOrder G) ∧
      (irCanonOrder G).Perm G.ids ∧ (pfx, irCanonOrder G) ∈ irRootLeaves G ∧
      ∀ l ∈ irRootLeaves G, IRLabel.lt (irLeafLabel G l) (irBuildLabel G (pfx ++ irCanonOrder G)) = false := by
  obtain ⟨pfx, o, e, ho, hm, hl⟩ := irCanonWith_spec IRLabel.lt irPartialGt IRLabel.lt_strictTotal irPartialGt_sound true G hG
  rw [irCanonOrder_of_eq e]
  exact ⟨pfx, e, ho, hm, hl⟩

theorem irCanonOrder_perm (G : LGraph) (hG : G.WF) : (irCanonOrder G).Perm G.ids := by
  obtain ⟨_, _, h, _⟩ := irCanon_spec G hG
  exact h

theorem irCanon_invariant (G H : LGraph) (hG : G.WF) (hH : H.WF) (cG : IRCovered G) (cH : IRCovered H)
    (g : Nat → Nat) (h : IsoCov G H g) :
    irCanonLabel G = irCanonLabel H ∧ serialise (canonIR G) = serialise (canonIR H) := by
  obtain ⟨L, o, o', e1, e2, _, _, hs⟩ := irCanonWith_invariant IRLabel.lt irPartialGt IRLabel.lt_strictTotal
    irPartialGt_sound true true G H hG hH cG cH g h
  refine ⟨?_, ?_⟩
  · unfold irCanonLabel irCanon
    rw [e1, e2]
    rfl
  · rw [canonIR, canonIR, irCanonOrder_of_eq e1, irCanonOrder_of_eq e2]
    exact hs

end SynKit.Canon
